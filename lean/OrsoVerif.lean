-- GENERATED by tools/mkdriver.py: every module of the library
import OrsoVerif.Generated.AppendFlow
import OrsoVerif.Generated.Arrow
import OrsoVerif.Generated.ArrowExpr
import OrsoVerif.Generated.Cache
import OrsoVerif.Generated.CacheFns
import OrsoVerif.Generated.CacheKey
import OrsoVerif.Generated.CallSitesExpr
import OrsoVerif.Generated.Cast
import OrsoVerif.Generated.CastFns
import OrsoVerif.Generated.CursorExpr
import OrsoVerif.Generated.CursorFns
import OrsoVerif.Generated.CursorFootprint
import OrsoVerif.Generated.DictCode
import OrsoVerif.Generated.DictGlue
import OrsoVerif.Generated.Display
import OrsoVerif.Generated.DisplayExpr
import OrsoVerif.Generated.DisplayFmt
import OrsoVerif.Generated.DisplayTd
import OrsoVerif.Generated.Distogram
import OrsoVerif.Generated.DistogramExpr
import OrsoVerif.Generated.DistogramFlow
import OrsoVerif.Generated.DistogramObj
import OrsoVerif.Generated.DistogramOps
import OrsoVerif.Generated.Encodings
import OrsoVerif.Generated.FrameExpr
import OrsoVerif.Generated.FrameFns
import OrsoVerif.Generated.GroupBy
import OrsoVerif.Generated.GroupByCode
import OrsoVerif.Generated.Iso
import OrsoVerif.Generated.IsoCast
import OrsoVerif.Generated.IsoDispatch
import OrsoVerif.Generated.IsoText
import OrsoVerif.Generated.KernelFns
import OrsoVerif.Generated.KernelsExpr
import OrsoVerif.Generated.Layout
import OrsoVerif.Generated.NpDtypes
import OrsoVerif.Generated.Persist
import OrsoVerif.Generated.PersistFns
import OrsoVerif.Generated.Profile
import OrsoVerif.Generated.ProfileEstExpr
import OrsoVerif.Generated.ProfileExpr
import OrsoVerif.Generated.ProfileGlue
import OrsoVerif.Generated.ProfileTable
import OrsoVerif.Generated.ProfileTime
import OrsoVerif.Generated.RecordUse
import OrsoVerif.Generated.Row
import OrsoVerif.Generated.RowClass
import OrsoVerif.Generated.RowFns
import OrsoVerif.Generated.RowMarkers
import OrsoVerif.Generated.Sanitise
import OrsoVerif.Generated.SanitiseFns
import OrsoVerif.Generated.SchemaCode
import OrsoVerif.Generated.SchemaFns
import OrsoVerif.Generated.SchemaOps
import OrsoVerif.Generated.TableProfExpr
import OrsoVerif.Generated.TypeName
import OrsoVerif.Generated.TypeNameDict
import OrsoVerif.Generated.Validate
import OrsoVerif.Generated.ValidateFlow
import OrsoVerif.Model.Arrow
import OrsoVerif.Model.ArrowFrame
import OrsoVerif.Model.ArrowShare
import OrsoVerif.Model.Cache
import OrsoVerif.Model.CacheGen
import OrsoVerif.Model.CacheKey
import OrsoVerif.Model.CachePrim
import OrsoVerif.Model.CallSites
import OrsoVerif.Model.Cast
import OrsoVerif.Model.CastJson
import OrsoVerif.Model.CastPrim
import OrsoVerif.Model.Cursor
import OrsoVerif.Model.DictClass
import OrsoVerif.Model.DictIter
import OrsoVerif.Model.DictJson
import OrsoVerif.Model.DictKeyed
import OrsoVerif.Model.DictKinds
import OrsoVerif.Model.DictRow
import OrsoVerif.Model.DictRowCode
import OrsoVerif.Model.DictSchema
import OrsoVerif.Model.DictSession
import OrsoVerif.Model.DictViews
import OrsoVerif.Model.Display
import OrsoVerif.Model.DisplayFmt
import OrsoVerif.Model.DisplayTd
import OrsoVerif.Model.Distogram
import OrsoVerif.Model.Encodings
import OrsoVerif.Model.Estimators
import OrsoVerif.Model.Family
import OrsoVerif.Model.Frame
import OrsoVerif.Model.FrameCell
import OrsoVerif.Model.FrameProg
import OrsoVerif.Model.GroupBy
import OrsoVerif.Model.GroupByCode
import OrsoVerif.Model.GroupByEq
import OrsoVerif.Model.GroupByIR
import OrsoVerif.Model.GroupByX
import OrsoVerif.Model.HistObj
import OrsoVerif.Model.Iso
import OrsoVerif.Model.IsoCast
import OrsoVerif.Model.IsoCastPrim
import OrsoVerif.Model.IsoDispatchPrim
import OrsoVerif.Model.IsoGrammar
import OrsoVerif.Model.IsoPrim
import OrsoVerif.Model.IsoTime
import OrsoVerif.Model.KernelSem
import OrsoVerif.Model.Kernels
import OrsoVerif.Model.Layout
import OrsoVerif.Model.MsgPack
import OrsoVerif.Model.Np
import OrsoVerif.Model.NpDtype
import OrsoVerif.Model.NpNum
import OrsoVerif.Model.Persist
import OrsoVerif.Model.PersistOps
import OrsoVerif.Model.PersistPy
import OrsoVerif.Model.Profile
import OrsoVerif.Model.ProfileBase
import OrsoVerif.Model.ProfileEst
import OrsoVerif.Model.ProfileGlue
import OrsoVerif.Model.ProfileTime
import OrsoVerif.Model.PyDict
import OrsoVerif.Model.PyKinds
import OrsoVerif.Model.PyNum
import OrsoVerif.Model.PyVal
import OrsoVerif.Model.RowBytes
import OrsoVerif.Model.RowClass
import OrsoVerif.Model.RowCodec
import OrsoVerif.Model.RowGlue
import OrsoVerif.Model.RowObject
import OrsoVerif.Model.RowStream
import OrsoVerif.Model.Sanitise
import OrsoVerif.Model.SanitiseEvent
import OrsoVerif.Model.SchemaEdit
import OrsoVerif.Model.SchemaHeap
import OrsoVerif.Model.SchemaOps
import OrsoVerif.Model.TableProf
import OrsoVerif.Model.TypeName
import OrsoVerif.Model.TypeNameDict
import OrsoVerif.Model.Validate
import OrsoVerif.Model.Wire
import OrsoVerif.Lemmas.Arrow
import OrsoVerif.Lemmas.ArrowCols
import OrsoVerif.Lemmas.ArrowFrame
import OrsoVerif.Lemmas.ArrowShare
import OrsoVerif.Lemmas.Basics
import OrsoVerif.Lemmas.Cache
import OrsoVerif.Lemmas.CacheGen
import OrsoVerif.Lemmas.CacheGenEq
import OrsoVerif.Lemmas.CacheKey
import OrsoVerif.Lemmas.CacheLock
import OrsoVerif.Lemmas.CacheLru
import OrsoVerif.Lemmas.CacheRefine
import OrsoVerif.Lemmas.CacheSeq
import OrsoVerif.Lemmas.CallSites
import OrsoVerif.Lemmas.Cast
import OrsoVerif.Lemmas.CastDecimal
import OrsoVerif.Lemmas.CastFns
import OrsoVerif.Lemmas.CastJson
import OrsoVerif.Lemmas.CastText
import OrsoVerif.Lemmas.Cursor
import OrsoVerif.Lemmas.CursorFootprint
import OrsoVerif.Lemmas.DictJson
import OrsoVerif.Lemmas.DictRow
import OrsoVerif.Lemmas.DictSchema
import OrsoVerif.Lemmas.DictSession
import OrsoVerif.Lemmas.DictViews
import OrsoVerif.Lemmas.DisplayCell
import OrsoVerif.Lemmas.DisplayColor
import OrsoVerif.Lemmas.DisplayLayout
import OrsoVerif.Lemmas.DisplayMd
import OrsoVerif.Lemmas.DisplaySel
import OrsoVerif.Lemmas.DisplayShown
import OrsoVerif.Lemmas.DisplaySpec
import OrsoVerif.Lemmas.DisplayTable
import OrsoVerif.Lemmas.DisplayTd
import OrsoVerif.Lemmas.DisplayTok
import OrsoVerif.Lemmas.DisplayWidth
import OrsoVerif.Lemmas.Distogram
import OrsoVerif.Lemmas.DistogramBins
import OrsoVerif.Lemmas.DistogramBounds
import OrsoVerif.Lemmas.DistogramCache
import OrsoVerif.Lemmas.DistogramCacheOps
import OrsoVerif.Lemmas.DistogramFaithful
import OrsoVerif.Lemmas.DistogramHistory
import OrsoVerif.Lemmas.DistogramInPlace
import OrsoVerif.Lemmas.DistogramRefine
import OrsoVerif.Lemmas.DistogramSource
import OrsoVerif.Lemmas.DistogramState
import OrsoVerif.Lemmas.Encodings
import OrsoVerif.Lemmas.EncodingsDType
import OrsoVerif.Lemmas.EncodingsHeap
import OrsoVerif.Lemmas.EncodingsUnique
import OrsoVerif.Lemmas.Estimators
import OrsoVerif.Lemmas.EstimatorsTop
import OrsoVerif.Lemmas.Family
import OrsoVerif.Lemmas.Frame
import OrsoVerif.Lemmas.FrameProg
import OrsoVerif.Lemmas.GroupBy
import OrsoVerif.Lemmas.GroupByCode
import OrsoVerif.Lemmas.GroupByEq
import OrsoVerif.Lemmas.GroupBySession
import OrsoVerif.Lemmas.GroupByX
import OrsoVerif.Lemmas.HistObj
import OrsoVerif.Lemmas.IsoDigits
import OrsoVerif.Lemmas.IsoEpoch
import OrsoVerif.Lemmas.IsoEpochTotal
import OrsoVerif.Lemmas.IsoExact
import OrsoVerif.Lemmas.IsoFloat
import OrsoVerif.Lemmas.IsoGrammar
import OrsoVerif.Lemmas.IsoRefine
import OrsoVerif.Lemmas.IsoSafe
import OrsoVerif.Lemmas.IsoText
import OrsoVerif.Lemmas.IsoTimeOfDay
import OrsoVerif.Lemmas.KernelFns
import OrsoVerif.Lemmas.Layout
import OrsoVerif.Lemmas.MsgPack
import OrsoVerif.Lemmas.MsgPackRoundtrip
import OrsoVerif.Lemmas.MsgPackSound
import OrsoVerif.Lemmas.Persist
import OrsoVerif.Lemmas.PersistAll
import OrsoVerif.Lemmas.PersistFns
import OrsoVerif.Lemmas.PersistPy
import OrsoVerif.Lemmas.PersistSession
import OrsoVerif.Lemmas.Profile
import OrsoVerif.Lemmas.ProfileEst
import OrsoVerif.Lemmas.ProfileGlue
import OrsoVerif.Lemmas.ProfileHist
import OrsoVerif.Lemmas.ProfileOrder
import OrsoVerif.Lemmas.ProfileTime
import OrsoVerif.Lemmas.RowBytes
import OrsoVerif.Lemmas.RowClass
import OrsoVerif.Lemmas.RowFns
import OrsoVerif.Lemmas.RowStream
import OrsoVerif.Lemmas.Sanitise
import OrsoVerif.Lemmas.SanitiseBarrier
import OrsoVerif.Lemmas.SanitiseDeep
import OrsoVerif.Lemmas.SanitiseUrlPlain
import OrsoVerif.Lemmas.SanitiseVisible
import OrsoVerif.Lemmas.SchemaBattery
import OrsoVerif.Lemmas.SchemaEdit
import OrsoVerif.Lemmas.SchemaFns
import OrsoVerif.Lemmas.SchemaHeap
import OrsoVerif.Lemmas.SchemaIter
import OrsoVerif.Lemmas.SchemaOpaque
import OrsoVerif.Lemmas.SchemaOps
import OrsoVerif.Lemmas.TableProf
import OrsoVerif.Lemmas.TypeName
import OrsoVerif.Lemmas.TypeNameDict
import OrsoVerif.Lemmas.TypeNameSession
import OrsoVerif.Lemmas.Validate
import OrsoVerif.Drv.C01
import OrsoVerif.Drv.C02
import OrsoVerif.Drv.C03
import OrsoVerif.Drv.C04
import OrsoVerif.Drv.C05
import OrsoVerif.Drv.C06
import OrsoVerif.Drv.C07
import OrsoVerif.Drv.C08
import OrsoVerif.Drv.C09
import OrsoVerif.Drv.C10
import OrsoVerif.Drv.C11
import OrsoVerif.Drv.C12
import OrsoVerif.Drv.C13
import OrsoVerif.Drv.C14
import OrsoVerif.Drv.C15
import OrsoVerif.Drv.C16
import OrsoVerif.Drv.C17
import OrsoVerif.Drv.C18
import OrsoVerif.Drv.C19
import OrsoVerif.Drv.C20
import OrsoVerif.Props.C01
import OrsoVerif.Props.C02
import OrsoVerif.Props.C03
import OrsoVerif.Props.C04
import OrsoVerif.Props.C05
import OrsoVerif.Props.C06
import OrsoVerif.Props.C07
import OrsoVerif.Props.C08
import OrsoVerif.Props.C09
import OrsoVerif.Props.C10
import OrsoVerif.Props.C11
import OrsoVerif.Props.C12
import OrsoVerif.Props.C13
import OrsoVerif.Props.C14
import OrsoVerif.Props.C15
import OrsoVerif.Props.C16
import OrsoVerif.Props.C17
import OrsoVerif.Props.C18
import OrsoVerif.Props.C19
import OrsoVerif.Props.C20
