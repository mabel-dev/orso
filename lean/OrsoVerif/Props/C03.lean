import OrsoVerif.Lemmas.Frame
import OrsoVerif.Lemmas.FrameProg
import OrsoVerif.Generated.FrameFns
import OrsoVerif.Model.FrameCell
/-!
# C03 — DataFrame operators agree with a list-of-tuples model

Every operator of `Model/Frame.lean` is a function on the row listing, and each operator theorem
below holds for every input listing, including the output of any earlier operator.  What a
composition adds on the objects - lazily backed frames, iterators, frames that share a source - is
the state machine of `Model/FrameProg.lean`; `eval_refines` shows that on every well-formed program
it computes what the list specification computes.  The correspondence check runs whole programs on
`DataFrame` and on the model.
-/
namespace C03
open Frame

variable {α : Type}

/-- After its first statement `slice` works with a non-negative offset (this is where the clamp
of the *generated* arithmetic is needed: `max (n + offset) 0`). -/
theorem sliceOffset_nonneg (n : Nat) (offset : Int) : 0 ≤ sliceOffset n offset := by
  rw [sliceOffset_eq]
  exact Int.natCast_nonneg _

/-- `slice(offset, length)` is the window of `length` rows (to the end when `None`) starting at
`sliceStart`. -/
theorem slice_eq (rows : List α) (offset : Int) (length : Option Nat) :
    slice rows offset length =
      match length with
      | none => rows.drop (sliceStart rows.length offset)
      | some l => (rows.drop (sliceStart rows.length offset)).take l := by
  cases length with
  | none => rfl
  | some l => exact slice_some rows offset l

/-- `head(k)` is the first `min k n` rows. -/
theorem head_eq_take (rows : List α) (k : Nat) : head rows k = rows.take k :=
  Frame.head_eq_take rows k

/-- `tail(k)` is the last `min k n` rows — for every `k`, also `n < k` (the clamp). -/
theorem tail_spec (rows : List α) (k : Nat) :
    tail rows k = rows.drop (rows.length - min k rows.length)
    ∧ (tail rows k).length = min k rows.length := by
  have h1 : tail rows k = rows.drop (rows.length - k) := by
    show slice rows (0 - (k : Int)) (some (k : Int).toNat) = _
    rw [slice_some, sliceStart_eq, Int.toNat_natCast]
    by_cases hk : k = 0
    · subst hk
      rw [List.take_zero, Nat.sub_zero, List.drop_length]
    · rw [if_pos (by omega), Int.zero_sub, ← Int.sub_eq_add_neg, Int.toNat_sub,
        List.take_of_length_le (by rw [List.length_drop]; omega)]
  exact ⟨by rw [h1]; congr 1; omega, by rw [h1, List.length_drop, Nat.sub_sub_eq_min, Nat.min_comm]⟩

/-- `slice` always returns a contiguous window of the listing. -/
theorem slice_window (rows : List α) (offset : Int) (length : Option Nat) :
    ∃ i, slice rows offset length = (rows.drop i).take (slice rows offset length).length := by
  refine ⟨sliceStart rows.length offset, ?_⟩
  rw [slice_eq]
  cases length with
  | none =>
    simp only
    rw [List.take_of_length_le (Nat.le_refl _)]
  | some l =>
    simp only
    rw [List.length_take]
    exact List.take_eq_take_min

/-- For a non-negative offset the window starts at `offset` (clamped to the row count); for
`-n ≤ offset < 0` at `n + offset`; further to the left it is clamped to the first row. -/
theorem slice_start (n : Nat) (offset : Int) :
    (0 ≤ offset → sliceStart n offset = min offset.toNat n)
    ∧ (offset < 0 → -(n : Int) ≤ offset → (sliceStart n offset : Int) = n + offset)
    ∧ (offset < -(n : Int) → sliceStart n offset = 0) := by
  rw [sliceStart_eq]
  refine ⟨fun h => if_neg (Int.not_lt.mpr h), fun h1 h2 => ?_, fun h => ?_⟩
  · rw [if_pos h1]; omega
  · rw [if_pos (by omega)]; omega

/-- Positional specification shared by `filter`, `take` and `query`: the rows kept are exactly
those at the selected positions, in their original order. -/
theorem pick_spec (sel : Nat → Bool) (rows : List α) :
    pick sel rows = rows.zipIdx.filterMap (fun p => if sel p.2 then some p.1 else none)
    ∧ (pick sel rows).Sublist rows :=
  ⟨pickFrom_zipIdx 0 sel rows, pickFrom_sublist 0 sel rows⟩

/-- `filter(mask)` keeps row `i` iff `mask[i]` is true. -/
theorem filter_spec (rows : List α) (mask : List Bool) :
    filter rows mask = pick (fun i => (mask[i]?).getD false) rows := by
  induction rows generalizing mask with
  | nil => cases mask <;> rfl
  | cons r rs ih =>
    cases mask with
    | nil => exact (pickFrom_false 0 _ _ fun _ _ => rfl).symm
    | cons m ms =>
      -- position `i + 1` of `m :: ms` is position `i` of `ms`
      rw [filter, ih ms, pick, pick, pickFrom, pickFrom_succ]
      rfl

/-- `take(indexes)` keeps row `i` iff `i ∈ indexes`. -/
theorem take_spec (rows : List α) (idxs : List Int) :
    take rows idxs = pick (fun i => decide ((i : Int) ∈ idxs)) rows := rfl

/-- **`take` depends on the index collection only through membership**: two collections with the same members -
listed in another order (a range counting down), with repeats, of another length - select the same rows in the
same (original) order. -/
theorem take_depends_only_on_membership (rows : List α) (m m' : List Int)
    (h : ∀ i : Nat, (i : Int) ∈ m ↔ (i : Int) ∈ m') : take rows m = take rows m' := by
  rw [take_spec, take_spec]
  congr 1
  funext i
  exact decide_eq_decide.mpr (h i)

/-- **`take` of any kind of container** (list, tuple, set, range, array, dict view, bytes …: `kind` is the class of the
object, `members` what it lists): the rows kept are those at the positions that are members, in their original order -
whatever the class, whatever order the object lists its members in (`members'`: any listing with the same members,
e.g. the ascending one of a range that counts down).  `takeAny` follows `Gen.Frame.ownPathKinds "take"`: a fast path
for one class of object (`if isinstance(indexes, range) …: return self._rows[a:b:s]`) puts that class in the generated
table, and this theorem then fails to check. -/
theorem take_any_container (kind : String) (rows : List α) (members members' : List Int)
    (h : ∀ i : Nat, (i : Int) ∈ members ↔ (i : Int) ∈ members') :
    takeAny kind rows members = some (pick (fun i => decide ((i : Int) ∈ members')) rows) := by
  unfold takeAny Gen.Frame.ownPathKinds
  simp only [List.any_nil, Bool.false_eq_true, if_false]
  rw [take_depends_only_on_membership rows members members' h, take_spec]

/-- The order a container lists its members in, and repeats, are not seen: `take` of the reversed / doubled listing. -/
theorem take_listing_order_irrelevant (rows : List α) (m : List Int) :
    take rows m.reverse = take rows m ∧ take rows (m ++ m) = take rows m :=
  ⟨take_depends_only_on_membership _ _ _ (fun i => List.mem_reverse),
   take_depends_only_on_membership _ _ _ (fun i => by simp)⟩

/-- What `take_any_container` excludes: cutting the rows out with the extended slice of a range that counts down
(`rows[4:0:-1]`) lists the selected rows backwards - the same positions `{1,2,3,4}`, another frame. -/
theorem descending_slice_is_not_take :
    take ["a", "b", "c", "d", "e"] [4, 3, 2, 1] = ["b", "c", "d", "e"]
    ∧ take ["a", "b", "c", "d", "e"] [4, 3, 2, 1] ≠ ["e", "d", "c", "b"] := by
  refine ⟨by decide, by decide⟩

/-- `query(p)` keeps row `i` iff `p rows[i]`. -/
theorem query_spec (rows : List α) (p : α → Bool) :
    query rows p = pick (fun i => ((rows[i]?).map p).getD false) rows := by
  induction rows with
  | nil => rfl
  | cons r rs ih =>
    rw [query, List.filter_cons, ← query, ih, pick, pick, pickFrom, pickFrom_succ]
    rfl

/-- `select`: the header is the requested names (those that exist) in the requested order, and
cell `j` of every result row is the source row's cell at the first position of `header[j]`. -/
theorem select_spec (names : List String) (rows : List (List α)) (attrs : List String)
    (hw : ∀ r ∈ rows, r.length = names.length) :
    (select names rows attrs).1 = attrs.filter (fun a => decide (a ∈ names))
    ∧ (select names rows attrs).2.length = rows.length
    ∧ ∀ (k : Nat) (r : List α), rows[k]? = some r →
        ∃ r', (select names rows attrs).2[k]? = some r'
          ∧ r'.length = (select names rows attrs).1.length
          ∧ ∀ (j : Nat) (a : String), (select names rows attrs).1[j]? = some a →
              ∃ i, indexOf names a = some i ∧ names[i]? = some a ∧ r'[j]? = r[i]? := by
  refine ⟨selectHeader_eq names attrs, List.length_map _, fun k r hk => ?_⟩
  obtain ⟨h1, h2⟩ := project_selectIdx names attrs r (hw r (List.mem_of_getElem? hk))
  exact ⟨_, by simp only [select, List.getElem?_map, hk, Option.map_some], h1, h2⟩

/-- `distinct` is duplicate-free, a sub-listing of the source with the same members, and keeps
the *first* of each set of equal rows: `distinct (x :: xs) = x :: (distinct xs without x)`. -/
theorem distinct_spec [DecidableEq α] (rows : List α) :
    (distinct rows).Nodup
    ∧ (distinct rows).Sublist rows
    ∧ (∀ x, x ∈ distinct rows ↔ x ∈ rows)
    ∧ (∀ (x : α) (xs : List α), distinct (x :: xs) = x :: (distinct xs).filter (fun y => decide (y ≠ x))) :=
  ⟨distinct_nodup rows, distinct_sublist rows, mem_distinct rows, distinct_cons⟩

/-- Batching partitions the rows, in order, into consecutive chunks of `size`: batch `i` is rows
`i·size … (i+1)·size − 1`; so all batches are full except a non-empty remainder, and
concatenated they are the listing. -/
theorem batches_spec (rows : List α) (size : Nat) (hs : 0 < size) :
    (batches rows size).flatten = rows
    ∧ ∀ i, (batches rows size)[i]? =
        if i * size < rows.length then some ((rows.drop (i * size)).take size) else none :=
  ⟨by rw [batches_eq_chunks rows size hs]; exact batchesAux_flatten size hs _ rows (Nat.le_refl _),
   fun i => batches_get rows size hs i⟩

/-- Every batch but the last is full and no batch is empty. -/
theorem batches_sizes (rows : List α) (size : Nat) (hs : 0 < size) (i : Nat) (b : List α)
    (h : (batches rows size)[i]? = some b) :
    0 < b.length ∧ b.length ≤ size ∧ ((i + 1) * size ≤ rows.length → b.length = size) := by
  rw [(batches_spec rows size hs).2 i] at h
  by_cases hlt : i * size < rows.length
  · simp only [hlt, if_true, Option.some.injEq] at h
    subst h
    rw [List.length_take, List.length_drop]
    exact ⟨Nat.lt_min.mpr ⟨hs, Nat.sub_pos_of_lt hlt⟩, Nat.min_le_left _ _,
      fun hle => Nat.min_eq_left (Nat.le_sub_of_add_le' (Nat.succ_mul i size ▸ hle))⟩
  · simp [hlt] at h

/-- `collect` / indexing is the column-major transpose truncated to the limit:
`result[i][j] = rows[j][columns[i]]` for the first `limit` rows (all rows for `None` or a negative
limit or one beyond the row count). -/
theorem collect_spec [Inhabited α] (rows : List (List α)) (cols : List Nat) (limit : Option Int) (w : Nat)
    (hw : ∀ r ∈ rows, r.length = w) (hc : ∀ c ∈ cols, c < w) :
    collect rows cols limit =
      some (cols.map fun c => (rows.take (limitRows rows.length limit)).map fun r => r[c]!) := by
  unfold collect
  apply List.mapM_eq_some_map
  intro c hcm
  apply List.mapM_eq_some_map
  intro r hr
  have hrm : r ∈ rows := List.mem_of_mem_take hr
  have : c < r.length := by rw [hw r hrm]; exact hc c hcm
  simp [List.getElem?_eq_getElem this, getElem!_pos r c this]

/-- The limit: `None`, a negative limit or one beyond the row count mean all rows. -/
theorem limitRows_spec (n : Nat) :
    limitRows n none = n
    ∧ (∀ l : Int, l < 0 → limitRows n (some l) = n)
    ∧ (∀ l : Int, 0 ≤ l → limitRows n (some l) = min l.toNat n) := by
  refine ⟨by rw [limitRows_eq], fun l h => ?_, fun l h => ?_⟩
  · rw [limitRows_eq]; exact if_pos h
  · rw [limitRows_eq]; exact if_neg (Int.not_lt.mpr h)

/-- Every row-selecting operator returns rows of the source (so rectangularity and cell values
are preserved by any composition of them). -/
theorem rows_preserved [DecidableEq α] (rows : List α) :
    (∀ o l, ∀ r ∈ slice rows o l, r ∈ rows)
    ∧ (∀ m, ∀ r ∈ filter rows m, r ∈ rows)
    ∧ (∀ ix, ∀ r ∈ take rows ix, r ∈ rows)
    ∧ (∀ p, ∀ r ∈ query rows p, r ∈ rows)
    ∧ (∀ r ∈ distinct rows, r ∈ rows) := by
  refine ⟨?_, ?_, ?_, ?_, ?_⟩
  · intro o l r hr
    rw [slice_eq] at hr
    cases l with
    | none => exact List.mem_of_mem_drop hr
    | some l => exact List.mem_of_mem_drop (List.mem_of_mem_take hr)
  · intro m r hr
    rw [filter_spec] at hr
    exact (pickFrom_sublist 0 _ rows).subset hr
  · intro ix r hr
    exact (pickFrom_sublist 0 _ rows).subset hr
  · intro p r hr
    exact (List.mem_filter.mp hr).1
  · intro r hr
    exact (distinct_sublist rows).subset hr

/-! ## The generated code equals the model

`Gen.FrameFns.*` are the bodies of `DataFrame.slice/head/tail/to_batches` translated statement by
statement from the working tree (harness/pystmt.py); `Gen.Frame.select*`, `schemaIter`, `takeTest`,
`collect*` are the comprehensions / tests lifted by harness/extractors/c03.py.  A change of the
source that changes their meaning breaks the theorems of this file that rest on them. -/

theorem generated_slice_eq_model (rows : List α) (offset : Int) (length : Option Nat) :
    Gen.FrameFns.slice rows offset (length.map Int.ofNat) = slice rows offset length := by
  unfold Gen.FrameFns.slice slice sliceOffset Gen.Frame.sliceNegTest Gen.Frame.sliceNegStart
    Gen.Frame.sliceZeroTest Gen.Frame.sliceStop
  cases length with
  | none => by_cases h : offset < 0 <;> simp [h]
  | some l => by_cases h : offset < 0 <;> simp [h]

theorem generated_head_eq_model (rows : List α) (k : Nat) :
    Gen.FrameFns.head rows (k : Int) = head rows k := by
  have := generated_slice_eq_model rows 0 (some k)
  simp only [Option.map_some, Int.ofNat_eq_natCast] at this
  unfold Gen.FrameFns.head head Gen.Frame.headOffset Gen.Frame.headLength
  rw [this]; simp

theorem generated_tail_eq_model (rows : List α) (k : Nat) :
    Gen.FrameFns.tail rows (k : Int) = tail rows k := by
  have := generated_slice_eq_model rows (0 - (k : Int)) (some k)
  simp only [Option.map_some, Int.ofNat_eq_natCast] at this
  unfold Gen.FrameFns.tail tail Gen.Frame.tailOffset Gen.Frame.tailLength
  rw [this]; simp

theorem generated_to_batches_eq_model (rows : List α) (size : Nat) :
    Gen.FrameFns.to_batches rows (size : Int) = batches rows size := rfl

/-- The comprehensions of `DataFrame.select` as the source has them are: the requested names that
exist, their first positions, and the cells at these positions. -/
theorem generated_select_eq_model (names attrs hdr : List String) (idxs : List Nat) (row : List α) :
    Gen.Frame.selectHeader names attrs = attrs.filter (fun a => decide (a ∈ names))
    ∧ Gen.Frame.selectIndices names hdr = hdr.filterMap (indexOf names)
    ∧ Gen.Frame.selectProject idxs row = idxs.filterMap (row[·]?) :=
  ⟨rfl, selectIndices_eq names hdr, rfl⟩

/-- `list(self._schema)` is the list of column names for every way the schema can be given: a list,
a tuple, a `RelationSchema` (the generated `RelationSchema.__iter__`) — aliases never enter. -/
theorem schema_iter_names (sch : Schema) : sch.iter = sch.names := by
  unfold Schema.iter Schema.names Gen.Frame.schemaIter
  cases sch.kind <;> simp [List.map_map, Function.comp_def]

/-- `select` on a frame with any kind of schema: the header is the requested column *names* that
exist, in the requested order, the result carries a plain list schema, and (by `select_spec`) every
cell is the source cell at the first position of its name. -/
theorem select_any_schema [DecidableEq α] (sch : Schema) (rows : List (List α)) (attrs : List String) :
    apply1 (.select attrs) sch rows
      = .frame (Schema.ofNames (attrs.filter (fun a => decide (a ∈ sch.names))))
          (select sch.names rows attrs).2 := by
  simp only [apply1, selectOp, schema_iter_names, select, selectHeader_eq]

/-! ## `+`, `row` and `collect` on a frame -/

/-- `+` concatenates the listings of two frames that carry the same schema. -/
theorem add_spec (sch : Schema) (ra rb : List (List α)) :
    addOp sch ra sch rb = .frame sch (ra ++ rb) := by
  simp [addOp]

/-- `row(i)` is Python list indexing: `rows[i]` for `0 ≤ i < n`, `rows[n+i]` for `-n ≤ i < 0`,
`IndexError` otherwise. -/
theorem row_spec (rows : List (List α)) (i : Int) :
    (∀ (k : Nat) (r : List α), i = k → rows[k]? = some r → rowOp rows i = .val (.row r))
    ∧ (∀ (k : Nat) (r : List α), i = -(k : Int) → 0 < k → k ≤ rows.length → rows[rows.length - k]? = some r →
        rowOp rows i = .val (.row r))
    ∧ (i ≥ rows.length ∨ i < -(rows.length : Int) → rowOp rows i = .err "IndexError") := by
  have get : ∀ (j : Nat) (r : List α), (if i < 0 then (rows.length : Int) + i else i) = j → rows[j]? = some r →
      rowOp rows i = .val (.row r) := by
    intro j r hj hr
    have := lt_of_get hr
    simp only [rowOp, hj]
    rw [if_neg fun h => h.elim (Int.not_lt.mpr (Int.natCast_nonneg j)) (Int.not_le.mpr (Int.ofNat_lt.mpr this)),
      Int.toNat_natCast, hr]
  refine ⟨fun k r hk hr => get k r (by rw [hk, if_neg (Int.not_lt.mpr (Int.natCast_nonneg k))]) hr,
    fun k r hk hpos hle hr => get (rows.length - k) r (by rw [hk, if_pos (by omega)]; omega) hr, fun h => ?_⟩
  simp only [rowOp]
  rw [if_pos]
  by_cases h0 : i < 0
  · rw [if_pos h0]; omega
  · rw [if_neg h0]; omega

/-- **Every collect limit.**  Whatever limit is given — `None`, negative, `0`, at, one past or far beyond
the row count (`2**31`, `2**63`, …) — the value `DataFrame.collect` hands to `collect_cython` lies in
the range of the C type its `limit` parameter is declared with (compiled.pyx signature; the generated
`collectLimitMin/Max`), for every frame whose row count that type can express: the Python-level clamp
(`if limit >= len(self._rows): limit = -1`, the generated `collectClampTest`) replaces everything at or
beyond the row count by `-1`.  So the conversion never raises `OverflowError`. -/
theorem collect_limit_fits (n : Nat) (limit : Option Int) (hn : (n : Int) ≤ Gen.Frame.collectLimitMax + 1) :
    limitFits (passedLimit n limit) = true := by
  have hmin : Gen.Frame.collectLimitMin ≤ -1 := by decide
  have hmax : (-1 : Int) ≤ Gen.Frame.collectLimitMax := by decide
  unfold limitFits
  rw [passedLimit_eq]
  simp only [decide_eq_true_eq]
  generalize Gen.Frame.collectLimitMin = lo at *
  generalize Gen.Frame.collectLimitMax = hi at *
  cases limit with
  | none => exact ⟨hmin, hmax⟩
  | some l =>
    simp only
    by_cases h : l < 0 ∨ l ≥ n
    · simp only [h, if_true]; exact ⟨hmin, hmax⟩
    · simp only [h, if_false]
      omega

/-- `collect` / indexing on a frame, with the glue of `DataFrame.collect` and `collect_cython` around
the transpose: names are resolved to their first position (`ValueError` for a name that is not a
column); an empty frame or an empty column list gives one empty list per column; a position outside
the row width is an `IndexError`; otherwise the result is the column-major transpose of the first
`limitRows` rows. -/
theorem collectOp_spec [Inhabited α] (sch : Schema) (rows : List (List α)) (cols : List ColRef) (limit : Option Int)
    (hn : (rows.length : Int) ≤ Gen.Frame.collectLimitMax + 1) :
    (∀ cs, resolveCols sch.names cols = .ok cs → (rows = [] ∨ cs = []) →
        collectOp sch rows cols limit = .val (.table (cs.map fun _ => [])))
    ∧ (∀ cs, resolveCols sch.names cols = .ok cs → rows ≠ [] → cs ≠ [] →
        (∀ r ∈ rows, r.length = sch.cols.length) → (∀ c ∈ cs, 0 ≤ c ∧ c < (sch.cols.length : Int)) →
        collectOp sch rows cols limit
          = .val (.table (cs.map fun c => (rows.take (limitRows rows.length limit)).map fun r => r[c.toNat]!)))
    ∧ (∀ c, resolveCols sch.names cols = .error c → collectOp sch rows cols limit = .err c) := by
  -- past name resolution and the limit conversion (which never overflows: `collect_limit_fits`)
  have base : ∀ cs, resolveCols sch.names cols = .ok cs → collectOp sch rows cols limit =
      if rows.isEmpty ∨ cs.isEmpty then .val (.table (cs.map fun _ => []))
      else if cs.any (fun c => c < 0 ∨ c ≥ ((rows.head?.map List.length).getD 0 : Nat)) then .err "IndexError"
      else match collect rows (cs.map Int.toNat) limit with
        | some m => .val (.table m)
        | none => .err "IndexError" := by
    intro cs hres
    unfold collectOp
    rw [hres]
    simp only [collect_limit_fits _ limit hn, Bool.not_true, Bool.false_eq_true, if_false]
    rfl
  refine ⟨fun cs hres hemp => ?_, fun cs hres hr hc hrect hin => ?_, fun c hres => ?_⟩
  · rw [base cs hres, if_pos (hemp.imp (· ▸ rfl) (· ▸ rfl))]
  · obtain ⟨r0, rs, e⟩ := List.exists_cons_of_ne_nil hr
    have hw0 : ((rows.head?.map List.length).getD 0) = sch.cols.length := by
      subst e; exact hrect r0 List.mem_cons_self
    have h2 : ¬ (cs.any fun c => decide (c < 0 ∨ c ≥ (((rows.head?.map List.length).getD 0 : Nat) : Int))) = true := by
      rw [hw0, List.any_eq_true]
      rintro ⟨c, hcm, hc⟩
      exact (of_decide_eq_true hc).elim (Int.not_lt.mpr (hin c hcm).1) (Int.not_le.mpr (hin c hcm).2)
    rw [base cs hres, if_neg (fun h => h.elim (hr ∘ List.isEmpty_iff.mp) (hc ∘ List.isEmpty_iff.mp)), if_neg h2,
      collect_spec rows (cs.map Int.toNat) limit sch.cols.length hrect (by
        intro c hcm
        obtain ⟨c', hc', rfl⟩ := List.mem_map.mp hcm
        exact (Int.toNat_lt (hin c' hc').1).mpr (hin c' hc').2), List.map_map]
    rfl
  · unfold collectOp
    rw [hres]

/-! ## The caller's argument objects

A program may hold a selection in a variable and pass the same object to two operations
(`cols = ["d", "b"]; a.collect(cols); b[cols]`).  In the list model an argument is a value; on the objects it
stays one only if no operation writes into the object it was given.  `Gen.Frame.writesCallerArgument` is
regenerated from the argument-handling statements of `collect`, `select`, `filter` and `take` on every run. -/

/-- **No operator writes into the sequence object it is given** — column list of `collect` / `[]`, attribute list of
`select`, mask of `filter`, index collection of `take`, whether the caller passed a bare value, a list, a set or a
tuple (a change that stops copying one of them turns an entry of the generated table to `true`). -/
theorem no_operator_writes_its_argument (op : String) (kind : Nat) :
    Gen.Frame.writesCallerArgument op kind = false := by
  unfold Gen.Frame.writesCallerArgument
  split <;> rfl

/-- **`collect` leaves the caller's list as it was**: after `df.collect(cols)` / `df[cols]` the object `cols` holds
what the caller put in it — for every kind of argument, every frame layout, every list of names and positions
(names the frame does not have included: the `ValueError` leaves the list untouched too). -/
theorem collect_leaves_argument (kind : Nat) (names : List String) (arg : List ColRef) :
    collectArgAfter kind names arg = arg := by
  unfold collectArgAfter
  rw [no_operator_writes_its_argument]
  rfl

/-- **The second use of the same list object** — on a frame with any other layout (`sch'`, `rows'`) — answers what
the list model says for the list the caller wrote: `collectOp` of the object as the first call left it is
`collectOp` of the original selection (whose value is `collectOp_spec`). -/
theorem collect_second_use_of_same_argument [Inhabited α] (kind : Nat) (sch sch' : Schema) (rows' : List (List α))
    (cols : List ColRef) (limit' : Option Int) :
    collectOp sch' rows' (collectArgAfter kind sch.names cols) limit' = collectOp sch' rows' cols limit' := by
  rw [collect_leaves_argument]

/-- What the theorems above exclude: were the positions written into the caller's list (`resolveInPlace`), the
second use on a frame laid out differently would read other columns — on `(a, b)` then `(b, a)`, `["a"]` becomes
`[0]`, which is `b` there. -/
theorem resolveInPlace_changes_second_use :
    resolveInPlace ["a", "b"] [.name "a"] = [.idx 0]
    ∧ resolveCols ["b", "a"] (resolveInPlace ["a", "b"] [.name "a"]) = .ok [0]
    ∧ resolveCols ["b", "a"] [.name "a"] = .ok [1] := by
  refine ⟨by rfl, by rfl, by rfl⟩

/-! ## Programs: the state machine against the list specification -/

/-- **The laziness table of the source**: every method that needs a list — `slice` (so `head`,
`tail`), `row`, `__len__`, `rowcount`, `collect`, `to_batches`, `__add__` (both operands) — and
`__iter__` call `self.materialize()` before they touch `self._rows` (the table is regenerated from
the source on every run).  This is the only fact about the table the refinement needs. -/
theorem methods_materialise_first : MatTable := by
  unfold MatTable; decide +kernel

section programs
variable [DecidableEq α]

theorem step_refines (st : List (IReg α)) (sp : List (SReg α)) (op : Op α) (hs : Sim st sp) (hw : wfOp st op) :
    ∃ st' sp', implStep st op = some st' ∧ specStep sp op = some sp' ∧ Sim st' sp' := by
  obtain ⟨_, _, _, _, _, _, m1, m2, m3⟩ := methods_materialise_first
  cases op with
  | un u s =>
    obtain ⟨sch, rows, hf⟩ := hw
    -- the `TypeError` leaf is not reached: a method that does not iterate materialises first
    have noErr : ¬ Gen.Frame.materialisesFirst u.method = true → ¬ u.iterates = true → False := fun hm hi =>
      hm (method_materialises methods_materialise_first u (Bool.eq_false_iff.mpr hi))
    -- the cascade as `implStep` writes it, with the reason at each leaf
    have hp : Pushes sp (apply1 u sch rows) (implStep st (.un u s)) := by
      rw [implStep]
      rcases frameOf_cases hf with ⟨l, h⟩ | ⟨src, h⟩ <;> simp only [h]
      · exact .ite (fun _ => .leaf hs (rel_ofSpec _ _)) fun _ =>
          .ite (fun _ => .leaf (hs.materialise s) (rel_ofSpec _ _)) fun hm =>
          .ite (fun _ => .leaf hs (rel_deferOf _ _)) fun _ =>
          .ite (fun _ => .leaf (hs.spendSet _) (rel_ofSpec _ _)) fun hi => (noErr hm hi).elim
      · exact .ite (fun _ => .leaf (hs.materialise s) (rel_ofSpec _ _)) fun hm =>
          .ite (fun _ => .leaf hs (rel_deferOf _ _)) fun _ =>
          .ite (fun _ => .leaf (hs.spendSet _) (rel_deferOf _ _)) fun _ =>
          .ite (fun _ => .leaf (hs.spendSet _) (rel_ofSpec _ _)) fun hi => (noErr hm hi).elim
    obtain ⟨st0, r, e, h0, hr⟩ := hp
    exact ⟨_, _, e, by rw [specStep, hs.frameOf_of hf], h0.push hr⟩
  | add s t =>
    obtain ⟨⟨sa, ra, ha⟩, ⟨sb, rb, hb1⟩⟩ := hw
    have hb := hs.frameOf_before hb1
    simp only [implStep, specStep, ha, hb, hs.frameOf_of ha, hs.frameOf_of hb, addOp]
    by_cases he : sa = sb
    · subst he
      obtain ⟨g1, g2⟩ := materialise_both ha hb1
      simp only [ne_eq, not_true_eq_false, if_false, m2, m3, if_true, isLazy_false_of g1,
        isLazy_false_of g2, Bool.or_self, Bool.false_eq_true, rowsNow_eager g1,
        rowsNow_eager g2]
      exact ⟨_, _, rfl, rfl, ((hs.materialise s).materialise t).push (Rel.frame _ _ _)⟩
    · simp only [ne_eq, he, not_false_eq_true, if_true, if_false]
      exact ⟨_, _, rfl, rfl, hs.push (Rel.err _)⟩
  | append s r =>
    obtain ⟨⟨sch, rows, h, hk⟩, _⟩ := hw
    simp only [implStep, specStep, h, hs.view h rfl, hk, if_false, Bool.false_eq_true]
    exact ⟨_, _, rfl, rfl, (hs.set2 s (Rel.frame _ _ _)).push (Rel.val _)⟩
  | iter s =>
    obtain ⟨sch, rows, hf⟩ := hw
    rcases frameOf_cases hf with ⟨l, h⟩ | ⟨src, h⟩ <;>
    · simp only [implStep, specStep, h, hs.frameOf_of hf, m1, if_true]
      exact ⟨_, _, rfl, rfl, (hs.materialise s).push (Rel.iter _ _)⟩
  | next it k =>
    obtain ⟨rows, pos, h⟩ := hw
    simp only [implStep, specStep, h, hs.view h rfl]
    exact ⟨_, _, rfl, rfl, (hs.set2 it (Rel.iter _ _)).push (Rel.val _)⟩
  | zip s t =>
    obtain ⟨⟨sa, ra, ha⟩, ⟨sb, rb, hb1⟩⟩ := hw
    have hb := hs.frameOf_before hb1
    obtain ⟨g1, g2⟩ := materialise_both ha hb1
    simp only [implStep, specStep, ha, hb, hs.frameOf_of ha, hs.frameOf_of hb, m1, if_true,
      rowsNow_eager g1, rowsNow_eager g2]
    exact ⟨_, _, rfl, rfl, ((hs.materialise s).materialise t).push (Rel.val _)⟩

/-- **Siblings of a lazily backed frame (1).**  `select` does not touch the rows of its source: the
projection generator looks `self._rows` up when the selection is first read (the generated
`selectReadsLate`), so after `a = s.select(…)` every register — the source included — is what it was,
and the source can still be windowed, counted, collected, batched, added or iterated. -/
theorem select_keeps_source (st : List (IReg α)) (attrs : List String) (s : Nat) (hw : live st s) :
    ∃ r, implStep st (.un (.select attrs) s) = some (st ++ [r]) := by
  obtain ⟨sch, rows, hf⟩ := hw
  exact ⟨_, implStep_select attrs hf⟩

/-- **Siblings of a lazily backed frame (2).**  Derive a selection from a lazily backed frame, then
apply any operator that materialises the frame (`head`, `tail`, `slice`, `row`, `len`, `collect`,
`to_batches`), then read the selection: the program is inside the scope of `eval_refines` — so the
selection lists the projection of every row, the other result is the operator applied to the frame's
rows, and the frame itself keeps them. -/
theorem sibling_after_materialising_use (sch : Schema) (rows : List (List α)) (attrs : List String)
    (u : UnOp α) (hu : u.iterates = false) (how : Nat) :
    wfProg [.frame sch true rows] [.un (.select attrs) 0, .un u 0, .un (.len how) 1] := by
  have hmu := method_materialises methods_materialise_first u hu
  refine ⟨⟨sch, rows, rfl⟩, fun st1 h1 => ?_⟩
  rw [implStep_select attrs rfl] at h1
  cases h1
  refine ⟨⟨sch, rows, rfl⟩, fun st2 h2 => ?_⟩
  rw [implStep_materialising hmu rfl rfl] at h2
  cases h2
  exact ⟨⟨_, _, rfl⟩, fun _ _ => trivial⟩

/-- **Siblings (3): the other order.**  Reading the selection *first* runs the frame's own generator
inside the projection: the selection holds the projected rows, the lazily backed frame is spent (the
statement protects materialised sources only; the harness does not read such a frame again). -/
theorem selection_read_first_spends_lazy_source (sch : Schema) (rows : List (List α)) (attrs : List String) :
    implEval [.frame sch true rows] [.un (.select attrs) 0, .un (.len 0) 1]
      = some [.spent, .frame (Schema.ofNames (select sch.iter rows attrs).1) false (select sch.iter rows attrs).2,
              .val (.nat (select sch.iter rows attrs).2.length)] := by
  have hl : Gen.Frame.materialisesFirst (UnOp.len (α := α) 0).method = true := methods_materialise_first.2.2.1
  -- `select` defers; `len` materialises register 1, which runs the generator of register 0 inside the projection
  rw [implEval, implStep_select attrs rfl, Option.bind_some, implEval, implStep_materialising hl rfl rfl]
  rfl

/-- **Any composition.**  For every well-formed program (any length, any operators, any arguments,
eager or lazily backed base frame) the state machine of the implementation and the list
specification both run to the end and every live register of the machine stands for the
specification's register: same schema, same listing, same value, same error, same iterator. -/
theorem eval_refines (prog : List (Op α)) (st : List (IReg α)) (sp : List (SReg α))
    (hs : Sim st sp) (hw : wfProg st prog) :
    ∃ st' sp', implEval st prog = some st' ∧ specEval sp prog = some sp' ∧ Sim st' sp' := by
  induction prog generalizing st sp with
  | nil => exact ⟨st, sp, rfl, rfl, hs⟩
  | cons op ops ih =>
    obtain ⟨hw1, hw2⟩ := hw
    obtain ⟨st1, sp1, e1, e2, hs1⟩ := step_refines st sp op hs hw1
    obtain ⟨st', sp', e3, e4, hs'⟩ := ih st1 sp1 hs1 (hw2 st1 e1)
    exact ⟨st', sp', by simp [implEval, e1, e3], by simp [specEval, e2, e4], hs'⟩

/-- The same, read off a program that starts from one base frame: whatever the machine shows of a
register (`IReg.view`; a spent frame shows nothing) is the list specification's register. -/
theorem eval_observation (prog : List (Op α)) (sch : Schema) (lazy : Bool) (rows : List (List α))
    (hw : wfProg [.frame sch lazy rows] prog) :
    ∃ st' sp', implEval [.frame sch lazy rows] prog = some st' ∧ specEval [.frame sch rows] prog = some sp'
      ∧ st'.length = sp'.length
      ∧ ∀ (i : Nat) (r : IReg α) (v : SReg α), st'[i]? = some r → r.view = some v → sp'[i]? = some v := by
  have h0 : Sim [IReg.frame sch lazy rows] [SReg.frame sch rows] :=
    Sim.push (st := []) (sp := []) ⟨rfl, fun _ _ _ h => nomatch h⟩ (Rel.frame sch lazy rows)
  obtain ⟨st', sp', e1, e2, hs⟩ := eval_refines prog _ _ h0 hw
  exact ⟨st', sp', e1, e2, hs.1, fun i r v hr hv => hs.view hr hv⟩

/-- **Never alters a materialised source frame.**  Whatever program runs (well formed or not, as
long as it runs), a frame that is materialised keeps its schema and its listing, extended only by
the rows the program `append`s to that very frame, in order. -/
theorem materialised_source_unaltered (prog : List (Op α)) (st st' : List (IReg α))
    (h : implEval st prog = some st') (i : Nat) (sch : Schema) (rows : List (List α))
    (hi : st[i]? = some (.frame sch false rows)) :
    st'[i]? = some (.frame sch false (rows ++ appended i prog)) := by
  induction prog generalizing st rows with
  | nil => cases h; rw [appended, List.append_nil]; exact hi
  | cons op ops ih =>
    obtain ⟨st1, h1, h2⟩ := Option.bind_eq_some_iff.mp h
    rw [appended_cons, ← List.append_assoc]
    exact ih st1 h2 _ (implStep_materialised st st1 op h1 i sch rows hi)

/-- **Iterating yields each row once, in order** — also when the iteration is abandoned part-way,
resumed later, or interleaved with other iterators and operators: the chunks handed out by the
`next` calls on one iterator are consecutive pieces of the listing it was opened on; the iterator
register keeps that listing and only moves forward, never past the end. -/
theorem iter_yields_rows_once (prog : List (Op α)) (sp sp' : List (SReg α)) (h : specEval sp prog = some sp')
    (it : Nat) (rows : List (List α)) (pos : Nat) (hi : sp[it]? = some (.iter rows pos)) :
    ∃ pos', sp'[it]? = some (.iter rows pos') ∧ pos ≤ pos' ∧ pos' ≤ max pos rows.length
      ∧ (handed it rows pos prog).1.flatten = (rows.drop pos).take (pos' - pos) := by
  obtain ⟨h1, h2⟩ := handed_prefix it rows pos prog
  refine ⟨_, specEval_iter prog sp sp' h it rows pos hi, h2 ▸ Nat.le_add_right _ _, ?_, ?_⟩
  · -- a prefix of what lay ahead is no longer than that
    rw [h2, Nat.max_comm, ← Nat.sub_add_eq_max, Nat.add_comm pos, ← List.length_drop]
    exact Nat.add_le_add_right h1.length_le pos
  · rw [h2, Nat.add_sub_cancel_left]
    exact List.prefix_iff_eq_take.mp h1

/-- A fresh iterator that stands at the end of the listing has handed out exactly the listing. -/
theorem iter_drained (it : Nat) (rows : List (List α)) (prog : List (Op α))
    (hd : rows.length ≤ (handed it rows 0 prog).2) : (handed it rows 0 prog).1.flatten = rows := by
  obtain ⟨h1, h2⟩ := handed_prefix it rows 0 prog
  exact h1.eq_of_length_le (by rwa [h2, Nat.zero_add] at hd)

/-- Every one-source operator keeps a rectangular frame rectangular (`select`: as wide as the new header). -/
theorem apply1_rect (u : UnOp α) (sch : Schema) (rows : List (List α)) (h : Rect sch rows) :
    (apply1 u sch rows).rect := by
  obtain ⟨p1, p2, p3, p4, p5⟩ := rows_preserved rows
  cases u with
  | head k | tail k => exact fun r hr => h r (p1 _ _ r hr)
  | slice o l => exact fun r hr => h r (p1 _ _ r hr)
  | filter m => exact fun r hr => h r (p2 _ r hr)
  | take ix => exact fun r hr => h r (p3 _ r hr)
  | query p => exact fun r hr => h r (p4 _ r hr)
  | distinct => exact fun r hr => h r (p5 r hr)
  | select attrs =>
    intro r' hr'
    obtain ⟨r, hr, rfl⟩ := List.mem_map.mp hr'
    rw [schema_iter_names, (project_selectIdx sch.names attrs r (by rw [h r hr, Schema.names, List.length_map])).1,
      Schema.ofNames, List.length_map]
    rfl
  | collect c l => exact collectOp_rect sch rows c l
  | row i => exact rowOp_rect rows i
  | batches _ | len _ | hash => trivial

/-- One step of any program keeps every frame register rectangular. -/
theorem step_rect (sp sp' : List (SReg α)) (op : Op α) (hr : ∀ reg ∈ sp, reg.rect) (ho : opRect sp op)
    (h : specStep sp op = some sp') : ∀ reg ∈ sp', reg.rect := by
  have push : ∀ {l : List (SReg α)} {x : SReg α}, (∀ reg ∈ l, reg.rect) → x.rect → ∀ reg ∈ l ++ [x], reg.rect :=
    fun hl hx => List.forall_mem_append.mpr ⟨hl, fun _ hm => List.mem_singleton.mp hm ▸ hx⟩
  have setr : ∀ {s : Nat} {x : SReg α}, x.rect → ∀ reg ∈ sp.set s x, reg.rect := fun hx reg hm =>
    (List.mem_or_eq_of_mem_set hm).elim (hr reg) (· ▸ hx)
  have app : ∀ {sch : Schema} {ra rb : List (List α)}, Rect sch ra → Rect sch rb → Rect sch (ra ++ rb) :=
    fun ha hb => List.forall_mem_append.mpr ⟨ha, hb⟩
  cases specStep_sound h with
  | un hs => exact push hr (apply1_rect _ _ _ (hr _ (List.mem_of_getElem? hs)))
  | add hs ht =>
    refine push hr ?_
    fun_cases addOp _ _ _ _ with
    | case1 e => subst e; exact app (hr _ (List.mem_of_getElem? hs)) (hr _ (List.mem_of_getElem? ht))
    | case2 => trivial
  | append hs _ =>
    exact push (setr (app (hr _ (List.mem_of_getElem? hs)) fun r' hm => List.mem_singleton.mp hm ▸ ho _ _ hs)) trivial
  | iter _ | zip _ _ => exact push hr trivial
  | next _ => exact push (setr trivial) trivial

/-- **Rectangularity is an invariant of every program**: if the base frames are rectangular and
`append` is given rows of the right width, every frame any program produces is rectangular (its
rows are as wide as its schema) — `select` included, whose schema is the new header. -/
theorem eval_rect (prog : List (Op α)) (sp sp' : List (SReg α)) (hr : ∀ reg ∈ sp, reg.rect)
    (ho : progRect sp prog) (h : specEval sp prog = some sp') : ∀ reg ∈ sp', reg.rect := by
  induction prog generalizing sp with
  | nil => cases h; exact hr
  | cons op ops ih =>
    obtain ⟨sp1, h1, h2⟩ := Option.bind_eq_some_iff.mp h
    exact ih sp1 (step_rect sp sp1 op hr ho.1 h1) (ho.2 sp1 h1) h2

/-- The executable well-formedness check the driver reports for every tested program is sound. -/
theorem wfProgB_sound (prog : List (Op α)) (st : List (IReg α)) (h : wfProgB st prog = true) : wfProg st prog := by
  induction prog generalizing st with
  | nil => trivial
  | cons op ops ih =>
    simp only [wfProgB, Bool.and_eq_true] at h
    refine ⟨wfOpB_sound st op h.1, fun st' hst => ih st' ?_⟩
    have h2 := h.2
    rwa [hst] at h2

end programs

/-! ## Several batchings of one frame -/

/-- **Batchings consumed interleaved.**  However the `next` calls on any number of batchings of one frame are
interleaved (`sched`: nested loops, `zip`, lock step, one abandoned part-way), batching `i` hands out consecutive
batches of *its own* partition — the batches of the generated `to_batches` body for its size, from where it stood,
as many as it was asked for: no batching moves, restarts or exhausts another. -/
theorem interleaved_batchings (rows : List α) (size pos : Nat → Nat) (sched : List Nat) (i : Nat) :
    yielded i (advance rows size pos sched)
      = ((Gen.FrameFns.to_batches rows ((size i : Nat) : Int)).drop (pos i)).take (sched.count i) := by
  rw [generated_to_batches_eq_model]
  induction sched generalizing pos with
  | nil => simp [advance, yielded]
  | cons j sched ih =>
    unfold advance yielded
    have := ih (fun k => if k = j then pos j + 1 else pos k)
    by_cases hji : j = i
    · subst hji
      simp only [yielded, if_true] at this
      simp only [List.filterMap_cons, if_true, List.count_cons_self]
      rw [drop_take_succ_getElem?]
      cases h : (batches rows (size j))[pos j]? with
      | none => simp [this]
      | some b => simp [this]
    · simp only [yielded, if_neg (Ne.symm hji)] at this
      simp only [List.filterMap_cons, if_neg hji]
      rw [this, List.count_cons_of_ne hji]

/-- `k` batchings opened on one frame, each advanced (in any interleaving) at least as often as it has batches, yield
`k` copies of the partition: every one of them the full batches plus one remainder, which concatenated are the rows. -/
theorem batchings_each_partition (rows : List α) (size : Nat → Nat) (sched : List Nat) (i : Nat) (hs : 0 < size i)
    (hd : (batches rows (size i)).length ≤ sched.count i) :
    yielded i (advance rows size (fun _ => 0) sched) = batches rows (size i)
    ∧ (yielded i (advance rows size (fun _ => 0) sched)).flatten = rows := by
  have h := interleaved_batchings rows size (fun _ => 0) sched i
  rw [generated_to_batches_eq_model] at h
  simp only [List.drop_zero] at h
  rw [List.take_of_length_le hd] at h
  exact ⟨h, by rw [h]; exact (batches_spec rows (size i) hs).1⟩

/-- A batching of size `b` is the row iterator of its frame read `b` rows at a time: the `j` batches it hands out from
batch number `p` are the batches of the `j·b` rows a list iterator standing at row `p·b` hands out (this is how the
correspondence check runs batchings on `specEval` / `implEval`: `iter` + `next (j·b)`, so `iter_yields_rows_once` and
the refinement cover them). -/
theorem batching_is_chunked_iteration (rows : List α) (b p j : Nat) (hb : 0 < b) :
    ((Gen.FrameFns.to_batches rows (b : Int)).drop p).take j = batches ((rows.drop (p * b)).take (j * b)) b := by
  rw [generated_to_batches_eq_model]
  apply List.ext_getElem?
  intro i
  rw [List.getElem?_take, List.getElem?_drop, batches_get _ _ hb, batches_get _ _ hb, List.length_take,
    List.length_drop, Nat.add_mul]
  by_cases hij : i < j
  · -- batch `i` of the window lies inside the `j * b` rows taken
    have h1 : i * b + b ≤ j * b := Nat.succ_mul i b ▸ Nat.mul_le_mul_right b hij
    have h2 : i * b < j * b := by omega
    simp only [hij, if_true, Nat.lt_min, h2, true_and, Nat.lt_sub_iff_add_lt, Nat.add_comm (i * b),
      List.drop_take, List.drop_drop, List.take_take, Nat.min_eq_left (Nat.le_sub_of_add_le' h1)]
  · have h1 : j * b ≤ i * b := Nat.mul_le_mul_right b (Nat.le_of_not_gt hij)
    rw [if_neg hij, if_neg (by omega)]

/-! ## `distinct` through a key -/

/-- The loop of `distinct` as the source has it asks its seen-set — and, for rows that cannot be hashed, its
by-value list — for the *row itself* and stores the row itself (the generated flags): membership in a set of rows
and in a list of rows is equality of rows, so the loop is `distinctAux`.  A lookup under a derived key is
`distinctOn`, which the next two theorems separate from `distinct`. -/
theorem distinct_looks_up_rows :
    Gen.Frame.distinctSeenKeyIsRow = true ∧ Gen.Frame.distinctUnhashableKeyIsRow = true := by decide

/-- **Rows that look alike.**  A seen-set keyed on anything derived from the row (`hash(row)`, `str(row)`, a
"hashable form" with lists turned into tuples) de-duplicates like `distinct` on every listing exactly when the key
tells unequal rows apart … -/
theorem distinct_by_key_of_injective {κ : Type} [DecidableEq α] [DecidableEq κ] (k : α → κ) (hk : ∀ a b, k a = k b → a = b)
    (rows : List α) : distinctOn k rows = distinct rows :=
  distinctOnAux_injective k hk [] rows

/-- … and whenever two unequal rows share a key, the frame holding just these two loses the second one, which
`distinct` ("the first of each set of *equal* rows") keeps. -/
theorem lookalike_key_drops_a_row {κ : Type} [DecidableEq α] [DecidableEq κ] (k : α → κ) (x y : α) (hxy : x ≠ y)
    (hk : k x = k y) : distinctOn k [x, y] = [x] ∧ distinct [x, y] = [x, y] := by
  constructor
  · simp [distinctOn, distinctOnAux, hk]
  · simp [distinct, distinctAux, Ne.symm hxy]

/-- **Cells up to Python equality** (`Model/FrameCell.lean`, what the driver applies to every cell): `True`, `1` are one
value and so are `False`, `0`; a tuple and a list are different values whatever they hold — so `distinct` keeps a
row with a list in a cell next to the row with the tuple of the same values in that cell, in either order. -/
theorem list_and_tuple_rows_both_kept (k : PyVal) (xs ys : List PyVal) :
    pyKey (.bool true) = pyKey (.int 1) ∧ pyKey (.bool false) = pyKey (.int 0)
    ∧ pyKey (tupleCell xs) ≠ pyKey (.list ys)
    ∧ distinct [pyKeyL [k, .list xs], pyKeyL [k, tupleCell xs]] = [pyKeyL [k, .list xs], pyKeyL [k, tupleCell xs]]
    ∧ distinct [pyKeyL [k, tupleCell xs], pyKeyL [k, .list xs]] = [pyKeyL [k, tupleCell xs], pyKeyL [k, .list xs]] := by
  have hne : ∀ zs, pyKey (tupleCell xs) ≠ pyKey (.list zs) := fun zs => by simp [tupleCell, pyKey]
  have h : pyKeyL [k, .list xs] ≠ pyKeyL [k, tupleCell xs] := by
    simp only [pyKeyL]; intro h; injection h with _ h; injection h with h _; exact hne xs h.symm
  exact ⟨by decide, by decide, hne ys, (lookalike_key_drops_a_row (fun _ => ()) _ _ h rfl).2,
    (lookalike_key_drops_a_row (fun _ => ()) _ _ h.symm rfl).2⟩

example : pyKey (.dict [("__pydict__", .dict [("b", .int 2), ("a", .bool true)])])
    = pyKey (.dict [("__pydict__", .dict [("a", .int 1), ("b", .int 2)])]) := by decide +kernel

example : yielded (α := Nat) 0 (advance [1, 2, 3, 4, 5] (fun i => i + 2) (fun _ => 0) [0, 1, 0, 1, 0, 0]) = [[1, 2], [3, 4], [5]]
    ∧ yielded (α := Nat) 1 (advance [1, 2, 3, 4, 5] (fun i => i + 2) (fun _ => 0) [0, 1, 0, 1, 0, 0]) = [[1, 2, 3], [4, 5]] := by decide +kernel
example : distinctOn (fun (r : List Nat) => r.length) [[1], [2], [1, 2]] = [[1], [1, 2]] ∧ distinct [[1], [2], [1, 2]] = [[1], [2], [1, 2]] := by decide +kernel

/-- Non-vacuity of the program theorems: a lazily backed frame, an iteration abandoned after one row,
another operator on the same frame, the iteration resumed, a lazily backed result read twice. -/
example : wfProg (α := Nat) [.frame ⟨.typed, [⟨"a", ["x"]⟩, ⟨"b", []⟩]⟩ true [[1, 5], [2, 6], [3, 7]]]
    [.iter 0, .next 1 1, .un (.filter [true, false, true]) 0, .next 1 5, .un (.select ["b", "x", "a"]) 3,
     .un (.len 0) 5, .add 0 0, .zip 5 0] :=
  wfProgB_sound _ _ (by decide +kernel)
example : handed (α := Nat) 1 [[1], [2], [3]] 0 [.iter 0, .next 1 1, .un (.head 1) 0, .next 1 5, .next 2 1]
    = ([[[1]], [[2], [3]]], 3) := by decide +kernel
example : (specEval (α := Nat) [.frame ⟨.list, [⟨"a", []⟩, ⟨"b", []⟩]⟩ [[1, 2], [3, 4]]]
    [.un (.select ["b"]) 0, .append 0 [5, 6], .un (.collect [.name "b", .idx 0] (some 1)) 0]).isSome = true := by decide +kernel
example : appended (α := Nat) 0 [.append 0 [9], .un .distinct 0, .append 1 [8], .append 0 [7]] = [[9], [7]] := by decide +kernel

/-- Non-vacuity: concrete frames exercising the clamp, reordering select, colliding rows. -/
example : tail [1, 2, 3] 5 = [1, 2, 3] ∧ tail [1, 2, 3] 2 = [2, 3] ∧ slice [1, 2, 3] (-2) (some 1) = [2] := by decide +kernel
example : select ["a", "b", "c"] [[1, 2, 3], [4, 5, 6]] ["c", "a"] = (["c", "a"], [[3, 1], [6, 4]]) := by decide +kernel
example : distinct [1, 2, 1, 3, 2] = [1, 2, 3] ∧ batches [1, 2, 3, 4, 5] 2 = [[1, 2], [3, 4], [5]] := by decide +kernel
example : collect [[1, 2], [3, 4], [5, 6]] [1, 0] (some 2) = some [[2, 4], [1, 3]] := by decide +kernel

end C03
