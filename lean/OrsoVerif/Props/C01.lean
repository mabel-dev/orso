import OrsoVerif.Model.RowCodec
import OrsoVerif.Model.RowGlue
import OrsoVerif.Model.RowObject
import OrsoVerif.Lemmas.RowBytes
import OrsoVerif.Lemmas.MsgPackRoundtrip
import OrsoVerif.Lemmas.RowStream
import OrsoVerif.Lemmas.MsgPackSound
import OrsoVerif.Lemmas.RowFns
import OrsoVerif.Generated.RowMarkers
/-!
# C01 — Row byte format is lossless and self-delimiting

The framing theorems quantify over every payload, every timestamp, every
payload codec (`unpack` is a parameter), every tear point and every suffix; the codec theorems over
every value the encoder accepts, at every nesting depth.  All of them are statements about
definitions built from the constants extracted from the working tree (`Gen.Row.*`).
-/
namespace C01
open RowBytes MsgPack RowCodec RowStream

variable {α : Type}

/-- Byte strings (the two models use the same type). -/
abbrev Bytes := List UInt8

/-! ## The functions the theorems are about are the code of the working tree

`Gen.RowFns.from_bytes_cython` and `Gen.RowFns.as_bytes_frame` are translated statement by statement from
compiled.pyx / orso/row.py on every run (harness/extractors/c01_fns.py). -/

/-- The OR/shift arithmetic of `record_size` as written in compiled.pyx:51-56 (inside the translation)
is the fold over the extracted `(offset, shift)` list the framing lemmas use. -/
theorem recordSize_expr (data : Bytes) :
    recordSize data = cInt32 (((((byteAt data 2) <<< 24) ||| ((byteAt data 3) <<< 16)) ||| ((byteAt data 4) <<< 8)) ||| (byteAt data 5)) := by
  simp [recordSize, Gen.Row.lengthField, List.foldl]

/-- **The decoder of every theorem below is `from_bytes_cython` as written**: the statement-level
translation (guards with their `or`, operators, mask and value; the `record_size` arithmetic; the two
`DataError` texts; `unpackb(data[HEADER_SIZE:])`; the `cdef list` cast; the loop with the reserved-form
test and `datetime.fromtimestamp(item[1])`; the returned tuple) computes `decodeRow` on every buffer. -/
theorem generated_from_bytes_eq_model (data : Bytes) :
    Gen.RowFns.from_bytes_cython data = decodeRow data := by
  unfold Gen.RowFns.from_bytes_cython decodeRow decodeWith
  rw [checkFrame_eq, ← recordSize_expr]
  simp only []
  by_cases h1 : ((data.length : Nat) : Int) < 14
  · simp [h1]
  · by_cases h2 : (byteAt data 0 &&& 240) ≠ 16
    · simp [h1, h2]
    · by_cases h3 : recordSize data ≠ ((data.length : Nat) : Int) - 14
      · simp [h1, h2, h3]
      · -- the translation's `HEADER_SIZE` is a `Nat` read as an `Int`: the two tests in the form they have there
        have h1' : ¬ ((data.length : Nat) : Int) < ((14 : Nat) : Int) := h1
        have h3' : ¬ recordSize data ≠ ((data.length : Nat) : Int) - ((14 : Nat) : Int) := h3
        rw [if_neg (by simp only [not_or]; exact ⟨h1', h2⟩), if_neg h3', if_neg h1, if_neg h2, if_neg h3]
        simp only [unpackRow]
        cases hu : unpackb (List.drop 14 data) with
        | none => simp [castList]
        | some v =>
          cases v with
          | list xs =>
            simp only [castList, post_step]
            rw [foldl_bind_mapM]
            cases xs.mapM post with
            | none => rfl
            | some ys => simp
          | _ => simp [castList]

/-- **The framing of every theorem below is `Row.as_bytes` as written** (after `packb` and the clock):
the cap test and the returned `+` chain with both `to_bytes` calls compute `encodeFrame` — for either kind of
row object (`d`: does `self` have a `__dict__`; an instance of `Row` itself has none): the function does not
touch `self` beyond reading its items, so what it computes cannot depend on `d`.  A `self.x = …` statement
in `as_bytes` makes the translation `RowGlue.setAttr d …`, `AttributeError` for `d = false`, and the proof
below fails. -/
theorem generated_as_bytes_eq_model (d : Bool) (ts : Nat) (payload : Bytes) :
    Gen.RowFns.as_bytes_frame d ts payload = encodeFrame ts payload := by
  unfold Gen.RowFns.as_bytes_frame
  rw [encodeFrame_eq]
  by_cases hc : overCap payload.length
  · have hc' := hc
    -- `hc'` becomes the size test as the translation writes it, whichever of `>` / `>=` the source has
    simp [overCap, Gen.Row.capOp] at hc'
    rw [if_pos hc, if_pos (by omega)]
  · have hc' := hc
    simp [overCap, Gen.Row.capOp] at hc'
    have h4 : ¬ 4294967296 ≤ payload.length := fun hb => hc (overCap_of_big (Nat.le_trans (by decide) hb))
    rw [if_neg hc, if_neg (by omega)]
    by_cases h8 : ts ≥ 18446744073709551616
    · simp [intToBytes, catBytes, h4, h8]
    · simp [intToBytes, catBytes, h4, h8, header, toBytes, Gen.Row.bigEndian, Gen.Row.lenWidth, Gen.Row.tsWidth]

/-- The translated functions on a concrete row: emitted, decoded back, torn and extended; the same record for a row
object without and with a `__dict__`.  (Placed here: counted against the `generated_*` theorem above if it breaks.) -/
example :
    (Gen.RowFns.as_bytes_frame false 7 [0x92, 0x01, 0xa1, 0x61]).toOption.map (fun r =>
      ((Gen.RowFns.from_bytes_cython r).toOption, (Gen.RowFns.from_bytes_cython (r.take 17)).toOption,
        (Gen.RowFns.from_bytes_cython (r ++ [0])).toOption, r.length))
      = some (some [.val (.int 1), .val (.str "a")], none, none, 18) ∧
    (Gen.RowFns.as_bytes_frame false 7 [0x90]).toOption = (Gen.RowFns.as_bytes_frame true 7 [0x90]).toOption := by decide +kernel


/-! ## Framing -/

/-- **Every emitted record is accepted, with exactly its payload** ("every record the encoder
emits is accepted by the decoder"): the three guards pass and hand `payload` to the codec. -/
theorem check_encode (ts : Nat) (payload r : Bytes) (h : encodeFrame ts payload = .ok r) :
    checkFrame r = .ok payload :=
  checkFrame_encodeFrame h

/-- The encoder emits a record for every payload up to the cap (and a 64-bit clock), and refuses
larger ones with the data error of orso/row.py:179 — it never emits a record it cannot frame. -/
theorem encode_total (ts : Nat) (payload : Bytes) :
    (payload.length ≤ Gen.Row.maxRecord → ts < 2 ^ 64 → ∃ r, encodeFrame ts payload = .ok r) ∧
    (Gen.Row.maxRecord < payload.length → encodeFrame ts payload = .error .tooLarge) := by
  -- here the proofs commit to the operator and the constant of the source, `>` and 16 MiB; nothing before does
  have ho : ∀ n, overCap n ↔ n > 16777216 := fun n => by unfold overCap; simp [Gen.Row.capOp, Gen.Row.maxRecord]
  constructor
  · intro hl ht
    refine ⟨header payload.length ts ++ payload, ?_⟩
    simp only [Gen.Row.maxRecord] at hl
    rw [encodeFrame_eq, if_neg (by rw [ho]; omega), if_neg (by omega)]
  · intro hl
    simp only [Gen.Row.maxRecord] at hl
    rw [encodeFrame_eq, if_pos (by rw [ho]; omega)]

/-- **Every strict prefix is rejected with a data error** (a write torn at any byte `k`), for every
record size and every payload codec; nothing is handed to the codec. -/
theorem torn_rejected (unpack : Bytes → Option α) (ts : Nat) (payload r : Bytes)
    (h : encodeFrame ts payload = .ok r) (k : Nat) (hk : k < r.length) :
    ∃ e, decodeWith unpack (r.take k) = .error e ∧ e.isDataError = true :=
  ⟨_, decodeWith_torn unpack h hk, by split <;> rfl⟩

/-- **Every extension is rejected with a data error**: any non-empty suffix (one byte, garbage, a
second record) makes the length field disagree. -/
theorem extended_rejected (unpack : Bytes → Option α) (ts : Nat) (payload r s : Bytes)
    (h : encodeFrame ts payload = .ok r) (hs : s ≠ []) :
    decodeWith unpack (r ++ s) = .error .badLength := by
  obtain ⟨hl, rfl⟩ := encodeFrame_ok h
  apply decodeWith_error
  have : 0 < s.length := List.length_pos_iff.mpr hs
  rw [List.append_assoc, checkFrame_header _ _ _ hl, if_neg (by rw [List.length_append]; omega)]

/-- **An altered version marker is rejected**: replacing the first byte by any byte whose masked
high nibble is not the version value gives "Data malformed". -/
theorem version_altered_rejected (unpack : Bytes → Option α) (ts : Nat) (payload r : Bytes)
    (h : encodeFrame ts payload = .ok r) (b : UInt8)
    (hb : (b.toNat &&& Gen.Row.nibbleMask) ≠ Gen.Row.nibbleValue) :
    decodeWith unpack (r.set 0 b) = .error .malformed := by
  obtain ⟨hl, rfl⟩ := encodeFrame_ok h
  simp only [Gen.Row.nibbleMask, Gen.Row.nibbleValue] at hb
  apply decodeWith_error
  rw [header_eq]
  simp only [List.cons_append, List.set_cons_zero]
  rw [checkFrame_cons _ _ _ _ _ _ _ _ (be_length 8 ts), if_pos hb]

/-- The four single-bit changes of the version nibble (bits 4..7 of byte 0) are rejected. -/
theorem version_bitflip_rejected (unpack : Bytes → Option α) (ts : Nat) (payload r : Bytes)
    (h : encodeFrame ts payload = .ok r) (j : Nat) (hj : 4 ≤ j ∧ j < 8) :
    decodeWith unpack (flipBit r 0 j) = .error .malformed := by
  have hr := (encodeFrame_ok h).2
  have h0 : r.getD 0 0 = 16 := by rw [hr, header_eq]; rfl
  unfold flipBit
  rw [h0]
  apply version_altered_rejected unpack ts payload r h
  have : j = 4 ∨ j = 5 ∨ j = 6 ∨ j = 7 := by omega
  rcases this with rfl | rfl | rfl | rfl <;> decide

/-- **An altered length field is rejected**: every record that differs from an emitted one only
inside the four length bytes (positions 2..5), in any way, gives "incorrect length" — the
big-endian length is injective below the cap. -/
theorem length_altered_rejected (unpack : Bytes → Option α) (ts : Nat) (payload r : Bytes)
    (h : encodeFrame ts payload = .ok r) (l0 l1 l2 l3 : UInt8)
    (hne : [l0, l1, l2, l3] ≠ (r.drop 2).take 4) :
    decodeWith unpack (r.take 2 ++ [l0, l1, l2, l3] ++ r.drop 6) = .error .badLength := by
  obtain ⟨hl, rfl⟩ := encodeFrame_ok h
  apply decodeWith_error
  rw [header_eq] at hne ⊢
  simp only [List.cons_append, List.nil_append, List.take_succ_cons, List.take_zero, List.drop_succ_cons,
    List.drop_zero] at hne ⊢
  rw [checkFrame_cons _ _ _ _ _ _ _ _ (be_length 8 ts), if_neg (by decide),
    if_pos fun hw => hne ((cInt32_len4_eq hw).symm.trans (be4 _))]

/-- The 32 single-bit changes of the four length bytes (bits 0..7 of bytes 2..5) are rejected. -/
theorem length_bitflip_rejected (unpack : Bytes → Option α) (ts : Nat) (payload r : Bytes)
    (h : encodeFrame ts payload = .ok r) (i j : Nat) (hi : 2 ≤ i ∧ i < 6) (hj : j < 8) :
    decodeWith unpack (flipBit r i j) = .error .badLength := by
  have hr := (encodeFrame_ok h).2
  have key := length_altered_rejected unpack ts payload r h
  rw [hr, header_eq] at key ⊢
  simp only [List.cons_append, List.nil_append, List.take_succ_cons, List.take_zero, List.drop_succ_cons,
    List.drop_zero] at key
  have hi' : i = 2 ∨ i = 3 ∨ i = 4 ∨ i = 5 := by omega
  unfold flipBit
  -- the same argument at each of the four positions: the flipped byte differs from the emitted one
  rcases hi' with rfl | rfl | rfl | rfl <;>
  · simp only [List.cons_append, List.getD_cons_succ, List.getD_cons_zero, List.set_cons_succ, List.set_cons_zero]
    apply key
    intro hc
    simp only [List.cons.injEq, and_true, true_and] at hc
    exact xor_bit_ne _ j hj hc

/-! ## MessagePack payload -/

/-- **The payload codec is lossless** on every value `packb` accepts (nulls, booleans, integers in
`[-2^63, 2^64)`, floats by bit pattern, text, binary, nested lists and text-keyed maps), at every
nesting depth below the fuel, and it stops exactly at the end of the value. -/
theorem unpack_pack (v : PyVal) (fuel : Nat) (rest : Bytes)
    (hp : packable v = true) (hd : cdepth v < fuel) :
    unpack fuel (pack v ++ rest) = some (v, rest) :=
  unpack_pack' v fuel rest hp hd

/-- **The decoder's range is the encoder's domain, for arbitrary bytes**: whatever the payload
codec reads from any buffer is a value `packb` accepts (integers in `[-2^63, 2^64)`, sizes below
`2^32`, nesting at most the fuel) — no family of MessagePack (float32, non-minimal integer/str/bin/
array/map headers) leads outside it, the ext families and `0xc1` are refused — and it was read from
a non-empty prefix: the unread rest is a proper suffix of the buffer. -/
theorem unpack_in_domain (fuel : Nat) (bs : Bytes) (v : PyVal) (rest : Bytes)
    (h : unpack fuel bs = some (v, rest)) :
    packable v = true ∧ cdepth v ≤ fuel ∧ rest <:+ bs ∧ rest.length < bs.length :=
  let ⟨⟨⟨hp, hd⟩, hs⟩, hl⟩ := unpack_sound fuel h
  ⟨hp, hd, hs, hl⟩

/-- **Decoding normalises**: a value read from any bytes, packed again (smallest encodings) and
read again is the same value: `unpack ∘ pack ∘ unpack = unpack`. -/
theorem unpack_canonical (fuel : Nat) (bs : Bytes) (v : PyVal) (rest rest' : Bytes)
    (h : unpack fuel bs = some (v, rest)) :
    unpack (fuel + 1) (pack v ++ rest') = some (v, rest') := by
  obtain ⟨⟨⟨hp, hd⟩, _⟩, _⟩ := unpack_sound fuel h
  exact unpack_pack v (fuel + 1) rest' hp (Nat.lt_succ_of_le hd)

/-! ## Rows -/

/-- No item of the row has the reserved two-element form `["__datetime__", x]`. -/
def NoReserved (row : List PyVal) : Prop := ∀ v ∈ row, isReserved v = false

/-- **Round trip for every row, reserved items included**: whatever `as_bytes` emits for *any* row decodes to the row
with each reserved item `["__datetime__", x]` replaced by the `datetime` of `x` — and is refused with a payload error
(not a data error, not another row) precisely when some reserved item carries no number inside the range of
`datetime.fromtimestamp`; every other item comes back value for value and in order.  `row_roundtrip` is the case
where `post` is the identity; this is why exactly the two-element form is excluded, and nothing else. -/
theorem row_roundtrip_general (ts : Nat) (row : List PyVal) (r : Bytes) (h : encodeRow ts row = .ok r) :
    decodeRow r = match row.mapM post with
      | some items => .ok items
      | none => .error .payloadError := by
  obtain ⟨hp, hd, hf⟩ := encodeRow_ok h
  unfold decodeRow
  rw [decodeWith_ok _ (check_encode ts _ r hf), unpackRow, unpackb_pack _ hp hd]
  simp only []
  cases row.mapM post <;> rfl

/-- **Round trip**: whatever `Row.as_bytes` emits for a row without reserved items decodes to the
same row, value for value and in order (and in particular is accepted). No hypothesis on sizes,
depth or integer range is needed: the encoder refuses what it cannot represent. -/
theorem row_roundtrip (ts : Nat) (row : List PyVal) (r : Bytes)
    (h : encodeRow ts row = .ok r) (hr : NoReserved row) :
    decodeRow r = .ok (row.map Item.val) := by
  rw [row_roundtrip_general ts row r h, mapM_post_of_not_reserved row hr]

/-- Every record `Row.as_bytes` emits — for any row whatsoever — passes the decoder's guards. -/
theorem emitted_accepted (ts : Nat) (row : List PyVal) (r : Bytes) (h : encodeRow ts row = .ok r) :
    ∃ p, checkFrame r = .ok p :=
  ⟨_, check_encode ts _ r (encodeRow_ok h).2.2⟩

/-- The encoder does emit a record for every packable row within the limits. -/
theorem row_encode_total (ts : Nat) (row : List PyVal)
    (hp : packable (.list row) = true) (hd : cdepth (.list row) ≤ packDepthLimit)
    (hl : (pack (.list row)).length ≤ Gen.Row.maxRecord) (ht : ts < 2 ^ 64) :
    ∃ r, encodeRow ts row = .ok r := by
  unfold encodeRow encodeWith packRow packb
  rw [if_pos (by simp [hp, hd])]
  exact (encode_total ts _).1 hl ht

/-- **Every accepted buffer is equivalent to an emitted record**: if the decoder turns an arbitrary
buffer into a row, the payload is a MessagePack array `row` of the encoder's domain, and *whatever*
record the encoder emits for `row` decodes to the very same items (datetime rewrites included):
`decode ∘ encode ∘ decode = decode`. Nothing the decoder accepts lies outside what the encoder can
express. -/
theorem decoded_reencodes (data : Bytes) (items : List Item) (h : decodeRow data = .ok items) :
    ∃ p row, checkFrame data = .ok p ∧ unpackb p = some (.list row) ∧ row.mapM post = some items ∧
      packable (.list row) = true ∧ cdepth (.list row) ≤ unpackFuel ∧
      ∀ ts r, encodeRow ts row = .ok r → decodeRow r = .ok items := by
  obtain ⟨p, row, hc, hb, hu⟩ := decodeRow_ok h
  refine ⟨p, row, hc, hb, hu, (unpackb_sound hb).1, (unpackb_sound hb).2, fun ts r he => ?_⟩
  rw [row_roundtrip_general ts row r he, hu]

/-! ## The property, stated of the translated code

The same clauses with `Gen.RowFns.as_bytes_frame` (what `Row.as_bytes` does with the packed row and the
clock) and `Gen.RowFns.from_bytes_cython` (the decoder as written) in place of the model's functions. -/

/-- **Round trip and acceptance, of the code as written**: whatever the translated `as_bytes` emits for the
packed form of a row without reserved items, the translated `from_bytes_cython` turns back into that row. -/
theorem code_roundtrip (d : Bool) (ts : Nat) (row : List PyVal) (p r : Bytes) (hp : packRow row = some p)
    (h : Gen.RowFns.as_bytes_frame d ts p = .ok r) (hr : NoReserved row) :
    Gen.RowFns.from_bytes_cython r = .ok (row.map Item.val) := by
  rw [generated_as_bytes_eq_model] at h
  rw [generated_from_bytes_eq_model]
  apply row_roundtrip ts row r _ hr
  unfold encodeRow encodeWith
  rw [hp]
  exact h

/-- **Torn, extended and header-altered records are rejected with a data error, of the code as written**:
every strict prefix, every non-empty extension, every other version nibble and every other length field of
a record the translated `as_bytes` emits makes the translated `from_bytes_cython` raise `DataError`. -/
theorem code_alterations_rejected (d : Bool) (ts : Nat) (p r : Bytes) (h : Gen.RowFns.as_bytes_frame d ts p = .ok r) :
    (∀ k, k < r.length → ∃ e, Gen.RowFns.from_bytes_cython (r.take k) = .error e ∧ e.isDataError = true) ∧
    (∀ s, s ≠ [] → Gen.RowFns.from_bytes_cython (r ++ s) = .error .badLength) ∧
    (∀ b : UInt8, (b.toNat &&& 240) ≠ 16 → Gen.RowFns.from_bytes_cython (r.set 0 b) = .error .malformed) ∧
    (∀ l0 l1 l2 l3 : UInt8, [l0, l1, l2, l3] ≠ (r.drop 2).take 4 →
      Gen.RowFns.from_bytes_cython (r.take 2 ++ [l0, l1, l2, l3] ++ r.drop 6) = .error .badLength) := by
  rw [generated_as_bytes_eq_model] at h
  simp only [generated_from_bytes_eq_model]
  refine ⟨fun k hk => ?_, fun s hs => ?_, fun b hb => ?_, fun l0 l1 l2 l3 hne => ?_⟩
  · exact torn_rejected unpackRow ts p r h k hk
  · exact extended_rejected unpackRow ts p r s h hs
  · exact version_altered_rejected unpackRow ts p r h b hb
  · exact length_altered_rejected unpackRow ts p r h l0 l1 l2 l3 hne

/-! ## The Python glue: `Row.from_bytes` as written, and the kind of row object `as_bytes` is called on

The compiled decoder is reached through `Row.from_bytes` (orso/row.py:137-147) and the encoder runs on a row
*object*.  Both are translated from the working tree (`Gen.RowFns.from_bytes`; the `selfHasDict` argument of
`Gen.RowFns.as_bytes_frame`), with outcomes the codec alone never has: a return value that is not a row, an
exception of the glue's own (`RowGlue.Out`). -/

/-- **`Row.from_bytes` as written is "call the decoder, wrap its tuple in `cls`"** — nothing in front of the call,
nothing behind it. -/
theorem generated_glue_eq_model (data : Bytes) : Gen.RowFns.from_bytes data = RowGlue.fromBytes data := by
  unfold Gen.RowFns.from_bytes RowGlue.fromBytes
  rw [generated_from_bytes_eq_model]

/-- (Placed here so that, should it stop checking, it is counted against the theorem above: it speaks about the same
generated definition.)  Non-vacuity of the glue theorems: tears at 0 and at 1 byte are data errors (not an `IndexError` of the glue);
the smallest record with a bit of the unguarded flags byte set is a row (not `None`); an emitted record, torn in the
middle, extended. -/
example :
    Gen.RowFns.from_bytes [] = .raised .malformed ∧ Gen.RowFns.from_bytes [16] = .raised .malformed ∧
    Gen.RowFns.from_bytes [16, 1, 0, 0, 0, 1, 0, 0, 0, 0, 0, 0, 0, 0, 0x90] = .row [] ∧
    Gen.RowFns.from_bytes [16, 0, 0, 0, 0, 2, 0, 0, 0, 0, 0, 0, 0, 7, 0x91, 1] = .row [.val (.int 1)] ∧
    Gen.RowFns.from_bytes [16, 0, 0, 0, 0, 2, 0, 0, 0, 0, 0, 0, 0, 7, 0x91] = .raised .badLength ∧
    Gen.RowFns.from_bytes [16, 0, 0, 0, 0, 2, 0, 0, 0, 0, 0, 0, 0, 7, 0x91, 1, 10] = .raised .badLength := by decide +kernel

theorem from_bytes_of_decodeRow {data : Bytes} {items : List Item} (h : decodeRow data = .ok items) :
    Gen.RowFns.from_bytes data = .row items := by
  rw [generated_glue_eq_model, RowGlue.fromBytes, h]
  rfl

/-- **Whatever the buffer, `Row.from_bytes` ends in a row or in the decoder's own exception** — the decoder's
outcome, unchanged: it never answers with something that is not a row (`None`), never raises an exception of its
own (`IndexError` on a buffer shorter than an index it reads).  ("… is rejected with a data error instead of being
decoded …": the rejection the guards produce is what the caller sees.) -/
theorem glue_outcome (data : Bytes) :
    (∃ items, Gen.RowFns.from_bytes data = .row items ∧ decodeRow data = .ok items) ∨
    (∃ e, Gen.RowFns.from_bytes data = .raised e ∧ decodeRow data = .error e) := by
  rw [generated_glue_eq_model]
  unfold RowGlue.fromBytes RowGlue.callDecoder RowGlue.rowNew
  cases h : decodeRow data with
  | error e => exact .inr ⟨e, rfl, rfl⟩
  | ok t => exact .inl ⟨t, rfl, rfl⟩

/-- **Round trip through the glue, for every kind of row object**: the record `as_bytes` emits for a row without
reserved items — whether or not the object has a `__dict__` — comes back from `Row.from_bytes` as a row with the
same items in the same order. -/
theorem glue_roundtrip (d : Bool) (ts : Nat) (row : List PyVal) (p r : Bytes) (hp : packRow row = some p)
    (h : Gen.RowFns.as_bytes_frame d ts p = .ok r) (hr : NoReserved row) :
    Gen.RowFns.from_bytes r = .row (row.map Item.val) :=
  from_bytes_of_decodeRow (generated_from_bytes_eq_model r ▸ code_roundtrip d ts row p r hp h hr)

/-- **Torn, extended and header-altered records are rejected with a data error by `Row.from_bytes`** (every tear
point from 0 on: the empty buffer and the one-byte buffer included). -/
theorem glue_alterations_rejected (d : Bool) (ts : Nat) (p r : Bytes) (h : Gen.RowFns.as_bytes_frame d ts p = .ok r) :
    (∀ k, k < r.length → (Gen.RowFns.from_bytes (r.take k)).isDataError = true) ∧
    (∀ s, s ≠ [] → Gen.RowFns.from_bytes (r ++ s) = .raised .badLength) ∧
    (∀ b : UInt8, (b.toNat &&& 240) ≠ 16 → Gen.RowFns.from_bytes (r.set 0 b) = .raised .malformed) ∧
    (∀ l0 l1 l2 l3 : UInt8, [l0, l1, l2, l3] ≠ (r.drop 2).take 4 →
      Gen.RowFns.from_bytes (r.take 2 ++ [l0, l1, l2, l3] ++ r.drop 6) = .raised .badLength) := by
  obtain ⟨h1, h2, h3, h4⟩ := code_alterations_rejected d ts p r h
  simp only [generated_glue_eq_model, RowGlue.fromBytes, ← generated_from_bytes_eq_model]
  refine ⟨fun k hk => ?_, fun s hs => ?_, fun b hb => ?_, fun l0 l1 l2 l3 hne => ?_⟩
  · obtain ⟨e, he, hd⟩ := h1 k hk
    rw [he]; exact hd
  · rw [h2 s hs]; rfl
  · rw [h3 b hb]; rfl
  · rw [h4 l0 l1 l2 l3 hne]; rfl

/-- **The kind of row object is not an input of the encoder**: an instance of `Row` itself (no `__dict__`), of a
class made by `Row.create_class`, of a user subclass, a row handed back by `from_bytes` — the same clock and
payload give the same outcome, record or refusal. -/
theorem object_kind_irrelevant (d d' : Bool) (ts : Nat) (payload : Bytes) :
    Gen.RowFns.as_bytes_frame d ts payload = Gen.RowFns.as_bytes_frame d' ts payload := by
  rw [generated_as_bytes_eq_model, generated_as_bytes_eq_model]

/-! ## Arbitrary buffers: the decoder's outcome is one of four, each with its exact cause -/

/-- **Every buffer either decodes to a row or is rejected, and nothing else can happen**: for an
arbitrary byte string the decoder model gives exactly one of
* "Data malformed" — precisely when the buffer is shorter than the header or its version nibble is wrong,
* "incorrect length" — precisely when those pass and the length field differs from the bytes that follow,
* a payload error — precisely when the guards pass and the payload is not a MessagePack array whose
  reserved items carry a number,
* a row — precisely the one the payload codec reads from the bytes after the header.
(`unknownOp`, the outcome for a comparison operator the model does not know, cannot occur with the
operators extracted from the source.) -/
theorem decode_total (data : Bytes) :
    (decodeRow data = .error .malformed ∧
      (data.length < Gen.Row.decHeaderSize ∨ (byteAt data 0 &&& Gen.Row.nibbleMask) ≠ Gen.Row.nibbleValue)) ∨
    (decodeRow data = .error .badLength ∧ Gen.Row.decHeaderSize ≤ data.length ∧
      (byteAt data 0 &&& Gen.Row.nibbleMask) = Gen.Row.nibbleValue ∧
      recordSize data ≠ (data.length : Int) - Gen.Row.decHeaderSize) ∨
    (decodeRow data = .error .payloadError ∧ checkFrame data = .ok (data.drop Gen.Row.payloadStart) ∧
      unpackRow (data.drop Gen.Row.payloadStart) = none) ∨
    (∃ items, decodeRow data = .ok items ∧ checkFrame data = .ok (data.drop Gen.Row.payloadStart) ∧
      unpackRow (data.drop Gen.Row.payloadStart) = some items) := by
  simp only [Gen.Row.decHeaderSize, Gen.Row.nibbleMask, Gen.Row.nibbleValue, Gen.Row.payloadStart]
  have hcf := checkFrame_eq data
  by_cases h1 : (data.length : Int) < 14
  · rw [if_pos h1] at hcf
    exact .inl ⟨decodeWith_error _ hcf, .inl (by omega)⟩
  · rw [if_neg h1] at hcf
    by_cases h2 : (byteAt data 0 &&& 240) ≠ 16
    · rw [if_pos h2] at hcf
      exact .inl ⟨decodeWith_error _ hcf, .inr h2⟩
    · rw [if_neg h2] at hcf
      by_cases h3 : recordSize data ≠ (data.length : Int) - 14
      · rw [if_pos h3] at hcf
        exact .inr (.inl ⟨decodeWith_error _ hcf, by omega, by simpa using h2, by simpa using h3⟩)
      · rw [if_neg h3] at hcf
        have hd : decodeRow data = _ := decodeWith_ok unpackRow hcf
        cases hu : unpackRow (data.drop 14) with
        | none => rw [hu] at hd; exact .inr (.inr (.inl ⟨hd, hcf, rfl⟩))
        | some items => rw [hu] at hd; exact .inr (.inr (.inr ⟨items, hd, hcf, rfl⟩))

/-- **What the guards accept is exactly the emitted shape**: a buffer passes the three guards with
payload `p` iff it is `b0, b1, len(p) as four big-endian bytes, eight more bytes, p` with the
version nibble in `b0` and `len(p) < 2^31`. So an accepted buffer differs from the record the
encoder emits for the same payload at most in the unguarded bits (low nibble of byte 0, byte 1,
the clock) — the converse of `check_encode`. -/
theorem accepted_iff (data p : Bytes) :
    checkFrame data = .ok p ↔
      ∃ b0 b1 ts8, (b0.toNat &&& Gen.Row.nibbleMask) = Gen.Row.nibbleValue ∧ ts8.length = 8 ∧
        p.length < 2147483648 ∧ data = b0 :: b1 :: (be 4 p.length ++ ts8 ++ p) := by
  simp only [Gen.Row.nibbleMask, Gen.Row.nibbleValue]
  constructor
  · intro h
    have hlen : 14 ≤ data.length :=
      Nat.le_of_not_lt fun hs => by rw [checkFrame_short data hs] at h; cases h
    obtain ⟨p0, p1, l0, l1, l2, l3, rest, rfl⟩ := exists_cons6 data (by omega)
    have hr : (rest.take 8).length = 8 := by
      simp only [List.length_cons] at hlen
      rw [List.length_take]; omega
    rw [← List.take_append_drop 8 rest, checkFrame_cons _ _ _ _ _ _ _ _ hr] at h
    split at h
    · cases h
    · rename_i hn
      split at h
      · cases h
      · rename_i hw
        injection h with h
        subst h
        have hw := Decidable.not_not.mp hw
        refine ⟨p0, p1, rest.take 8, Decidable.not_not.mp hn, hr, ?_, ?_⟩
        · have := cInt32_lt (len4 l0 l1 l2 l3)
          omega
        · rw [cInt32_len4_eq hw, List.append_assoc, List.take_append_drop]; rfl
  · rintro ⟨b0, b1, ts8, hn, hts, hp, rfl⟩
    rw [be4]
    simp only [List.cons_append, List.nil_append]
    rw [checkFrame_cons _ _ _ _ _ _ _ _ hts, if_neg (Decidable.not_not.mpr hn), len4_be p.length (by omega),
      cInt32_of_lt hp, if_neg (Decidable.not_not.mpr rfl)]

/-! ## Records one after another (self-delimiting as a stream property) -/

/-- **`split (r1 ++ r2 ++ …) = [r1, r2, …]`**: any number of emitted records written one after the
other are cut back into exactly those records by their own length fields, whatever the payloads
contain (a payload may itself look like a header). -/
theorem split_concat (rs : List Bytes) (h : ∀ r ∈ rs, ∃ ts payload, encodeFrame ts payload = .ok r) :
    split rs.flatten = .ok rs :=
  splitFuel_flatten rs h _ (length_le_flatten rs (fun r hr => Emitted.ne_nil (h r hr)))

/-- **A torn tail is detected in a stream too**: complete records followed by a strict non-empty
prefix of another record (the write-ahead file after a crash) is a data error for the reader — the
complete records are not silently returned as if the file ended cleanly, nor is a record invented. -/
theorem split_torn_tail (rs : List Bytes) (h : ∀ r ∈ rs, ∃ ts payload, encodeFrame ts payload = .ok r)
    (ts : Nat) (payload r : Bytes) (hr : encodeFrame ts payload = .ok r) (k : Nat) (hk0 : 0 < k)
    (hk : k < r.length) :
    ∃ e, split (rs.flatten ++ r.take k) = .error e ∧ e.isDataError = true := by
  have hne : r.take k ≠ [] := by
    intro hn
    have : (r.take k).length = 0 := by rw [hn]; rfl
    simp only [List.length_take] at this; omega
  refine ⟨_, ?_, show DecErr.isDataError (if k < 14 then .malformed else .badLength) = true by split <;> rfl⟩
  apply splitFuel_torn rs h _ hne _ (nextRecord_torn hr hk)
  have h1 := length_le_flatten rs (fun r hr => Emitted.ne_nil (h r hr))
  have h2 : 0 < (r.take k).length := List.length_pos_iff.mpr hne
  simp only [List.length_append]; omega

/-- **Round trip of a whole write-ahead buffer**: rows (without reserved items) serialised one after
the other, each with its own clock, and concatenated, are read back as the same rows in the same
order. -/
theorem stream_roundtrip (xs : List (Nat × List PyVal × Bytes))
    (h : ∀ x ∈ xs, encodeRow x.1 x.2.1 = .ok x.2.2 ∧ NoReserved x.2.1) :
    decodeStream (xs.map (·.2.2)).flatten = .ok (xs.map fun x => x.2.1.map Item.val) := by
  have hem : ∀ r ∈ xs.map (·.2.2), ∃ ts payload, encodeFrame ts payload = .ok r := by
    intro r hr
    obtain ⟨x, hx, rfl⟩ := List.mem_map.mp hr
    exact ⟨x.1, _, (encodeRow_ok (h x hx).1).2.2⟩
  have hd : decodeAll (xs.map (·.2.2)) = .ok (xs.map fun x => x.2.1.map Item.val) :=
    decodeAllWith_map decodeRow xs (·.2.2) (fun x => x.2.1.map Item.val)
      (fun x hx => row_roundtrip x.1 x.2.1 x.2.2 (h x hx).1 (h x hx).2)
  unfold decodeStream
  rw [split_concat _ hem]
  exact hd

/-! Non-vacuity: a concrete row over several value kinds is emitted and decodes to itself; the
reserved form does not (which is why it is excluded). -/
set_option maxRecDepth 100000 in
example :
    let row : List PyVal := [.int 1, .str "a", .none, .list [.bool true, .int (-129)], .dict [("k", .bytes [1, 2])]]
    (encodeRow 7 row).toOption.bind (fun r => (decodeRow r).toOption) = some (row.map Item.val) := by decide +kernel

example : (encodeRow 7 [.list [.str "__datetime__", .int 0]]).toOption.bind (fun r => (decodeRow r).toOption)
    = some [Item.datetime (.int 0)] := by decide +kernel

/-! Non-vacuity of the rejection theorems: a concrete emitted record, torn, extended, altered. -/
example :
    (encodeFrame 7 [0x91, 1]).toOption = some [16, 0, 0, 0, 0, 2, 0, 0, 0, 0, 0, 0, 0, 7, 0x91, 1] ∧
    (checkFrame [16, 0, 0, 0, 0, 2, 0, 0, 0, 0, 0, 0, 0, 7, 0x91, 1]).toOption = some [0x91, 1] ∧
    (checkFrame [16, 0, 0, 0, 0, 2, 0, 0, 0, 0, 0, 0, 0, 7, 0x91]).toOption = none ∧
    (checkFrame [16, 0, 0, 0, 0, 2, 0, 0, 0, 0, 0, 0, 0, 7, 0x91, 1, 0]).toOption = none ∧
    (checkFrame [32, 0, 0, 0, 0, 2, 0, 0, 0, 0, 0, 0, 0, 7, 0x91, 1]).toOption = none ∧
    (checkFrame [16, 0, 0, 0, 0, 3, 0, 0, 0, 0, 0, 0, 0, 7, 0x91, 1]).toOption = none := by decide +kernel

/-! Non-vacuity of the stream theorems: two concrete records, concatenated, cut apart, and a torn tail. -/
example :
    (split ([16, 0, 0, 0, 0, 2, 0, 0, 0, 0, 0, 0, 0, 7, 0x91, 1] ++ [16, 0, 0, 0, 0, 1, 0, 0, 0, 0, 0, 0, 0, 8, 0x90])).toOption
      = some [[16, 0, 0, 0, 0, 2, 0, 0, 0, 0, 0, 0, 0, 7, 0x91, 1], [16, 0, 0, 0, 0, 1, 0, 0, 0, 0, 0, 0, 0, 8, 0x90]] ∧
    (split ([16, 0, 0, 0, 0, 2, 0, 0, 0, 0, 0, 0, 0, 7, 0x91, 1] ++ [16, 0, 0, 0, 0, 1, 0, 0, 0, 0, 0, 0, 0, 8])).toOption = none ∧
    (split []).toOption = some [] ∧
    (decodeStream ([16, 0, 0, 0, 0, 2, 0, 0, 0, 0, 0, 0, 0, 7, 0x91, 1] ++ [16, 0, 0, 0, 0, 1, 0, 0, 0, 0, 0, 0, 0, 8, 0x90])).toOption
      = some [[Item.val (.int 1)], []] := by decide +kernel

/-- The reserved form the encoder's `serialize` writes is the one the decoder rewrites (same marker,
same length): both sides are extracted from the source. -/
example : Gen.Row.reservedMarkerEnc = Gen.Row.reservedMarker ∧ Gen.Row.reservedLenEnc = Gen.Row.reservedLen := by decide +kernel

/-- The exact excluded form: a two-element list whose first element is the marker text — not a
longer list, not the marker as bytes, not the form one level down. -/
example : isReserved (.list [.str "__datetime__", .none]) = true ∧
    isReserved (.list [.str "__datetime__", .int 1, .int 2]) = false ∧
    isReserved (.list [.bytes [95], .int 1]) = false ∧
    isReserved (.list [.list [.str "__datetime__", .int 1]]) = false ∧
    isReserved (.dict [("__datetime__", .int 1)]) = false := by decide +kernel

/-- The range of `datetime.fromtimestamp` in the model: exactly at and one past each bound, ints and floats
(0xc22cef214b000000 = -62135510400.0, 0x424d7ffa20bfffff = the last double below 253402300800.0). -/
example : fromtimestamp (some (.int (-62135510400))) = some (.datetime (.int (-62135510400))) ∧
    fromtimestamp (some (.int (-62135510401))) = none ∧
    fromtimestamp (some (.int 253402300799)) = some (.datetime (.int 253402300799)) ∧
    fromtimestamp (some (.int 253402300800)) = none ∧
    fromtimestamp (some (.float 0xc22cef214b000000)) = some (.datetime (.float 0xc22cef214b000000)) ∧
    fromtimestamp (some (.float 0xc22cef214b000001)) = none ∧
    fromtimestamp (some (.float 0x424d7ffa20bfffff)) = some (.datetime (.float 0x424d7ffa20bfffff)) ∧
    fromtimestamp (some (.float 0x424d7ffa20c00000)) = none ∧
    fromtimestamp (some (.float 0x7ff8000000000000)) = none ∧ fromtimestamp (some (.float 0xfff0000000000000)) = none ∧
    fromtimestamp (some (.str "0")) = none ∧ fromtimestamp none = none := by decide +kernel

/-! ## The whole of `Row.as_bytes`, the size guard by its numbers, `Row.nbytes`, `Row.__new__`

`Gen.RowFns.as_bytes` (the `packb` call included: which serialiser the name is bound to, `tuple(self)`, its flags),
`Gen.RowFns.nbytes` and `Gen.RowFns.row_new` are translated statement by statement from orso/row.py on every run. -/

/-- **`Row.as_bytes` as written, from its first statement on**: `packb(tuple(self), option=…, default=…)` with the
serialiser orso/row.py imports under that name (ormsgpack's), its refusal (`TypeError`) ending the call, then the framing —
computes `encodeRow` on the items of the row, for either kind of row object and whatever size `nbytes` has cached on
it before **and whatever record is kept on the object** (`k`: the value of an attribute of `self` other than the size that
`nbytes` / `as_bytes` assign).  `as_bytes` is a function of the items as they are now and of the clock, of nothing
else.  (Another serialiser, another argument than `tuple(self)`, a read of the cached size, **a kept record handed out
instead of serialising the items** — `if self._cached_bytes is not None: return self._cached_bytes`, translated
`if kept ≠ none then RowGlue.retKept kept else …` —: the equation fails.) -/
theorem generated_as_bytes_whole_eq_model (d : Bool) (c : Option Nat) (k : Option Bytes) (ts : Nat) (row : List PyVal) :
    Gen.RowFns.as_bytes d c k ts row = encodeRow ts row := by
  unfold encodeRow encodeWith packRow
  have h := fun p => generated_as_bytes_eq_model d ts p
  unfold Gen.RowFns.as_bytes_frame at h
  unfold Gen.RowFns.as_bytes RowGlue.callPackb RowGlue.tupleOf
  rw [if_pos rfl]
  cases packb (.list row) with
  | none => rfl
  | some p => exact h p

/-- The whole encoder on a concrete row of several value kinds, on an integer past 64 bits (refused by the codec), and
with / without a cached size. -/
example :
    (Gen.RowFns.as_bytes true none none 7 [.int 1, .str "a"]).toOption = some [16, 0, 0, 0, 0, 4, 0, 0, 0, 0, 0, 0, 0, 7, 0x92, 1, 0xa1, 0x61] ∧
    (Gen.RowFns.as_bytes true (some 99) none 7 [.int 1, .str "a"]).toOption = (Gen.RowFns.as_bytes false none none 7 [.int 1, .str "a"]).toOption ∧
    (Gen.RowFns.as_bytes true (some 15) (some [16, 0, 0, 0, 0, 1, 0, 0, 0, 0, 0, 0, 0, 7, 0x90]) 7 [.list [.int 1]]).toOption =
      some [16, 0, 0, 0, 0, 3, 0, 0, 0, 0, 0, 0, 0, 7, 0x91, 0x91, 1] ∧
    (match Gen.RowFns.as_bytes true none none 7 [.int (2 ^ 64)] with | .error .codec => true | _ => false) = true ∧
    (Gen.RowFns.as_bytes true none none 7 [.int (2 ^ 64 - 1)]).toOption.map (·.length) = some 24 := by decide +kernel

/-- **The size guard, by its numbers** (orso/row.py:47,178: `if record_size > MAXIMUM_RECORD_SIZE`, 16 MiB): with a 64-bit
clock the translated `as_bytes` emits a record **iff the payload has at most 16·1024·1024 bytes** — exactly at the limit it
does, one byte past it it does not — and what it refuses past the limit is the data error, whatever the clock.  The
limit is written here as a number: changing the operator (`>=`) or the constant in the source breaks this theorem. -/
theorem as_bytes_accepts_iff_payload_le_limit (d : Bool) (ts : Nat) (payload : Bytes) :
    (ts < 2 ^ 64 → ((∃ r, Gen.RowFns.as_bytes_frame d ts payload = .ok r) ↔ payload.length ≤ 16 * 1024 * 1024)) ∧
    (16 * 1024 * 1024 < payload.length → Gen.RowFns.as_bytes_frame d ts payload = .error .tooLarge) := by
  rw [generated_as_bytes_eq_model]
  obtain ⟨h1, h2⟩ := encode_total ts payload
  refine ⟨fun hts => ⟨fun ⟨r, hr⟩ => Nat.le_of_not_lt fun hl => ?_, fun hl => h1 hl hts⟩, h2⟩
  rw [h2 hl] at hr
  cases hr

/-- The same for a row: `as_bytes` emits a record iff the codec packs the row and the packed form is within the limit. -/
theorem as_bytes_row_accepts_iff (d : Bool) (c : Option Nat) (k : Option Bytes) (ts : Nat) (row : List PyVal) (hts : ts < 2 ^ 64) :
    (∃ r, Gen.RowFns.as_bytes d c k ts row = .ok r) ↔ ∃ p, packRow row = some p ∧ p.length ≤ 16 * 1024 * 1024 := by
  rw [generated_as_bytes_whole_eq_model]
  unfold encodeRow encodeWith
  cases hp : packRow row with
  | none => simp
  | some p =>
    simp only [Option.some.injEq, exists_eq_left']
    rw [← generated_as_bytes_eq_model d]
    exact (as_bytes_accepts_iff_payload_le_limit d ts p).1 hts

/-- **A record is its header and its payload**: `HEADER_SIZE` of orso/row.py (14) is the length of what `as_bytes` puts in
front of the payload and the header size the decoder assumes; the payload follows unchanged. -/
theorem emitted_is_header_then_payload (d : Bool) (ts : Nat) (payload r : Bytes)
    (h : Gen.RowFns.as_bytes_frame d ts payload = .ok r) :
    r.length = Gen.Row.headerSize + payload.length ∧ r.drop Gen.Row.headerSize = payload ∧
      Gen.Row.headerSize = Gen.Row.decHeaderSize ∧ r.take 2 = Gen.Row.headerPrefix := by
  rw [generated_as_bytes_eq_model] at h
  obtain ⟨_, rfl⟩ := encodeFrame_ok h
  have hh := header_length payload.length ts
  refine ⟨by simp [hh, Gen.Row.headerSize], ?_, rfl, ?_⟩
  · simp only [Gen.Row.headerSize]
    rw [← hh, List.drop_left]
  · rw [header_eq]; rfl

/-! ### `Row.nbytes`: how a `DataFrame` reaches the guard, and one object used several times -/

/-- `Row.nbytes` as written is "size the row once, keep the size on the object": its answer and the size it leaves on
the object, whatever record is kept on the object (`k`) — and whatever the function does to that component (a record
stored and never handed out would be harmless; what `as_bytes` does with a kept record is `generated_as_bytes_whole_eq_model`). -/
theorem generated_nbytes_eq_model (d : Bool) (c : Option Nat) (k : Option Bytes) (a : Except EncErr Bytes) :
    ((Gen.RowFns.nbytes d c k a).1, (Gen.RowFns.nbytes d c k a).2.1) = RowGlue.nbytesModel d c a := by
  cases c <;> cases a <;> cases d <;> cases k <;> rfl

/-- The size of what `as_bytes` answers for a row (or its refusal) does not depend on the 64-bit clock. -/
theorem encodeRow_size (ts : Nat) (hts : ts < 2 ^ 64) (row : List PyVal) :
    (encodeRow ts row).map List.length = RowObject.sizeOf row := by
  unfold RowObject.sizeOf encodeRow encodeWith
  cases hp : packRow row with
  | none => rfl
  | some p =>
    simp only []
    by_cases hl : p.length ≤ Gen.Row.maxRecord
    · obtain ⟨r, hr⟩ := (encode_total ts p).1 hl hts
      rw [hr, if_neg (Nat.not_lt.mpr hl)]
      exact congrArg Except.ok (emitted_length hr)
    · rw [(encode_total ts p).2 (Nat.lt_of_not_le hl), if_pos (Nat.lt_of_not_le hl)]
      rfl

/-- One call of the machine against the specification: whatever record is kept on the object (`k`), an `nbytes` call on an
object not sized yet answers `sizeSpec` and keeps as size exactly what `spec` says. -/
theorem nbytes_step (d : Bool) (row : List PyVal) (k : Option Bytes) (ts : Nat) (hts : ts < 2 ^ 64) :
    ((Gen.RowFns.nbytes d none k (Gen.RowFns.as_bytes d none k ts row)).1,
      (Gen.RowFns.nbytes d none k (Gen.RowFns.as_bytes d none k ts row)).2.1) =
      (RowObject.sizeSpec d row, RowObject.sizedTo (RowObject.sizeSpec d row)) := by
  rw [generated_nbytes_eq_model, generated_as_bytes_whole_eq_model]
  unfold RowObject.sizeSpec
  rw [← encodeRow_size ts hts row]
  cases encodeRow ts row <;> cases d <;> rfl

/-- **`DataFrame.append` reaches the size guard through `Row.nbytes`** (dataframe.py:153 sizes the new row before it keeps
it): on a fresh row object of a frame's class (it has a `__dict__`, nothing cached) whose items pack to `p`, `nbytes`
answers `HEADER_SIZE + len(p)` and keeps it when `p` has at most 16·1024·1024 bytes, and ends in the data error of
`as_bytes` — leaving nothing cached — when it has more.  Exactly at the limit the row is sized, one byte past it refused. -/
theorem nbytes_reaches_the_guard (ts : Nat) (hts : ts < 2 ^ 64) (row : List PyVal) (p : Bytes) (hp : packRow row = some p)
    (k : Option Bytes) :
    ((Gen.RowFns.nbytes true none k (Gen.RowFns.as_bytes true none k ts row)).1,
      (Gen.RowFns.nbytes true none k (Gen.RowFns.as_bytes true none k ts row)).2.1) =
      if p.length ≤ 16 * 1024 * 1024 then (.ok (some (Gen.Row.headerSize + p.length)), some (Gen.Row.headerSize + p.length))
      else (.error .tooLarge, none) := by
  rw [nbytes_step true row k ts hts]
  simp only [RowObject.sizeSpec, RowObject.sizeOf, hp]
  by_cases hl : p.length ≤ 16 * 1024 * 1024
  · rw [if_pos hl, if_neg (show ¬ p.length > Gen.Row.maxRecord from Nat.not_lt.mpr hl)]; rfl
  · rw [if_neg hl, if_pos (show p.length > Gen.Row.maxRecord from Nat.lt_of_not_le hl)]; rfl

/-- **One row object used any number of times, in any order, and edited in place in between** (`as_bytes`, `nbytes`,
an in-place edit of a list / map inside the row, `as_bytes` again, …; 64-bit clocks; from *any* state of the object: any
cached size, any kept record): the machine made of the translated `Row.as_bytes` / `Row.nbytes` answers what
`RowObject.spec` says — **every `as_bytes` is the record of the items as they are at that moment** (`encodeRow ts row`
with `row` the value after the last edit), never one made from an earlier value; `nbytes` answers the size kept from the
first sizing.  No earlier call on the object changes a later record ("every record the encoder emits": also the second
and the third one of the same object, also after a `DataFrame` sized the row, also after the row's nested values
changed since). -/
theorem object_history_irrelevant (d : Bool) (ops : List RowObject.Op) (hts : RowObject.Clocks64 ops)
    (row : List PyVal) (c : Option Nat) (k : Option Bytes) :
    RowObject.run d ⟨row, c, k⟩ ops = RowObject.spec d row c ops := by
  induction ops generalizing row c k with
  | nil => simp [RowObject.run, RowObject.spec]
  | cons op ops ih =>
    have hrest : RowObject.Clocks64 ops := fun op' h' => hts op' (by simp [h'])
    cases op with
    | asBytes ts =>
      simp only [RowObject.run, RowObject.step, RowObject.spec, generated_as_bytes_whole_eq_model]
      rw [ih hrest]
    | edit row' =>
      simp only [RowObject.run, RowObject.step, RowObject.spec]
      rw [ih hrest]
    | nbytes ts =>
      have h1 : ts < 2 ^ 64 := hts (.nbytes ts) (by simp)
      cases c with
      | some n =>
        have h2 := Prod.mk.inj (generated_nbytes_eq_model d (some n) k (Gen.RowFns.as_bytes d (some n) k ts row))
        have h2 : _ = Except.ok (some n) ∧ _ = some n := h2
        simp only [RowObject.run, RowObject.step, RowObject.spec, h2.1, h2.2]
        rw [ih hrest]
      | none =>
        have h2 := Prod.mk.inj (nbytes_step d row k ts h1)
        simp only [RowObject.run, RowObject.step, RowObject.spec, h2.1, h2.2]
        rw [ih hrest]

/-- Non-vacuity: a frame row sized, serialised, sized again, serialised again; the same on an instance of `Row` itself;
a row holding a list: sized (15 + 2 bytes), the list edited in place (one more element), serialised — the record is that
of the edited row (one byte longer, last byte the new element), the size answered afterwards is still the one kept. -/
example :
    (RowObject.run true (RowObject.fresh [.int 1]) [.nbytes 5, .asBytes 6, .nbytes 7, .asBytes 8]).map (fun r => match r with
        | .record (.ok b) => b.length + b.getLast!.toNat * 1000 | .size (.ok (some n)) => n | _ => 0) = [16, 1016, 16, 1016] ∧
    (RowObject.run false (RowObject.fresh [.int 1]) [.nbytes 5, .asBytes 6]).map (fun r => match r with
        | .record (.ok b) => b.length | .size (.error .attribute) => 77 | _ => 0) = [77, 16] ∧
    (RowObject.run true (RowObject.fresh [.list [.int 1]]) [.nbytes 5, .edit [.list [.int 1, .int 9]], .asBytes 6, .nbytes 7]).map (fun r => match r with
        | .record (.ok b) => b.length + b.getLast!.toNat * 1000 | .size (.ok (some n)) => n | .edited => 1 | _ => 0) = [17, 1, 9018, 17] := by decide +kernel

/-- An `as_bytes` anywhere in a history answers with the record of the items as the edits before it left them: the
translated `as_bytes` reads nothing else of the object, and only an edit changes the items — so no clock and no earlier
sizing matters. -/
theorem record_at (d : Bool) (ops : List RowObject.Op) (o : RowObject.Obj) (i ts : Nat)
    (hi : ops[i]? = some (.asBytes ts)) :
    (RowObject.run d o ops)[i]? = some (.record (encodeRow ts (RowObject.valueAfter o.items (ops.take i)))) := by
  induction ops generalizing o i with
  | nil => simp at hi
  | cons op ops ih =>
    cases i with
    | zero =>
      simp only [List.getElem?_cons_zero, Option.some.injEq] at hi
      subst hi
      simp only [RowObject.run, RowObject.step, List.getElem?_cons_zero, generated_as_bytes_whole_eq_model]
      rfl
    | succ i =>
      simp only [List.getElem?_cons_succ] at hi
      simp only [RowObject.run, List.getElem?_cons_succ]
      rw [ih _ i hi]
      cases op <;> rfl

/-- **Every record is that of the object's current value**: in any history (calls and in-place edits, 64-bit clocks,
any state of the object to begin with), the answer to the `i`-th step, when that step is `as_bytes` at clock `ts`, is
`encodeRow ts` of the items the object has after the edits among the first `i` steps — by `row_roundtrip` it decodes to
exactly those items (the row AS IT IS NOW), not to what the row was when it was last sized or serialised. -/
theorem records_follow_edits (d : Bool) (ops : List RowObject.Op) (hts : RowObject.Clocks64 ops)
    (row : List PyVal) (c : Option Nat) (k : Option Bytes) (i : Nat) (ts : Nat) (hi : ops[i]? = some (.asBytes ts)) :
    (RowObject.run d ⟨row, c, k⟩ ops)[i]? = some (.record (encodeRow ts (RowObject.valueAfter row (ops.take i)))) := by
  -- no clock is looked at (`hts` is not needed)
  have _ := hts
  exact record_at d ops ⟨row, c, k⟩ i ts hi

/-- **Round trip of an edited object**: a row object that was sized / serialised, then had its nested lists / maps edited
in place (now holding `row'`, without the reserved form), then serialised: whatever the machine answers to that last
`as_bytes` decodes — by the translated `Row.from_bytes` — to `row'`, value for value and in order. -/
theorem edited_object_roundtrip (d : Bool) (ops : List RowObject.Op) (hts : RowObject.Clocks64 ops)
    (row row' : List PyVal) (c : Option Nat) (k : Option Bytes) (ts : Nat) (r : Bytes) (hr : NoReserved row')
    (h : (RowObject.run d ⟨row, c, k⟩ (ops ++ [.edit row', .asBytes ts])).getLast? = some (.record (.ok r))) :
    Gen.RowFns.from_bytes r = .row (row'.map Item.val) := by
  -- the last answer is that of `as_bytes` on the object just edited, whatever went before; no clock is looked at (`hts` is not needed)
  have _ := hts
  have hrun : ∀ (o : RowObject.Obj) (ops : List RowObject.Op),
      (RowObject.run d o (ops ++ [.edit row', .asBytes ts])).getLast? = some (.record (encodeRow ts row')) := by
    intro o ops
    induction ops generalizing o with
    | nil => simp [RowObject.run, RowObject.step, generated_as_bytes_whole_eq_model]
    | cons op ops ih =>
      simp only [List.cons_append, RowObject.run]
      rw [List.getLast?_cons_of_ne_nil (by cases ops <;> simp [RowObject.run])]
      exact ih _
  rw [hrun _ ops] at h
  simp only [Option.some.injEq, RowObject.Res.record.injEq] at h
  exact from_bytes_of_decodeRow (row_roundtrip ts row' r h hr)

/-- The size an unedited object answers: on a history without edits, from a fresh object (or one holding its true
size), every `nbytes` answers the size of the record every `as_bytes` of the history emits (`sizeSpec`). -/
theorem unedited_object_sizes (d : Bool) (row : List PyVal) (ops : List RowObject.Op) (hts : RowObject.Clocks64 ops)
    (hne : ∀ op ∈ ops, match op with | .edit _ => False | _ => True)
    (c : Option Nat) (k : Option Bytes) (hc : c = none ∨ (d = true ∧ ∃ n, c = some n ∧ RowObject.sizeOf row = .ok n)) :
    RowObject.run d ⟨row, c, k⟩ ops = ops.map (fun op => match op with
      | .asBytes ts => RowObject.Res.record (encodeRow ts row)
      | .nbytes _ => RowObject.Res.size (RowObject.sizeSpec d row)
      | .edit _ => RowObject.Res.edited) := by
  rw [object_history_irrelevant d ops hts]
  clear hts
  induction ops generalizing c with
  | nil => rfl
  | cons op ops ih =>
    have hrest : ∀ op' ∈ ops, match op' with | .edit _ => False | _ => True := fun op' h' => hne op' (by simp [h'])
    cases op with
    | edit r => exact (hne (.edit r) (by simp)).elim
    | asBytes ts => simp only [RowObject.spec, List.map_cons]; rw [ih hrest c hc]
    | nbytes ts =>
      rcases hc with rfl | ⟨rfl, n, rfl, hn⟩
      · -- the size kept by the first sizing satisfies `hc` again
        have hkept : RowObject.sizedTo (RowObject.sizeSpec d row) = none ∨
            (d = true ∧ ∃ n, RowObject.sizedTo (RowObject.sizeSpec d row) = some n ∧ RowObject.sizeOf row = .ok n) := by
          unfold RowObject.sizeSpec RowObject.sizedTo
          cases RowObject.sizeOf row <;> cases d <;> simp
        simp only [RowObject.spec, List.map_cons]
        rw [ih hrest _ hkept]
      · simp only [RowObject.spec, List.map_cons]
        rw [ih hrest (some n) (.inr ⟨rfl, n, rfl, hn⟩)]
        simp [RowObject.sizeSpec, hn]

/-! ### Rows with reserved items: what exactly happens to the form the statement excludes -/

/-- A reserved item whose second element is a number in range becomes a `datetime`; anything else refuses the row. -/
example :
    (encodeRow 7 [.int 1, .list [.str "__datetime__", .float 0x41d9000000000000]]).toOption.bind (fun r => (decodeRow r).toOption)
      = some [.val (.int 1), .datetime (.float 0x41d9000000000000)] ∧
    (encodeRow 7 [.list [.str "__datetime__", .str "x"]]).toOption.map (fun r => (decodeRow r).toOption) = some none ∧
    (encodeRow 7 [.list [.str "__datetime__", .int 253402300800]]).toOption.map (fun r => (decodeRow r).toOption) = some none := by decide +kernel

/-! ### `Row.__new__`: the object `as_bytes` runs on, from a tuple and from a dictionary -/

/-- `Row.__new__` as written: a tuple is kept; a dictionary (a subclass instance is copied into an exact one first, and so
is a mapping that is not a `dict` at all: `if not isinstance(data, (dict, tuple, list)) and isinstance(data, Mapping)`) is
laid out by `extract_dict_columns` over the fields of the class. -/
theorem generated_row_new_eq_model (fields : Option (List String)) (data : RowGlue.NewArg) :
    Gen.RowFns.row_new fields data = RowGlue.rowNewModel fields data := by
  unfold Gen.RowFns.row_new RowGlue.rowNewModel
  cases data with
  | tuple items => rfl
  | dict e es => cases e <;> rfl
  | mapping es => rfl

/-- **`cls(tuple)` keeps the items, in order** — what `Row.from_bytes` does with the decoder's tuple and what every
`R(values)` of the correspondence does: the row object `as_bytes` runs on holds exactly the values given. -/
theorem row_new_tuple (fields : Option (List String)) (items : List PyVal) :
    Gen.RowFns.row_new fields (.tuple items) = .ok items := by
  rw [generated_row_new_eq_model]; rfl

/-- **`cls(dict)` lays the values out by the fields of the class**: field by field, in field order, `None` for a field the
dictionary lacks, entries that are no field dropped — for an exact dictionary, for an instance of a subclass **and for a
mapping that is not a `dict`** (`UserDict`, `ChainMap`, `MappingProxyType`: never the row of its keys) alike.
On the class `Row` itself (`_fields` is `None`) it is a `TypeError`. -/
theorem row_new_dict (e : Bool) (fs : List String) (es : List (String × PyVal)) :
    Gen.RowFns.row_new (some fs) (.dict e es) = .ok (fs.map (fun f => (RowGlue.dictGet es f).getD .none)) ∧
    Gen.RowFns.row_new none (.dict e es) = .error "TypeError" ∧
    Gen.RowFns.row_new (some fs) (.mapping es) = Gen.RowFns.row_new (some fs) (.dict true es) ∧
    Gen.RowFns.row_new none (.mapping es) = .error "TypeError" := by
  simp only [generated_row_new_eq_model]
  exact ⟨rfl, rfl, rfl, rfl⟩

/-- **Round trip from a dictionary** (the dict path of `Row.__new__`, what `DataFrame.append` feeds a row class): a row
built from `{field: value}` over the distinct fields of its class, serialised by the translated `as_bytes` and read back
by the translated `Row.from_bytes`, comes back as the values in field order — whatever order the dictionary lists them in
is irrelevant only through `dictGet`; stated here for the dictionary in field order. -/
theorem dict_row_roundtrip (e : Bool) (fs : List String) (vs : List PyVal) (hn : fs.Nodup) (hl : fs.length = vs.length)
    (d : Bool) (c : Option Nat) (k : Option Bytes) (ts : Nat) (r : Bytes) (hr : NoReserved vs) :
    ∃ items, Gen.RowFns.row_new (some fs) (.dict e (fs.zip vs)) = .ok items ∧ items = vs ∧
      (Gen.RowFns.as_bytes d c k ts items = .ok r → Gen.RowFns.from_bytes r = .row (vs.map Item.val)) := by
  refine ⟨vs, ?_, rfl, fun h => ?_⟩
  · rw [(row_new_dict e fs (fs.zip vs)).1, RowGlue.dict_of_fields fs vs hn hl]
  · rw [generated_as_bytes_whole_eq_model] at h
    exact from_bytes_of_decodeRow (row_roundtrip ts vs r h hr)

/-- Non-vacuity of the dict path: a dictionary in another order than the fields, with a missing and a surplus key; a
subclass instance; a dictionary given to a class whose `__new__` is `tuple`'s would be its keys (`tupleNew`). -/
example :
    (Gen.RowFns.row_new (some ["a", "b", "c"]) (.dict true [("c", .int 3), ("a", .int 1), ("z", .int 9)])).toOption = some [.int 1, .none, .int 3] ∧
    (Gen.RowFns.row_new (some ["a"]) (.dict false [("a", .str "x")])).toOption = some [.str "x"] ∧
    (Gen.RowFns.row_new none (.dict true [])).toOption = none ∧
    (Gen.RowFns.row_new none (.tuple [.int 1])).toOption = some [.int 1] ∧
    RowGlue.tupleNew (.dict true [("a", .int 1)]) = [.str "a"] := by decide +kernel

/-! ## One reserved form, no second tag

"… the reserved two-element form ['__datetime__', x] excluded": that pair is the *only* value of the domain the codec may
rewrite.  `Gen.RowMarkers.*` (harness/extractors/c01_markers.py, regenerated from the working tree on every run) lists the tag
texts the source compares a value with — inside `from_bytes_cython` and anywhere in orso/row.py (the glue `Row.from_bytes`,
helpers it calls) — and the tag texts that head a tuple / list literal of orso/row.py (what the `default=` hook of `packb` can
write in front of a payload). -/

/-- **The only rewritten shape is the reserved pair.**  Every tag text the decoder side tests for (compiled.pyx and orso/row.py)
is the reserved marker; every tag text the encoder side writes in front of a payload is that marker; and whatever buffer
`Row.from_bytes` (as written) turns into a row, the items of that row are the unpacked values `vs` one by one, each either
*itself* (and not of the reserved form) or the date-time of the reserved pair `[marker, x]`.  A second marker — a
`'__decimal__'` test in the glue, a `('__decimal__', text)` written by `serialize` — breaks the first or the second
conjunct; a rewrite the statement-level translation of the glue does read breaks the third. -/
theorem only_rewritten_shape_is_reserved_pair :
    (∀ m ∈ Gen.RowMarkers.testedPyx ++ Gen.RowMarkers.testedRow, m = Gen.Row.reservedMarker) ∧
    (∀ m ∈ Gen.RowMarkers.writtenRow, m = Gen.Row.reservedMarkerEnc) ∧
    (∀ (data : Bytes) (items : List Item), Gen.RowFns.from_bytes data = .row items →
      ∃ vs : List PyVal, vs.mapM post = some items ∧
        ∀ v it, post v = some it →
          (isReserved v = false ∧ it = .val v) ∨ (∃ x, v = .list [.str Gen.Row.reservedMarker, x] ∧ it = .datetime x)) := by
  refine ⟨by decide, by decide, fun data items h => ?_⟩
  obtain ⟨items', h', hd⟩ | ⟨e, h', _⟩ := glue_outcome data
  · rw [h'] at h
    injection h with h
    subst h
    obtain ⟨_, vs, _, _, hv⟩ := decodeRow_ok hd
    exact ⟨vs, hv, post_shapes⟩
  · rw [h'] at h; cases h

/-- Non-vacuity: the lists are not empty on both sides, a look-alike is kept, the reserved pair is rewritten. -/
example : Gen.RowMarkers.testedPyx ≠ [] ∧ Gen.RowMarkers.writtenRow ≠ [] ∧
    post (.list [.str "__decimal__", .str "1.50"]) = some (.val (.list [.str "__decimal__", .str "1.50"])) ∧
    post (.list [.str "__datetime__x", .int 1]) = some (.val (.list [.str "__datetime__x", .int 1])) ∧
    post (.list [.str "__datetime__", .int 1]) = some (.datetime (.int 1)) := by decide +kernel

/-! ### Text is an opaque sequence of code points -/

/-- **Records distinguish rows**: two rows without reserved items that are given the same record are the same row, value for
value — the format has no two spellings of one row to merge and no rewrite that maps two rows to one.  (`.str s` holds a
`String`, i.e. a list of Unicode scalar values: `e + U+0301` and `U+00E9`, `'a'` and `'A'`, `'a'` and `'a '`, `'a'` and
`'a\0'` are different values here, as they are under Python's `==`.) -/
theorem records_distinguish_rows (ts ts' : Nat) (row row' : List PyVal) (r : Bytes)
    (h : encodeRow ts row = .ok r) (h' : encodeRow ts' row' = .ok r) (hr : NoReserved row) (hr' : NoReserved row') :
    row = row' := by
  -- the record alone determines the row, reserved items or not (`hr`, `hr'` are not needed)
  have _ := hr
  have _ := hr'
  exact encodeRow_inj h h'

/-- **Text comes back code point for code point**, at top level, inside a list, as a map value and as a map key: whatever
record is emitted for such a row decodes to a row holding a text with *the same list of code points* (`String.toList`) —
for every text, normalised or not, cased, padded, with a byte-order mark, zero-width characters, NULs or line ends of any
family; and two texts that differ in one code point never share a record. -/
theorem text_is_opaque (ts : Nat) (s k : String) (r : Bytes)
    (h : encodeRow ts [.str s, .list [.str s], .dict [(k, .str s)]] = .ok r) :
    (∃ s' k' : String, decodeRow r = .ok [.val (.str s'), .val (.list [.str s']), .val (.dict [(k', .str s')])] ∧
      s'.toList = s.toList ∧ k'.toList = k.toList) ∧
    ∀ (ts' : Nat) (t : String), t.toList ≠ s.toList → encodeRow ts' [.str t, .list [.str t], .dict [(k, .str t)]] ≠ .ok r := by
  have nr : NoReserved [.str s, .list [.str s], .dict [(k, .str s)]] := by
    intro v hv
    simp only [List.mem_cons, List.not_mem_nil, or_false] at hv
    rcases hv with rfl | rfl | rfl <;> rfl
  refine ⟨⟨s, k, row_roundtrip ts _ r h nr, rfl, rfl⟩, fun ts' t ht h' => ?_⟩
  have e := encodeRow_inj h' h
  injection e with e _
  injection e with e
  exact ht (by rw [e])

/-- Non-vacuity: canonically equivalent / compatibility-equivalent / case-variant / padded texts are different texts with
different records, and each record decodes to its own text (all texts written with escapes: this file holds no
non-ASCII character here). -/
example :
    ("e\u0301" : String) ≠ "\u00e9" ∧ ("e\u0301" : String).toList.length = 2 ∧ ("\u00e9" : String).toList.length = 1 ∧
    (encodeRow 7 [.str "e\u0301"]).toOption ≠ (encodeRow 7 [.str "\u00e9"]).toOption ∧
    (encodeRow 7 [.str "\u212b"]).toOption ≠ (encodeRow 7 [.str "\u00c5"]).toOption ∧
    (encodeRow 7 [.str "a"]).toOption ≠ (encodeRow 7 [.str "a "]).toOption ∧
    (encodeRow 7 [.str "a"]).toOption ≠ (encodeRow 7 [.str "a\x00"]).toOption ∧
    (encodeRow 7 [.str "e\u0301", .dict [("\u1100\u1161", .str "\ufeffa\r\n")]]).toOption.bind (fun r => (decodeRow r).toOption)
      = some [.val (.str "e\u0301"), .val (.dict [("\u1100\u1161", .str "\ufeffa\r\n")])] := by decide +kernel

end C01
