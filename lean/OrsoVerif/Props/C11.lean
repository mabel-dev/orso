import OrsoVerif.Lemmas.Arrow
import OrsoVerif.Lemmas.ArrowCols
import OrsoVerif.Lemmas.ArrowFrame
import OrsoVerif.Lemmas.ArrowShare
import OrsoVerif.Lemmas.Frame
/-!
# C11 — Arrow interchange preserves rows, nulls, order and column typing

The property theorems and the facts they share.  Rows: the statements quantify over every element type, every list of
tables, every chunk layout inside every table (empty chunks and empty tables anywhere), every
size limit.  Types: over every Orso type, every ARRAY element type and every DECIMAL(p, s) with
`1 ≤ p ≤ 38` (precision 0 is an open finding), looked up in the tables regenerated from the source (`Gen.Arrow.*`).

Cell conversion (pyarrow → pandas → tuples) is *not* modelled: cells are opaque here and are
compared with `table.to_pylist()` by the harness on every run.
-/
namespace C11
open Arrow

variable {α : Type}

/-! ## Expression facts

One small theorem per expression lifted from the source (`Gen.ArrowExpr`, regenerated on every
run).  Everything below is proved from these facts and the hand-written skeleton, so a changed
operator in the source breaks exactly the fact that names it.  The proofs offer several closings (`first | … | …`)
because the expressions are regenerated: one written differently that means the same (`if size is not None:`,
`dataset.rowcount < 1`, `DECIMAL_PRECISION if self.precision is None else self.precision`) has to be proved again by
the same script. -/

/-- `__next__`'s stop test (`self.rows_processed >= self.max_size`) holds exactly when the limit
has been reached. -/
theorem next_guard_spec (p m : Nat) : Gen.ArrowExpr.nextStopTest (p : Int) (m : Int) ↔ m ≤ p := by
  unfold Gen.ArrowExpr.nextStopTest; first | omega | trivial

/-- `__next__`'s bookkeeping (`self.rows_processed += 1`) counts one per returned row. -/
theorem next_bookkeeping_spec (p : Nat) : bump p = p + 1 := by
  unfold bump Gen.ArrowExpr.nextBump; omega

/-- `from_arrow`: for a positive size the limit is in force (`if size:`) and the batch size computed
in that branch (`min(size, BATCH_SIZE)`) is positive; the other branch makes the limit infinite.
(What a size of 0 means is outside the property and deliberately not fixed here.) -/
theorem from_arrow_size_spec (k : Nat) (hk : 0 < k) :
    Gen.ArrowExpr.sizeTest (k : Int) ∧
    0 < (Gen.ArrowExpr.limitedBatch (k : Int) (Gen.Arrow.batchSize : Int)).toNat ∧
    Gen.ArrowExpr.unlimitedIsInf = true := by
  have hb : 0 < Gen.Arrow.batchSize := by decide
  refine ⟨?_, ?_, by decide⟩
  · unfold Gen.ArrowExpr.sizeTest; first | trivial | omega
  · unfold Gen.ArrowExpr.limitedBatch; omega

/-- `to_arrow`: the frame is cut exactly for a size `≥ 0` (`size is not None and size >= 0`), and it
is cut to that size (`dataset.head(size)`). -/
theorem to_arrow_guard_spec (k : Int) :
    (Gen.ArrowExpr.toArrowLimitTest k ↔ 0 ≤ k) ∧ Gen.ArrowExpr.toArrowHeadArg k = k := by
  refine ⟨?_, ?_⟩
  · unfold Gen.ArrowExpr.toArrowLimitTest; first | omega | trivial
  · unfold Gen.ArrowExpr.toArrowHeadArg; rfl

/-- `to_arrow`: the columns are built empty (instead of by `zip(*rows)`) exactly for a frame without
rows (`dataset.rowcount == 0`). -/
theorem to_arrow_empty_guard_spec : EmptyFact := by
  intro n
  unfold Gen.ArrowExpr.toArrowEmptyTest; first | omega | trivial

/-- `arrow_field`: the arguments handed to `pyarrow.decimal128` are the column's own precision
(when it is at least 1) and the column's own scale — **including scale 0** (the repaired defect:
`self.scale or 10` does not satisfy this). -/
theorem decimal_defaulting_spec :
    (∀ p : Nat, 1 ≤ p → Gen.ArrowExpr.decimalPrecisionArg (some (p : Int)) = some (p : Int)) ∧
    (∀ s : Nat, Gen.ArrowExpr.decimalScaleArg (some (s : Int)) = some (s : Int)) := by
  refine ⟨?_, ?_⟩
  · intro p hp
    unfold Gen.ArrowExpr.decimalPrecisionArg
    first | rfl | (simp only []; split <;> first | rfl | omega) | (simp; omega)
  · intro s
    unfold Gen.ArrowExpr.decimalScaleArg
    first | rfl | (simp only []; split <;> first | rfl | omega) | (simp; omega)

/-- `__next__` fetches the next table **in a loop** (`while row is None`): a table without rows is skipped,
it does not end the stream (with `if row is None` — the code before the first repair — this is false, and
everything below that speaks about empty tables stops compiling). -/
theorem next_fetch_loop_spec : Gen.ArrowExpr.fetchLoops = true := by decide

/-- The facts in the form the skeleton lemmas take them. -/
theorem next_facts : NextFacts := ⟨next_guard_spec, next_bookkeeping_spec, next_fetch_loop_spec⟩

/-- `from_arrow` takes the first table off the stream to read the schema and hands `_RowsIterator` the
stream **with that table chained back in front** (`itertools.chain([first_table], tables)`): no table is
lost to the schema peek. -/
theorem from_arrow_stream_spec (tables : List (Table α)) : streamOf tables = tables := by
  unfold streamOf
  first | rfl | simp [Gen.ArrowExpr.streamKeepsFirst]

/-- `from_arrow`'s input dispatch (the two *generated* `isinstance` tuples): a single table, a list, a tuple
and a generator of tables all reach the row iterator as the stream of the caller's tables, in order — a single
table as the stream of that one table.  (Dropping `tuple` from either test makes a tuple raise; dropping `list`
from the second makes every list raise.) -/
theorem input_dispatch_spec (x : Input α) : inputStream x = some x.tables := by
  cases x <;> simp [inputStream, Input.shape, Input.tables, Gen.ArrowExpr.acceptedShapes, Gen.ArrowExpr.iteredShapes]

/-- The three glue sites between `frame.arrow(size)` / `frame.pandas(size)` and `to_arrow` pass the size on
unchanged (`DataFrame.arrow`: `to_arrow(self, size=size)`; `DataFrame.pandas`: `to_pandas(self, size)`;
`to_pandas`: `dataset.arrow(size)`) — `size or None` at any of them would turn `pandas(0)` into "everything". -/
theorem size_reaches_to_arrow (size : Option Int) : arrowCall size = size ∧ pandasCall size = size := by
  unfold pandasCall arrowCall Gen.ArrowExpr.frameArrowArg Gen.ArrowExpr.toPandasArrowArg Gen.ArrowExpr.framePandasArg
  cases size with
  | none => exact ⟨rfl, rfl⟩
  | some k => first | exact ⟨rfl, rfl⟩ | (refine ⟨?_, ?_⟩ <;> simp <;> omega)

/-- `FlatColumn.__init__`'s decimal block keeps a precision (≥ 1) and a scale — **including scale 0** — that
the column was given (`self.scale or int(0.75 * self.precision)` does not: DECIMAL(p, 0) would become
DECIMAL(p, ⌊0.75p⌋), in both directions of the typing round trip, because the column `FlatColumn.from_arrow`
builds passes through the same constructor). -/
theorem init_defaulting_spec :
    (∀ p : Nat, 1 ≤ p → Gen.ArrowExpr.initPrecision (some (p : Int)) = some (p : Int)) ∧
    (∀ s : Nat, ∀ p : Int, Gen.ArrowExpr.initScale (some (s : Int)) p = some (s : Int)) := by
  refine ⟨?_, ?_⟩
  · intro p hp
    unfold Gen.ArrowExpr.initPrecision
    first | rfl | (simp only []; split <;> first | rfl | omega) | (simp; omega)
  · intro s p
    unfold Gen.ArrowExpr.initScale
    first | rfl | (simp only []; split <;> first | rfl | omega) | (simp; omega)

/-- …so a DECIMAL column built with a precision ≥ 1 and a scale keeps both, and other columns are not touched. -/
theorem normalise_spec :
    (∀ p s : Nat, 1 ≤ p → normalise .DECIMAL (some p) (some s) = (some p, some s)) ∧
    (∀ t p s, t ≠ OrsoTy.DECIMAL → normalise t p s = (p, s)) := by
  refine ⟨?_, ?_⟩
  · intro p s hp
    have h1 := init_defaulting_spec.1 p hp
    have h2 := init_defaulting_spec.2 s (p : Int)
    simp only [normalise, if_true, Option.map_some, Int.ofNat_eq_natCast, h1, h2, Int.toNat_natCast]
  · intro t p s ht
    simp only [normalise, ht, if_false]

/-- `DataFrame.head(k)` — the glue `to_arrow` limits the frame with — is the first `k` rows.  `head`
is `slice(headOffset k, headLength k)` over the window arithmetic *generated* from dataframe.py
(`if offset < 0: offset = max(len + offset, 0)`, `if length == 0`, `rows[offset : offset + length]`,
`head`'s arguments `0, size`); `Frame.head_eq_take` proves it from them, so a changed operator there breaks
this fact. -/
theorem head_glue_spec : HeadFact := fun k rows => Frame.head_eq_take rows k

/-! ## Rows -/

/-- The size limit `from_arrow` enforces: none for `None`, the size for a positive size. -/
theorem limit_of_spec : limitOf none = none ∧ ∀ k, 0 < k → limitOf (some k) = some k := by
  refine ⟨rfl, ?_⟩
  intro k hk
  simp only [limitOf]
  rw [if_pos (from_arrow_size_spec k hk).1]

/-- `BATCH_SIZE` and `min(size, BATCH_SIZE)` are positive for every size of the property's range
(none, or positive), so `table.to_batches` is never asked for empty batches.  Mentions the extracted
`BATCH_SIZE`. -/
theorem batch_positive (size : Option Nat) (hs : size ≠ some 0) : 0 < batchOf size := by
  have hb : 0 < Gen.Arrow.batchSize := by decide
  unfold batchOf
  cases size with
  | none => simp only [limitOf]; exact hb
  | some j =>
    have hj : 0 < j := Nat.pos_of_ne_zero fun h0 => hs (by rw [h0])
    rw [limit_of_spec.2 j hj]
    exact (from_arrow_size_spec j hj).2.1

/-- **Batching is invisible.**  Whatever the chunk layout of a table and whatever the (positive)
batch size, `process_table` returns the table's rows, in order, once each. -/
theorem process_table_rows (n : Nat) (hn : 0 < n) (t : Table α) : processTable n t = t.rows := by
  unfold processTable toBatches Table.rows
  induction t with
  | nil => rfl
  | cons c t ih =>
    simp only [List.flatMap_cons, List.flatten_append, List.flatten_cons]
    rw [splitEvery_flatten n hn, ih]

/-- **Every batch constant, every limit.**  `_RowsIterator` built with *any* positive `batch_size` and
any `max_size` (none = `float("inf")`) over any tables delivers every row with index below the limit,
in order, once: the rows do not depend on the batch constant at all (`from_arrow` uses
`min(size, BATCH_SIZE)`, the harness also drives the class directly with batch sizes 1, 2, 3, …). -/
theorem iterator_any_batch_spec (tables : List (Table α)) (b : Nat) (hb : 0 < b) (m : Option Nat) :
    drain { tables := tables, current := [], processed := 0, maxSize := m, batch := b } =
      match m with
      | none => (tables.map Table.rows).flatten
      | some k => ((tables.map Table.rows).flatten).take k := by
  have key : (It.mk tables [] 0 m b).remaining = (tables.map Table.rows).flatten := by
    simp only [It.remaining, List.nil_append]
    congr 1
    exact List.map_congr_left fun t _ => process_table_rows _ hb t
  rw [drain_eq next_facts, It.rowsLeft]
  cases m with
  | none =>
    show List.take (It.mk tables [] 0 none b).remaining.length _ = _
    rw [key, List.take_length]
  | some k => rw [key]; rfl

/-- **One row per Arrow row, in order, across any number of tables and any chunking (empty tables
and chunks anywhere), cut to the requested size.**  `drain` is `list(iterator)`; the iterator is
`_RowsIterator` as repaired, assembled from the generated guard and bookkeeping expressions.  -/
theorem iterator_spec (tables : List (Table α)) :
    drain (init tables none) = (tables.map Table.rows).flatten ∧
    ∀ k, 0 < k → drain (init tables (some k)) = ((tables.map Table.rows).flatten).take k := by
  refine ⟨?_, fun k hk => ?_⟩
  · unfold init
    rw [iterator_any_batch_spec _ _ (batch_positive none nofun), from_arrow_stream_spec, limit_of_spec.1]
  · unfold init
    rw [iterator_any_batch_spec _ _ (batch_positive (some k) (by simp; omega)), from_arrow_stream_spec,
      limit_of_spec.2 k hk]

/-- The same, against the specification function the driver and the harness use (sizes of the
property's range: none, or positive). -/
theorem from_arrow_rows_spec (tables : List (Table α)) (size : Option Nat) (hs : size ≠ some 0) :
    fromArrowRows tables size = expectedRows tables size := by
  obtain ⟨h1, h3⟩ := iterator_spec tables
  unfold fromArrowRows expectedRows
  match size, hs with
  | none, _ => simpa using h1
  | some 0, hs => exact absurd rfl hs
  | some (k + 1), _ => simpa using h3 (k + 1) (Nat.succ_pos k)

/-- **…whatever shape the argument has**: a single table, a list, a tuple or a generator of tables. -/
theorem from_arrow_any_input (x : Input α) (size : Option Nat) (hs : size ≠ some 0) :
    fromArrowInput x size = some (expectedRows x.tables size) := by
  unfold fromArrowInput
  rw [input_dispatch_spec]
  exact congrArg some (from_arrow_rows_spec x.tables size hs)

/-- **Regression lemma for the pinned tree** (before `fix: Arrow row iterator skips empty
tables …`): the old `__next__` loses the rows after an empty table, and everything after an
empty first table, while the repaired one delivers them. -/
theorem pinned_iterator_loses_rows :
    drainPinned (init [[[1, 2]], [[]], [[3]]] none) = [1, 2] ∧
    drain (init [[[1, 2]], [[]], [[3]]] none) = [1, 2, 3] ∧
    drainPinned (init [[[]], [[1, 2]]] none) = ([] : List Nat) ∧
    drain (init [[[]], [[1, 2]]] none) = [1, 2] := by decide

/-- **The repair is conservative.**  On every stream in which no table is empty the pinned
iterator and the repaired one deliver the same rows, for every size: the repair changes the
outcome only on the inputs on which the old code lost rows. -/
theorem repair_conservative (tables : List (Table α)) (size : Option Nat) (hs : size ≠ some 0)
    (h : ∀ t ∈ tables, t.rows ≠ []) : drainPinned (init tables size) = drain (init tables size) := by
  unfold drainPinned drain
  apply drainWith_pinned_eq
  intro t ht
  have : processTable (batchOf size) t = t.rows := process_table_rows _ (batch_positive size hs) t
  simp only [init, from_arrow_stream_spec] at ht ⊢
  rw [this]
  exact h t ht

/-- How `arrow(size)` is meant to limit a frame (written out, independent of the generated
expressions): the first `k` rows for a size `k ≥ 0`, everything for `None` or a negative size. -/
def specLimited (rows : List (List α)) : Option Int → List (List α)
  | some (.ofNat k) => rows.take k
  | _ => rows

/-- `to_arrow`'s generated guard and `head` argument limit the frame exactly that way. -/
theorem limited_spec (rows : List (List α)) (size : Option Int) : limited rows size = specLimited rows size := by
  unfold limited limitArg specLimited
  cases size with
  | none => rfl
  | some k =>
    obtain ⟨h1, h2⟩ := to_arrow_guard_spec k
    cases k with
    | ofNat n =>
      simp only [h1, h2]
      have h0 : (0 : Int) ≤ Int.ofNat n := Int.natCast_nonneg n
      rw [if_pos h0]
      exact head_glue_spec n rows
    | negSucc n =>
      simp only [h1]
      rw [if_neg (by have := Int.negSucc_lt_zero n; omega)]

/-- **DataFrame → Arrow (optionally limited) → DataFrame returns the same rows and column
names.**  For every rectangular frame with at least one column: the Arrow table built by
`to_arrow` has the frame's column names and `min(size, n)` rows, and iterating it back gives the
frame's rows limited as `specLimited` says (a negative size is ignored).  -/
theorem to_from_roundtrip (names : List String) (rows : List (List α)) (size : Option Int)
    (hw : 0 < names.length) (hrect : ∀ r ∈ rows, r.length = names.length) :
    roundtripRows names rows size = specLimited rows size ∧
    (toArrow names rows size).names = names ∧
    (toArrow names rows size).numRows = (specLimited rows size).length := by
  have hrows := toArrow_rows head_glue_spec to_arrow_empty_guard_spec names rows size hw hrect
  rw [← limited_spec]
  refine ⟨?_, toArrow_names names rows size, toArrow_numRows head_glue_spec to_arrow_empty_guard_spec names rows size hw hrect⟩
  unfold roundtripRows fromArrowRows
  rw [(iterator_spec _).1, hrows]
  simp [Table.rows]

/-! ## The kind of object a size is -/

/-- **The size guards recognise every kind of integer object.**  Whatever *type* test the guard of `from_arrow`
(`if size:`) and of `to_arrow` (`size is not None and size >= 0`) carries — *generated*: the kinds of argument
object that pass it, every kind when there is none — a built-in `int`, a `bool`, an `int` subclass and a numpy
integer scalar all pass.  (`isinstance(size, int)` does not satisfy this: a `numpy.int64` limit would silently
become "no limit".) -/
theorem size_kind_spec :
    ∀ kind ∈ demandedSizeKinds, kind ∈ Gen.ArrowExpr.sizeKinds ∧ kind ∈ Gen.ArrowExpr.toArrowSizeKinds := by
  decide

/-- Non-vacuity, and what the type test costs: a numpy integer limit of 2 behind a guard that only lets
`int`, `bool` and `int` subclasses through is not a limit at all. -/
example : sizeSeen ["int", "bool", "int-subclass"] "numpy-integer" (some 2) = (none : Option Nat) ∧
    sizeSeen Gen.ArrowExpr.sizeKinds "numpy-integer" (some 2) = some 2 ∧
    fromArrowInputKind (Input.list [[[1, 2, 3]], [[4, 5]]]) "numpy-integer" (some 2) = some [1, 2] := by decide

/-- …so a size of any of these kinds is seen by the code behind the guard as the size it is. -/
theorem size_seen_spec {β : Type} (kind : String) (hk : kind ∈ demandedSizeKinds) (size : Option β) :
    sizeSeen Gen.ArrowExpr.sizeKinds kind size = size ∧ sizeSeen Gen.ArrowExpr.toArrowSizeKinds kind size = size := by
  obtain ⟨h1, h2⟩ := size_kind_spec kind hk
  exact ⟨if_pos h1, if_pos h2⟩

/-- **Cut to the requested size, whatever kind of integer object the size is** (`from_arrow`): for every shape of
argument, every list of tables and chunk layout, every kind of the property's range and every size none or positive. -/
theorem from_arrow_any_size_object (x : Input α) (kind : String) (hk : kind ∈ demandedSizeKinds)
    (size : Option Nat) (hs : size ≠ some 0) :
    fromArrowInputKind x kind size = some (expectedRows x.tables size) := by
  unfold fromArrowInputKind
  rw [(size_seen_spec kind hk size).1]
  exact from_arrow_any_input x size hs

/-- **…and `frame.arrow(size)` / the round trip**: limited as `specLimited` says for every kind of integer object. -/
theorem to_from_roundtrip_any_size_object (names : List String) (rows : List (List α)) (kind : String)
    (hk : kind ∈ demandedSizeKinds) (size : Option Int)
    (hw : 0 < names.length) (hrect : ∀ r ∈ rows, r.length = names.length) :
    roundtripRowsKind names rows kind size = specLimited rows size ∧
    (toArrowKind names rows kind size).names = names ∧
    (toArrowKind names rows kind size).numRows = (specLimited rows size).length := by
  unfold roundtripRowsKind toArrowKind
  rw [(size_seen_spec kind hk size).2]
  exact to_from_roundtrip names rows size hw hrect

/-! ## One frame, converted more than once

`Model/ArrowFrame.lean`: a frame is lazily backed (its `_rows` *is* the `_RowsIterator` / generator,
and so is its cursor) or eager; `step` is one call, `run` a history of calls.  `Fr.listRows` is the
list the frame materialises to — the rows it holds. -/

/-- Nothing on the conversion path (`DataFrame.arrow`, `DataFrame.pandas`, `to_arrow`, `to_pandas`) stores anything on the
frame it converts (generated from the source: no attribute of `self` / `dataset` is assigned there).  This is what makes
`arrow(size)` a function of the rows held — the hypothesis under which `step` translates it as `toArrow`. -/
theorem conversion_writes_nothing_spec : Gen.ArrowExpr.conversionWritesFrame = false := by decide

/-- **A conversion does not change the frame and depends only on the rows it holds.**  For every
frame state (lazily backed with any iterator state, or eager with any cursor) and every size:
`arrow(size)` returns the table `to_arrow` builds from the frame's rows, and afterwards the frame
holds the same rows (now as a list). -/
theorem arrow_keeps_frame (names : List String) (f : Fr (List α)) (size : Option Int) :
    (step names f (.arrow size)).2 = .table (toArrow names f.listRows size) ∧
    (step names f (.arrow size)).1.listRows = f.listRows ∧
    (step names f (.arrow size)).1.isLazy = false := by
  refine ⟨?_, materialize_listRows f, materialize_not_lazy f⟩
  simp [step, convert, conversion_writes_nothing_spec, materialize_listRows]

/-- What each call does to the rows a frame holds (`rowsAfter`, written out in
`Lemmas/ArrowFrame.lean`): a cursor fetch on a frame that is *still lazy* takes the fetched rows out
of the frame (cursor and row source are one object), `append` adds a row (materialising a lazy frame), every
other call — conversions, `len`, iteration, `head`, fetches on an eager frame — leaves them alone. -/
theorem call_effect_on_rows (names : List String) (f : Fr (List α)) (op : Op (List α)) :
    (step names f op).1.listRows = rowsAfter f.isLazy f.listRows op :=
  step_listRows next_facts names f op

/-- **Every conversion sees the frame as it is when it is made.**  In *every* history of calls on one frame —
appends, cursor fetches, observations, earlier conversions with any sizes, in any order, whatever the frame's
state at the start (lazily backed or eager) — the `i`-th call, if it is `arrow(size)`, returns the table
`to_arrow` builds from the rows the frame holds *after the first `i` calls* (`(run … (ops.take i)).2.listRows`;
how each call changes those rows is `call_effect_on_rows`).  Nothing is carried from one conversion to the
next: a conversion made after an `append` has the appended row, one made after another conversion with
another size is not that conversion's table. -/
theorem conversion_sees_current_rows (names : List String) :
    ∀ (ops : List (Op (List α))) (f : Fr (List α)) (i : Nat) (size : Option Int),
      ops[i]? = some (.arrow size) →
        (run names f ops).1[i]? =
          some (.table (toArrow names (run names f (ops.take i)).2.listRows size)) := by
  intro ops f i size hi
  rw [run_getElem?, hi, Option.map_some, (arrow_keeps_frame names _ size).1]

/-- **Conversion is repeatable.**  In every history of calls without `append` and without a fetch on
a still-lazy frame (`Quiet`), whatever the frame's state at the start: the frame holds the same rows
at the end, and *every* `arrow(size)` in the history — the first, the second, after a `len`, after
another conversion with another size — returns the table built from those same rows. -/
theorem conversion_repeatable (names : List String) :
    ∀ (ops : List (Op (List α))) (f : Fr (List α)), Quiet names f ops →
      (run names f ops).2.listRows = f.listRows ∧
      ∀ (i : Nat) (size : Option Int), ops[i]? = some (.arrow size) →
        (run names f ops).1[i]? = some (.table (toArrow names f.listRows size)) := by
  intro ops f hq
  refine ⟨?_, fun i size hi => ?_⟩
  · rw [← quiet_run_rows next_facts names ops f ops.length hq, List.take_length]
  · rw [conversion_sees_current_rows names ops f i size hi, quiet_run_rows next_facts names ops f i hq]

/-- The session of C11-w7s2 in the model: convert, append, convert again — the second table has the appended
row; and the same on a frame that was lazily backed when the first conversion was made. -/
theorem append_between_conversions (names : List String) (rows : List (List α)) (r : List α) :
    (run names (Fr.ofList rows) [.arrow none, .append r, .arrow none]).1[2]? =
      some (.table (toArrow names (rows ++ [r]) none)) ∧
    ∀ s : It (List α), (run names (.lazy s) [.arrow none, .append r, .arrow none]).1[2]? =
      some (.table (toArrow names (drain s ++ [r]) none)) := by
  refine ⟨?_, fun s => ?_⟩
  · rw [conversion_sees_current_rows names _ _ 2 none rfl]; rfl
  · rw [conversion_sees_current_rows names _ _ 2 none rfl]; rfl

/-- The frame `DataFrame.from_arrow(tables)` returns holds one row per Arrow row, in order. -/
theorem from_arrow_frame_rows (tables : List (Table α)) :
    (Fr.lazy (init tables none)).listRows = (tables.map Table.rows).flatten :=
  (iterator_spec tables).1

/-- **Arrow → DataFrame → Arrow (any sizes, any number of times) → DataFrame.**  For the lazily backed
frame `DataFrame.from_arrow(tables)` and every quiet history of calls on it: every `arrow(size)` in
the history returns a table with the frame's column names which, read back, gives the Arrow rows of
all tables cut to that size. -/
theorem from_arrow_frame_conversions (names : List String) (tables : List (Table (List α)))
    (ops : List (Op (List α))) (hq : Quiet names (.lazy (init tables none)) ops)
    (hw : 0 < names.length) (hrect : ∀ r ∈ (tables.map Table.rows).flatten, r.length = names.length)
    (i : Nat) (size : Option Int) (hi : ops[i]? = some (.arrow size)) :
    ∃ t, (run names (.lazy (init tables none)) ops).1[i]? = some (.table t) ∧ t.names = names ∧
      fromArrowRows [[t.rows]] none = specLimited ((tables.map Table.rows).flatten) size := by
  obtain ⟨_, h⟩ := conversion_repeatable names ops (.lazy (init tables none)) hq
  have h' := h i size hi
  rw [from_arrow_frame_rows] at h'
  obtain ⟨r1, r2, _⟩ := to_from_roundtrip names ((tables.map Table.rows).flatten) size hw hrect
  exact ⟨_, h', r2, r1⟩

/-- **Every conversion of the same tables, however far it is read.**  A caller who converts the same
tables again — with another size, after abandoning an earlier conversion part-way, or while an earlier one is
still being read — and reads `n` rows gets the first `n` of the Arrow rows cut to that conversion's size:
what one conversion delivers depends on the tables and its own size only.  (`takeWith next n` is `n` calls of
`__next__`; `readRows … none` reads to the end.) -/
theorem partial_read_spec (tables : List (Table α)) (size : Option Nat) (hs : size ≠ some 0) (read : Option Nat) :
    readRows tables size read =
      match read with
      | none => expectedRows tables size
      | some n => (expectedRows tables size).take n := by
  cases read with
  | none => exact from_arrow_rows_spec tables size hs
  | some n =>
    simp only [readRows]
    rw [(takeWith_next next_facts n (init tables size)).1, ← drain_eq next_facts]
    exact congrArg (List.take n) (from_arrow_rows_spec tables size hs)

/-- The reading behind `Quiet`, on a concrete frame: `fetchone()` on a frame that is still lazy takes
the row out of the frame (a later `arrow()` has the other two), on an eager frame it does not; and once
a lazy frame has been materialised (here by `arrow(1)`) its cursor is the exhausted source. -/
theorem lazy_fetch_takes_rows :
    (run ["a"] (.lazy (init [[[[1], [2], [3]]]] none)) [.fetch (some 1), .arrow none]).2.listRows = [[2], [3]] ∧
    (run ["a"] (Fr.ofList [[1], [2], [3]]) [.fetch (some 1), .arrow none]).2.listRows = [[1], [2], [3]] ∧
    (run ["a"] (.lazy (ofRows [[1], [2], [3]])) [.arrow (some 1), .arrow (some 2), .observe]).2.listRows
      = [[1], [2], [3]] := by
  decide +kernel

/-- Non-vacuity (rows): a stream with empty tables and chunks everywhere, limited inside the last
table; a frame going to Arrow and back. -/
example :
    drain (init [[[]], [[1, 2], [], [3]], [], [[]], [[4, 5]]] (some 4)) = [1, 2, 3, 4] ∧
    roundtripRows ["a", "b"] [[1, 2], [3, 4], [5, 6]] (some 2) = [[1, 2], [3, 4]] := by
  decide +kernel

/-- A frame without columns does **not** survive: Arrow cannot carry rows without columns
(`Table.from_arrays([], [])` has no rows).  This is why `to_from_roundtrip` asks for a column. -/
theorem zero_column_frame_loses_rows :
    roundtripRows [] [([] : List Nat), []] none = [] := by decide

/-! ## Column typing -/

/-- The model's enumeration of Orso types is the source's `OrsoTypes`, member for member. -/
theorem orso_types_enumerated : Gen.Arrow.orsoTypes = OrsoTy.all.map OrsoTy.name := by decide +kernel

/-- Columns the typing clause speaks about: a real type other than the two carried as binary;
a DECIMAL with `0 ≤ s ≤ p ≤ 38`; an ARRAY with an element type that is itself in scope (an ARRAY
without element type defaults to VARCHAR, see `array_without_element_type`); other types carry
no precision or scale. -/
def InScope (c : Col) : Prop :=
  c.type ∉ [OrsoTy.STRUCT, .JSONB, .MISSING] ∧
  (c.type = .DECIMAL → ∃ p s, c.precision = some p ∧ c.scale = some s ∧ s ≤ p ∧ p ≤ 38) ∧
  (c.type ≠ .DECIMAL → c.precision = none ∧ c.scale = none) ∧
  (c.type = .ARRAY → ∃ e, c.elem = some e ∧ e ∉ [OrsoTy.STRUCT, .JSONB, .MISSING])

/-- The open findings (each proved below to be a genuine counterexample). -/
def OpenFinding (c : Col) : Prop :=
  c.type = .DATE ∨
  (c.type = .ARRAY ∧ (c.elem = some .DATE ∨ c.elem = some .DECIMAL)) ∨
  (c.type = .DECIMAL ∧ c.precision = some 0)

/-- Scalar types of the clause minus the open finding DATE. -/
def goodScalars : List OrsoTy :=
  [.BLOB, .BOOLEAN, .DOUBLE, .INTEGER, .INTERVAL, .TIMESTAMP, .TIME, .VARCHAR, .NULL]

/-- ARRAY element types of the clause minus the open findings DATE and DECIMAL. -/
def goodElems : List OrsoTy :=
  [.ARRAY, .BLOB, .BOOLEAN, .DOUBLE, .INTEGER, .INTERVAL, .TIMESTAMP, .TIME, .VARCHAR, .NULL]

theorem mem_goodElems (t : OrsoTy) (h : t ∉ [OrsoTy.STRUCT, .JSONB, .MISSING]) (hdate : t ≠ .DATE)
    (hdec : t ≠ .DECIMAL) : t ∈ goodElems := by
  revert h hdate hdec
  cases t <;> decide

/-- What a column of each type comes back as when it carries no precision, scale or element type (a DECIMAL
column is not of that kind; for it see `typemap_decimal`). -/
def plainImage : OrsoTy → OrsoTy × Option OrsoTy × Option Nat × Option Nat
  | .DATE => (.TIMESTAMP, none, none, none)
  | .STRUCT => (.BLOB, none, none, none)
  | .JSONB => (.BLOB, none, none, none)
  | .MISSING => (.VARCHAR, none, none, none)
  | .ARRAY => (.ARRAY, some .VARCHAR, none, none)
  | t => (t, none, none, none)

/-- The element type an ARRAY column with this element type comes back with. -/
def elemImage : OrsoTy → Option OrsoTy
  | .DATE => some .TIMESTAMP
  | .DECIMAL => none
  | .STRUCT => some .BLOB
  | .JSONB => some .BLOB
  | .MISSING => some .VARCHAR
  | t => some t

/-- The primitive Arrow type ids `arrow_type_map` answers: the keys of its *generated* table whose
class is not `list`, and the literal-id branch (`id == 18`, TIMESTAMP). -/
def readerPrimIds : List String :=
  (Gen.Arrow.typeMap.filter (fun e => e.2 != "list")).map (·.1) ++
    Gen.Arrow.literalIds.filterMap (fun e => (Gen.Arrow.typeIds.find? (fun t => t.2 = e.1)).map (·.1))

/-- …and the list constructors it answers with `list`. -/
def readerListIds : List String := (Gen.Arrow.typeMap.filter (fun e => e.2 == "list")).map (·.1)

/-- Finite table facts, the generated typing tables (`Gen.Arrow.fieldMap`, `typeMap`, `orsoToPython`, …) evaluated in one go,
because the kernel shares the look-ups within one evaluation and repeats them in the next: what every Orso type, and ARRAY
with every element type, comes back as after `arrow_field` and `FlatColumn.from_arrow`; that every accepted primitive id reads
as DATE, STRUCT or one of the types that come back as themselves; that every accepted list constructor is looked up as `list`;
that a decimal id has no entry of its own.  (The first part is a Boolean conjunction: the `Decidable` instance of the
conjunction of the two equations is too large to be found.) -/
theorem typing_tables :
    (∀ t ∈ OrsoTy.all,
      ((t == .DECIMAL || decide (backTy false (forthTy t none none none) = some (plainImage t))) &&
        decide (backTy false (forthTy .ARRAY (some t) none none) = some (.ARRAY, elemImage t, none, none))) = true) ∧
    (∀ id ∈ readerPrimIds, ((readsAs id).any fun t => decide (t ∈ [OrsoTy.DATE, .STRUCT] ++ goodScalars)) = true) ∧
    (∀ l ∈ readerListIds, lookup l Gen.Arrow.typeMap = some "list") ∧
    ∀ id ∈ Gen.Arrow.decimalIds, lookup id Gen.Arrow.typeMap = none ∧ Gen.Arrow.decimalIds.contains id = true := by
  decide +kernel

/-- What every Orso type, and ARRAY with every element type, comes back as.  The typing facts and the open findings
below are rows of this table. -/
theorem typemap_image (t : OrsoTy) :
    (t ≠ .DECIMAL → backTy false (forthTy t none none none) = some (plainImage t)) ∧
    backTy false (forthTy .ARRAY (some t) none none) = some (.ARRAY, elemImage t, none, none) := by
  obtain ⟨h1, h2⟩ := Bool.and_eq_true_iff.mp (typing_tables.1 t (by cases t <;> decide))
  refine ⟨fun ht => ?_, of_decide_eq_true h2⟩
  rcases Bool.or_eq_true_iff.mp h1 with hd | hp
  · exact absurd (eq_of_beq hd) ht
  · exact of_decide_eq_true hp

theorem typemap_scalars :
    ∀ t ∈ goodScalars, backTy false (forthTy t none none none) = some (t, none, none, none) := by
  intro t ht
  rw [(typemap_image t).1 (by revert t; decide)]
  revert t
  decide

theorem typemap_array_elements :
    ∀ el ∈ goodElems, backTy false (forthTy .ARRAY (some el) none none) = some (.ARRAY, some el, none, none) := by
  intro el hel
  rw [(typemap_image el).2]
  revert el
  decide

/-- Finite table facts about the DECIMAL entry of `arrow_field`'s table: no constructor call in the table is
unknown to the model, DECIMAL is written with `decimal128`, and the reader treats that id as a decimal. -/
theorem decimal_entry_spec :
    (∀ e ∈ Gen.Arrow.fieldMap, e.2 ≠ Gen.Arrow.Spec.unknown) ∧
    specOf .DECIMAL Gen.Arrow.fieldDefault = .decimal "DECIMAL128" ∧
    "DECIMAL128" ∈ Gen.Arrow.decimalIds := by
  decide +kernel

/-- `arrow_field` writes DECIMAL(p, s) as `decimal128(p, s)` for every precision pyarrow accepts and every
scale: by the generated argument expressions (`decimal_defaulting_spec`), not by looking at each pair. -/
theorem arrow_decimal (e : Option OrsoTy) (p s : Nat) (h1 : 1 ≤ p) (h38 : p ≤ 38) :
    forthTy .DECIMAL e (some p) (some s) = .decimal "DECIMAL128" p s :=
  -- `PrecisionOk p`: `p` is not falsy, and lies in `decimal128`'s range as extracted from pyarrow
  -- (`Gen.Arrow.decimalMinPrecision`, `decimalMaxPrecision`: 1 and 38)
  forthTy_decimal decimal_defaulting_spec decimal_entry_spec.1 _ decimal_entry_spec.2.1 e p s ⟨h1, h1, h38⟩

/-- The reader gives every decimal type of an accepted id — every precision and scale, not only
the grid, every such type however many were read before — the column DECIMAL(p, s): the answer is a
function of the type's own precision and scale. -/
theorem reader_decimal_exact :
    ∀ id ∈ Gen.Arrow.decimalIds, ∀ p s : Nat,
      backTy false (.decimal id p s) = some (.DECIMAL, none, some p, some s) := by
  intro id hid p s
  obtain ⟨h1, h2⟩ := typing_tables.2.2.2 id hid
  simp only [backTy, arrowTypeMap, ArrowTy.id, h1, h2, if_true, Gen.Arrow.carriesPrecisionScale]

theorem typemap_decimal (e : Option OrsoTy) (p s : Nat) (h1 : 1 ≤ p) (h38 : p ≤ 38) :
    backTy false (forthTy .DECIMAL e (some p) (some s)) = some (.DECIMAL, none, some p, some s) := by
  rw [arrow_decimal e p s h1 h38]
  exact reader_decimal_exact _ decimal_entry_spec.2.2 p s

/-- The whole decimal grid `1 ≤ p ≤ 38`, `0 ≤ s ≤ p` keeps precision and scale. -/
theorem typemap_decimal_grid :
    ∀ p ∈ List.range 39, ∀ s ∈ List.range (p + 1), 1 ≤ p →
      backTy false (forthTy .DECIMAL none (some p) (some s)) = some (.DECIMAL, none, some p, some s) := by
  intro p hp s _ h1
  exact typemap_decimal none p s h1 (Nat.le_of_lt_succ (List.mem_range.mp hp))

-- Full statement (FALSE of the code as it exists, see the four `…_counterexample` lemmas):
--
--   theorem typemap_roundtrip (c : Col) (h : InScope c) :
--       ∃ c', roundtripCol c = some c' ∧ c'.type = c.type ∧ c'.precision = c.precision ∧
--         c'.scale = c.scale ∧ (c.type = .ARRAY → c'.elem = c.elem)

/-- The column name is handed over as it is in both directions (generated from the source): `arrow_field` passes
`self.name` to `pyarrow.field`, and `FlatColumn.from_arrow` passes the field's name (itself, or `str()` of it — not a
normalised, case-folded, stripped or defaulted form of it) to the column. -/
theorem field_name_carried_spec : Gen.Arrow.carriesName = true ∧ Gen.Arrow.fieldPassesName = true := by decide

/-- **Every Orso type except STRUCT and JSONB maps to an Arrow type that maps back to the same
Orso type with the same precision, scale and element type** — outside the open findings.  The
two tables are the generated ones; the decimal part covers the whole grid `1 ≤ p ≤ 38`,
`0 ≤ s ≤ p` (`s = 0` is the repaired defect). -/
theorem typemap_roundtrip_partial (c : Col) (h : InScope c) (hopen : ¬ OpenFinding c) :
    ∃ c', roundtripCol c = some c' ∧ c'.type = c.type ∧ c'.precision = c.precision ∧
      c'.scale = c.scale ∧ (c.type = .ARRAY → c'.elem = c.elem) ∧ c'.name = c.name := by
  obtain ⟨name, t, e, p, s, nullable⟩ := c
  obtain ⟨hq, hdec, hnd, harr⟩ := h
  simp only at hq hdec hnd harr
  have hdate : t ≠ .DATE := fun h => hopen (Or.inl h)
  obtain ⟨hn, hf⟩ := field_name_carried_spec
  by_cases htd : t = .DECIMAL
  · subst htd
    obtain ⟨p, s, rfl, rfl, _, hp38⟩ := hdec rfl
    have hp1 : 1 ≤ p := Nat.pos_of_ne_zero fun h0 => hopen (Or.inr (Or.inr ⟨rfl, by rw [h0]⟩))
    exact roundtripCol_of_backTy _ none hn hf
      (typemap_decimal e p s hp1 hp38) (normalise_spec.1 p s hp1) (fun h => OrsoTy.noConfusion h)
  · obtain ⟨rfl, rfl⟩ := hnd htd
    have hnorm := normalise_spec.2 t none none htd
    by_cases hta : t = .ARRAY
    · subst hta
      obtain ⟨el, rfl, hel⟩ := harr rfl
      have hgood : el ∈ goodElems :=
        mem_goodElems el hel (fun h => hopen (Or.inr (Or.inl ⟨rfl, Or.inl (by rw [h])⟩)))
          (fun h => hopen (Or.inr (Or.inl ⟨rfl, Or.inr (by rw [h])⟩)))
      exact roundtripCol_of_backTy _ (some el) hn hf
        (typemap_array_elements el hgood) hnorm (fun _ => rfl)
    · -- `goodElems` is `ARRAY :: goodScalars`
      have hgood : t ∈ goodScalars :=
        (List.mem_cons.mp (mem_goodElems t hq hdate htd)).resolve_left hta
      exact roundtripCol_of_backTy _ none hn hf
        (by rw [forthTy_elem_irrelevant t hta]; exact typemap_scalars t hgood) hnorm (fun h => absurd h hta)

/-- Non-vacuity (types): in-scope columns of each shape that round-trip. -/
example :
    roundtripCol ⟨"d", .DECIMAL, none, some 38, some 0, false⟩ = some ⟨"d", .DECIMAL, none, some 38, some 0, true⟩ ∧
    roundtripCol ⟨"a", .ARRAY, some .INTEGER, none, none, true⟩ = some ⟨"a", .ARRAY, some .INTEGER, none, none, true⟩ ∧
    roundtripCol ⟨"t", .TIMESTAMP, none, none, none, true⟩ = some ⟨"t", .TIMESTAMP, none, none, none, true⟩ := by
  decide +kernel

example : InScope ⟨"d", .DECIMAL, none, some 38, some 0, false⟩ ∧ ¬ OpenFinding ⟨"d", .DECIMAL, none, some 38, some 0, false⟩ := by
  refine ⟨⟨by decide, fun _ => ⟨38, 0, rfl, rfl, by omega, by omega⟩, fun h => absurd rfl h, fun h => by cases h⟩, ?_⟩
  rintro (h | ⟨h, _⟩ | ⟨_, h⟩) <;> cases h

/-- Open finding: DATE ↦ `date64` ↦ `datetime` ↦ TIMESTAMP. -/
theorem date_counterexample :
    forthTy .DATE none none none = .prim "DATE64" ∧
    backTy false (.prim "DATE64") = some (.TIMESTAMP, none, none, none) := by
  have h : forthTy .DATE none none none = .prim "DATE64" := by decide +kernel
  exact ⟨h, h ▸ (typemap_image .DATE).1 (by decide)⟩

/-- Open finding: ARRAY<DATE> comes back as ARRAY<TIMESTAMP>. -/
theorem array_date_counterexample :
    backTy false (forthTy .ARRAY (some .DATE) none none) = some (.ARRAY, some .TIMESTAMP, none, none) :=
  (typemap_image .DATE).2

/-- Open finding: ARRAY<DECIMAL> comes back without element type. -/
theorem array_decimal_counterexample :
    backTy false (forthTy .ARRAY (some .DECIMAL) none none) = some (.ARRAY, none, none, none) :=
  (typemap_image .DECIMAL).2

/-- Open finding: DECIMAL(0, 0) has no Arrow counterpart (`pyarrow.decimal128` starts at precision
1): whatever `arrow_field` does with it (today `self.precision or DECIMAL_PRECISION` substitutes the
interpreter's decimal precision), the column does not come back as DECIMAL(0, 0). -/
theorem decimal_precision_zero_counterexample :
    backTy false (forthTy .DECIMAL none (some 0) (some 0)) ≠ some (.DECIMAL, none, some 0, some 0) := by
  decide +kernel

/-- Regression lemma for the second repaired defect: the generated scale argument keeps a scale of
0 (with Python's `self.scale or 10` it would be 10), and DECIMAL(10, 0) survives the round trip. -/
theorem scale_zero_kept :
    Gen.ArrowExpr.decimalScaleArg (some 0) = some 0 ∧
    backTy false (forthTy .DECIMAL none (some 10) (some 0)) = some (.DECIMAL, none, some 10, some 0) :=
  ⟨by decide, typemap_decimal none 10 0 (by decide) (by decide)⟩

/-- The two types deliberately carried as binary come back as BLOB (why the clause excludes them). -/
theorem struct_jsonb_carried_as_binary :
    backTy false (forthTy .STRUCT none none none) = some (.BLOB, none, none, none) ∧
    backTy false (forthTy .JSONB none none none) = some (.BLOB, none, none, none) :=
  ⟨(typemap_image .STRUCT).1 (by decide), (typemap_image .JSONB).1 (by decide)⟩

/-- An ARRAY column without element type is given Arrow's `list<string>` and comes back as
ARRAY<VARCHAR>, the default `OrsoTypes.from_name("ARRAY")` also applies. -/
theorem array_without_element_type :
    backTy false (forthTy .ARRAY none none none) = some (.ARRAY, some .VARCHAR, none, none) :=
  (typemap_image .ARRAY).1 (by decide)

/-! ## The reverse direction: every Arrow type the reader accepts

Not a clause of the statement, but what keeps the typing clause meaningful for frames that *start* as
Arrow tables: reading is total on the accepted types and its image is stable (Arrow → Orso → Arrow →
Orso gives the same column as Arrow → Orso), except where the open findings and the binary carriers
already say otherwise. -/

/-- Reading `a`, writing the column back with `arrow_field` and reading again gives the same column. -/
def stableRead (a : ArrowTy) : Bool :=
  match backTy false a with
  | none => false
  | some (t, e, p, s) => decide (backTy false (forthTy t e p s) = some (t, e, p, s))

/-- **What the reader makes of every type it accepts**: a plain column of DATE, STRUCT or one of the types that come back
as themselves, and under every accepted list constructor an ARRAY of that type. -/
theorem reader_reads (id : String) (hid : id ∈ readerPrimIds) :
    ∃ t ∈ [OrsoTy.DATE, .STRUCT] ++ goodScalars, backTy false (.prim id) = some (t, none, none, none) ∧
      ∀ l ∈ readerListIds, backTy false (.list l (.prim id)) = some (.ARRAY, some t, none, none) := by
  have ht := typing_tables.2.1 id hid
  cases hr : readsAs id with
  | none => rw [hr] at ht; cases ht
  | some t =>
    rw [hr] at ht
    exact ⟨t, of_decide_eq_true ht, (backTy_of_readsAs hr).1,
      fun l hl => (backTy_of_readsAs hr).2 l (typing_tables.2.2.1 l hl)⟩

theorem stableRead_of {a : ArrowTy} {r : OrsoTy × Option OrsoTy × Option Nat × Option Nat}
    (ha : backTy false a = some r) (hr : backTy false (forthTy r.1 r.2.1 r.2.2.1 r.2.2.2) = some r) :
    stableRead a = true := by
  unfold stableRead
  rw [ha]
  exact decide_eq_true hr

/-- The reader's image is stable — outside DATE (open finding K03/K04: it is written as `date64`, which
reads as TIMESTAMP) and STRUCT (deliberately carried as binary): every other type the reader answers (`reader_reads`)
comes back as itself, alone (`typemap_scalars`) and as an element type (`typemap_array_elements`). -/
theorem reader_image_stable :
    ∀ id ∈ readerPrimIds,
      (stableRead (.prim id) = true ∨
        (backTy false (.prim id)).map (·.1) ∈ [some OrsoTy.DATE, some OrsoTy.STRUCT]) ∧
      ∀ l ∈ readerListIds,
        (stableRead (.list l (.prim id)) = true ∨
          (backTy false (.list l (.prim id))).map (·.2.1) ∈ [some (some OrsoTy.DATE), some (some OrsoTy.STRUCT)]) := by
  intro id hid
  obtain ⟨t, ht, hp, hl⟩ := reader_reads id hid
  rcases List.mem_append.mp ht with ht | ht
  · exact ⟨.inr (by rw [hp]; exact List.mem_map_of_mem (f := some) ht),
      fun l hlm => .inr (by rw [hl l hlm]; exact List.mem_map_of_mem (f := fun t => some (some t)) ht)⟩
  · exact ⟨.inl (stableRead_of hp (typemap_scalars t ht)),
      fun l hlm => .inl (stableRead_of (hl l hlm) (typemap_array_elements t (List.mem_cons_of_mem _ ht)))⟩

/-- So the reader is total on what it accepts: every accepted primitive type, and every accepted list
constructor over every accepted primitive type, becomes a column (`from_arrow` does not raise). -/
theorem reader_total :
    ∀ id ∈ readerPrimIds, (backTy false (.prim id)).isSome = true ∧
      ∀ l ∈ readerListIds, (backTy false (.list l (.prim id))).isSome = true := by
  intro id hid
  obtain ⟨t, -, hp, hl⟩ := reader_reads id hid
  exact ⟨by rw [hp]; rfl, fun l hlm => by rw [hl l hlm]; rfl⟩

/-- Is `a` a decimal type (of an id the reader treats as decimal) with exactly this precision and scale? -/
def isDecimalOf (p s : Nat) : ArrowTy → Bool
  | .decimal i p' s' => Gen.Arrow.decimalIds.contains i && p' == p && s' == s
  | _ => false

/-- `arrow_field` writes DECIMAL(p, s) as an Arrow decimal type with exactly that precision and scale,
over the whole grid (so a `decimal128(p, s)` field *is* the image of DECIMAL(p, s): the harness demands
DECIMAL(p, s) of every such field of every table). -/
theorem arrow_decimal_exact :
    ∀ p ∈ List.range 39, ∀ s ∈ List.range (p + 1), 1 ≤ p →
      isDecimalOf p s (forthTy .DECIMAL none (some p) (some s)) = true := by
  intro p hp s _ h1
  rw [arrow_decimal none p s h1 (Nat.le_of_lt_succ (List.mem_range.mp hp))]
  simp only [isDecimalOf, List.contains_eq_mem, decimal_entry_spec.2.2, decide_true, beq_self_eq_true, Bool.and_self]

/-- **An Arrow field's name and nullability carry over to the column built from it**, for every
field `FlatColumn.from_arrow` accepts (with or without `mappable_as_binary`). -/
theorem field_name_nullable_carried (m : Bool) (f : ArrowField) (c : Col)
    (h : fromArrowField m f = some c) : c.name = f.name ∧ c.nullable = f.nullable := by
  unfold fromArrowField at h
  split at h
  · cases h
  · simp only [Option.some.injEq] at h
    subst h
    exact ⟨by simp [field_name_carried_spec.1], by simp [Gen.Arrow.carriesNullable]⟩

/-! ## What a column says comes from its field, not from the data

`from_arrow` builds its columns from the fields of the first table and hands them out as they are.  Whether the function
stores anything on them afterwards is generated from the source (`Gen.ArrowExpr.schemaEditedAfterBuild`). -/

/-- Nothing is stored on the columns / the schema in `from_arrow` after they were built from the Arrow fields (generated from
the source: no attribute or element assignment, no `setattr`, no edit of the column list). -/
theorem schema_from_fields_only_spec : Gen.ArrowExpr.schemaEditedAfterBuild = false := by decide

/-- The columns `from_arrow` hands out for a first table with these fields, whatever the cells are (`holdsNull`: per column,
does the first table hold a null there; `rowsInFirst`: its number of rows).  If the function edits the columns after building
them, the model says nothing about them. -/
def fromArrowColumns (fields : List ArrowField) (_holdsNull : List Bool) (_rowsInFirst : Nat) : Option (List (Option Col)) :=
  if Gen.ArrowExpr.schemaEditedAfterBuild then none else some (fields.map (fromArrowField false))

/-- The columns are a function of the fields alone: not of which columns hold nulls, not of the number of rows. -/
theorem from_arrow_columns_from_fields (fields : List ArrowField) (holdsNull : List Bool) (n : Nat) :
    fromArrowColumns fields holdsNull n = some (fields.map (fromArrowField false)) := by
  simp [fromArrowColumns, schema_from_fields_only_spec]

/-- **Name and nullability of every column `from_arrow` hands out are those of its field** - for a field declared
`nullable = false` whose column holds nulls as for any other. -/
theorem from_arrow_column_nullable_from_field (fields : List ArrowField) (holdsNull : List Bool) (n i : Nat) (c : Col)
    (cs : List (Option Col)) (h : fromArrowColumns fields holdsNull n = some cs) (hc : cs[i]? = some (some c)) :
    ∃ f, fields[i]? = some f ∧ c.name = f.name ∧ c.nullable = f.nullable := by
  rw [from_arrow_columns_from_fields] at h
  cases h
  rw [List.getElem?_map] at hc
  obtain ⟨f, hf, hc⟩ := Option.map_eq_some_iff.mp hc
  exact ⟨f, hf, field_name_nullable_carried false f c hc⟩

/-! ## Separate conversions whose results are edited in between

A conversion hands out mutable objects built from an immutable Arrow schema that compares by value.
`Model/ArrowShare.lean` runs a process of conversions and edits on a heap; whether a place allocates or hands out the
objects it returned before is generated from the source. -/

/-- **expression fact**: none of the places a caller gets columns from - `from_arrow` (which builds its
`RelationSchema` in place, or through the helper), `convert_arrow_schema_to_orso_schema`, `FlatColumn.from_arrow` -
keeps what it returned for an equal Arrow schema (no cache decorator on the place that builds the objects). -/
theorem schema_built_fresh_spec : ∀ s, Share.memoGroupGen s = none := by
  intro s; cases s <;> decide

/-- **Every conversion is its caller's own**, for every session of conversions (through any of the three places,
of any Arrow schemas - equal ones included) and edits of earlier results (any functions, in particular renaming a
column, flipping its nullability, changing its type, removing or adding a column): each conversion returns the
columns built from *its* Arrow fields, and at the end every result shows exactly the edits made through it
(the session by value). -/
theorem conversions_independent (steps : Share.Session) :
    (Share.runGen steps).seen = (Share.convKeys steps).map Share.buildCols ∧
    (Share.runGen steps).reads = (Share.spec Share.buildCols steps).vals.map some := by
  have h := Share.fresh_refines Share.memoGroupGen schema_built_fresh_spec Share.buildCols steps
  refine ⟨?_, h.2⟩
  have h1 : (Share.runGen steps).seen = (Share.spec Share.buildCols steps).seen := h.1
  rw [h1, Share.spec_seen]

/-- …in the statement's words: **the names and nullability of the columns a conversion returns are those of its own
Arrow fields**, at whatever point of whatever session the conversion is made. -/
theorem later_conversion_carries_fields (steps : Share.Session) (i : Nat) (fields : List ArrowField) (cols : List Col)
    (hk : (Share.convKeys steps)[i]? = some fields) (hs : (Share.runGen steps).seen[i]? = some (some cols)) :
    cols.map (·.name) = fields.map (·.name) ∧ cols.map (·.nullable) = fields.map (·.nullable) := by
  rw [(conversions_independent steps).1, List.getElem?_map, hk] at hs
  simp only [Option.map_some, Option.some.injEq] at hs
  exact ⟨Share.map_of_mapM _ _ _ (fun f c h => (field_name_nullable_carried false f c h).1) fields cols hs,
    Share.map_of_mapM _ _ _ (fun f c h => (field_name_nullable_carried false f c h).2) fields cols hs⟩

/-- the session of the seeded change C11-w6s2: convert, rename the result's first column, convert an equal schema -/
def aliasSession : Share.Session :=
  let f : ArrowField := { name := "id", type := .prim "INT64", nullable := false }
  [.conv .fromArrow [f], .edit 0 (Share.Edit.apply (.rename 0 "identifier")), .conv .fromArrow [f]]

def namesOfConversion (st : Share.St (List ArrowField) (Option (List Col))) (i : Nat) : Option (List String) :=
  (st.seen[i]?.bind id).map (·.map (·.name))

/-- Why the fact above is needed (regression lemma for C11-w6s2): with a cache decorator on the helper **and**
`from_arrow` calling the helper, the second conversion returns the renamed column; either change alone is harmless. -/
theorem memoised_helper_aliases :
    namesOfConversion (Share.run (Share.memoGroup true true false) Share.buildCols aliasSession) 1 = some ["identifier"] ∧
    namesOfConversion (Share.run (Share.memoGroup false true false) Share.buildCols aliasSession) 1 = some ["id"] ∧
    namesOfConversion (Share.run (Share.memoGroup true false false) Share.buildCols aliasSession) 1 = some ["id"] ∧
    namesOfConversion (Share.runGen aliasSession) 1 = some ["id"] := by
  decide +kernel

/-- **expression fact** (the other direction): `FlatColumn.arrow_field` is computed on every read (a plain property),
`convert_orso_schema_to_arrow_schema`, `to_arrow` and `DataFrame.arrow` carry no cache decorator. -/
theorem to_arrow_sites_fresh_spec : ∀ s, Share.To.memoisedGen s = false := by
  intro s; cases s <;> decide

/-- **A conversion to Arrow describes the columns as they are when it is made**: for every collection of schema
objects and every session of conversions (column by column, through the schema helper, through a frame's `arrow()`)
and edits of the objects in between (any functions on the list of columns), the fields / names written are those of
the object's columns at that moment. -/
theorem to_arrow_describes_current_columns (objs : List (List Col)) (steps : List Share.To.Step) :
    Share.To.run Share.To.memoisedGen objs steps = Share.To.spec objs steps :=
  Share.To.fresh_refines _ to_arrow_sites_fresh_spec objs steps

/-- Why the fact is needed: with `arrow_field` kept per column (a cached property) a renamed column is still written
under its old name. -/
theorem kept_arrow_field_is_stale :
    let c : Col := { name := "id", type := .INTEGER, elem := none, precision := none, scale := none, nullable := false }
    let rename : Share.To.Step := .edit 0 (Share.Edit.onCols (.rename 0 "identifier"))
    (Share.To.run (Share.To.memoised true false false) [[c]] [.conv .fields 0, rename, .conv .fields 0]).getLast?
        = some (some (.fields [arrowField c])) ∧
    (Share.To.run Share.To.memoisedGen [[c]] [.conv .fields 0, rename, .conv .helper 0]).getLast?
        = some (some (.fields [arrowField { c with name := "identifier" }])) := by
  decide +kernel

end C11
