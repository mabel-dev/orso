import OrsoVerif.Model.Cursor
import OrsoVerif.Lemmas.Cursor
import OrsoVerif.Generated.CursorFns
import OrsoVerif.Lemmas.CursorFootprint
/-!
# C04 — Cursor fetches deliver every row exactly once, in order

The contract is stated on the spec machine (`Cursor.step`: a position into the rows) and carried over to the
code machine (`Cursor.Impl.step`: iterators, the `fetchmany` loop, `list(cursor)`, built from `Gen.Cursor.*`,
the definitions regenerated from `orso/dataframe.py` and `orso/converters.py` on every run): every history on a
materialised frame, every cursor-only history on a lazily backed one (a list of chunks, some of them empty).
The statements quantify over every frame, every element type and every finite history.
-/
namespace C04
open Cursor

variable {α : Type}

/-! ## Part 1 — the contract on the spec machine -/

/-- Invariant relating a state reached from `init d rows₀` to what has been delivered so far. -/
def Inv (rows₀ : List α) (s : State α) (acc : List α) : Prop :=
  acc = rows₀.take s.pos ∧ s.pos ≤ rows₀.length ∧ (s.valid = true → s.rows = rows₀)

theorem step_inv (rows₀ : List α) (s : State α) (acc : List α) (op : Op α)
    (h : Inv rows₀ s acc) : Inv rows₀ (step s op).1 (acc ++ fetched (step s op).2) := by
  obtain ⟨hacc, hp, hrows⟩ := h
  obtain ⟨hpos, hkeep, hgot⟩ := step_delivers s op
  unfold Inv
  rw [hpos, hacc]
  by_cases hv : s.valid = true
  · rw [if_pos hv, hrows hv] at hgot
    have hlen := hgot.length_le
    rw [List.length_drop] at hlen
    exact ⟨take_append_of_prefix_drop hgot, by omega, fun hv' => (hkeep hv').2.trans (hrows hv)⟩
  · rw [if_neg hv] at hgot
    rw [hgot]
    exact ⟨by simp, hp, fun hv' => absurd (hkeep hv').1 hv⟩

theorem run_inv (rows₀ : List α) (ops : List (Op α)) (s : State α) (acc : List α)
    (h : Inv rows₀ s acc) :
    Inv rows₀ (run s ops).1 (acc ++ delivered (run s ops).2) := by
  induction ops generalizing s acc with
  | nil => simpa [run, delivered] using h
  | cons op ops ih =>
    have h1 := step_inv rows₀ s acc op h
    have h2 := ih (step s op).1 _ h1
    simpa [run, delivered, List.append_assoc] using h2

/-- **Delivered rows are a prefix.**  For every frame, every default arraysize and every
finite history, the concatenation of everything the fetch calls returned is exactly the
first `pos` rows of the frame, in order, none skipped or repeated. -/
theorem fetched_is_prefix (d : Nat) (rows : List α) (ops : List (Op α)) :
    delivered (run (init d rows) ops).2 = rows.take (run (init d rows) ops).1.pos
    ∧ (run (init d rows) ops).1.pos ≤ rows.length := by
  have h := run_inv rows ops (init d rows) [] (by simp [Inv, init])
  exact ⟨by simpa using h.1, h.2.1⟩

/-- `fetchmany k` returns `min k remaining` rows (arraysize when `k` is omitted). -/
theorem fetchmany_len (s : State α) (k : Option Nat) (hv : s.valid = true) :
    ∃ rs, (step s (.fetchmany k)).2 = .many rs ∧
      rs.length = min (k.getD s.arraysize) (s.rows.length - s.pos) ∧
      rs = (s.rows.drop s.pos).take (k.getD s.arraysize) := by
  refine ⟨(s.rows.drop s.pos).take (k.getD s.arraysize), ?_, ?_, rfl⟩
  · simp [step, hv]
  · simp [List.length_take, List.length_drop]

/-- After exhaustion `fetchone` gives `None` and the others an empty list; the state does not move. -/
theorem exhausted_outputs (s : State α) (hv : s.valid = true) (he : s.rows.length ≤ s.pos) (k : Option Nat) :
    step s .fetchone = (s, .one none) ∧
    step s (.fetchmany k) = (s, .many []) ∧
    step s .fetchall = (s, .many []) := by
  have h1 : s.rows[s.pos]? = none := List.getElem?_eq_none_iff.mpr he
  have h2 : s.rows.drop s.pos = [] := List.drop_eq_nil_iff.mpr he
  simp only [step, if_pos hv, h1, h2, List.take_nil, List.length_nil, Nat.add_zero, and_self]

/-- `fetchall` delivers exactly the remaining rows and exhausts the cursor. -/
theorem fetchall_rest (s : State α) (hv : s.valid = true) (hp : s.pos ≤ s.rows.length) :
    (step s .fetchall).2 = .many (s.rows.drop s.pos) ∧ (step s .fetchall).1.pos = s.rows.length := by
  simp [step, hv]; omega

/-- Read-only observers and arraysize changes never move the cursor or change the rows. -/
theorem observe_noop (s : State α) (n : Nat) (kind : Obs) :
    step s (.observe kind) = (s, .unit) ∧
    (step s (.setArraysize n)).1.pos = s.pos ∧ (step s (.setArraysize n)).1.rows = s.rows ∧
    (step s (.setArraysize n)).1.valid = s.valid := by
  simp [step]

/-- Once a row has been appended every later fetch refuses to run, whatever else happens in between,
and the rows grew by exactly the appended row. -/
theorem after_append_refuses (s : State α) (r : α) (ops : List (Op α)) :
    (step s (.append r)).1.rows = s.rows ++ [r] ∧
    ∀ o ∈ (run (step s (.append r)).1 ops).2, fetched o = [] :=
  ⟨rfl, spent_run ops _ nofun⟩

/-- **Exhaustion is permanent.**  Once `fetchone` has answered `None`, no later call of any
history delivers a row (the fetches answer `None` / `[]`, or refuse after an append). -/
theorem none_is_final (s : State α) (h : (step s .fetchone).2 = .one none) (ops : List (Op α)) :
    (step s .fetchone).1 = s ∧ ∀ o ∈ (run (step s .fetchone).1 ops).2, fetched o = [] := by
  have hf := fetchone_none s h
  rw [hf.1]
  exact ⟨rfl, spent_run ops s hf.2⟩

/-- …and the same after a `fetchall`, and after a `fetchmany` that came back short. -/
theorem short_is_final (s : State α) (hv : s.valid = true) (k : Option Nat) (ops : List (Op α)) :
    (∀ o ∈ (run (step s .fetchall).1 ops).2, fetched o = []) ∧
    ((fetched (step s (.fetchmany k)).2).length < k.getD s.arraysize →
      ∀ o ∈ (run (step s (.fetchmany k)).1 ops).2, fetched o = []) := by
  constructor
  · apply spent_run
    intro _
    simp only [step, hv, if_true, List.length_drop]
    omega
  · intro h
    apply spent_run
    intro _
    simp only [step, hv, if_true, fetched, List.length_take, List.length_drop] at h ⊢
    omega

/-! ## Part 2 — what the source says now -/

/-- `fetchmany`: the loop runs `k` times, `arraysize` times when `k` is omitted
(`fetch_size = self.arraysize if size is None else size`, `range(fetch_size)`); an explicit `0` is `0`. -/
theorem gen_fetch_size (a : Nat) (k : Option Nat) : fetchCount a k = k.getD a := by
  cases k <;> simp [fetchCount, Gen.Cursor.loopBound, Gen.Cursor.fetchSize]

/-- The three fetch methods refuse exactly when the cursor is `None`. -/
theorem gen_guards (b : Bool) :
    Gen.Cursor.fetchoneRefuses b = b ∧ Gen.Cursor.fetchmanyRefuses b = b ∧ Gen.Cursor.fetchallRefuses b = b := by
  cases b <;> decide

/-- `__init__` always creates an iterator — also for a frame of no rows (`None` is the mark `append` leaves). -/
theorem gen_init_live (b : Bool) : Gen.Cursor.initCursorLive b = true := by
  cases b <;> decide

/-- Every completing `append` reaches `self._cursor = None`: whatever the kind of schema, and whether or
not the running byte total is being kept. -/
theorem gen_append_invalidates (schemaRel nbytesTracked : Bool) :
    Gen.Cursor.appendInvalidates schemaRel nbytesTracked = true := by
  cases schemaRel <;> cases nbytesTracked <;> decide

/-- `_RowsIterator.__next__`: stops at `max_size` rows exactly, counts one per row, and keeps loading
tables while the loaded one has no rows. -/
theorem gen_rows_iterator :
    Gen.Cursor.skipsEmptyTables = true ∧
    (∀ p m : Nat, Gen.Cursor.limitReached (p : Int) (m : Int) ↔ m ≤ p) ∧
    (∀ p : Nat, (Gen.Cursor.processedAfter (p : Int)).toNat = p + 1) := by
  refine ⟨by decide, ?_, ?_⟩
  · intro p m; unfold Gen.Cursor.limitReached; omega
  · intro p; unfold Gen.Cursor.processedAfter; omega

/-- A completing `append` on a frame whose rows are not a list (a lazily backed frame: `materialize()` has
just run the iterator the cursor *is* to its end) drops the cursor, whatever the schema and the byte total. -/
theorem gen_append_drops_cursor_of_lazy_frame (schemaRel nbytesTracked : Bool) :
    Gen.Cursor.appendDropsCursor false schemaRel nbytesTracked = true := by
  cases schemaRel <;> cases nbytesTracked <;> decide

/-- **`append` can be left by an exception only in a safe state.**  `Gen.Cursor.appendPoints` is `append`
statement by statement as the working tree has it: every statement and test that calls something (schema
validation, the row factory, `nbytes()`, …), with what has been executed when it starts.  At every one of
them, for every kind of frame: if the row has been stored the cursor has been dropped (no stale view), and
if `materialize()` has run the iterator behind a lazily backed frame to its end — outside the fetch calls,
so the cursor has nothing left to deliver — the cursor has been dropped too (the fetch calls refuse, they
do not report exhaustion over rows that were never delivered). -/
theorem gen_rejected_append_safe :
    ∀ p ∈ Gen.Cursor.appendPoints, ∀ l r n,
      (p.stored l r n = true → p.dropped l r n = true) ∧ (p.materialized false r n = true → p.dropped false r n = true) := by
  simp only [Bool.forall_bool]
  decide

theorem gen_facts : GenFacts :=
  { size := gen_fetch_size
    guardOne := fun b => (gen_guards b).1
    guardMany := fun b => (gen_guards b).2.1
    guardAll := fun b => (gen_guards b).2.2
    initLive := gen_init_live
    appendInv := gen_append_invalidates
    skips := gen_rows_iterator.1
    limit := gen_rows_iterator.2.1
    bump := gen_rows_iterator.2.2
    appendLazy := gen_append_drops_cursor_of_lazy_frame
    rejectSafe := gen_rejected_append_safe }

/-! ### the fetch methods translated statement by statement (`Gen.CursorFns`, harness/pystmt.py)

`Gen.CursorFns.fetchone/fetchmany/fetchall` are the bodies of the three methods as the working tree has
them now, in state-passing style (`none` = the method raised).  Each is proved equal to what the
contract says of it over the iterator model; `code_machine_is_generated` then shows that the fetch steps
of the code machine *are* these functions. -/

/-- `fetchone`: refuses iff the cursor is `None`; otherwise one `next`, `StopIteration` answered by `None`. -/
theorem generated_fetchone_eq_model (live : Bool) (b : Backing α) :
    Gen.CursorFns.fetchone Backing.next (!live) b = if live then some b.next else none := by
  unfold Gen.CursorFns.fetchone
  rcases hb : b.next with ⟨_ | r, b'⟩ <;> cases live <;> simp

/-- `fetchmany(k)`: refuses iff the cursor is `None`; otherwise `k` turns of `next` (`arraysize` turns when
`k` is omitted, none for `k = 0`), stopping at the first `StopIteration`, rows in the order delivered. -/
theorem generated_fetchmany_eq_model (live : Bool) (a : Nat) (k : Option Nat) (b : Backing α) :
    Gen.CursorFns.fetchmany Backing.next (!live) (a : Int) (k.map Int.ofNat) b =
      if live then some (pull (k.getD a) b) else none := by
  unfold Gen.CursorFns.fetchmany
  cases live
  · simp
  · simp only [Bool.not_true, Bool.false_eq_true, if_false, if_true]
    rw [forRange_pull]
    · cases k <;> simp
    · intro acc b r b' h; simp [h]
    · intro acc b b' h; simp [h]

/-- `fetchall`: refuses iff the cursor is `None`; otherwise `list(cursor)`. -/
theorem generated_fetchall_eq_model (drain : Backing α → List α × Backing α) (live : Bool) (b : Backing α) :
    Gen.CursorFns.fetchall drain (!live) b = if live then some (drain b) else none := by
  unfold Gen.CursorFns.fetchall
  cases live <;> simp

/-- **The fetch steps of the code machine are the generated functions.** -/
theorem code_machine_is_generated (f : Frame α) (k : Option Nat) :
    Impl.step f .fetchone =
      (match Gen.CursorFns.fetchone Backing.next (!f.live) f.backing with
        | some (r, b) => ({ f with backing := b }, .one r) | none => (f, .err)) ∧
    Impl.step f (.fetchmany k) =
      (match Gen.CursorFns.fetchmany Backing.next (!f.live) (f.arraysize : Int) (k.map Int.ofNat) f.backing with
        | some (rs, b) => ({ f with backing := b }, .many rs) | none => (f, .err)) ∧
    Impl.step f .fetchall =
      (match Gen.CursorFns.fetchall (fun b => pull b.fuel b) (!f.live) f.backing with
        | some (rs, b) => ({ f with backing := b }, .many rs) | none => (f, .err)) := by
  rw [generated_fetchone_eq_model, generated_fetchmany_eq_model, generated_fetchall_eq_model]
  simp only [Impl.step, (gen_guards _).1, (gen_guards _).2.1, (gen_guards _).2.2, gen_fetch_size]
  cases f.live <;> simp

/-! ## Part 3 — the code machine -/

/-- **The lazy source delivers its rows one by one, in order, and its end is permanent.**  For every
list of tables (empty ones anywhere), every `max_size` and every state reached: `__next__` returns the
first of the rows still to come (`StopIteration` iff there is none) and leaves the others to come. -/
theorem rows_iterator_next (c : Chunks α) (tables : List (List α)) (m : Option Nat) :
    (c.next).1 = c.rows.head? ∧ (c.next).2.rows = c.rows.tail ∧
    (Chunks.ofTables tables m : Chunks α).rows = chunkRows tables m := by
  refine ⟨(Chunks.next_spec gen_facts c).1, (Chunks.next_spec gen_facts c).2, ?_⟩
  cases m <;> simp [Chunks.ofTables, Chunks.rows, chunkRows]

/-- `list(cursor)`: the fuel the model gives the loop is enough — it returns everything that is left,
leaves nothing, and any larger fuel returns the same rows. -/
theorem fetchall_fuel_enough (b : Backing α) (j : Nat) :
    (pull b.fuel b).1 = b.rest ∧ (pull b.fuel b).2.rest = [] ∧ (pull (b.fuel + j) b).1 = (pull b.fuel b).1 :=
  ⟨(pull_fuel gen_facts b 0).1, (pull_fuel gen_facts b 0).2, (pull_fuel gen_facts b j).1.trans (pull_fuel gen_facts b 0).1.symm⟩

theorem sim_init_eager (d : Nat) (rows : List α) (dicts rel : Bool) :
    Sim (Impl.initEager d rows dicts rel) (init d rows) := by
  simp [Sim, Impl.initEager, init, gen_init_live, Backing.rest, storeOk]

theorem sim_init_lazy (d : Nat) (tables : List (List α)) (m : Option Nat) (rel : Bool) :
    Sim (Impl.initLazy d tables m rel) (init d (chunkRows tables m)) := by
  have h := (rows_iterator_next (Chunks.ofTables tables m) tables m).2.2
  simp [Sim, Impl.initLazy, init, gen_init_live, Backing.rest, storeOk, h]

/-- **Materialised frames: the code machine refines the spec machine.**  For every list of rows, both
ways of construction, both kinds of schema and *every* history (fetches, arraysize changes, observers
of every kind, appends) the outputs are those of the spec machine. -/
theorem eager_refines_spec (d : Nat) (rows : List α) (dicts rel : Bool) (ops : List (Op α)) :
    (Impl.run (Impl.initEager d rows dicts rel) ops).2
      = (run (init d rows) (Impl.annot (Impl.initEager d rows dicts rel) ops)).2 :=
  (run_sim gen_facts ops _ _ (sim_init_eager d rows dicts rel) (Or.inl rfl)).1

/-- **Lazily backed frames obey the same contract.**  For every list of tables (empty ones at the
start, in the middle, at the end), every `max_size`, and every history that reads the frame only through
the cursor, the outputs are those of the spec machine over the concatenated rows. -/
theorem lazy_refines_spec (d : Nat) (tables : List (List α)) (m : Option Nat) (rel : Bool) (ops : List (Op α))
    (hops : ∀ op ∈ ops, LazyOk op = true) :
    (Impl.run (Impl.initLazy d tables m rel) ops).2
      = (run (init d (chunkRows tables m)) (Impl.annot (Impl.initLazy d tables m rel) ops)).2 :=
  (run_sim gen_facts ops _ _ (sim_init_lazy d tables m rel) (Or.inr hops)).1

/-- The contract on the code machine, materialised frames: what the fetch calls of any history returned,
concatenated, is a prefix of the rows. -/
theorem eager_delivers_prefix (d : Nat) (rows : List α) (dicts rel : Bool) (ops : List (Op α)) :
    ∃ n, n ≤ rows.length ∧ delivered (Impl.run (Impl.initEager d rows dicts rel) ops).2 = rows.take n := by
  rw [eager_refines_spec]
  exact ⟨_, (fetched_is_prefix d rows _).2, (fetched_is_prefix d rows _).1⟩

/-- …and lazily backed frames read through the cursor: a prefix of the concatenated tables. -/
theorem lazy_delivers_prefix (d : Nat) (tables : List (List α)) (m : Option Nat) (rel : Bool) (ops : List (Op α))
    (hops : ∀ op ∈ ops, LazyOk op = true) :
    ∃ n, n ≤ (chunkRows tables m).length ∧
      delivered (Impl.run (Impl.initLazy d tables m rel) ops).2 = (chunkRows tables m).take n := by
  rw [lazy_refines_spec d tables m rel ops hops]
  exact ⟨_, (fetched_is_prefix d _ _).2, (fetched_is_prefix d _ _).1⟩

/-- **Exhaustion of a lazily backed frame is permanent.**  After any cursor-only history `pre`, if
`fetchone` answers `None` then no call of any later cursor-only history `post` delivers a row. -/
theorem lazy_exhaustion_permanent (d : Nat) (tables : List (List α)) (m : Option Nat) (rel : Bool)
    (pre post : List (Op α)) (hpre : ∀ op ∈ pre, LazyOk op = true) (hpost : ∀ op ∈ post, LazyOk op = true)
    (hnone : (Impl.step (Impl.run (Impl.initLazy d tables m rel) pre).1 .fetchone).2 = .one none) :
    ∀ o ∈ (Impl.run (Impl.step (Impl.run (Impl.initLazy d tables m rel) pre).1 .fetchone).1 post).2,
      fetched o = [] :=
  exhaustion_of_sim gen_facts _ _ (sim_init_lazy d tables m rel) pre post (Or.inr ⟨hpre, hpost⟩) hnone

/-- The same for a materialised frame, whatever the later history contains (observers, appends). -/
theorem eager_exhaustion_permanent (d : Nat) (rows : List α) (dicts rel : Bool) (pre post : List (Op α))
    (hnone : (Impl.step (Impl.run (Impl.initEager d rows dicts rel) pre).1 .fetchone).2 = .one none) :
    ∀ o ∈ (Impl.run (Impl.step (Impl.run (Impl.initEager d rows dicts rel) pre).1 .fetchone).1 post).2,
      fetched o = [] :=
  exhaustion_of_sim gen_facts _ _ (sim_init_eager d rows dicts rel) pre post (Or.inl rfl) hnone

/-! ### operations that fail part-way: rejected appends interleaved with fetches -/

/-- On the spec machine a rejected append adds no row and does not move the cursor; at most the fetch
calls refuse afterwards. -/
theorem rejected_append_changes_nothing_but_validity (s : State α) (st : Nat) (d : Bool) (r : α) :
    (step s (.reject st d r)).1.rows = s.rows ∧ (step s (.reject st d r)).1.pos = s.pos ∧
    (step s (.reject st d r)).1.arraysize = s.arraysize ∧ (step s (.reject st d r)).2 = .unit ∧
    ((step s (.reject st d r)).1.valid = true → s.valid = true) :=
  ⟨rfl, rfl, rfl, rfl, fun h => ((step_delivers s _).2.1 h).1⟩

/-- **A fetch call never misreports where the cursor is** (spec machine).  After *any* history — fetches,
observers, arraysize changes, appends, rejected appends — a fetch call either refuses or answers from
exactly the first row that has not been delivered yet: `fetchone` gives that row, and `None` only when every
row has been delivered; `fetchall` gives all the rows not delivered yet; `fetchmany(k)` the first
`min(k, remaining)` of them. -/
theorem fetch_answers_from_the_first_undelivered_row (d : Nat) (rows : List α) (ops : List (Op α)) (k : Option Nat) :
    let s := (run (init d rows) ops).1
    let n := (delivered (run (init d rows) ops).2).length
    ((step s .fetchone).2 = .err ∨ (step s .fetchone).2 = .one rows[n]?) ∧
    ((step s .fetchall).2 = .err ∨ (step s .fetchall).2 = .many (rows.drop n)) ∧
    ((step s (.fetchmany k)).2 = .err ∨ (step s (.fetchmany k)).2 = .many ((rows.drop n).take (k.getD s.arraysize))) := by
  intro s n
  have h := run_inv rows ops (init d rows) [] (by simp [Inv, init])
  obtain ⟨hacc, hpos, hrows⟩ := h
  have hn : n = s.pos := by
    show (delivered (run (init d rows) ops).2).length = _
    simp only [List.nil_append] at hacc
    rw [hacc, List.length_take]
    exact Nat.min_eq_left hpos
  by_cases hv : s.valid = true
  · have hr := hrows hv
    refine ⟨Or.inr ?_, Or.inr ?_, Or.inr ?_⟩
    · rw [hn, ← hr]
      simp only [step, hv, if_true]
      cases hg : s.rows[s.pos]? <;> rfl
    · rw [hn, ← hr]; simp only [step, if_pos hv]; rfl
    · rw [hn, ← hr]; simp only [step, if_pos hv]; rfl
  · refine ⟨Or.inl ?_, Or.inl ?_, Or.inl ?_⟩ <;> simp only [step, if_neg hv]

theorem contract_of_sim (d : Nat) (rows : List α) (f₀ : Frame α) (h₀ : Sim f₀ (init d rows)) (ops : List (Op α))
    (ha : f₀.backing.store.isSome = true ∨ ∀ op ∈ ops, LazyOk op = true) :
    let f := (Impl.run f₀ ops).1
    let n := (delivered (Impl.run f₀ ops).2).length
    ((Impl.step f .fetchone).2 = .err ∨ (Impl.step f .fetchone).2 = .one rows[n]?) ∧
    ((Impl.step f .fetchall).2 = .err ∨ (Impl.step f .fetchall).2 = .many (rows.drop n)) := by
  intro f n
  have h1 := run_sim gen_facts ops _ _ h₀ ha
  have hA : ∀ op : Op α, LazyOk op = true → Allowed f op :=
    fun op hop => ha.elim (fun h => Or.inl (h1.2.2.trans h)) (fun _ => Or.inr hop)
  have hs := fetch_answers_from_the_first_undelivered_row d rows (Impl.annot f₀ ops) none
  simp only at hs
  rw [← h1.1] at hs
  exact ⟨by rw [(step_sim gen_facts _ _ .fetchone h1.2.1 (hA _ rfl)).1]; exact hs.1,
    by rw [(step_sim gen_facts _ _ .fetchall h1.2.1 (hA _ rfl)).1]; exact hs.2.1⟩

/-- **The contract holds across rejected appends — materialised frames.**  Whatever the history — rejected
appends (left at any statement of `append`) before the first fetch, between fetches, after exhaustion,
mixed with observers, arraysize changes and appends that complete — the next fetch call either refuses or
answers from exactly the first row not delivered yet; in particular `fetchone` gives `None`, and
`fetchall` an empty list, only when every row of the frame has been delivered. -/
theorem eager_contract_across_rejected_appends (d : Nat) (rows : List α) (dicts rel : Bool) (ops : List (Op α)) :
    let f := (Impl.run (Impl.initEager d rows dicts rel) ops).1
    let n := (delivered (Impl.run (Impl.initEager d rows dicts rel) ops).2).length
    ((Impl.step f .fetchone).2 = .err ∨ (Impl.step f .fetchone).2 = .one rows[n]?) ∧
    ((Impl.step f .fetchall).2 = .err ∨ (Impl.step f .fetchall).2 = .many (rows.drop n)) :=
  contract_of_sim d rows _ (sim_init_eager d rows dicts rel) ops (Or.inl rfl)

/-- **…and lazily backed frames** (the class of C04-w6s3).  A lazily backed frame read through the cursor,
with appends and *rejected* appends anywhere in the history: `append` starts by materialising — it runs the
iterator the cursor *is* to its end, outside the fetch calls — so if it is then left by an exception the
cursor must not survive.  With the statement order the source has now (`gen_rejected_append_safe`) the next
fetch call either refuses or answers from exactly the first row not delivered yet: `None` / `[]` are
reported only after the last row. -/
theorem lazy_contract_across_rejected_appends (d : Nat) (tables : List (List α)) (m : Option Nat) (rel : Bool)
    (ops : List (Op α)) (hops : ∀ op ∈ ops, LazyOk op = true) :
    let f := (Impl.run (Impl.initLazy d tables m rel) ops).1
    let n := (delivered (Impl.run (Impl.initLazy d tables m rel) ops).2).length
    ((Impl.step f .fetchone).2 = .err ∨ (Impl.step f .fetchone).2 = .one (chunkRows tables m)[n]?) ∧
    ((Impl.step f .fetchall).2 = .err ∨ (Impl.step f .fetchall).2 = .many ((chunkRows tables m).drop n)) :=
  contract_of_sim d _ _ (sim_init_lazy d tables m rel) ops (Or.inr hops)

/-- What a rejected append does to a lazily backed frame, field by field (the step of the model is what the
source's statement order says): the arraysize, the schema kind and the byte total are as they were; the
iterator is run to its end iff `materialize()` precedes the statement that raised; the cursor is dropped iff
`self._cursor = None` does — and with the source as it is, the second whenever the first. -/
theorem rejected_append_on_lazy_frame (f : Frame α) (src : Chunks α) (hb : f.backing = .lazy src) (st : Nat) (d : Bool) (r : α) :
    let f' := (Impl.step f (.reject st d r)).1
    f'.arraysize = f.arraysize ∧ f'.schemaRel = f.schemaRel ∧ f'.nbytesTracked = f.nbytesTracked ∧
    (Impl.step f (.reject st d r)).2 = .unit ∧
    f'.backing = .lazy (if (rejectPoint st).materialized false f.schemaRel f.nbytesTracked then src.drain else src) ∧
    f'.live = (f.live && !(rejectPoint st).dropped false f.schemaRel f.nbytesTracked) ∧
    (f'.backing ≠ f.backing → f'.live = false) := by
  have hP := (rejectPoint_safe gen_facts st false f.schemaRel f.nbytesTracked).2
  simp only [Impl.step, hb, Impl.rejectDrops]
  refine ⟨trivial, trivial, trivial, trivial, trivial, trivial, ?_⟩
  intro hne
  by_cases hm : (rejectPoint st).materialized false f.schemaRel f.nbytesTracked = true
  · simp [hP hm]
  · simp [hm] at hne

/-- Non-vacuity: rejected appends between fetches on the spec machine — one that leaves the cursor alone
(a materialised frame: the history goes on), one that drops it (a lazily backed frame: refusal, never a
false `None`). -/
example :
    (run (init 2 [10, 20, 30]) [.fetchone, .reject 5 false 0, .fetchone, .fetchall, .reject 9 false 0, .fetchone]).2
      = [.one (some 10), .unit, .one (some 20), .many [30], .unit, .one none] ∧
    (run (init 2 [10, 20, 30]) [.fetchone, .reject 5 true 0, .fetchone, .fetchall]).2
      = [.one (some 10), .unit, .err, .err] := by decide +kernel

/-- Why the cursor of a lazily backed frame must not survive a rejected append: a code machine whose
iterator was run to its end by `materialize()` but whose cursor is still live (what dropping the early
`self._cursor = None` gives) answers `None` with two rows never delivered. -/
example :
    let f : Frame Nat := (Impl.step (Impl.initLazy 100 [[10, 20, 30]] none true) .fetchone).1
    let g : Frame Nat := { f with backing := match f.backing with | .lazy src => .lazy src.drain | b => b }
    (Impl.run g [.fetchone, .fetchall]).2 = [.one none, .many []] := by decide +kernel

/-! ### the lazy views as chunk sources -/

/-- **The lazy views are chunk sources.**  The generators behind `filter`, `take` and `select`, translated
from the source as the lists they produce (`Gen.CursorFns.filterRows/takeRows/selectRows`), produce the
concatenation of one chunk of one or zero rows per parent row — the shape `lazy_refines_spec` is about.
(Python's generator protocol is trusted.) -/
theorem generated_views_are_chunk_sources {β : Type} (rows : List α) (mask : List Bool) (indexes : List Nat)
    (get : α → Nat → β) (cols : List Nat) :
    Gen.CursorFns.filterRows rows mask = (filterChunks rows mask).flatten ∧
    Gen.CursorFns.takeRows rows indexes = (takeChunks rows indexes).flatten ∧
    Gen.CursorFns.selectRows get rows cols = (selectChunks get rows cols).flatten := by
  refine ⟨?_, ?_, ?_⟩
  · unfold Gen.CursorFns.filterRows filterChunks
    rw [filter_map_flatten]
    congr 1
    apply List.map_congr_left
    rintro ⟨t, m⟩ _
    cases m <;> simp
  · unfold Gen.CursorFns.takeRows takeChunks
    rw [filter_map_flatten, List.map_map]
    congr 1
    apply List.map_congr_left
    rintro ⟨m, i⟩ _
    by_cases h : i ∈ indexes <;> simp [h]
  · unfold Gen.CursorFns.selectRows selectChunks
    induction rows with
    | nil => rfl
    | cons r rows ih => simp [ih]

/-- …so a `filter` / `take` view read only through its cursor delivers a prefix of what the source's
generator expression produces. -/
theorem views_deliver_prefix (d : Nat) (rows : List α) (mask : List Bool) (indexes : List Nat) (ops : List (Op α))
    (hops : ∀ op ∈ ops, LazyOk op = true) :
    (∃ n, delivered (Impl.run (Impl.initLazy d (filterChunks rows mask) none false) ops).2
        = (Gen.CursorFns.filterRows rows mask).take n) ∧
    (∃ n, delivered (Impl.run (Impl.initLazy d (takeChunks rows indexes) none false) ops).2
        = (Gen.CursorFns.takeRows rows indexes).take n) := by
  have hv := generated_views_are_chunk_sources (β := α) rows mask indexes (fun a _ => a) []
  constructor
  · obtain ⟨n, _, h⟩ := lazy_delivers_prefix d (filterChunks rows mask) none false ops hops
    exact ⟨n, by rw [h, hv.1]; rfl⟩
  · obtain ⟨n, _, h⟩ := lazy_delivers_prefix d (takeChunks rows indexes) none false ops hops
    exact ⟨n, by rw [h, hv.2.1]; rfl⟩

/-! ## Part 4 — a frame and the frames derived from it -/

/-- Every method that hands out a new frame over rows of this one (`slice`, `head`, `tail`, `query`,
`distinct`, `+`, `to_batches`) gives it a row list of its own: `rows=self._rows[a:b]`, a list display, a
comprehension, a concatenation — never `self._rows` itself, never `self`. -/
theorem gen_derived_frames_own_rows : AllOwn := by
  intro h; cases h <;> decide

/-- …and `select` / `filter` / `take` hand out a new frame over a generator of their own (never `self`,
never the parent's list): what `SysOp.deriveLazy` models as a new frame is one. -/
theorem gen_views_are_new_frames :
    Gen.Cursor.selectIsNewFrame = true ∧ Gen.Cursor.filterIsNewFrame = true ∧ Gen.Cursor.takeIsNewFrame = true := by
  decide

/-- **Frames do not interfere** (clause 1: slicing, `+`, batching are read-only observations of the frame
they are applied to, and the frames they hand out are frames of their own).  In a system in which no two
frames hold one list — which is every system reachable with what the source says now
(`gen_derived_frames_own_rows`; the first conjunct is the invariant) — whatever the history does to the
other frames (fetches, appends, further derivations, on frames that exist or are made on the way),
frame `i` goes through its own history `proj i ops` and returns exactly what it would return alone. -/
theorem frames_independent (ops : List (SysOp α)) (s : Sys α) (hl : s.links = []) (i : Nat) (f : Frame α)
    (hf : s.frames[i]? = some f) :
    (Sys.run s ops).1.links = [] ∧
    (Sys.run s ops).1.frames[i]? = some (Impl.run f (Sys.proj i ops)).1 ∧
    Sys.trace i ops (Sys.run s ops).2 = (Impl.run f (Sys.proj i ops)).2 :=
  Sys.run_frame gen_derived_frames_own_rows ops s hl i f hf

/-- A frame of a system without shared lists that simulates `init d rows` obeys the contract over `rows`, whatever the
history does to the other frames. -/
theorem frame_contract_of_sim (s : Sys α) (hl : s.links = []) (i : Nat) (f₀ : Frame α) (hf : s.frames[i]? = some f₀)
    (d : Nat) (rows : List α) (h₀ : Sim f₀ (init d rows)) (ops : List (SysOp α))
    (ha : f₀.backing.store.isSome = true ∨ ∀ op ∈ Sys.proj i ops, LazyOk op = true) :
    Sys.trace i ops (Sys.run s ops).2 = (run (init d rows) (Impl.annot f₀ (Sys.proj i ops))).2 ∧
    ∃ n, n ≤ rows.length ∧ delivered (Sys.trace i ops (Sys.run s ops).2) = rows.take n := by
  rw [(frames_independent ops s hl i f₀ hf).2.2, (run_sim gen_facts _ _ _ h₀ ha).1]
  exact ⟨rfl, _, (fetched_is_prefix d rows _).2, (fetched_is_prefix d rows _).1⟩

/-- The contract for the frame the others were derived from: for every materialised frame and every
history of a system started from it — operations on it interleaved with derivations from it and from its
descendants and with fetches and *appends* on those — what its fetch calls return is what the spec
machine returns for its own operations: a prefix of its rows, and it refuses only after an append to
*it*.  No shared list ever arises. -/
theorem parent_contract_among_derived_frames (d : Nat) (rows : List α) (dicts rel : Bool) (ops : List (SysOp α)) :
    Sys.trace 0 ops (Sys.run (Sys.init d (Impl.initEager d rows dicts rel)) ops).2
      = (run (init d rows) (Impl.annot (Impl.initEager d rows dicts rel) (Sys.proj 0 ops))).2 ∧
    (∃ n, n ≤ rows.length ∧
      delivered (Sys.trace 0 ops (Sys.run (Sys.init d (Impl.initEager d rows dicts rel)) ops).2) = rows.take n) ∧
    (Sys.run (Sys.init d (Impl.initEager d rows dicts rel)) ops).1.links = [] := by
  have h := frame_contract_of_sim (Sys.init d (Impl.initEager d rows dicts rel)) rfl 0 _ rfl d rows
    (sim_init_eager d rows dicts rel) ops (Or.inl rfl)
  exact ⟨h.1, h.2, (frames_independent ops _ rfl 0 _ rfl).1⟩

/-- The contract for a derived frame: a frame handed out by `slice` / `head` / `tail` / `query` /
`distinct` / `+` / `to_batches` at any point of any history, holding `rows`, obeys the contract over
`rows` in every continuation — whatever is appended to or fetched from its parent or its siblings. -/
theorem derived_frame_contract (s : Sys α) (hl : s.links = []) (i : Nat) (how : Deriv) (rows : List α)
    (ops : List (SysOp α)) (hd : (Sys.step s (.derive i how rows)).2 = .unit) :
    Sys.trace s.frames.length ops (Sys.run (Sys.step s (.derive i how rows)).1 ops).2
      = (run (init s.default rows) (Impl.annot (Impl.initEager s.default rows false
          ((s.frames[i]?.map (·.schemaRel)).getD false)) (Sys.proj s.frames.length ops))).2 ∧
    ∃ n, n ≤ rows.length ∧
      delivered (Sys.trace s.frames.length ops (Sys.run (Sys.step s (.derive i how rows)).1 ops).2) = rows.take n := by
  rw [Sys.step_derive gen_derived_frames_own_rows s i how rows hd]
  exact frame_contract_of_sim { s with frames := s.frames ++ [_] } hl _ _ List.getElem?_concat_length _ rows
    (sim_init_eager _ rows false _) ops (Or.inl rfl)

/-- The same for a lazy view (`select` / `filter` / `take` of a materialised frame) read only through its
cursor, while the parent is fetched from and observed.  (A `select` view reads the parent's list when it is
read, `filter` and `take` copy it when they are called: what a view holds after an append to the parent is
not defined by the property, and the model treats the view as a source of its own — the harness does not
read a view after its parent was appended to.) -/
theorem derived_view_contract (s : Sys α) (hl : s.links = []) (i : Nat) (tables : List (List α))
    (ops : List (SysOp α)) (hd : (Sys.step s (.deriveLazy i tables)).2 = .unit)
    (hops : ∀ op ∈ Sys.proj s.frames.length ops, LazyOk op = true) :
    Sys.trace s.frames.length ops (Sys.run (Sys.step s (.deriveLazy i tables)).1 ops).2
      = (run (init s.default (chunkRows tables none))
          (Impl.annot (Impl.initLazy s.default tables none false) (Sys.proj s.frames.length ops))).2 ∧
    ∃ n, n ≤ (chunkRows tables none).length ∧
      delivered (Sys.trace s.frames.length ops (Sys.run (Sys.step s (.deriveLazy i tables)).1 ops).2)
        = (chunkRows tables none).take n := by
  rw [Sys.step_deriveLazy s i tables hd]
  exact frame_contract_of_sim { s with frames := s.frames ++ [_] } hl _ _ List.getElem?_concat_length _ _
    (sim_init_lazy _ tables none false) ops (Or.inr hops)

/-- Why the derivations must own their rows: two frames over one list (`links`).  The slice of a 2-row
frame is appended to; the frame it was taken from — never appended to, its cursor live — delivers the
foreign row. -/
example :
    let p : Frame Nat := (Impl.step (Impl.initEager 100 [10, 20] false false) .fetchone).1
    let s : Sys Nat := { frames := [p, Impl.initEager 100 [10, 20] false false], links := [(1, 0)], default := 100 }
    (Sys.run s [.on 1 (.append 99), .on 0 .fetchall, .on 1 .fetchone]).2 = [.unit, .many [20, 99], .err] := by decide +kernel

/-- …and with what the source says now the same history leaves the first frame alone. -/
example :
    (Sys.run (Sys.init 100 (Impl.initEager 100 [10, 20] false false))
      [.on 0 .fetchone, .derive 0 .head [10, 20], .on 1 (.append 99), .on 0 .fetchall, .on 1 .fetchone, .on 0 .fetchone]).2
      = [.one (some 10), .unit, .unit, .many [20], .err, .one none] := by decide +kernel

/-! ## Part 5 — what the observers do with the frame

The bodies of the observers are not in the model.  What every member of `DataFrame`, and every function
of orso a frame is handed to, does with `_cursor` and `_rows` is lifted from the source on every run
(`Gen.CursorFootprint.units`, harness/extractors/c04_footprint.py); the call graph over it is closed in
`Lemmas/CursorFootprint.lean`. -/

/-- **Only the cursor API reaches the cursor.**  Whatever member of `DataFrame` other than `__init__`,
`append` and the three fetch methods is used on a frame — directly, through another member, or through
`display.ascii_table/markdown/html_table`, `converters.to_arrow/to_pandas/to_polars`, `GroupBy`,
`TableProfile.from_dataframe` — nothing that is reached mentions `_cursor`, changes the row list in
place, hands the frame to code outside the table, or is a fetch or an append.  (Clause 1, the observers;
the analysis is syntactic, see the extractor for what it trusts.) -/
theorem observers_leave_cursor_alone :
    ∀ u ∈ Gen.CursorFootprint.units, u.name ∉ Footprint.cursorApi → Footprint.leavesCursorAlone u.name = true := by
  -- read off the table: a member outside the cursor API has a clean footprint and calls only members outside the cursor API
  have closed : ∀ v ∈ Gen.CursorFootprint.units, v.name ∉ Footprint.cursorApi →
      (!v.cursor && !v.mutates && !v.escapes) = true ∧
      ∀ c ∈ v.calls, c ∉ Footprint.cursorApi ∧ (Footprint.find c).isSome = true := by
    decide +kernel
  -- so the members outside the cursor API are closed under `calls`, and a walk from one of them meets nothing else
  intro u hu hapi
  refine Footprint.leavesCursorAlone_of_closed (fun n => n ∉ Footprint.cursorApi ∧ (Footprint.find n).isSome = true) ?_ u.name
    ⟨hapi, List.find?_isSome.mpr ⟨u, hu, beq_self_eq_true _⟩⟩
  rintro n ⟨hn, hf⟩
  obtain ⟨v, hv⟩ := Option.isSome_iff_exists.mp hf
  have hvn : v.name = n := by simpa using List.find?_some hv
  have hc := closed v (List.mem_of_find?_eq_some hv) (hvn ▸ hn)
  exact ⟨v, hv, by simpa [hc.1] using hn, hc.2⟩

/-- **The schema-level observers do not look at the rows**: `column_names`, `columncount`, `description`,
`schema` reach neither `_rows` nor `materialize()` nor an iteration — which is why a lazily backed frame
may be shown to them between fetches (clause 4: "read only through the cursor"). -/
theorem schema_observers_do_not_read_rows :
    ∀ n ∈ Gen.CursorFootprint.schemaObservers, Footprint.schemaOnly n = true ∧ (Footprint.find n).isSome = true := by
  decide +kernel

/-- Non-vacuity of the footprint table: it has the members, the call graph is followed (`shape` reaches
`materialize` through `rowcount`), and the predicates do reject (`append`, `rowcount`). -/
example : Footprint.reach "shape" = ["shape", "columncount", "rowcount", "materialize"] ∧
    Footprint.leavesCursorAlone "append" = false ∧ Footprint.leavesCursorAlone "fetchall" = false ∧
    Footprint.schemaOnly "rowcount" = false ∧ Gen.CursorFootprint.units.length ≥ 40 ∧
    Gen.CursorFootprint.extracted = true := by decide +kernel

/-- Non-vacuity: a concrete history over a 3-row frame exercising every operation. -/
example :
    let r := run (init 2 [10, 20, 30]) [.fetchone, .observe .rows, .fetchmany none, .fetchmany (some 5), .fetchone, .append 40, .fetchall]
    delivered r.2 = [10, 20, 30] ∧ r.1.pos = 3 ∧ r.1.valid = false := by decide +kernel

/-- Non-vacuity of the lazy clause: tables of 2, 0 and 3 rows (an empty one in the middle), an empty one
first and last; `fetchall` crosses the empty table, the end is final. -/
example :
    let r := Impl.run (Impl.initLazy 2 [[], [10, 20], [], [30, 40, 50], []] none true)
      [.fetchone, .fetchmany none, .observe .pure, .fetchall, .fetchone, .fetchmany (some 3), .fetchall]
    r.2 = [.one (some 10), .many [20, 30], .unit, .many [40, 50], .one none, .many [], .many []] := by decide +kernel

/-- …and with `max_size = 3` the frame has three rows. -/
example :
    (Impl.run (Impl.initLazy 2 [[10, 20], [], [30, 40, 50]] (some 3) true) [.fetchmany (some 5), .fetchone]).2
      = [.many [10, 20, 30], .one none] := by decide +kernel

/-- Why the lazy clause says "read only through the cursor": a row-level observer on a lazily backed
frame is outside the model (`Out.outside`), the machine claims nothing about it. -/
example : (Impl.step (Impl.initLazy 2 [[10]] none true) (.observe .rows)).2 = (.outside : Out Nat) := by decide

end C04
