import OrsoVerif.Model.SchemaOps
import OrsoVerif.Lemmas.SchemaOps
import OrsoVerif.Lemmas.SchemaFns
import OrsoVerif.Lemmas.SchemaHeap
import OrsoVerif.Lemmas.SchemaBattery
import OrsoVerif.Lemmas.SchemaOpaque
import OrsoVerif.Lemmas.SchemaIter
import OrsoVerif.Lemmas.SchemaEdit
import OrsoVerif.Generated.SchemaFns
/-!
# C17 — Schema union and lookup are identity-based, ordered and non-mutating

Every statement quantifies over all identity types `ι`, all name types `ν`, all schemas of any width, all keys,
every lower-casing function `lower` (so also Python's Unicode aware `str.lower`) and — for the
history theorems — every finite interleaving of lookups and removals.

"Modifies neither operand" is a statement about Python objects: in the model schemas are values,
so it holds by construction (`program_add_keeps_registers`); on a heap of column-list objects it is
`heap_refines_values`, given that `__add__` copies the left list (read from the source).  On the
running code it is *checked* by the correspondence (operands are snapshotted around every `+`, the
sum's column list must be a new list).
-/
set_option linter.unusedSectionVars false
namespace C17
open SchemaOps

variable {ι ν : Type} [DecidableEq ι] [DecidableEq ν]

/-! ## Union -/

/-- **The sum lists the left columns, then the right-hand columns whose identity is not already
present, each once and in order.**  `fresh seen cs` is the declarative reading: drop the columns
whose identity is in `seen`, then keep the first column of every identity (`firstByKey`). -/
theorem union_spec (a b : Schema ι ν) :
    (union a b).columns = a.columns ++ fresh (ids a.columns) b.columns := by
  rw [union_columns, news_eq_fresh]

/-- The same clause spelled out without `fresh`: the appended part `r` is a subsequence of the
right operand (order kept), carries no identity twice and none of the left operand's, covers
every right-hand identity that the left operand lacks, and every appended column is the *first*
right-hand column with its identity. -/
theorem union_right_part (a b : Schema ι ν) :
    ∃ r, (union a b).columns = a.columns ++ r
      ∧ r.Sublist b.columns
      ∧ (ids r).Nodup
      ∧ (∀ c ∈ r, c.identity ∉ ids a.columns)
      ∧ (∀ c ∈ b.columns, c.identity ∉ ids a.columns → c.identity ∈ ids r)
      ∧ (∀ c ∈ r, b.columns.find? (fun d => decide (d.identity = c.identity)) = some c) := by
  have hnew : ∀ c ∈ fresh (ids a.columns) b.columns, c.identity ∉ ids a.columns := fun c hc =>
    ((mem_ids_fresh _ _ _).mp (List.mem_map_of_mem hc)).2
  refine ⟨_, union_spec a b, (firstByKey_sublist _ _).trans List.filter_sublist, nodup_ids_fresh _ _, hnew,
    fun c hc hn => (mem_ids_fresh _ _ _).mpr ⟨List.mem_map_of_mem hc, hn⟩, fun c hc => ?_⟩
  -- `c` is the first of its identity among the right-hand columns the left operand lacks; the others do not have its identity
  refine find?_filter_of _ _ _ _ (firstByKey_first (fun d : Col ι ν => d.identity) _ c hc) fun d hd => ?_
  rw [of_decide_eq_true hd]
  exact decide_eq_true (hnew c hc)

/-- The sum keeps the left schema's name and aliases. -/
theorem union_keeps_name_aliases (a b : Schema ι ν) :
    (union a b).name = a.name ∧ (union a b).aliases = a.aliases := ⟨rfl, rfl⟩

/-- If the left operand carries no identity twice, neither does the sum — whatever the right
operand repeats. -/
theorem union_identities_nodup (a b : Schema ι ν) (h : (ids a.columns).Nodup) :
    (ids (union a b).columns).Nodup := by
  rw [union_spec, ids_append]
  exact List.nodup_append.mpr ⟨h, nodup_ids_fresh _ _, fun x hx y hy hxy =>
    ((mem_ids_fresh _ _ y).mp hy).2 (hxy ▸ hx)⟩

/-- An identity occurs in the sum exactly when it occurs in one of the operands. -/
theorem union_identities_mem (a b : Schema ι ν) (i : ι) :
    i ∈ ids (union a b).columns ↔ i ∈ ids a.columns ∨ i ∈ ids b.columns := by
  rw [union_spec, ids_append, List.mem_append, mem_ids_fresh]
  by_cases hi : i ∈ ids a.columns
  · simp only [hi, true_or]
  · simp only [hi, false_or, not_false_eq_true, and_true]

/-- **Duplicate identities inside one operand, exactly.**  How often an identity occurs in the sum: as often as
in the left operand when the left operand has it (the left columns are copied whole, repeats included — the sum
does *not* de-duplicate its left operand), otherwise once if the right operand has it (however often it repeats
there), otherwise never. -/
theorem union_identity_count (a b : Schema ι ν) (i : ι) :
    (ids (union a b).columns).count i =
      if i ∈ ids a.columns then (ids a.columns).count i else if i ∈ ids b.columns then 1 else 0 := by
  -- the appended part carries no identity twice: there an identity counts one or nought
  rw [union_spec, ids_append, List.count_append, (nodup_ids_fresh _ _).count]
  simp only [mem_ids_fresh]
  by_cases hi : i ∈ ids a.columns
  · simp only [hi, not_true_eq_false, and_false, if_false, Nat.add_zero, if_true]
  · simp only [hi, not_false_eq_true, and_true, if_false, List.count_eq_zero.mpr hi, Nat.zero_add]

/-- **Chains.** `(a + b) + c = a + (b + c)` as schemas (name, aliases and the whole column list),
for all operands, duplicate identities included. -/
theorem union_assoc (a b c : Schema ι ν) :
    union (union a b) c = union a (union b c) := by
  refine congrArg (Schema.mk a.name a.aliases) ?_
  show (union (union a b) c).columns = (union a (union b c)).columns
  rw [union_columns (union a b) c, union_columns a (union b c), union_columns a b,
    union_columns b c, news_append, ids_append, List.append_assoc]
  congr 2
  -- what `b + c` appends to `b` is scanned after `b`, whose identities are by then all seen
  exact (news_news _ _ (ids_subset_news _ _) _).symm

/-- The law as DESIGN.md (section 6) names it: both bracketings list the same identities in the same order. -/
theorem union_assoc_on_identities (a b c : Schema ι ν) :
    ids (union (union a b) c).columns = ids (union a (union b c)).columns := by
  rw [union_assoc]

/-- A chain `a + b₁ + … + bₙ` is the left schema followed by the not-yet-present columns of the
concatenated right operands, first of each identity, in order; name and aliases are `a`'s. -/
theorem union_chain_spec (a : Schema ι ν) (bs : List (Schema ι ν)) :
    (unionAll a bs).columns = a.columns ++ fresh (ids a.columns) (bs.flatMap (·.columns))
    ∧ (unionAll a bs).name = a.name ∧ (unionAll a bs).aliases = a.aliases := by
  induction bs generalizing a with
  | nil => exact ⟨(List.append_nil _).symm, rfl, rfl⟩
  | cons b bs ih =>
    obtain ⟨h1, h2, h3⟩ := ih (union a b)
    refine ⟨?_, h2, h3⟩
    show (unionAll (union a b) bs).columns = _
    rw [h1, union_columns, List.flatMap_cons, ← news_eq_fresh, ← news_eq_fresh, news_append, ids_append,
      List.append_assoc]

/-- Adding a schema to itself (or anything already contained) appends nothing. -/
theorem union_absorbs (a b : Schema ι ν) (h : ∀ c ∈ b.columns, c.identity ∈ ids a.columns) :
    (union a b).columns = a.columns := by
  have : b.columns.filter (fun c => decide (c.identity ∉ ids a.columns)) = [] :=
    List.filter_eq_nil_iff.mpr fun c hc => by simpa using h c hc
  rw [union_spec, fresh, this, firstByKey, List.append_nil]

/-! ## Lookup -/

/-- **Lookup returns the first column that bears the key.**  `find_column` (either mode) returns
`c` exactly when the column list splits as `pre ++ c :: post` with `c` bearing the key (as its
name or one of its aliases, after `norm`) and no column of `pre` bearing it. -/
theorem find_first (norm : ν → ν) (k : ν) (cols : List (Col ι ν)) (c : Col ι ν) :
    findCol norm k cols = some c ↔
      ∃ pre post, cols = pre ++ c :: post ∧ c.bears norm k = true ∧ ∀ d ∈ pre, d.bears norm k = false := by
  rw [findCol_eq_find?, List.find?_eq_some_iff_append]
  simp only [Bool.not_eq_eq_eq_not, Bool.not_true]
  exact ⟨fun ⟨hc, pre, post, hs, hpre⟩ => ⟨pre, post, hs, hc, hpre⟩,
    fun ⟨pre, post, hs, hc, hpre⟩ => ⟨hc, pre, post, hs, hpre⟩⟩

/-- `find_column` is `List.find?` with the "bears the key" test, and `find` dispatches on the
`case_insensitive` flag between `lower` and the identity. -/
theorem find_is_find? (lower : ν → ν) (k : ν) (ci : Bool) (cols : List (Col ι ν)) :
    find lower cols k ci = cols.find? (fun c => c.bears (if ci then lower else id) k) := by
  cases ci <;> simp [find, findCol_eq_find?]

/-- **None exactly when no column bears the key** — equivalently when the (normalised) key is not in
the (normalised) list of all names and aliases. -/
theorem find_none_iff (norm : ν → ν) (k : ν) (cols : List (Col ι ν)) :
    (findCol norm k cols = none ↔ ∀ d ∈ cols, d.bears norm k = false)
    ∧ (findCol norm k cols = none ↔ norm k ∉ (allColumnNames cols).map norm) := by
  have h1 : findCol norm k cols = none ↔ ∀ d ∈ cols, d.bears norm k = false := by
    simp only [findCol_eq_find?, List.find?_eq_none, Bool.not_eq_true]
  refine ⟨h1, ?_⟩
  rw [h1, not_mem_allColumnNames]

/-- **Lookup agrees with positional access, iteration order and the list of all names.**  When a
lookup returns `c`, `c` sits at some position `i = pre.length`; `column(i)` and the negative index
`column(i - len)` return the same column; `column(name)` is `find_column(name)`; the `i`-th entry
of `column_names` / of the iteration is `c.name`; the list of all names and aliases is the
concatenation `… pre … ++ c.all_names ++ … post …` and the key first occurs in `c`'s segment. -/
theorem find_agrees_positional (norm : ν → ν) (k : ν) (cols : List (Col ι ν)) (c : Col ι ν)
    (h : findCol norm k cols = some c) :
    ∃ pre post, cols = pre ++ c :: post
      ∧ column cols (.idx (pre.length : Int)) = .col (some c)
      ∧ column cols (.idx (-((post.length : Int) + 1))) = .col (some c)
      ∧ (columnNames cols)[pre.length]? = some c.name
      ∧ allColumnNames cols = allColumnNames pre ++ c.allNames ++ allColumnNames post
      ∧ norm k ∉ (allColumnNames pre).map norm
      ∧ norm k ∈ c.allNames.map norm := by
  obtain ⟨pre, post, rfl, hc, hpre⟩ := (find_first norm k cols c).mp h
  refine ⟨pre, post, rfl, ?_, ?_, ?_, ?_, ?_, of_decide_eq_true hc⟩
  · rw [column, pyIndex_nonneg, ofIndex_some]
  · rw [column, pyIndex_neg, ofIndex_some]
  · simp [columnNames]
  · simp only [SchemaFnsLemmas.allColumnNames_eq_flatMap, List.flatMap_append, List.flatMap_cons, List.append_assoc]
  · exact (not_mem_allColumnNames norm k pre).mpr hpre

/-- `column(name)` is exactly the case-sensitive `find_column(name)`; `column(i)` is Python list
indexing: defined (and a member of the schema) exactly for `-len ≤ i < len`, `IndexError` otherwise. -/
theorem column_spec (lower : ν → ν) (cols : List (Col ι ν)) :
    (∀ k, column cols (.name k) = .col (find lower cols k false))
    ∧ (∀ i : Int, column cols (.idx i) = .indexError ↔ (i ≥ cols.length ∨ i < -(cols.length : Int)))
    ∧ (∀ (i : Nat) (h : i < cols.length),
        column cols (.idx (i : Int)) = .col (some cols[i])
        ∧ column cols (.idx ((i : Int) - cols.length)) = .col (some cols[i])) := by
  refine ⟨fun k => rfl, fun i => ?_, fun i h => ⟨?_, ?_⟩⟩
  · rw [← pyIndex_none_iff, column]
    cases pyIndex cols i <;> simp [Out.ofIndex]
  · rw [column, pyIndex_natCast, List.getElem?_eq_getElem h, ofIndex_some]
  · rw [column, pyIndex_sub_length cols i h, List.getElem?_eq_getElem h, ofIndex_some]

/-- Looking a column up by its own name returns the column at the first position bearing that
name: itself when no earlier column has the name as name or alias. -/
theorem find_by_own_name (pre post : List (Col ι ν)) (c : Col ι ν)
    (hpre : ∀ d ∈ pre, d.bears id c.name = false) :
    findCol id c.name (pre ++ c :: post) = some c
    ∧ column (pre ++ c :: post) (.name c.name) = column (pre ++ c :: post) (.idx (pre.length : Int)) := by
  have h := (find_first id c.name _ c).mpr ⟨pre, post, rfl, bears_own_name c, hpre⟩
  refine ⟨h, ?_⟩
  rw [column, column, h, pyIndex_nonneg, ofIndex_some]

/-- **The list of all names and aliases**: per column, in column order, the aliases (if any) and
then the name; `column_names` and iteration list the names in column order; a key is found exactly
when it is in the list. -/
theorem allNames_spec (cols : List (Col ι ν)) :
    allColumnNames cols = cols.flatMap (fun c =>
      if Gen.SchemaOps.aliasesFirst then (c.aliases.getD []) ++ [c.name] else [c.name] ++ (c.aliases.getD []))
    ∧ columnNames cols = cols.map (·.name)
    ∧ (∀ k, k ∈ allColumnNames cols ↔ (findCol id k cols).isSome = true)
    ∧ (∀ k, k ∈ columnNames cols → k ∈ allColumnNames cols) := by
  refine ⟨?_, rfl, fun k => ?_, fun k hk => ?_⟩
  · rw [SchemaFnsLemmas.allColumnNames_eq_flatMap]
    congr 1
    funext c
    cases hal : c.aliases <;> cases hf : Gen.SchemaOps.aliasesFirst <;> simp [Col.allNames, hal, hf]
  · rw [Option.isSome_iff_ne_none, Ne, (find_none_iff id k cols).2, List.map_id]
    exact Decidable.not_not.symm
  · obtain ⟨c, hc, rfl⟩ := List.mem_map.mp hk
    rw [SchemaFnsLemmas.allColumnNames_eq_flatMap]
    exact List.mem_flatMap.mpr ⟨c, hc, name_mem_allNames c⟩

/-! ## Removal -/

/-- **Removal by name deletes exactly the first column with that name and nothing else.**
`pop_column(k)` returns `c` exactly when the columns split as `pre ++ c :: post` with
`c.name = k` and no column of `pre` named `k` (aliases do not count), and then what remains is
`pre ++ post`; it returns `None` exactly when no column is named `k`, and then nothing changes. -/
theorem pop_removes_exactly_first_named (k : ν) (cols : List (Col ι ν)) :
    (∀ c cols', popCol k cols = (some c, cols') ↔
        ∃ pre post, cols = pre ++ c :: post ∧ c.name = k ∧ (∀ d ∈ pre, d.name ≠ k) ∧ cols' = pre ++ post)
    ∧ ((popCol k cols).1 = none ↔ k ∉ columnNames cols)
    ∧ ((popCol k cols).1 = none → (popCol k cols).2 = cols) := by
  refine ⟨fun c cols' => popCol_eq_some_iff k cols cols' c, ?_, fun h => ?_⟩
  · rw [popCol_fst, List.find?_eq_none]
    simp [columnNames]
  · rw [popCol_of_find?_eq_none ((popCol_fst k cols).symm.trans h)]

/-- Removal agrees with lookup: the names lose exactly the first occurrence of `k`; if the column
found under `k` is *named* `k` it is the one removed; and a lookup of any key the removed column
does not bear gives the same answer before and after. -/
theorem pop_agrees_with_lookup (norm : ν → ν) (k : ν) (cols : List (Col ι ν)) :
    columnNames (popCol k cols).2 = (columnNames cols).erase k
    ∧ (∀ c, findCol id k cols = some c → c.name = k → (popCol k cols).1 = some c)
    ∧ (∀ c k', (popCol k cols).1 = some c → c.bears norm k' = false →
        findCol norm k' (popCol k cols).2 = findCol norm k' cols) := by
  refine ⟨?_, ?_, ?_⟩
  · rw [popCol_eq, columnNames, columnNames, List.erase_eq_eraseP, List.eraseP_map]
    exact congrArg (fun p => (cols.eraseP p).map _) (funext fun c => decide_eq_decide.mpr eq_comm)
  · intro c hf hn
    obtain ⟨pre, post, rfl, -, hpre⟩ := (find_first id k cols c).mp hf
    have hpre' : ∀ d ∈ pre, d.name ≠ k := fun d hd hdk =>
      Bool.false_ne_true ((hpre d hd).symm.trans (hdk ▸ bears_own_name d))
    rw [(popCol_eq_some_iff k _ (pre ++ post) c).mpr ⟨pre, post, rfl, hn, hpre', rfl⟩]
  · intro c k' hp hb
    obtain ⟨pre, post, hs, -, -, h2⟩ := (popCol_eq_some_iff k cols (popCol k cols).2 c).mp (Prod.ext hp rfl)
    rw [h2, hs]
    simp only [findCol_append, findCol, hb, Bool.false_eq_true, if_false]

/-! ## Histories: lookups interleaved with removals -/

/-- Only removal changes a schema: every other operation returns it as it was. -/
theorem lookups_do_not_modify (lower : ν → ν) (cols : List (Col ι ν)) (op : Op ν)
    (h : op.isPop = false) : (step lower cols op).1 = cols := by
  cases op <;> simp_all [step, Op.isPop]

/-- For every history, the columns left are determined by the removals alone, in their order —
the lookups interleaved with them have no effect. -/
theorem history_state_only_removals (lower : ν → ν) (ops : List (Op ν)) (cols : List (Col ι ν)) :
    (run lower cols ops).1 =
      (ops.filter Op.isPop).foldl (fun cs op => (step lower cs op).1) cols := by
  induction ops generalizing cols with
  | nil => simp [run]
  | cons op ops ih =>
    cases hop : op.isPop
    · have := lookups_do_not_modify lower cols op hop
      simp [run, ih, hop, this]
    · simp [run, ih, hop]

/-- **Invariant over all histories.**  Whatever lookups and removals are interleaved: the columns
left are a subsequence of the original ones (order never changes), the removed columns together
with the remaining ones are a rearrangement of the original list (nothing else is lost, nothing is
duplicated), and every column any lookup returned belongs to the original schema. -/
theorem history_conserves (lower : ν → ν) (ops : List (Op ν)) (cols : List (Col ι ν)) :
    (run lower cols ops).1.Sublist cols
    ∧ (removed (run lower cols ops).2 ++ (run lower cols ops).1).Perm cols
    ∧ (∀ c, Out.col (some c) ∈ (run lower cols ops).2 → c ∈ cols) := by
  induction ops generalizing cols with
  | nil => exact ⟨List.Sublist.refl _, List.Perm.refl _, fun c hc => nomatch hc⟩
  | cons op ops ih =>
    obtain ⟨ih1, ih2, ih3⟩ := ih (step lower cols op).1
    have hsub : (step lower cols op).1.Sublist cols := by
      cases op
      case pop k =>
        show (popCol k cols).2.Sublist cols
        rw [popCol_eq]
        exact List.eraseP_sublist
      all_goals exact List.Sublist.refl _
    refine ⟨ih1.trans hsub, removed_step_perm lower cols _ op _ ih2, fun c hc => ?_⟩
    rcases List.mem_cons.mp hc with hc | hc
    · exact mem_of_step hc.symm
    · exact hsub.subset (ih3 c hc)

/-! ## Programs over several schemas; the heap of list objects -/

/-- In the model a sum never touches the registers that exist (operands included); it only
appends the new schema.  (On the Python side this is what the correspondence checks.) -/
theorem program_add_keeps_registers (lower : ν → ν) (regs regs' : List (Schema ι ν)) (i j : Nat)
    (o : POut ι ν) (h : pstep lower regs (.add i j) = some (regs', o)) :
    ∃ a b, regs[i]? = some a ∧ regs[j]? = some b ∧ regs' = regs ++ [union a b]
      ∧ o = .schema (union a b) ∧ ∀ r, r < regs.length → regs'[r]? = regs[r]? := by
  simp only [pstep] at h
  split at h
  · cases h
    exact ⟨_, _, ‹_›, ‹_›, rfl, rfl, fun r hr => List.getElem?_append_left hr⟩
  · cases h

/-- **Non-mutation as a frame property, for every interleaving.**  Run any program over any number of schemas
(sums of registers, sums of sums, lookups and removals anywhere): what register `q` holds at the end, and every
answer the operations addressed to `q` got, are those of running just *its own* operations on its own initial
columns — nothing done to another schema (in particular to a sum built from `q`, or to an operand `q` was built
from) shows through, and building sums from `q` never changes it. -/
theorem program_frame (lower : ν → ν) (prog : List (POp ν)) (regs regs' : List (Schema ι ν))
    (outs : List (POut ι ν)) (h : prun lower regs prog = some (regs', outs))
    (q : Nat) (s : Schema ι ν) (hq : regs[q]? = some s) :
    regs'[q]? = some { s with columns := (run lower s.columns (opsOn q prog)).1 }
    ∧ outsOn q prog outs = (run lower s.columns (opsOn q prog)).2 := by
  induction prog generalizing regs outs s with
  | nil =>
    cases h
    exact ⟨hq, rfl⟩
  | cons op rest ih =>
    obtain ⟨regs1, o, os, hp, hr, rfl⟩ := prun_cons_some h
    cases op with
    | add i j =>
      obtain ⟨a, b, -, -, rfl, rfl, -⟩ := program_add_keeps_registers lower _ _ i j _ hp
      exact ih _ _ hr s (List.getElem?_append_of_eq_some _ hq)
    | on r op =>
      obtain ⟨sr, hrr, rfl, rfl⟩ := pstep_on_some hp
      by_cases hrq : r = q
      · subst hrq
        cases hq.symm.trans hrr
        obtain ⟨h1, h2⟩ := ih _ _ hr _ (List.getElem?_set_self (List.getElem?_eq_some_iff.mp hq).1)
        simp only [opsOn, outsOn, ↓reduceIte, run]
        exact ⟨h1, congrArg _ h2⟩
      · have := ih _ _ hr s ((List.getElem?_set_ne hrq).trans hq)
        simpa only [opsOn, outsOn, if_neg hrq] using this

/-- **"Modifies neither operand" on Python objects.**  Registers hold *references* to column-list objects
(`Model/SchemaHeap.lean`); `pop_column` changes a list in place; `__add__` does what the source does with the left
operand's list — `Gen.SchemaOps.addCopies` is re-read from `orso/schema.py` on every run (`self.columns[:]` /
`list(self.columns)`).  From any state in which no two schemas share a column list, every program runs on the heap
exactly as on the value-level machine all other theorems are about, and ends again with no shared list: so on the
objects, too, a sum modifies neither operand, and removing from a sum (or an operand) never shows through. -/
theorem heap_refines_values (lower : ν → ν) (prog : List (POp ν)) (st : SchemaHeap.St ι ν) (hwf : st.WF) :
    (SchemaHeap.hrun Gen.SchemaOps.addCopies lower st prog).map (fun r => (r.1.abs, r.2)) = prun lower st.abs prog
    ∧ ∀ st' os, SchemaHeap.hrun Gen.SchemaOps.addCopies lower st prog = some (st', os) → st'.WF := by
  have hc : Gen.SchemaOps.addCopies = true := by decide
  rw [hc]
  induction prog generalizing st with
  | nil => exact ⟨rfl, fun _ _ h => by cases h; exact hwf⟩
  | cons op ops ih =>
    obtain ⟨h1, h2⟩ := SchemaHeap.heap_refines_step lower st op hwf
    simp only [SchemaHeap.hrun, prun, ← h1]
    cases hs : SchemaHeap.hstep true lower st op with
    | none => exact ⟨rfl, fun _ _ h => by cases h⟩
    | some r =>
      obtain ⟨ih1, ih2⟩ := ih r.1 (h2 r.1 r.2 hs)
      simp only [Option.map_some, ← ih1]
      cases hr : SchemaHeap.hrun true lower r.1 ops with
      | none => exact ⟨rfl, fun _ _ h => by cases h⟩
      | some r2 => exact ⟨rfl, fun _ _ h => by cases h; exact ih2 _ _ hr⟩

/-- The copy is what makes it true: were `__add__` to extend the left operand's own list, `a + b` would change
`a` (one column before, two after) — a well-formed state, one operation, a different left operand. -/
theorem sum_without_copy_modifies_left :
    ∃ (st : SchemaHeap.St Nat Nat) (st' : SchemaHeap.St Nat Nat) (o : POut Nat Nat),
      st.WF ∧ SchemaHeap.hstep false id st (.add 0 1) = some (st', o)
      ∧ (st.abs[0]?.map (·.columns)) = some [⟨0, 10, 1, none⟩]
      ∧ (st'.abs[0]?.map (·.columns)) = some [⟨0, 10, 1, none⟩, ⟨1, 11, 2, none⟩] := by
  exact ⟨{ heap := [[⟨0, 10, 1, none⟩], [⟨1, 11, 2, none⟩]], regs := [⟨7, [], 0⟩, ⟨9, [], 1⟩] }, _, _,
    ⟨by decide, by decide⟩, rfl, by decide, by decide⟩

/-! ## "By name" and "identity-based", exactly: what each operation may look at -/

/-- **A name is a name, whatever it looks like.**  Rename all names and aliases (and the keys of the operations) by any
injective `f` (for the case-insensitive lookups: any `f` under which the new lower-casing `lower'` identifies exactly
what `lower` identified): every history of lookups, positional accesses, listings and removals runs the same, its
answers and the columns left being the renamed ones.  So no operation can depend on *what* a name is — only on which
names are equal: `column('1')` cannot read `'1'` as a position, a lookup cannot strip or pad its key, `'None'` and `''`
are names like any other (rename `'1' ↦ 'x'` and the answer would have to stay the same column).  The translated
source is held to this by `generated_column_eq_model` / `generated_find_column_eq_model` /
`generated_pop_column_eq_model`, which hold for every `StrOps`. -/
theorem names_are_opaque {ν' : Type} [DecidableEq ν'] (f : ν → ν') (hf : ∀ x y, f x = f y → x = y)
    (lower : ν → ν) (lower' : ν' → ν') (hr : Respects f lower lower') (ops : List (Op ν)) (cols : List (Col ι ν)) :
    run lower' (cols.map (Col.rename f)) (ops.map (Op.rename f))
      = ((run lower cols ops).1.map (Col.rename f), (run lower cols ops).2.map (Out.rename f)) := by
  rw [Out.rename_eq_map]
  exact run_map (Col.rename f) f hf (fun _ => rfl) (allNames_rename f) hr ops cols

/-- The counterexample that shows the theorem above has teeth: `column` as C17-w4s3 wrote it (a decimal name below the
width is a position) does *not* commute with the injective renaming `n ↦ n + 1`: on columns named `1, 0` the key `1`
gives the column at position 1; renamed (`2, 1`, key `2`) it gives the column *named* `2`, which is the other one. -/
theorem text_as_position_is_not_natural :
    let cols : List (Col Nat Nat) := [⟨0, 10, 1, none⟩, ⟨1, 11, 0, none⟩]
    let f : Nat → Nat := (· + 1)
    columnTextAsPosition (fun _ => true) (fun n : Nat => (n : Int)) (cols.map (Col.rename f)) (.name (f 1))
      ≠ (columnTextAsPosition (fun _ => true) (fun n : Nat => (n : Int)) cols (.name 1)).rename f
    ∧ column (cols.map (Col.rename f)) (.name (f 1)) = (column cols (.name 1)).rename f := by
  decide

/-- **Lookup, positional access, listing and removal never look at identities**: give every column another identity
(by any function — distinct identities may even collapse) and every history runs the same. -/
theorem lookup_ignores_identities {ι' : Type} [DecidableEq ι'] (h : ι → ι') (lower : ν → ν) (ops : List (Op ν))
    (cols : List (Col ι ν)) :
    run lower (cols.map (Col.relabel h)) ops
      = ((run lower cols ops).1.map (Col.relabel h), (run lower cols ops).2.map (Out.relabel h)) := by
  have := run_map (Col.relabel h) id (fun _ _ e => e) (fun _ => rfl)
    (fun c => (allNames_relabel h c).trans (List.map_id _).symm) (fun _ _ => Iff.rfl) (lower := lower) ops cols
  rwa [Op.rename_id, List.map_id, ← Out.relabel_eq_map] at this

/-- **The sum is identity-based and nothing else**: change the columns of both operands by any map that keeps
identities (other names — even all the same —, other aliases, other objects) and the sum is the changed sum: which
columns it lists, and in which order, depends on identities alone. -/
theorem union_ignores_names {ν₂ : Type} [DecidableEq ν₂] (g : Col ι ν → Col ι ν₂)
    (hg : ∀ c, (g c).identity = c.identity) (a b : Schema ι ν) (n n' : ν₂) (al al' : List ν₂) :
    (union ⟨n, al, a.columns.map g⟩ ⟨n', al', b.columns.map g⟩).columns = (union a b).columns.map g := by
  simp only [union, ids_map g hg]
  exact unionLoop_map g hg _ _ _

/-! ## The source the model was written from -/

/-- What the generated functions cannot say, as read from `orso/schema.py` and `orso/tools.py` on this run:
`__add__` starts from a *copy* of the left column list (an object-level fact: in the model lists are values) and
identities are 16 characters wide.  (How the tests of `__add__`, `pop_column`, `find_column` and `column` are spelled —
`("identity", "not in")`, `("name", "==")` … — is not held here: what they mean is, by `generated_*_eq_model` below,
since a spelling held fast alarms on `if x in seen: continue`, `column_name == column.name`, a hoisted `.lower()` or
`isinstance(i, str)` tested first, which change nothing.) -/
theorem source_shape :
    Gen.SchemaOps.addCopies = true ∧ Gen.SchemaOps.identityWidth = 16 := by decide

/-! ## Non-vacuity -/

/-- Columns used by the examples: `(tag, identity, name, aliases)`. -/
private def c0 : Col Nat Nat := ⟨0, 10, 1, some [2]⟩   -- name 1, alias 2
private def c1 : Col Nat Nat := ⟨1, 11, 2, none⟩        -- name 2 (the alias of c0), aliases None
private def c2 : Col Nat Nat := ⟨2, 10, 3, some []⟩     -- same identity as c0, other name
private def c3 : Col Nat Nat := ⟨3, 12, 1, some [4, 3]⟩ -- same name as c0, other identity
private def c4 : Col Nat Nat := ⟨4, 12, 5, none⟩        -- repeats identity 12 on the right

/-- A union with an overlapping identity, a same-named-but-different-identity column and an
identity repeated inside the right operand; both bracketings of a chain. -/
example :
    let a : Schema Nat Nat := ⟨7, [8], [c0, c1]⟩
    let b : Schema Nat Nat := ⟨9, [], [c2, c3, c4, c1]⟩
    (union a b).columns = [c0, c1, c3] ∧ (union a b).name = 7 ∧ (union a b).aliases = [8]
    ∧ (union b a).columns = [c2, c3, c4, c1]
    ∧ (ids a.columns).Nodup
    ∧ union (union a b) ⟨0, [], [c4, c2]⟩ = union a (union b ⟨0, [], [c4, c2]⟩) := by decide

/-- Lookup by alias finds an earlier column than the one *named* by the key; removal by the same
key removes the later one; case-insensitive lookup with `lower := (· % 10)`. -/
example :
    let cols := [c0, c1, c2, c3]
    findCol id 2 cols = some c0 ∧ popCol 2 cols = (some c1, [c0, c2, c3])
    ∧ findCol id 3 cols = some c2 ∧ findCol id 4 cols = some c3 ∧ findCol id 9 cols = none
    ∧ findCol (· % 10) 13 cols = some c2 ∧ findCol id 13 cols = none
    ∧ (Gen.SchemaOps.aliasesFirst = true → allColumnNames cols = [2, 1, 2, 3, 4, 3, 1])
    ∧ column cols (.idx (-1)) = .col (some c3) ∧ column cols (.idx 4) = .indexError
    ∧ column cols (.idx (-5)) = .indexError := by decide

example :
    let r := run (· % 10) [c0, c1, c2, c3] [.find 1 false, .pop 1, .find 1 false, .pop 1, .find 1 false,
      .column (.idx 0), .pop 7, .names]
    r.1 = [c1, c2] ∧ removed r.2 = [c0, c3]
    ∧ r.2 = [.col (some c0), .popped (some c0), .col (some c3), .popped (some c3), .col none,
             .col (some c1), .popped none, .strs [2, 3]] := by decide

/-- The frame theorem and the heap refinement on a concrete program: two schemas sharing the column *object*
`c1`, their sum, a removal from the sum, a removal from the left operand, lookups on all three.  The hypotheses
(`prun … = some …`, `WF`) hold, and the three registers end as their own operations alone dictate. -/
example :
    let regs : List (Schema Nat Nat) := [⟨7, [8], [c0, c1]⟩, ⟨9, [], [c2, c3, c1]⟩]
    let prog : List (POp Nat) := [.add 0 1, .on 2 (.pop 2), .on 0 (.pop 1), .on 2 (.find 1 false), .on 1 (.names), .on 0 (.names)]
    let st : SchemaHeap.St Nat Nat := { heap := [[c0, c1], [c2, c3, c1]], regs := [⟨7, [8], 0⟩, ⟨9, [], 1⟩] }
    (prun (· % 10) regs prog).map (fun r => r.1.map (·.columns)) = some [[c1], [c2, c3, c1], [c0, c3]]
    ∧ opsOn 0 prog = [.pop 1, .names] ∧ opsOn 2 prog = [.pop 2, .find 1 false]
    ∧ st.abs = regs ∧ (st.regs.map (·.ref)).Nodup ∧ (∀ s ∈ st.regs, s.ref < st.heap.length)
    ∧ (SchemaHeap.hrun true (· % 10) st prog).map (fun r => r.1.abs) = (prun (· % 10) regs prog).map (·.1) := by decide

/-- `names_are_opaque` on a concrete history: names shifted by 10 (which `(· % 10)`-lower-casing respects), a
case-insensitive lookup, a lookup by name through `column`, a removal — the hypotheses hold and the answers are the
renamed ones. -/
example :
    let f : Nat → Nat := (· + 10)
    let ops : List (Op Nat) := [.find 13 true, .column (.name 2), .pop 1, .column (.idx 0), .names]
    (∀ x y : Fin 40, f x = f y → x = y)
    ∧ (∀ x y : Fin 40, (f x) % 10 = (f y) % 10 ↔ x.val % 10 = y.val % 10)
    ∧ (run (· % 10) [c0, c1, c2, c3] ops).2 = [.col (some c2), .col (some c0), .popped (some c0), .col (some c1), .strs [2, 3, 1]]
    ∧ run (· % 10) ([c0, c1, c2, c3].map (Col.rename f)) (ops.map (Op.rename f))
        = ((run (· % 10) [c0, c1, c2, c3] ops).1.map (Col.rename f), (run (· % 10) [c0, c1, c2, c3] ops).2.map (Out.rename f)) := by
  intro f ops
  refine ⟨fun x y h => Fin.ext (Nat.add_right_cancel h), fun x y => ?_, by decide, by decide⟩
  show (x.val + 10) % 10 = (y.val + 10) % 10 ↔ _
  rw [Nat.add_mod_right, Nat.add_mod_right]

/-! ## The source, translated: what `orso/schema.py` says now is the model

`Gen.SchemaFns.*` are produced from the function bodies of the working tree on every run
(`harness/pystmt.py`: assignments, `if`, early `return`, the `for` shapes, comprehensions, in-place changes of
`self.columns`, the run-time type test of `column`).  The theorems below prove each of them equal to the
hand-written operation the other theorems are about, so those theorems are statements about the code as it
is; a change of a function's meaning makes the corresponding equality stop checking (and the correspondence
supplies the failing input).

The proofs go through *semantic* lemmas (`Lemmas/SchemaFns.lean`: the loop's step function / the search
predicate enters with a pointwise hypothesis that `simp` discharges), tried shape by shape, so that renamed
locals, `not x in` / `x not in`, `continue`, early return instead of `else`, a comprehension instead of a loop,
`remove(column)` instead of `pop(idx)` … keep them checking.  (The extractor re-checks this very section
against a changed translation before it accepts it; see `harness/extractors/c17_fns.py`.) -/

section
-- a `simp` set here serves every spelling the translator emits; on the source as it is some of it goes unused
set_option linter.unusedSimpArgs false

-- BEGIN generated-eq (this section is also elaborated by the extractor against a trial translation)

/-- `FlatColumn.all_names` -/
theorem generated_all_names_eq_model (c : Col ι ν) : Gen.SchemaFns.all_names c = c.allNames := by
  cases h : c.aliases <;> simp [Gen.SchemaFns.all_names, Col.allNames, h, Gen.SchemaOps.aliasesFirst]

/-- `RelationSchema.find_column` (both branches): the first column that bears the key as its name or one of its aliases,
`None` when none does — **whatever else a column carries** (`T`: its identity, `str()`, `repr()`, type, description … read
as names; the translated function takes them as a parameter and the equality holds for every `T`: it consults none). -/
theorem generated_find_column_eq_model (S : StrOps ν) (T : ColText ι ν) (lower : ν → ν) (s : Schema ι ν) (k : ν) (ci : Bool) :
    Gen.SchemaFns.find_column S T lower s k ci = find lower s.columns k ci := by
  unfold Gen.SchemaFns.find_column find
  first
    | (cases ci <;>
        simp [generated_all_names_eq_model, findCol_eq_find?, Col.bears, SchemaFnsLemmas.match_find?_id] <;>
        grind)
    | -- `for n in range(len(self.columns)): if <self.columns[n] bears the key>: return self.columns[n]`
      (cases ci <;> simp only [Bool.false_eq_true, if_false, if_true] <;>
        (split
         · next c i h =>
           rw [findCol_eq_find?]
           exact (SchemaFnsLemmas.zipIdx_find?_some _ _
             (by intro x; simp [generated_all_names_eq_model, Col.bears] <;> first | rfl | congr | grind) _ _ _ h).symm
         · next h =>
           rw [findCol_eq_find?]
           exact (SchemaFnsLemmas.zipIdx_find?_none _ _
             (by intro x; simp [generated_all_names_eq_model, Col.bears] <;> first | rfl | congr | grind) _ h).symm))

/-- `RelationSchema.column`: an `int` (a `bool` included: `isinstance(True, int)`) indexes the column list the
way a Python list is indexed, anything else is looked up by name, case-sensitively — **whatever the name looks
like** (`S` is everything Python can ask of a string besides comparing it: `'1'.isdecimal()`, `int('1')`,
`' a'.strip()`, `== 'None'` …: the translated function takes it as a parameter and the equality holds for every
`S`, i.e. the source consults none of it), and it raises nothing but `IndexError` (`.ok`). -/
theorem generated_column_eq_model (S : StrOps ν) (T : ColText ι ν) (s : Schema ι ν) (key : Key ν) :
    Gen.SchemaFns.column S T s key = .ok (column s.columns key) := by
  unfold Gen.SchemaFns.column column
  cases key <;> simp [generated_find_column_eq_model, find, boolIndex] <;> grind

/-- `RelationSchema.pop_column`: the removed column and the remaining column list -/
theorem generated_pop_column_eq_model (S : StrOps ν) (T : ColText ι ν) (s : Schema ι ν) (k : ν) :
    Gen.SchemaFns.pop_column S T s k = popCol k s.columns := by
  unfold Gen.SchemaFns.pop_column
  first
    | -- `for idx, column in enumerate(self.columns): if <named k>: return self.columns.pop(idx)`
      (dsimp only
       split
       · next c i h =>
         have hh := (SchemaFnsLemmas.pop_of_zipIdx k _ (by intro x; cases x; simp <;> grind) s.columns).1 c i h
         simp [hh.1, hh.2]
       · next h =>
         have hh := (SchemaFnsLemmas.pop_of_zipIdx k _ (by intro x; cases x; simp <;> grind) s.columns).2 h
         simp [hh])
    | -- `for column in self.columns: if <named k>: self.columns.remove(column); return column`
      (dsimp only
       split
       · next c h =>
         have hh := (SchemaFnsLemmas.pop_of_find k _ (by intro x; simp <;> grind) s.columns).1 c h
         simp [hh]
       · next h =>
         have hh := (SchemaFnsLemmas.pop_of_find k _ (by intro x; simp <;> grind) s.columns).2 h
         simp [hh])

/-- `RelationSchema.__add__` -/
theorem generated_add_eq_model (a b : Schema ι ν) : Gen.SchemaFns.add a b = union a b := by
  unfold Gen.SchemaFns.add
  rw [SchemaFnsLemmas.union_eq]
  dsimp only
  first
    | (rw [SchemaFnsLemmas.foldl_union _ (by intro st c; cases st; simp <;> grind)]
       simp [ids]
       done)
    | (rw [SchemaFnsLemmas.foldl_union_swapped _ (by intro st c; cases st; simp <;> grind)]
       simp [ids]
       done)
    | -- the seen identities are the keys of a dict (`seen[column.identity] = …`, `column.identity not in seen`)
      (rw [SchemaFnsLemmas.foldl_union_keyed _ (by intro st c; cases st; constructor <;> intro h <;> simp_all)]
       simp [ids, Function.comp_def]
       done)

/-- `column_names`, `__iter__`, `all_column_names` and `num_columns` -/
theorem generated_names_eq_model (s : Schema ι ν) :
    Gen.SchemaFns.column_names s = columnNames s.columns
    ∧ Gen.SchemaFns.iter_names s = columnNames s.columns
    ∧ Gen.SchemaFns.all_column_names s = allColumnNames s.columns
    ∧ Gen.SchemaFns.num_columns s = s.columns.length := by
  have h1 : Gen.SchemaFns.column_names s = columnNames s.columns := by
    unfold Gen.SchemaFns.column_names columnNames
    first
      | rfl
      | (dsimp only
         rw [SchemaFnsLemmas.foldl_append_singleton (fun c : Col ι ν => c.name) _ (by intro acc x; simp)]
         simp
         done)
  have h3 : Gen.SchemaFns.all_column_names s = allColumnNames s.columns := by
    unfold Gen.SchemaFns.all_column_names
    rw [SchemaFnsLemmas.allColumnNames_eq_flatMap]
    try simp only [generated_all_names_eq_model]
    first
      | done
      | (dsimp only
         rw [SchemaFnsLemmas.foldl_append_list (fun c : Col ι ν => c.allNames) _ (by intro acc x; simp)]
         simp
         done)
      | (simp [List.flatMap, List.flatten]
         done)
  refine ⟨h1, ?_, h3, ?_⟩
  · unfold Gen.SchemaFns.iter_names
    first
      | exact h1
      | rfl
      | (unfold columnNames
         dsimp only
         rw [SchemaFnsLemmas.foldl_append_singleton (fun c : Col ι ν => c.name) _ (by intro acc x; simp)]
         simp
         done)
  · simp [Gen.SchemaFns.num_columns, h1, columnNames]

/-- `RelationSchema.__iter__`, as the iterator it builds: an iterator over a list of the names made when `__iter__`
is called — not a walk over the live column list (`IterSrc`). -/
theorem generated_iter_eq_model (s : Schema ι ν) : Gen.SchemaFns.iter_src s = iterSrc s := by
  unfold Gen.SchemaFns.iter_src iterSrc
  first
    | rfl
    | (congr 1
       first
         | exact (generated_names_eq_model s).1
         | (simp [columnNames, (generated_names_eq_model s).1]
            done))

-- END generated-eq
end

/-! ## An iteration in progress, interleaved with removals and sums -/

/-- Once an iterator is a snapshot it stays one, whatever `__iter__` builds for the iterators obtained later and
whatever else happens: its answers are a function of its own list and the questions put to it. -/
theorem snapshot_iterator_frame (src : Schema ι ν → IterSrc ι ν) (lower : ν → ν) (prog : List (IOp ν))
    (st st' : ISt ι ν) (outs : List (IOut ι ν)) (h : irun src lower st prog = some (st', outs))
    (k : Nat) (l : List ν) (hk : st.iters[k]? = some (.snap l)) :
    st'.iters[k]? = some (.snap (listIterRun l (asksOf k prog)).1)
    ∧ answersOf k prog outs = (listIterRun l (asksOf k prog)).2 := by
  induction prog generalizing st outs l with
  | nil =>
    cases h
    exact ⟨hk, rfl⟩
  | cons op rest ih =>
    obtain ⟨st1, o, os, h1, h2, rfl⟩ := irun_cons_some h
    cases op with
    | base bop =>
      obtain ⟨regs', po, -, rfl, rfl⟩ := istep_base_some h1
      exact ih _ _ h2 l hk
    | mk r =>
      obtain ⟨s, -, rfl, rfl⟩ := istep_mk_some h1
      exact ih _ _ h2 l (List.getElem?_append_of_eq_some _ hk)
    | ask j q =>
      obtain ⟨it, hj, rfl, rfl⟩ := istep_ask_some h1
      by_cases hjk : j = k
      · subst hjk
        cases hk.symm.trans hj
        obtain ⟨f1, f2⟩ := ih _ _ h2 (listIterStep l q).1
          (by show (st.iters.set j _)[j]? = _
              rw [List.getElem?_set_self (List.getElem?_eq_some_iff.mp hk).1, snap_ask])
        simp only [asksOf, answersOf, ↓reduceIte, listIterRun, snap_ask]
        exact ⟨f1, congrArg _ f2⟩
      · have := ih _ _ h2 l ((List.getElem?_set_ne hjk).trans hk)
        simpa only [asksOf, answersOf, if_neg hjk] using this

/-- **Iteration order, for every interleaving.**  Obtain an iterator from schema `r` (`iter(schema)`, the head of a
`for name in schema:` loop) in any state — after any history — and then do anything: advance it, remove columns from
the schema it came from (or from any other), build sums, obtain and advance other iterators.  Its answers are those
of an iterator over a list of its own holding the names the schema had *when the iterator was created*
(`listIterRun`); so what it yields, followed by what it still has, is exactly those names in positional order, and it
answers `StopIteration` only once all of them were yielded.  `Gen.SchemaFns.iter_src` — what `__iter__` builds, re-read
from the source on every run — is the `__iter__` of the machine. -/
theorem iterator_yields_names_at_creation (lower : ν → ν) (st st' : ISt ι ν) (r : Nat) (post : List (IOp ν))
    (outs : List (IOut ι ν))
    (h : irun (fun s => Gen.SchemaFns.iter_src s) lower st (.mk r :: post) = some (st', outs)) :
    ∃ s os, st.regs[r]? = some s ∧ outs = .made st.iters.length :: os
      ∧ answersOf st.iters.length post os = (listIterRun (columnNames s.columns) (asksOf st.iters.length post)).2
      ∧ st'.iters[st.iters.length]? = some (.snap (listIterRun (columnNames s.columns) (asksOf st.iters.length post)).1)
      ∧ yielded (answersOf st.iters.length post os)
          ++ (listIterRun (columnNames s.columns) (asksOf st.iters.length post)).1 = columnNames s.columns
      ∧ (ItOut.stop ∈ answersOf st.iters.length post os →
          yielded (answersOf st.iters.length post os) = columnNames s.columns) := by
  have hsrc : (fun s : Schema ι ν => Gen.SchemaFns.iter_src s) = iterSrc := funext generated_iter_eq_model
  rw [hsrc] at h
  obtain ⟨st1, o, os, h1, h2, rfl⟩ := irun_cons_some h
  obtain ⟨s, hr, rfl, rfl⟩ := istep_mk_some h1
  obtain ⟨f1, f2⟩ := snapshot_iterator_frame iterSrc lower post _ _ _ h2 st.iters.length (columnNames s.columns)
    List.getElem?_concat_length
  have hy := listIterRun_yielded (columnNames s.columns) (asksOf st.iters.length post)
  refine ⟨s, os, hr, rfl, f2, f1, ?_, ?_⟩
  · rw [f2]
    exact hy
  · intro hs
    rw [f2] at hs ⊢
    rwa [listIterRun_stop _ _ hs, List.append_nil] at hy

/-- **Iterating modifies nothing**: obtaining and advancing iterators — whatever `__iter__` builds — leaves every
schema as the register operations alone leave it, and those get the answers they get without any iterator around. -/
theorem iteration_modifies_nothing (src : Schema ι ν → IterSrc ι ν) (lower : ν → ν) (prog : List (IOp ν))
    (st st' : ISt ι ν) (outs : List (IOut ι ν)) (h : irun src lower st prog = some (st', outs)) :
    prun lower st.regs (baseOps prog) = some (st'.regs, baseOuts prog outs) := by
  induction prog generalizing st outs with
  | nil =>
    cases h
    rfl
  | cons op rest ih =>
    obtain ⟨st1, o, os, h1, h2, rfl⟩ := irun_cons_some h
    have ih' := ih _ _ h2
    cases op with
    | base bop =>
      obtain ⟨regs', po, hp, rfl, rfl⟩ := istep_base_some h1
      simp only [baseOps, baseOuts, prun, hp, ih']
    | mk r =>
      obtain ⟨s, -, rfl, rfl⟩ := istep_mk_some h1
      exact ih'
    | ask j q =>
      obtain ⟨it, -, rfl, rfl⟩ := istep_ask_some h1
      exact ih'

/-- The counterexample that shows the snapshot is what makes it true (C17-w6s1): were `__iter__` a generator walking
the live column list (`(col.name for col in self.columns)`), then on columns named `1, 2, 3` — take the iterator,
advance it once (`1`), remove column `1`, drain — the column named `2` would never be yielded: the list shifted under
the walk.  Under the model's `__iter__` the same program yields `1`, then `2, 3`. -/
theorem live_iterator_skips_after_removal :
    let cols : List (Col Nat Nat) := [⟨0, 10, 1, none⟩, ⟨1, 11, 2, none⟩, ⟨2, 12, 3, none⟩]
    let prog : List (IOp Nat) := [.mk 0, .ask 0 .next, .base (.on 0 (.pop 1)), .ask 0 .drain]
    (irun (fun _ => IterSrc.walk (fun c : Col Nat Nat => c.name)) id ⟨[⟨7, [], cols⟩], []⟩ prog).map (·.2)
      = some [.made 0, .it (.item 1), .base (.out (.popped (some ⟨0, 10, 1, none⟩))), .it (.rest [3])]
    ∧ (irun iterSrc id ⟨[⟨7, [], cols⟩], []⟩ prog).map (·.2)
      = some [.made 0, .it (.item 1), .base (.out (.popped (some ⟨0, 10, 1, none⟩))), .it (.rest [2, 3])] := by
  decide

/-! ## Column objects edited between two lookups; every way of writing the sum -/

/-- Which memos are harmless: none at all, or one revalidated by the name and a *copy* of the alias list compared by value
— from any state whose memo is sound, every read is the current column's names. -/
theorem memo_by_value_is_transparent (p : Option (Bool × String)) (hp : p = none ∨ p = some (true, "copy"))
    (c : Cell ν) (hs : c.MemoSound) (h : List (Option (Edit ν))) :
    Cell.run p c h = namesAlong c.name c.aliases h := by
  induction h generalizing c with
  | nil => rfl
  | cons x rest ih =>
    cases x with
    | none =>
      obtain ⟨h1, h2, h3, h4⟩ := Cell.read_sound p hp c hs
      simp only [Cell.run, namesAlong, h1]
      rw [ih _ h4, h2, h3]
    | some e =>
      simp only [Cell.run, namesAlong]
      rw [ih _ (Cell.edit_sound e c hs)]
      rfl

/-- **A lookup reads the column as it is *now*.**  A column object lives on between two operations of a schema and a
caller may rename it, give it another alias list, or edit the alias list *in place* (`append`, `remove`, `insert`, item
assignment, `del`, `clear`, `+=`, `reverse` — the same list object afterwards).  `FlatColumn.all_names` — what every
lookup and `all_column_names` go through — is modelled with whatever memo the source keeps on the column
(`Gen.SchemaOps.allNamesMemo`, re-read from `orso/schema.py` on every run: none; or revalidated by the name and / or the
aliases as an object / a copy).  For every history of edits and reads on a column that starts without a memo, every
read answers with the names of the column's current name and current aliases; and the translated body of `all_names`
computes exactly those. -/
theorem all_names_sees_edits (c : Cell ν) (hm : c.memo = none) (h : List (Option (Edit ν))) :
    Cell.run Gen.SchemaOps.allNamesMemo c h = namesAlong c.name c.aliases h
    ∧ ∀ (k : Col ι ν) (e : Edit ν), Gen.SchemaFns.all_names (e.apply k) = namesOf (e.onNA k.name k.aliases).1 (e.onNA k.name k.aliases).2 := by
  constructor
  · refine memo_by_value_is_transparent _ ?_ c ?_ h
    · -- `allNamesMemo` is whichever of the two harmless policies the source has on this run
      first
        | exact Or.inl rfl
        | exact Or.inr rfl
    · intro m h'
      rw [hm] at h'
      cases h'
  · intro k e
    rw [generated_all_names_eq_model]
    rfl

/-- The proved counterexample: a memo revalidated by `cached name == name and cached list **is** aliases` survives an
edit in place — read, `aliases.append(2)`, read: the second read still gives the names without the alias — while a
replacement of the list is noticed, and a memo keyed on a copy notices both. -/
theorem memo_revalidated_by_object_is_stale :
    let c : Cell Nat := ⟨1, some [], 0, none⟩
    Cell.run (some (true, "object")) c [none, some (.append 2), none] = [namesOf 1 (some []), namesOf 1 (some [])]
    ∧ namesAlong 1 (some []) [none, some (.append 2), none] = [namesOf 1 (some []), namesOf 1 (some [2])]
    ∧ namesOf 1 (some []) ≠ namesOf 1 (some [2])
    ∧ Cell.run (some (true, "object")) c [none, some (.replace (some [2])), none] = [namesOf 1 (some []), namesOf 1 (some [2])]
    ∧ Cell.run (some (true, "copy")) c [none, some (.append 2), none] = [namesOf 1 (some []), namesOf 1 (some [2])] := by
  decide

/-- **An alias given in place is found at once.**  `c.aliases.append(k)` on the column object `c` of a schema in which no
earlier column bears `k` (under any normalisation: exact or ignoring case): the very next lookup of `k` returns `c` — as it
is now. -/
theorem find_after_alias_append (norm : ν → ν) (k : ν) (pre post : List (Col ι ν)) (c : Col ι ν) (as : List ν)
    (hal : c.aliases = some as)
    (htag : ∀ d ∈ pre, d.tag ≠ c.tag) (hpre : ∀ d ∈ pre, d.bears norm k = false) :
    findCol norm k ((pre ++ c :: post).map fun x => if x.tag = c.tag then (Edit.append k).apply x else x)
      = some ((Edit.append k).apply c) := by
  have hmap : pre.map (fun x => if x.tag = c.tag then (Edit.append k).apply x else x) = pre :=
    (List.map_congr_left fun d hd => if_neg (htag d hd)).trans (List.map_id pre)
  rw [List.map_append, List.map_cons, hmap]
  simp only [if_true]
  refine (find_first _ _ _ _).mpr ⟨pre, _, rfl, ?_, hpre⟩
  simp only [Col.bears, decide_eq_true_eq]
  apply List.mem_map_of_mem
  rw [mem_allNames]
  right
  exact ⟨as ++ [k], by simp [Edit.apply, Edit.onNA, Edit.onList, hal], by simp⟩

/-- **An alias taken away in place is gone at once**: after `c.aliases.remove(k)` (the alias stood once, the column is not
named `k`) the column no longer bears `k`, and bears every other key exactly as before. -/
theorem alias_removed_is_not_borne (k : ν) (c : Col ι ν) (as : List ν) (hal : c.aliases = some as) (hn : c.name ≠ k)
    (h1 : as.count k ≤ 1) :
    ((Edit.remove k).apply c).bears id k = false
    ∧ ∀ x, x ≠ k → (((Edit.remove k).apply c).bears id x = c.bears id x) := by
  have hk : k ∉ as.erase k := by
    rw [← List.count_eq_zero, List.count_erase_self]
    exact Nat.sub_eq_zero_of_le h1
  have hmem : ∀ x, x ∈ ((Edit.remove k).apply c).allNames ↔ x = c.name ∨ x ∈ as.erase k := fun x => by
    rw [mem_allNames]
    simp only [Edit.apply, Edit.onNA, Edit.onList, hal, Option.map_some, Option.some.injEq, exists_eq_left']
  refine ⟨?_, fun x hx => ?_⟩
  · rw [SchemaFnsLemmas.bears_id, decide_eq_false_iff_not, hmem]
    exact fun h => h.elim (fun e => hn e.symm) hk
  · rw [SchemaFnsLemmas.bears_id, SchemaFnsLemmas.bears_id, decide_eq_decide, hmem, mem_allNames,
      List.mem_erase_of_ne hx]
    simp only [hal, Option.some.injEq, exists_eq_left']

/-- An edit changes what a column is called, never which columns a schema lists: every schema keeps its name, its
aliases and — position by position — the same column objects with the same identities. -/
theorem edit_moves_no_column (t : Nat) (e : Edit ν) (regs : List (Schema ι ν)) :
    (editRegs t e regs).map (fun s => (s.name, s.aliases, s.columns.map fun c => (c.tag, c.identity)))
      = regs.map (fun s => (s.name, s.aliases, s.columns.map fun c => (c.tag, c.identity))) := by
  simp only [editRegs, List.map_map]
  apply List.map_congr_left
  intro s _
  simp only [Function.comp_apply, List.map_map, Prod.mk.injEq, true_and]
  apply List.map_congr_left
  intro c _
  simp only [Function.comp_apply]
  split <;> rfl

/-- … and the sum does not care: editing a column object before the sum or after it gives the same sum (the sum is
identity-based; the column objects are shared, not copied). -/
theorem sum_commutes_with_edits (t : Nat) (e : Edit ν) (a b : Schema ι ν) :
    (union { a with columns := a.columns.map fun c => if c.tag = t then e.apply c else c }
           { b with columns := b.columns.map fun c => if c.tag = t then e.apply c else c }).columns
      = (union a b).columns.map fun c => if c.tag = t then e.apply c else c :=
  union_ignores_names (fun c => if c.tag = t then e.apply c else c) (by intro c; split <;> rfl) a b _ _ _ _

/-- **Every way of writing the sum is the one sum.**  `a += b` (and `operator.iadd`, a `total += part` fold,
`functools.reduce(operator.iadd, …)`) is evaluated by Python as `a = a.__iadd__(b)` when the class defines `__iadd__` and
as `a = a.__add__(b)` when it does not.  `Gen.SchemaOps.augmentedInPlace` — re-read from the class body on every run —
says whether an `__iadd__` exists that changes `self`; it does not, so on the heap of list objects the augmented sum *is*
the plain sum bound to a new name. -/
theorem augmented_sum_is_plain_sum (lower : ν → ν) (st : SchemaHeap.St ι ν) (i j : Nat) :
    SchemaHeap.haug Gen.SchemaOps.augmentedInPlace Gen.SchemaOps.addCopies lower st i j
      = SchemaHeap.hstep Gen.SchemaOps.addCopies lower st (.add i j) := by
  have h : Gen.SchemaOps.augmentedInPlace = false := by decide
  simp [SchemaHeap.haug, h]

/-- … hence it modifies neither operand: from a state without shared column lists, after `regs[i] += regs[j]` every
schema that existed holds what it held, the new one is `union a b`, and again no two schemas share a list. -/
theorem augmented_sum_modifies_neither_operand (lower : ν → ν) (st st' : SchemaHeap.St ι ν) (hwf : st.WF) (i j : Nat) (o : POut ι ν)
    (h : SchemaHeap.haug Gen.SchemaOps.augmentedInPlace Gen.SchemaOps.addCopies lower st i j = some (st', o)) :
    ∃ a b, st.abs[i]? = some a ∧ st.abs[j]? = some b ∧ st'.abs = st.abs ++ [union a b] ∧ o = .schema (union a b) ∧ st'.WF := by
  rw [augmented_sum_is_plain_sum, source_shape.1] at h
  obtain ⟨h1, h2⟩ := SchemaHeap.heap_refines_step lower st (.add i j) hwf
  rw [h] at h1
  obtain ⟨a, b, ha, hb, h3, h4, -⟩ := program_add_keeps_registers lower _ _ i j _ h1.symm
  exact ⟨a, b, ha, hb, h3, h4, h2 st' o h⟩

/-- The proved counterexample (what an `__iadd__` that appends to `self.columns` and returns `self` does): `a += b`
turns a one-column `a` into a two-column `a` for everybody who holds `a`. -/
theorem inplace_augmented_sum_modifies_left :
    ∃ (st : SchemaHeap.St Nat Nat) (st' : SchemaHeap.St Nat Nat) (o : POut Nat Nat),
      st.WF ∧ SchemaHeap.haug true true id st 0 1 = some (st', o)
      ∧ (st.abs[0]?.map (·.columns)) = some [⟨0, 10, 1, none⟩]
      ∧ (st'.abs[0]?.map (·.columns)) = some [⟨0, 10, 1, none⟩, ⟨1, 11, 2, none⟩] :=
  sum_without_copy_modifies_left

end C17
