import OrsoVerif.Lemmas.TypeName
import OrsoVerif.Lemmas.TypeNameSession
import OrsoVerif.Lemmas.TypeNameDict
/-!
# C06 — Type names resolve to exactly the type they denote

About `Model/TypeName.lean`: `fromName` = `OrsoTypes.from_name`, `declare` = `FlatColumn(type=<name>)`, `typeCode` = the
type code of `DataFrame.description`; the statement's vocabulary (`TName`, `render`, `wfName`, `denotes`, `wfOut`,
`columnRoundTrips`) is defined there.  The tables the model interprets are the definitions of `Generated/TypeName.lean`,
re-extracted from the working tree on every run, so every theorem is checked against what the source says now.
`fromName` is the model at the ASCII tables, `fromNameU U` the same function over arbitrary tables `U : Chars` for
`str.upper`/`\d`/`\s`/`\w`/`int()`: totality and the two rejection clauses are proved for every `U`, exactness for ASCII.
-/
namespace C06
open TypeName Gen.TypeName

/-- **Well-formed names resolve exactly.**  Every base type name, `DECIMAL(p,s)` for all
`0 ≤ s ≤ p ≤ 38`, `VARCHAR[n]` and `BLOB[n]` for **every** `n` whose decimal rendering `int()` accepts
(all `n < 10^4300` under CPython's default limit, every `n` when the limit is off), and `ARRAY<T>` for
every scalar `T`, resolves to that base type with exactly those parameters and element type. -/
theorem fromName_render (t : TName) (h : wfName t = true) :
    ∃ d, fromName (render t) = .ok d ∧ denotes t d = true := by
  obtain ⟨d, hd, hden, _⟩ := wf_resolves t h
  exact ⟨d, hd, hden⟩

/-- The digit-limit side condition of `fromName_render` is met by every `n < 10^k` where `k` is the
interpreter's limit (4300 by default), and by every `n` when the limit is switched off. -/
theorem lengths_fit (n : Nat) (h : intMaxStrDigits = 0 ∨ n < 10 ^ intMaxStrDigits) :
    wfName (.varchar n) = true ∧ wfName (.blob n) = true :=
  ⟨(digitsFit_iff n).mpr h, (digitsFit_iff n).mpr h⟩

/-- The side condition is tight, and what lies beyond it stays inside the statement's second
sentence: a length whose decimal rendering has more digits than the interpreter's `int()` accepts
(`n ≥ 10^4300` by default) is rejected with `ValueError` — CPython's conversion limit, not an orso
rule.  The statement's "VARCHAR[n], BLOB[n]" is read as "for every `n` that `int()` can read". -/
theorem length_beyond_int_limit_rejected (n : Nat) (h : digitsFit n = false) :
    fromName (render (.varchar n)) = .error .valueError ∧
    fromName (render (.blob n)) = .error .valueError :=
  ⟨by rw [fromName_render_varchar, parseInt_digits_err h]; rfl,
   by rw [fromName_render_blob, parseInt_digits_err h]; rfl⟩

/-- The scalar element types are exactly the base types other than ARRAY (nested) and DECIMAL
(parameterised); in particular the excluded-prefix table removes nothing else. -/
theorem scalar_types_spec (m : Str) :
    m ∈ scalarTypes ↔ (m ∈ baseTypes ∧ m ≠ litArray ∧ m ≠ litDecimal) := by
  simp only [scalarTypes, List.mem_filter]
  exact and_congr_right fun h => (base_table m h).2.1

/-- **Case-insensitive.**  Two texts that differ only in the ASCII letter case of their characters
(any pattern, position by position) resolve identically. -/
theorem fromName_case (s t : Str) (h : List.Forall₂ (fun a b => a.toUpper = b.toUpper) s t) :
    fromName s = fromName t :=
  fromNameU_of_upper_eq (U := Chars.ascii) (up_eq_of_forall₂ h)

/-- **Well-formed names resolve exactly, case-insensitively**: every re-casing `s` of the canonical
spelling of a well-formed name (any ASCII letter-case pattern) resolves to what the name denotes. -/
theorem fromName_render_anycase (t : TName) (h : wfName t = true) (s : Str)
    (hs : List.Forall₂ (fun a b => a.toUpper = b.toUpper) s (render t)) :
    ∃ d, fromName s = .ok d ∧ denotes t d = true := by
  rw [fromName_case s (render t) hs]
  exact fromName_render t h

/-- … in particular the all-upper and all-lower spellings of any text. -/
theorem fromName_upper_lower (s : Str) :
    fromName (s.map Char.toUpper) = fromName s ∧ fromName (s.map Char.toLower) = fromName s :=
  ⟨fromNameU_of_upper_eq (U := Chars.ascii) (up_up s), fromNameU_of_upper_eq (U := Chars.ascii) (up_lower s)⟩

/-- **Total.**  Any text whatsoever resolves to a well-formed description or is rejected with
`ValueError`; no other exception class is possible (the raised classes are read from the source). -/
theorem fromName_total (name : Str) :
    (∃ d, fromName name = .ok d ∧ wfOut d = true) ∨ fromName name = .error .valueError :=
  fromNameU_total Chars.ascii Chars.ascii_sane.int_err name

/-- **Total, for every Python string** — not only ASCII.  Whatever `str.upper` does to the name (it may
change its length), whichever characters `\d`, `\s` and `\w` match, and whatever number `int()` reads from a
run of `\d` characters — as long as `int()` raises nothing but `ValueError` — the name resolves to a
well-formed description or is rejected with `ValueError`.  This holds for any order of the pattern blocks and
for `match` as well as `search`; `fromNameU Chars.ascii` is `fromName` (`fromNameU_ascii_eq`). -/
theorem fromName_total_unicode (U : Chars) (hint : ∀ ds e, U.toInt ds = .error e → e = .valueError)
    (name : Str) :
    (∃ d, fromNameU U name = .ok d ∧ wfOut d = true) ∨ fromNameU U name = .error .valueError :=
  fromNameU_total U hint name

/-- the Unicode-parametric model, at the ASCII tables, is the ASCII model. -/
theorem fromNameU_ascii_eq (name : Str) : fromNameU Chars.ascii name = fromName name :=
  rfl

/-- **Out-of-range DECIMAL parameters are rejected for every Python string**: whichever characters count as
digits and whitespace and whatever `int()` reads from them (`'DECIMAL(٤٠,٢)'`, `'decımal(5,٦)'`), if the
upper-cased name starts with `DECIMAL(<digits>,<spaces><digits>)` and the numbers read are not
`0 ≤ s ≤ p ≤ 38`, the result is `ValueError`.  Needs only `Chars.Sane U`: `,` and `)` are not digits, no
digit is whitespace, `int()` raises nothing but `ValueError` (all true of Python; proved for the ASCII
tables, `ascii_tables_sane`). -/
theorem decimal_out_of_range_rejected_unicode (U : Chars) (hU : U.Sane) (name d1 ws d2 rest : Str)
    (hup : U.upper name = litDecimal ++ '(' :: (d1 ++ ',' :: (ws ++ (d2 ++ ')' :: rest))))
    (h1 : d1 ≠ []) (h2 : d2 ≠ []) (hd1 : ∀ c ∈ d1, U.isD c = true) (hd2 : ∀ c ∈ d2, U.isD c = true)
    (hws : ∀ c ∈ ws, U.isS c = true)
    (hbad : ∀ p s, U.toInt d1 = .ok p → U.toInt d2 = .ok s → ¬ (s ≤ p ∧ p ≤ 38)) :
    fromNameU U name = .error .valueError := by
  rw [fromNameU_decimal_text hU hup h1 h2 hd1 hd2 hws]
  cases hp : U.toInt d1 with
  | error e => rw [hU.int_err _ _ hp]
  | ok p =>
    cases hs : U.toInt d2 with
    | error e => rw [hU.int_err _ _ hs]
    | ok s => exact decimalResolve_err (hbad p s hp hs)

/-- **Unknown, nested or parameterised ARRAY element types are rejected for every Python string**: if the
upper-cased name starts with `ARRAY<` and resolves, what follows is literally `T>…` for a member name `T`
other than ARRAY and DECIMAL with none of the excluded prefixes (`'ARRAY<ARRAY<ınteger>>'`, `'array<lıst>'`
are rejected).  Of `Chars.Sane U` the proof uses only that upper-casing never loses a `<`. -/
theorem array_bad_element_rejected_unicode (U : Chars) (hU : U.Sane) (name r : Str) (d : Desc)
    (hp : dropPrefix? (litArray ++ ['<']) (U.upper name) = some r) (hok : fromNameU U name = .ok d) :
    ∃ e rest, r = e ++ '>' :: rest ∧ d = { ty := .member litArray, elem := some e } ∧
      isMember e = true ∧ e ≠ litArray ∧ e ≠ litDecimal ∧ excludedElem e = false := by
  have hs := dropPrefix?_eq_some hp
  rw [fromNameU_eq, parseTypeU_of_head (k := .array) (by rw [hs]; rfl), tryKindU_array] at hok
  cases hm : matchArrayU U (U.upper name) with
  | some body =>
    obtain ⟨rest, hs2, _⟩ := matchArrayU_eq_some hm
    have hr : r = body ++ '>' :: rest := by
      rw [hs] at hs2
      exact List.append_cancel_left (hs2.trans (by simp))
    rw [hm] at hok
    obtain ⟨hd, hmem, hx, h1, h2⟩ := arrayResolve_ok hok
    exact ⟨body, rest, hr, hd, hmem, h1, h2, hx⟩
  | none =>
    rw [hm] at hok
    have hlt : '<' ∈ U.upper (U.upper name) := hU.keeps_lt _ (by rw [hs]; simp)
    simp only [Option.map_none, bareResolve_of_lt hlt] at hok
    cases hok

/-- the ASCII tables satisfy the assumptions of the two theorems above. -/
theorem ascii_tables_sane : Chars.Sane Chars.ascii := Chars.ascii_sane

/-- **DECIMAL parameters out of range are always rejected** — in any letter case, with zero padding,
with whitespace after the comma and whatever follows the closing parenthesis: if the upper-cased text
starts with `DECIMAL(<d1>,<ws><d2>)` and the numbers written are not `0 ≤ s ≤ p ≤ 38`, the result is
`ValueError`. -/
theorem decimal_out_of_range_rejected (name d1 ws d2 rest : Str)
    (hup : up name = litDecimal ++ '(' :: (d1 ++ ',' :: (ws ++ (d2 ++ ')' :: rest))))
    (h1 : d1 ≠ []) (h2 : d2 ≠ []) (hd1 : ∀ c ∈ d1, isD c = true) (hd2 : ∀ c ∈ d2, isD c = true)
    (hws : ∀ c ∈ ws, isS c = true)
    (hbad : ¬ (Nat.ofDigitChars 10 d2 0 ≤ Nat.ofDigitChars 10 d1 0 ∧ Nat.ofDigitChars 10 d1 0 ≤ 38)) :
    fromName name = .error .valueError :=
  decimal_out_of_range_rejected_unicode Chars.ascii Chars.ascii_sane name d1 ws d2 rest hup h1 h2 hd1 hd2 hws
    fun p s hp hs => by rw [parseInt_ok hp, parseInt_ok hs]; exact hbad

/-- … in the canonical spelling: `DECIMAL(p,s)` is rejected for every `(p,s)` outside `0 ≤ s ≤ p ≤ 38`. -/
theorem decimal_out_of_range_rejected_canonical (p s : Nat) (hbad : ¬ (s ≤ p ∧ p ≤ 38)) :
    fromName (render (.decimal p s)) = .error .valueError := by
  refine decimal_out_of_range_rejected _ _ _ _ _ (up_render_decimal p s) (digits_ne_nil p) (digits_ne_nil s)
    (digits_isD p) (digits_isD s) (by simp) ?_
  simpa [digits, Nat.ofDigitChars_ten_toDigits] using hbad

/-- **Unknown, nested or parameterised ARRAY element types are always rejected.**  If the upper-cased
text starts with `ARRAY<` and resolves at all, then what follows is literally `T>…` for an `OrsoTypes`
member name `T` that is not ARRAY (nested) and not DECIMAL (parameterised) and starts with none of the
excluded prefixes, and the result is ARRAY with exactly that element type.  So `ARRAY<FOO>`,
`ARRAY<ARRAY<INTEGER>>`, `ARRAY<VARCHAR[10]>`, `ARRAY<DECIMAL(10,2)>`, `ARRAY<LIST>`, … are rejected
(with `ValueError`, by `fromName_total`). -/
theorem array_bad_element_rejected (name r : Str) (d : Desc)
    (hp : dropPrefix? (litArray ++ ['<']) (up name) = some r) (hok : fromName name = .ok d) :
    ∃ e rest, r = e ++ '>' :: rest ∧ d = { ty := .member litArray, elem := some e } ∧
      isMember e = true ∧ e ≠ litArray ∧ e ≠ litDecimal ∧ excludedElem e = false :=
  array_bad_element_rejected_unicode Chars.ascii Chars.ascii_sane name r d hp hok

/-- **Columns carry the parameters and type codes resolve back.**  For every well-formed name, a
column declared with it has that type and exactly those parameters / element type, `description`
reports a type code for it, and the type code resolves back to the column's type with the column's
precision, scale and element type. -/
theorem typeCode_roundtrip (t : TName) (h : wfName t = true) :
    ∃ c, declare (render t) = .ok c ∧ columnRoundTrips t c = true := by
  obtain ⟨d, hd, _, hz, hrt⟩ := wf_resolves t h
  exact ⟨_, declare_of_member hd hz, hrt⟩

/-- **The patterns read from the source are the reference patterns.**  `rxArray`, `rxDecimal`, `rxVarchar`,
`rxBlob` are the four regular expressions of `_parse_type` as parsed from their sources on this run (literal
characters and greedy repeats of classes).  Matched at the start of a text they compute, for every text and
over any Unicode tables, exactly the reference matchers the lemmas are proved about: `ARRAY<` + a non-empty
run of `\w \s [ ] ( )` + `>`; `DECIMAL(` digits `,` spaces digits `)`; `VARCHAR[` digits `]`; `BLOB[` digits `]`.
(A changed class, quantifier or literal makes this fail.) -/
theorem patterns_are_reference (U : Chars) (s : Str) :
    (matchItems U rxArray s).bind group1 = matchArrayU U s ∧
    (matchItems U rxDecimal s).bind group2 = matchDecimalU U s ∧
    (matchItems U rxVarchar s).bind group1 = matchBracketU U litVarchar s ∧
    (matchItems U rxBlob s).bind group1 = matchBracketU U litBlob s :=
  ⟨matchItems_array U s, matchItems_decimal U s, matchItems_varchar U s, matchItems_blob U s⟩

/-- **Greedy matching is what `re` computes for these patterns**: in none of the four patterns can a repeat take
a character that a following item needs (the classes are disjoint from what follows them), so the regular
expression engine never backtracks and the greedy reading of `matchItems` is the match. -/
theorem patterns_deterministic :
    noBacktrack rxArray = true ∧ noBacktrack rxDecimal = true ∧
    noBacktrack rxVarchar = true ∧ noBacktrack rxBlob = true := by decide

/-- **The control flow read from the source is the reference control flow.**  `fromName` follows what
the extractor found in `_parse_type` / `from_name` on this run — the four patterns themselves (`rxArray` …,
see `patterns_are_reference`), the order of the four pattern blocks
(`parseOrder`), how each pattern is applied (`anchorArray` … `anchorBlob`: `re.match` or `search`), the two
`.upper()` calls (`upperInFromName`, `upperBareReturn`), the member and slot of the VARCHAR / BLOB branches
(`lengthBranches`) and the order of `_precision, _scale = …` (`decimalTargets`).  On every text it equals
`fromNameCore`: upper-case, try ARRAY / DECIMAL / VARCHAR / BLOB at the start of the text, upper-case a
bare name, put `n` into the length.  (A pattern applied with `search`, a dropped `.upper()`, a swapped
unpack or a length stored in another slot makes this equation — and with it the exactness, case and rejection
theorems above — fail.) -/
theorem generated_control_flow_is_reference (name : Str) :
    fromName name = fromNameCore name ∧ parseType name = parseTypeCore name :=
  ⟨fromName_eq_core name, parseType_eq_core name⟩

/-- **Explicit constructor arguments win, zero included.**  `FlatColumn(type=<name>, precision=…,
scale=…, length=…, element_type=…)`: whatever the name says, an argument that was given — `0` too — is
what the column carries; the tests the source uses to decide that an argument is missing (`mergeRules`,
`decimalPrecisionTest`, `decimalScaleTest`) are `is None`, not truthiness. -/
theorem explicit_parameters_kept (name : Str) (x : Explicit) (c : Desc) (h : declareWith name x = .ok c) :
    (∀ v, x.precision = some v → c.precision = some v) ∧ (∀ v, x.scale = some v → c.scale = some v) ∧
    (∀ v, x.length = some v → c.length = some v) ∧ (∀ e, x.elem = some e → c.elem = some e) := by
  rw [declareWith_eq] at h
  cases hd : fromName name with
  | error e => rw [hd] at h; cases h
  | ok d =>
    rw [hd] at h
    cases h
    obtain ⟨kp, ks, kl, ke, _⟩ := decimalDefaults_keeps (mergedCol d x)
    obtain ⟨mp, ms, ml, me⟩ := mergedCol_explicit d x
    exact ⟨fun v hv => kp v (mp v hv), fun v hv => ks v (ms v hv), fun v hv => kl ▸ ml v hv, fun e he => ke ▸ me e he⟩

/-- … and for a column declared with an `OrsoTypes` member. -/
theorem explicit_parameters_kept_enum (m : Str) (x : Explicit) :
    (∀ v, x.precision = some v → (declareEnum m x).precision = some v) ∧
    (∀ v, x.scale = some v → (declareEnum m x).scale = some v) ∧
    (declareEnum m x).length = x.length ∧ (declareEnum m x).elem = x.elem ∧ (declareEnum m x).ty = .member m :=
  decimalDefaults_keeps { ty := .member m, length := x.length, precision := x.precision, scale := x.scale, elem := x.elem }

/-- **A column carries what its name says.**  When nothing is given explicitly, the column has the type the
name resolves to, its length and element type, and its precision and scale when the name has them. -/
theorem declared_parameters_carried (name : Str) (d c : Desc) (hn : fromName name = .ok d)
    (hm : d.ty ≠ .zero) (h : declare name = .ok c) :
    c.ty = d.ty ∧ c.length = d.length ∧ c.elem = d.elem ∧
    (∀ p, d.precision = some p → c.precision = some p) ∧ (∀ q, d.scale = some q → c.scale = some q) := by
  rw [declare_of_member hn hm] at h
  cases h
  obtain ⟨kp, ks, kl, ke, kt⟩ := decimalDefaults_keeps d
  exact ⟨kt, kl, ke, kp, ks⟩

/-- **A DECIMAL column declared with the `OrsoTypes` member always has both parameters**, and the defaults never
replace a given value: a missing precision becomes the context precision (`decimalDefaultPrecision`), a missing scale
`⌊¾·precision⌋` (`scaleNum/scaleDen`) — so `precision=0` alone gives `(0, 0)`, not `(28, 21)`. -/
theorem decimal_defaults (x : Explicit) :
    (declareEnum litDecimal x).precision = some (x.precision.getD decimalDefaultPrecision) ∧
    (declareEnum litDecimal x).scale =
      some (x.scale.getD (scaleNum * x.precision.getD decimalDefaultPrecision / scaleDen)) := by
  rw [declareEnum, decimalDefaults_eq, if_pos rfl]
  exact ⟨rfl, rfl⟩

/-- **The type-code statements read from the source compute the reference type code.**  `codeState` runs
the `if` statements of `DataFrame.description` as the extractor found them on this run (`descProgram`: which
tests, in which order, chained with `elif` or independent, which f-string, whether `data_precision` /
`data_scale` are filled in).  For every typed column the result is the reference `typeCode` — the member's
value, `DECIMAL(p,s)` for a DECIMAL, `ARRAY<T>` for an ARRAY with an element type, never `None` — and the
precision / scale fields are filled in exactly for a DECIMAL. -/
theorem description_statements_are_reference (c : Desc) (m : Str) (h : c.ty = .member m) :
    ∃ code, typeCode c = some code ∧ typeCodeP c = some code ∧
      codeState c = some { code := some code, params := decide (valueOf m = descDecimalKey) } := by
  obtain ⟨code, h1, h2⟩ := codeState_eq c m h
  exact ⟨code, h1, by rw [typeCodeP_eq]; exact h1, h2⟩

/-- **Every entry of `description` is built from the column in the same position.**  Whatever the names and
aliases of the columns — an alias equal to another column's name, two columns of the same name — when
`description` returns, it has one entry per column, and the `i`-th entry carries the `i`-th column's name and
the type code (and DECIMAL precision/scale) of the `i`-th column itself (`descLookup`). -/
theorem description_own_column (cols : List Col) (es : List Entry) (h : describe cols = some es) :
    es.length = cols.length ∧
    ∀ (i : Nat) (c : Col), cols[i]? = some c →
      ∃ e, es[i]? = some e ∧ e.name = c.name ∧ some e.code = typeCode c.desc ∧ entryOf c.name c.desc = some e := by
  have hf := (describe_eq_some cols es).mp h
  refine ⟨(forall₂_length hf).symm, ?_⟩
  intro i c hc
  obtain ⟨e, he⟩ := forall₂_getElem?_left hf hc
  have hent := forall₂_getElem? hf hc he
  exact ⟨e, he, (entryOf_name hent).1, (entryOf_name hent).2, hent⟩

/-- Looked up by name (`find_column`: the first column bearing the name) this is false: in the schema
`[a INTEGER aliases=[b], b DECIMAL(10,2)]` the entry for `b` reports `INTEGER` (finding C06-F02, repaired). -/
theorem lookup_by_name_counterexample :
    describeWith .byName
      [{ name := ['a'], aliases := [['b']], desc := { ty := .member "INTEGER".toList } },
       { name := ['b'], desc := { ty := .member litDecimal, precision := some 10, scale := some 2 } }]
    = some [⟨['a'], "INTEGER".toList, none, none⟩, ⟨['b'], "INTEGER".toList, none, none⟩] := by
  repeat rw [String.toList_ofList]
  decide +kernel

/-- **Type codes of a whole schema resolve back, column by column.**  Take any list of columns, each
declared with a well-formed type name, under arbitrary names and aliases (collisions included).  Then
`description` returns one entry per column, the `i`-th entry bears the `i`-th column's name, the `i`-th column
carries exactly the parameters of its type name, and the `i`-th type code resolves back, through `from_name`,
to that column's type, precision, scale and element type. -/
theorem description_roundtrip (specs : List (Str × List Str × TName)) (cols : List Col)
    (hwf : ∀ sp ∈ specs, wfName sp.2.2 = true)
    (hdecl : List.Forall₂ (fun sp c => c.name = sp.1 ∧ c.aliases = sp.2.1 ∧
      declare (render sp.2.2) = .ok c.desc) specs cols) :
    ∃ es, describe cols = some es ∧ es.length = cols.length ∧
      ∀ (i : Nat) (sp : Str × List Str × TName) (c : Col), specs[i]? = some sp → cols[i]? = some c →
        ∃ e, es[i]? = some e ∧ e.name = sp.1 ∧ some e.code = typeCode c.desc ∧
          columnRoundTrips sp.2.2 c.desc = true := by
  -- every column round-trips on its own
  have hrt : ∀ (i : Nat) (sp : Str × List Str × TName) (c : Col), specs[i]? = some sp → cols[i]? = some c →
      c.name = sp.1 ∧ columnRoundTrips sp.2.2 c.desc = true := by
    intro i sp c hs hc
    obtain ⟨hn, _, hd⟩ := forall₂_getElem? hdecl hs hc
    obtain ⟨c', hc', hr⟩ := typeCode_roundtrip sp.2.2 (hwf sp (List.mem_of_getElem? hs))
    rw [hd] at hc'
    cases hc'
    exact ⟨hn, hr⟩
  have hsome : ∀ c ∈ cols, (entryOf c.name c.desc).isSome = true := by
    intro c hc
    obtain ⟨i, hi⟩ := List.getElem?_of_mem hc
    obtain ⟨sp, hs⟩ := forall₂_getElem?_right hdecl hi
    have := (hrt i sp c hs hi).2
    exact entryOf_isSome (columnRoundTrips_code this)
  obtain ⟨es, hes⟩ := forall₂_of_isSome (f := fun c => entryOf c.name c.desc) cols hsome
  have hdesc : describe cols = some es := (describe_eq_some cols es).mpr hes
  obtain ⟨hl, hown⟩ := description_own_column cols es hdesc
  refine ⟨es, hdesc, hl, ?_⟩
  intro i sp c hs hc
  obtain ⟨e, he, hname, hcode, _⟩ := hown i c hc
  obtain ⟨hn, hr⟩ := hrt i sp c hs hc
  exact ⟨e, he, by rw [hname, hn], hcode, hr⟩

/-- **A read of `description` is a function of the schema as it is at that read.**  Take any number of
schemas, any number of frames over them (several frames may share one schema object, as a frame and the frames
derived from it do), and any sequence of steps: a new frame, a read of some frame's `description`, a column
of some schema redeclared with other type attributes.  On the code as it is now (`descRead`: the property
carries no result cache and its body computes the list) every read returns `description` of the schema *as
edited so far* — whatever was read before, on this frame or another one.  The tuple of names `description`
iterates over is `column_names`, which *is* kept per frame (`namesRead`, modelled: `Sess.keptNames`); the
hypothesis `NamesOK` says that a kept tuple, if any, equals the current names of its frame's columns — true of a
fresh process (`namesOK_of_none`) and maintained by every step, since a redeclaration keeps the column's name. -/
theorem session_reads_current (s : Sess) (hn : NamesOK s) (ops : List SOp)
    (hops : ∀ op ∈ ops, op.keepsNames = true) :
    session s ops = currentReads s.schemas s.frames ops := by
  unfold session
  -- read from the source on this run: no caching decorator on the property, and its body computes the list
  have hmode : descRead = .fresh := by decide
  rw [hmode]
  exact run_fresh_eq namesRead s hn ops hops

/-- **Whatever is renamed in between, the type codes of every read are current.**  The same sessions, begun with no
tuple of names kept (`keptNames = none`), with one more kind of step: a column renamed.  `column_names` is kept per
frame (`namesRead`), so after a rename a frame that was read before reports the *old name* (`stale_name_after_rename`,
observed on the code, not judged by this property) — but the type code, precision and scale of every entry are those
of the column in that position as it is declared at that read: the entries are built by position (`descLookup`), and
no step changes the number of columns. -/
theorem session_codes_current (s : Sess) (hn : s.keptNames = none) (ops : List SOp) :
    bareReads (session s ops) = bareReads (currentReads s.schemas s.frames ops) := by
  unfold session
  have hmode : descRead = .fresh := by decide
  rw [hmode]
  exact run_fresh_bare namesRead s hn ops

/-- the stale name, inside the model with `column_names` kept per frame (stated for that mode explicitly, so that
dropping the cache from `column_names` does not break it): `[a INTEGER]`, read, rename `a` to `z`, read on the same
frame → still `a`; a second frame over the same schema reports `z`, and after that (the single entry now belongs to
the second frame) so does the first. -/
theorem stale_name_after_rename :
    Sess.run .fresh .keptPerFrame { schemas := [[{ name := ['a'], desc := { ty := .member "INTEGER".toList } }]], frames := [0, 0] }
      [.read 0, .rename 0 0 ['z'], .read 0, .read 1, .read 0]
    = [some [⟨['a'], "INTEGER".toList, none, none⟩], some [⟨['a'], "INTEGER".toList, none, none⟩],
       some [⟨['z'], "INTEGER".toList, none, none⟩], some [⟨['z'], "INTEGER".toList, none, none⟩]] := by
  repeat rw [String.toList_ofList]
  decide +kernel

/-- With the last answer kept per frame (`@single_item_cache` on the property, as on `column_names`) this is
false: read, redeclare `a INTEGER` as `DECIMAL(10,2)`, read again — the second read still reports `INTEGER`,
which does not resolve back to the DECIMAL the column now is. -/
theorem kept_description_counterexample :
    let dec : Desc := { ty := .member litDecimal, precision := some 10, scale := some 2 }
    let s : Sess := { schemas := [[{ name := ['a'], desc := { ty := .member "INTEGER".toList } }]], frames := [0] }
    let ops : List SOp := [.read 0, .redeclare 0 0 dec, .read 0]
    Sess.run .keptPerFrame namesRead s ops
      = [some [⟨['a'], "INTEGER".toList, none, none⟩], some [⟨['a'], "INTEGER".toList, none, none⟩]] ∧
    currentReads s.schemas s.frames ops
      = [some [⟨['a'], "INTEGER".toList, none, none⟩], some [⟨['a'], "DECIMAL(10,2)".toList, some 10, some 2⟩]] ∧
    codeResolvesTo (.decimal 10 2) "INTEGER".toList = false := by
  repeat rw [String.toList_ofList]
  decide +kernel

/-- **After any sequence of redeclarations and reads, every read resolves to the type declared at that time.**
Schemas whose columns are declared with well-formed type names (under arbitrary names and aliases), any frames
over them, then any sequence of steps — new frames, reads, a column redeclared with another well-formed type
name (`DECIMAL(p,s)`, `VARCHAR[n]`, `BLOB[n]`, `ARRAY<T>`, a base type).  Every read of a frame returns a list with
one entry per column of its schema; entry `i` bears column `i`'s name and its type code resolves back, through
`from_name`, to the base type, DECIMAL precision/scale and element type of the name column `i` is declared with
at the time of that read (`ReadsResolve`, `codeResolvesTo`). -/
theorem session_roundtrip (D : List (List ColSpec)) (S : List (List Col)) (fr : List Nat)
    (kept : Option (Nat × List Entry)) (ops : List NOp)
    (hD : Declared D S) (hops : ∀ op ∈ ops, op.wf = true) :
    ReadsResolve D fr ops (session { schemas := S, frames := fr, kept := kept } (ops.map NOp.lower)) := by
  rw [session_reads_current _ (namesOK_of_none rfl) _ (by
    intro op hop
    obtain ⟨o, _, rfl⟩ := List.mem_map.mp hop
    cases o <;> rfl)]
  simp only
  induction ops generalizing D S fr with
  | nil => simp [ReadsResolve, currentReads]
  | cons op ops ih =>
    have hrest : ∀ op ∈ ops, op.wf = true := fun o ho => hops o (List.mem_cons_of_mem _ ho)
    cases op with
    | frame j =>
      simp only [List.map_cons, NOp.lower, currentReads, ReadsResolve]
      exact ih D S (fr ++ [j]) hD hrest
    | redeclare j i t =>
      have ht : wfName t = true := by simpa [NOp.wf] using hops _ (List.mem_cons_self ..)
      obtain ⟨c, hc, _⟩ := typeCode_roundtrip t ht
      have hdd : declaredDesc t = c := by simp [declaredDesc, hc]
      simp only [List.map_cons, NOp.lower, currentReads, ReadsResolve, hdd]
      exact ih _ _ fr (declared_setDeclAt ht hc hD) hrest
    | read k =>
      simp only [List.map_cons, NOp.lower, currentReads, ReadsResolve]
      refine ⟨?_, ih D S fr hD hrest⟩
      intro j sps hk hj
      obtain ⟨cols, hcols⟩ := forall₂_getElem?_left hD.2 hj
      have hrel : List.Forall₂ declRel sps cols := forall₂_getElem? hD.2 hj hcols
      obtain ⟨es, hes, hlen, hent⟩ := description_roundtrip sps cols
        (fun sp hsp => hD.1 sps (List.mem_of_getElem? hj) sp hsp) hrel
      refine ⟨es, by simp [hk, hcols, hes], by rw [hlen, forall₂_length hrel], ?_⟩
      intro i sp hsp
      obtain ⟨c, hc⟩ := forall₂_getElem?_left hrel hsp
      obtain ⟨e, he, hname, hcode, hrt⟩ := hent i sp c hsp hc
      exact ⟨e, he, hname, columnRoundTrips_resolves hrt hcode.symm⟩

/-! Non-vacuity: the hypotheses are met by concrete, non-trivial inputs, and the rejection theorems
reject concrete names. -/

/-- the hypotheses of `session_roundtrip` are met by a concrete session: `a INTEGER`, read, redeclared as
`DECIMAL(10,2)`, read, redeclared as `ARRAY<TIMESTAMP>`, read on a second frame. -/
example :
    Declared [[(['a'], [], .base "INTEGER".toList)]] [[{ name := ['a'], desc := { ty := .member "INTEGER".toList } }]] ∧
    (∀ op ∈ [NOp.read 0, .redeclare 0 0 (.decimal 10 2), .read 0, .frame 0, .redeclare 0 0 (.array "TIMESTAMP".toList),
      .read 1], op.wf = true) ∧
    session { schemas := [[{ name := ['a'], desc := { ty := .member "INTEGER".toList } }]], frames := [0] }
      ([NOp.read 0, .redeclare 0 0 (.decimal 10 2), .read 0, .frame 0, .redeclare 0 0 (.array "TIMESTAMP".toList),
        .read 1].map NOp.lower)
      = [some [⟨['a'], "INTEGER".toList, none, none⟩], some [⟨['a'], "DECIMAL(10,2)".toList, some 10, some 2⟩],
         some [⟨['a'], "ARRAY<TIMESTAMP>".toList, none, none⟩]] := by
  repeat rw [String.toList_ofList]
  exact ⟨⟨by decide +kernel, .cons (.cons ⟨rfl, rfl, by decide +kernel⟩ .nil) .nil⟩, by decide +kernel, by decide +kernel⟩

example : wfName (.decimal 38 38) = true ∧ wfName (.varchar 65535) = true ∧
    wfName (.array "TIMESTAMP".toList) = true ∧ wfName (.base "JSONB".toList) = true ∧
    wfName (.array "DECIMAL".toList) = false ∧ wfName (.decimal 10 11) = false := by
  repeat rw [String.toList_ofList]
  decide +kernel

example : fromName "decimal(10, 2) x".toList
    = .ok { ty := .member litDecimal, precision := some 10, scale := some 2 } := by
  rw [String.toList_ofList]
  decide +kernel

example : fromName "Array<TimeStamp>".toList
    = .ok { ty := .member litArray, elem := some "TIMESTAMP".toList } := by
  repeat rw [String.toList_ofList]
  decide +kernel

example : fromName "ARRAY<ARRAY<INTEGER>>".toList = .error .valueError ∧
    fromName "ARRAY<VARCHAR[10]>".toList = .error .valueError ∧
    fromName "ARRAY<DECIMAL>".toList = .error .valueError ∧
    fromName "ARRAY<FOO>".toList = .error .valueError ∧
    fromName "DECIMAL(39,2)".toList = .error .valueError ∧
    fromName "DECIMAL(5,6)".toList = .error .valueError ∧
    fromName "STRING".toList = .error .valueError ∧
    fromName "".toList = .error .valueError := by
  repeat rw [String.toList_ofList]
  decide +kernel

example : dropPrefix? (litArray ++ ['<']) (up "array<list>".toList) = some "LIST>".toList := by
  repeat rw [String.toList_ofList]
  decide +kernel

example : List.Forall₂ (fun a b => a.toUpper = b.toUpper) "vArChAr[12]".toList (render (.varchar 12)) := by
  rw [String.toList_ofList]
  decide +kernel

/-! ## The dictionary routes

`FlatColumn.from_dict` - which `RelationSchema.from_dict`, `FlatColumn.from_json` and the subclasses go through - rewrites
the dictionary before it calls the constructor.  Its statements are read from the source on every run
(`Gen.TypeNameDict.fromDictRewrites`).  "A column declared with the name carries them": a declaration must reach the
constructor with its type entry still the NAME, so that `from_name` resolves it as it does for `FlatColumn(type=name)`. -/

/-- *a column declared with the name carries them*, dictionary routes: a declaration `{'type': t}` without an
`element_type` key - for every text `t` other than the written form of the untyped column - is handed to the constructor
unchanged, so the column carries what `from_name t` gives (`declare`, `declared_parameters_carried`).  A rewrite that
fires on a plain declaration (C06-w9s2: `dic.get('element_type') is None` instead of "the key is there and null", which
turns the bare name `ARRAY` into the member and loses the VARCHAR element type) breaks this theorem by name. -/
theorem from_dict_declaration_keeps_name (t : List Char) (ht : t ≠ Gen.TypeNameDict.untypedValue) :
    TypeNameDict.readDict ⟨.text t, .absent⟩ = some ⟨.text t, .absent⟩ := by
  by_cases h : t = ['A', 'R', 'R', 'A', 'Y']
  · subst h; decide
  · exact TypeNameDict.readDict_plain t .absent ht h rfl

/-- the same with an explicit null element type next to any name other than the written `ARRAY`: `ARRAY<T>`, `array`,
`LIST`, every other name keep their text (and so the element type the name resolves to). -/
theorem from_dict_null_element_keeps_name (t : List Char) (ht : t ≠ Gen.TypeNameDict.untypedValue)
    (ha : t ≠ ['A', 'R', 'R', 'A', 'Y']) :
    TypeNameDict.readDict ⟨.text t, .null⟩ = some ⟨.text t, .null⟩ :=
  TypeNameDict.readDict_plain t .null ht ha rfl

/-- the rewrites are live (non-vacuity): the written form of an element-less ARRAY column and of an untyped column are
read as the members. -/
example : TypeNameDict.readDict ⟨.text ['A', 'R', 'R', 'A', 'Y'], .null⟩ = some ⟨.member ['A', 'R', 'R', 'A', 'Y'], .null⟩ := by decide
example : TypeNameDict.readDict ⟨.text ['0'], .absent⟩
    = some ⟨.member ['_', 'M', 'I', 'S', 'S', 'I', 'N', 'G', '_', 'T', 'Y', 'P', 'E'], .absent⟩ := by decide

end C06

