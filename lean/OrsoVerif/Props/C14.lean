import OrsoVerif.Lemmas.EstimatorsTop
import OrsoVerif.Lemmas.DistogramState
import OrsoVerif.Lemmas.DistogramSource
import OrsoVerif.Lemmas.ProfileEst
import OrsoVerif.Lemmas.HistObj
import OrsoVerif.Lemmas.TableProf
import OrsoVerif.Lemmas.ProfileHist
import OrsoVerif.Model.PyNum
import Mathlib.Algebra.Order.Ring.Rat
import Mathlib.Algebra.Field.Rat
import Mathlib.Data.Rat.Floor
/-!
# C14 — Histogram estimators are monotone, bounded and exact at the ends

Property theorems only.  First about `countAt`, `quantile`, `estimateBelow/Above` of
`Model/Estimators.lean` over an arbitrary linear ordered field, for **every** histogram that
satisfies C13's invariants (`Distogram.HistOK`: centres strictly increasing, counts positive,
non-empty, every centre within `[lo, hi]` — what `C13.bins_strictly_increasing`,
`C13.counts_positive`, `C13.centres_within_bounds` establish for every history) and every query
point.  Python's `int(total * value)` enters as a parameter `floor` with the properties of a floor
on non-negative numbers (`FloorLike`).  Then, each under its heading: the estimates of a column profile through estimate / add /
estimate again, of a freshly built profile (numpy's contract), of the columns of table sums; histogram objects judged
against the inserted values; calls the source refuses; arguments that are not numbers.
-/
namespace C14
open Distogram
set_option linter.unusedSectionVars false

variable {K : Type} [Field K] [LinearOrder K] [IsStrictOrderedRing K]
variable {bins : List (K × K)} {lo hi : K}

/-- What the theorems need of Python's `int()` applied to `total_count * value ≥ 0`. -/
structure FloorLike (floor : K → K) (total : K) : Prop where
  mono : ∀ a b, a ≤ b → floor a ≤ floor b
  zero : floor 0 = 0
  top : floor total = total
  le : ∀ a, floor a ≤ a

/-- **`count_at` is None outside the observed range** (and on an empty histogram). -/
theorem countAt_outside (mn mx : Option K) (x : K) :
    countAt ([] : List (K × K)) mn mx x = none ∧
    (x < lo ∨ hi < x → countAt bins (some lo) (some hi) x = none) := by
  refine ⟨by simp [countAt], ?_⟩
  intro h
  unfold countAt
  split
  · rename_i v0 f0 vl fl lo' hi' _ _ h3 h4
    simp only [Option.some.injEq] at h3 h4
    subst h3; subst h4
    rw [if_pos]
    simpa [Gen.DistogramExpr.countOutside] using h
  · rfl

/-- **`count_at` is 0 at the minimum.** -/
theorem countAt_min (ok : HistOK bins lo hi) : countAt bins (some lo) (some hi) lo = some 0 := by
  obtain ⟨v0, f0, vl, fl, hh, hl⟩ := shape ok
  exact countAt_lo hh hl ((head_within ok hh).trans (ok.within _ (List.mem_of_mem_head? hh)).2)

/-- **`count_at` is the total at the maximum** (when the histogram holds more than one value;
for `lo = hi` the code answers 0, the "minimum" clause). -/
theorem countAt_max (ok : HistOK bins lo hi) (h : lo < hi) :
    countAt bins (some lo) (some hi) hi = some (mass bins) := by
  obtain ⟨v0, f0, vl, fl, hh, hl⟩ := shape ok
  exact countAt_hi hh hl h

/-- **`count_at` answers everywhere inside the observed range** — for every histogram satisfying
C13's invariants, the left tail included (its division is by `v0 - min > 0`; the interior index
`#{v < value} - 1` and its successor exist). -/
theorem countAt_defined (ok : HistOK bins lo hi) {x : K} (hx : lo ≤ x) (hx' : x ≤ hi) :
    ∃ r, countAt bins (some lo) (some hi) x = some r := by
  obtain ⟨v0, f0, vl, fl, hh, hl⟩ := shape ok
  rcases hx.eq_or_lt with rfl | h1
  · exact ⟨_, countAt_lo hh hl hx'⟩
  rcases hx'.eq_or_lt with rfl | h2
  · exact ⟨_, countAt_hi hh hl h1⟩
  by_cases h3 : x ≤ v0
  · exact ⟨_, countAt_left hh hl h1 h3 h2⟩
  by_cases h4 : vl ≤ x
  · exact ⟨_, countAt_right hh hl h1 (not_le.mp h3) h4 h2⟩
  · have dx : v0 < x ∧ x ≤ vl := ⟨not_le.mp h3, (not_le.mp h4).le⟩
    obtain ⟨r, _, e, _⟩ := interior_monoOn hh hl ok.inc ok.pos x x dx dx le_rfl
    exact ⟨r, (countAt_interior hh hl h1 (not_le.mp h3) (not_le.mp h4) h2).trans e⟩

/-- **`count_at` lies between 0 and the total** — PARTIAL.
Full statement (the property): `HistOK bins lo hi → lo ≤ x → x ≤ hi → ∃ r, countAt … x = some r ∧
0 ≤ r ∧ r ≤ mass bins`.  It is *false* of the code as it exists (open finding C14-K01: the left
tail is `ratio * v0 / 2`, the first bin's value instead of its count) — see
`countAt_exceeds_total` and `countAt_negative`.  Proved here under `LeftTailOK` (the first centre
is the minimum, so the left tail is empty, or `0 ≤ v0 ≤ f0`); the other branches need nothing. -/
theorem countAt_bounds_partial (ok : HistOK bins lo hi) (hleft : LeftTailOK bins lo) {x : K}
    (hx : lo ≤ x) (hx' : x ≤ hi) :
    ∃ r, countAt bins (some lo) (some hi) x = some r ∧ 0 ≤ r ∧ r ≤ mass bins := by
  obtain ⟨r, _, hr, _, l, m, u⟩ := countAt_monoOn_of_leftTailOK ok hleft x x ⟨hx, hx'⟩ ⟨hx, hx'⟩ le_rfl
  exact ⟨r, hr, l, m.trans u⟩

/-- **`count_at` is non-decreasing in its argument** — PARTIAL.
Full statement (the property): `HistOK bins lo hi → lo ≤ x → x ≤ y → y ≤ hi → countAt … x = some r1
→ countAt … y = some r2 → r1 ≤ r2`.  False of the code as it exists (C14-K01), see
`countAt_decreases`.  Proved under `LeftTailOK`: within each of the three branches, at the joins
of the interior segments and across the branches. -/
theorem countAt_mono_partial (ok : HistOK bins lo hi) (hleft : LeftTailOK bins lo) {x y r1 r2 : K}
    (hx : lo ≤ x) (hxy : x ≤ y) (hy : y ≤ hi)
    (h1 : countAt bins (some lo) (some hi) x = some r1)
    (h2 : countAt bins (some lo) (some hi) y = some r2) : r1 ≤ r2 :=
  ((countAt_monoOn_of_leftTailOK ok hleft).of_eq ⟨hx, hxy.trans hy⟩ ⟨hx.trans hxy, hy⟩ hxy h1 h2).2.1

/-- C14-K01, counterexample 1: the estimate exceeds the total.  Bins `(1000.5,2) (1002.5,2)
(1004.5,2)`, minimum 1000: `count_at(1000.2) = 200.1` on a total of 6. -/
theorem countAt_exceeds_total :
    let bins : List (ℚ × ℚ) := [(2001 / 2, 2), (2005 / 2, 2), (2009 / 2, 2)]
    HistOK bins 1000 1005 ∧ countAt bins (some 1000) (some 1005) (5001 / 5) = some (2001 / 10) ∧
    mass bins = 6 :=
  ⟨⟨by unfold Inc; decide +kernel, by unfold Pos; decide +kernel, by decide, by unfold Within; decide +kernel⟩,
    by decide +kernel, by decide +kernel⟩

/-- C14-K01, counterexample 2: negative data gives a negative estimate. -/
theorem countAt_negative :
    let bins : List (ℚ × ℚ) := [(-5, 2), (-1, 2)]
    HistOK bins (-6) 0 ∧ countAt bins (some (-6)) (some 0) (-11 / 2) = some (-5 / 4) :=
  ⟨⟨by unfold Inc; decide +kernel, by unfold Pos; decide +kernel, by decide, by unfold Within; decide +kernel⟩,
    by decide +kernel⟩

/-- C14-K01, counterexample 3: the estimate decreases — a downward jump at the first centre. -/
theorem countAt_decreases :
    let bins : List (ℚ × ℚ) := [(2001 / 2, 2), (2005 / 2, 2), (2009 / 2, 2)]
    countAt bins (some 1000) (some 1005) (2001 / 2) = some (2001 / 4) ∧
    countAt bins (some 1000) (some 1005) 1001 = some (3 / 2) := by
  decide +kernel

/-- **`quantile` is None outside `[0, 1]`** (and on an empty histogram). -/
theorem quantile_outside (floor : K → K) (mn mx : Option K) (value : K) :
    quantile floor ([] : List (K × K)) mn mx value = none ∧
    (value < 0 ∨ 1 < value → quantile floor bins mn mx value = none) := by
  refine ⟨by simp [quantile], ?_⟩
  intro h
  unfold quantile
  split
  · rfl
  · rw [if_pos]
    -- whichever way the source spells the guard (`not (0 <= v <= 1)`, `v < 0 or v > 1`): on an ordered field the same test
    intro hq
    simp only [Gen.DistogramExpr.quantInRange, decide_eq_true_eq, not_or, not_lt, gt_iff_lt] at hq
    rcases h with h | h <;> linarith [hq.1, hq.2]

/-- **`quantile(0)` is the minimum.** -/
theorem quantile_0 (floor : K → K) (ok : HistOK bins lo hi) (hf : FloorLike floor (mass bins)) :
    quantile floor bins (some lo) (some hi) 0 = some lo := by
  rw [quantile_eq floor ok (le_refl _) zero_le_one, mul_zero, hf.zero]
  obtain ⟨v0, f0, vl, fl, hh, hl⟩ := shape ok
  rw [quantileQ_unfold hh hl 0, if_pos (half_pos (ok.pos _ (List.mem_of_mem_head? hh))).le, zero_div, zero_mul, add_zero]

/-- **`quantile(1)` is the maximum** (exactly, in exact arithmetic). -/
theorem quantile_1 (floor : K → K) (ok : HistOK bins lo hi) (hf : FloorLike floor (mass bins)) :
    quantile floor bins (some lo) (some hi) 1 = some hi := by
  rw [quantile_eq floor ok zero_le_one (le_refl _), mul_one, hf.top]
  obtain ⟨v0, f0, vl, fl, hh, hl⟩ := shape ok
  have hf0 : 0 < f0 := ok.pos _ (List.mem_of_mem_head? hh)
  have hfl : 0 < fl := ok.pos _ (List.mem_of_getLast? hl)
  have hm : f0 ≤ mass bins := mem_le_mass bins (v0, f0) ok.pos (List.mem_of_mem_head? hh)
  rw [quantileQ_unfold hh hl _, if_neg (not_le.mpr ((half_lt_self hf0).trans_le hm)),
    if_pos (sub_le_self _ (half_pos hfl).le), sub_sub_cancel, div_self (half_pos hfl).ne', one_mul, add_sub_cancel]

/-- **`quantile` lies between the minimum and the maximum** on `[0, 1]` (and is defined there). -/
theorem quantile_bounds (floor : K → K) (ok : HistOK bins lo hi) (hf : FloorLike floor (mass bins))
    (hfl0 : ∀ a, 0 ≤ a → 0 ≤ floor a) {value : K} (h0 : 0 ≤ value) (h1 : value ≤ 1) :
    ∃ r, quantile floor bins (some lo) (some hi) value = some r ∧ lo ≤ r ∧ r ≤ hi := by
  obtain ⟨r, _, hr, _, l, m, u⟩ := quantile_monoOn floor ok hf.mono hf.le hfl0 value value ⟨h0, h1⟩ ⟨h0, h1⟩ le_rfl
  exact ⟨r, hr, l, m.trans u⟩

/-- **`quantile` is non-decreasing in its argument** on `[0, 1]`. -/
theorem quantile_mono (floor : K → K) (ok : HistOK bins lo hi) (hf : FloorLike floor (mass bins))
    (hfl0 : ∀ a, 0 ≤ a → 0 ≤ floor a) {p1 p2 r1 r2 : K} (h0 : 0 ≤ p1) (h12 : p1 ≤ p2) (h1 : p2 ≤ 1)
    (e1 : quantile floor bins (some lo) (some hi) p1 = some r1)
    (e2 : quantile floor bins (some lo) (some hi) p2 = some r2) : r1 ≤ r2 :=
  ((quantile_monoOn floor ok hf.mono hf.le hfl0).of_eq ⟨h0, h12.trans h1⟩ ⟨h0.trans h12, h1⟩ h12 e1 e2).2.1

/-- **`estimate_values_below` hands back `count_at`'s answer unchanged** (`Gen.ProfileEst.estimateBelowExpr`, the return
expression of the method regenerated from the source on every run): so every clause proved of `countAt` — the ends, `None`
outside the range, the bounds, monotonicity — is a clause of the profile's estimate. -/
theorem estimate_below_is_count_at (mn mx : Option K) (p : K) :
    estimateBelow bins mn mx p = countAt bins mn mx p := by
  unfold estimateBelow
  cases countAt bins mn mx p <;> simp [Gen.ProfileEst.estimateBelowExpr]

set_option linter.unusedSimpArgs false in
/-- **A profile's estimates below and above a point add up to the number of non-null values**
(`count - missing`) whenever the estimate exists, for every profile whose histogram counts add up to
the non-null values (`hm`; `C14.reachable_profile_ok` shows this of every profile reachable by
building, estimating and adding).  `estimate_values_above` is the expression the source has now,
over `count`, `missing`, the histogram's own total and `count_at(point)`: the statement holds
whichever of the two totals the source subtracts from. -/
theorem below_add_above (count missing : K) (mn mx : Option K) (p b : K)
    (hm : mass bins = count - missing)
    (h : estimateBelow bins mn mx p = some b) :
    ∃ a, estimateAbove count missing bins mn mx p = some a ∧ b + a = count - missing := by
  rw [estimate_below_is_count_at] at h
  unfold estimateAbove
  rw [h]
  refine ⟨_, rfl, ?_⟩
  -- `sumCounts_eq_mass` and `hm` serve a source that subtracts from the histogram's own total; for `(count - missing) - c`
  -- neither is needed
  simp only [Gen.DistogramExpr.estimateAbove, sumCounts_eq_mass]
  linarith

/-- `count_at`'s clauses (`countAt_monoOn_of_leftTailOK`) carried over to the two estimates by `below_add_above`;
`profile_estimates_bounded`, `one_batch_estimates_full` and `first_bin_at_minimum_estimates_full` are instances. -/
theorem profile_estimates_full (ok : HistOK bins lo hi) (count missing : K) (hm : mass bins = count - missing)
    (hleft : LeftTailOK bins lo) {p q : K} (h0 : lo ≤ p) (hpq : p ≤ q) (h1 : q ≤ hi) :
    ∃ bp ap bq aq,
      estimateBelow bins (some lo) (some hi) p = some bp ∧ estimateAbove count missing bins (some lo) (some hi) p = some ap ∧
      estimateBelow bins (some lo) (some hi) q = some bq ∧ estimateAbove count missing bins (some lo) (some hi) q = some aq ∧
      0 ≤ bp ∧ bp ≤ bq ∧ bq ≤ count - missing ∧ bp + ap = count - missing ∧ bq + aq = count - missing ∧
      0 ≤ aq ∧ aq ≤ ap ∧ ap ≤ count - missing := by
  obtain ⟨bp, bq, e1, e3, b0, hmono, b1⟩ :=
    countAt_monoOn_of_leftTailOK ok hleft p q ⟨h0, hpq.trans h1⟩ ⟨h0.trans hpq, h1⟩ hpq
  rw [hm] at b1
  rw [← estimate_below_is_count_at] at e1 e3
  obtain ⟨ap, e2, s1⟩ := below_add_above count missing (some lo) (some hi) p bp hm e1
  obtain ⟨aq, e4, s2⟩ := below_add_above count missing (some lo) (some hi) q bq hm e3
  obtain ⟨am, a0, a1⟩ := complement_bounds s1 s2 hmono b0 b1
  exact ⟨bp, ap, bq, aq, e1, e2, e3, e4, b0, hmono, b1, s1, s2, a0, am, a1⟩

/-- **The profile's estimates inherit the bounds**: a column profile's histogram holds numpy's
left edges, so its first centre *is* the minimum (`hhead`) and its counts add up to the non-null
values (`hm`); then inside the observed range both estimates exist, lie in `[0, count - missing]`
and add up to it — at full strength, the open finding C14-K01 does not reach profiles. -/
theorem profile_estimates_bounded (ok : HistOK bins lo hi) (count missing : K)
    (hm : mass bins = count - missing)
    (hhead : ∀ v0 f0, bins.head? = some (v0, f0) → lo = v0) {p : K} (h0 : lo ≤ p) (h1 : p ≤ hi) :
    ∃ b a, estimateBelow bins (some lo) (some hi) p = some b ∧
      estimateAbove count missing bins (some lo) (some hi) p = some a ∧
      0 ≤ b ∧ b ≤ count - missing ∧ 0 ≤ a ∧ a ≤ count - missing ∧ b + a = count - missing := by
  obtain ⟨b, a, _, _, e1, e2, _, _, b0, bm, b1, s, _, a0, am, a1⟩ :=
    profile_estimates_full ok count missing hm (fun v0 f0 h => Or.inl (hhead v0 f0 h)) h0 le_rfl h1
  exact ⟨b, a, e1, e2, b0, bm.trans b1, a0.trans am, a1, s⟩

/-- **A profile's estimate below a point is non-decreasing in the point** (same hypotheses). -/
theorem profile_below_mono (ok : HistOK bins lo hi)
    (hhead : ∀ v0 f0, bins.head? = some (v0, f0) → lo = v0) {p q b1 b2 : K}
    (h0 : lo ≤ p) (hpq : p ≤ q) (h1 : q ≤ hi)
    (e1 : estimateBelow bins (some lo) (some hi) p = some b1)
    (e2 : estimateBelow bins (some lo) (some hi) q = some b2) : b1 ≤ b2 := by
  rw [estimate_below_is_count_at] at e1 e2
  exact countAt_mono_partial ok (fun v0 f0 h => Or.inl (hhead v0 f0 h)) h0 hpq h1 e1 e2

/-- Non-vacuity: a concrete histogram satisfies the hypotheses, and the estimators take the
expected values on it (left tail, a centre, interior, right tail; quantiles at 0, 1/2, 1). -/
example :
    let bins : List (ℚ × ℚ) := [(2, 2), (5, 4), (9, 2)]
    HistOK bins 1 10 ∧
    countAt bins (some 1) (some 10) 1 = some 0 ∧ countAt bins (some 1) (some 10) (3 / 2) = some (1 / 2) ∧
    countAt bins (some 1) (some 10) 2 = some 1 ∧ countAt bins (some 1) (some 10) 5 = some 4 ∧
    countAt bins (some 1) (some 10) 10 = some 8 ∧ countAt bins (some 1) (some 10) 11 = none ∧
    quantile (fun x => (x.floor : ℚ)) bins (some 1) (some 10) 0 = some 1 ∧
    quantile (fun x => (x.floor : ℚ)) bins (some 1) (some 10) (1 / 2) = some 5 ∧
    quantile (fun x => (x.floor : ℚ)) bins (some 1) (some 10) 1 = some 10 :=
  ⟨⟨by unfold Inc; decide +kernel, by unfold Pos; decide +kernel, by decide, by unfold Within; decide +kernel⟩,
    by decide +kernel⟩

/-! ## The strongest true statements about `count_at`, the boundary ranks of `quantile` -/

/-- **The strongest true monotonicity / boundedness statement about `count_at` as it exists**: on
the whole observed range *minus the open-closed left tail* `(min, v0]` — i.e. at the minimum and
everywhere right of the first centre — the estimate is non-decreasing and within `[0, total]`, for
every histogram satisfying C13's invariants, with no further hypothesis.  (Inside `(min, v0]` the
answer is `ratio * v0 / 2`, see `left_tail_sound_iff` for exactly when that is sound.) -/
theorem countAt_sound_off_left_tail (ok : HistOK bins lo hi) {v0 f0 x y r1 r2 : K}
    (hh : bins.head? = some (v0, f0)) (hx : x = lo ∨ v0 < x) (hy : y = lo ∨ v0 < y)
    (hxy : x ≤ y) (hyhi : y ≤ hi)
    (h1 : countAt bins (some lo) (some hi) x = some r1)
    (h2 : countAt bins (some lo) (some hi) y = some r2) : r1 ≤ r2 ∧ 0 ≤ r1 ∧ r2 ≤ mass bins := by
  have hlo0 := head_within ok hh
  have hT : ∀ z : K, z = lo ∨ v0 < z → lo < z → z ≤ v0 → 0 ≤ v0 ∧ v0 ≤ f0 := fun z hz h1 h2 =>
    hz.elim (fun e => absurd h1 (e ▸ lt_irrefl _)) (fun h => absurd h (not_lt.mpr h2))
  have hlx : lo ≤ x := hx.elim (·.ge) (fun h => hlo0.trans h.le)
  obtain ⟨l, m, u⟩ := (countAt_monoOn ok hh).of_eq ⟨⟨hlx, hxy.trans hyhi⟩, hT x hx⟩ ⟨⟨hlx.trans hxy, hyhi⟩, hT y hy⟩ hxy h1 h2
  exact ⟨m, l, u⟩

/-- Outside the left tail nothing is assumed: for `v0 < x ≤ y` the estimate is non-decreasing and
within `[0, total]` for every histogram satisfying C13's invariants. -/
theorem countAt_right_of_first_centre (ok : HistOK bins lo hi) {v0 f0 x y r1 r2 : K}
    (hh : bins.head? = some (v0, f0)) (hx : v0 < x) (hxy : x ≤ y) (hy : y ≤ hi)
    (h1 : countAt bins (some lo) (some hi) x = some r1)
    (h2 : countAt bins (some lo) (some hi) y = some r2) : r1 ≤ r2 ∧ 0 ≤ r1 ∧ r2 ≤ mass bins :=
  countAt_sound_off_left_tail ok hh (Or.inr hx) (Or.inr (hx.trans_le hxy)) hxy hy h1 h2

/-- **Exactly when the left tail is sound** (C14-K01 delimited): for a histogram whose first centre
lies strictly between the minimum and the maximum, the left tail stays within `[0, f0 / 2]` — the
value the interior branch starts from at the first centre (`seg_left`) — **iff** `0 ≤ v0 ≤ f0`.
So `LeftTailOK` in the `_partial` theorems is not merely sufficient: no weaker hypothesis on the
first bin will do. -/
theorem left_tail_sound_iff (ok : HistOK bins lo hi) {v0 f0 : K} (hh : bins.head? = some (v0, f0))
    (hlt : lo < v0) (hv : v0 < hi) :
    (∀ x, lo < x → x ≤ v0 → ∃ r, countAt bins (some lo) (some hi) x = some r ∧ 0 ≤ r ∧ r ≤ f0 / 2) ↔
      (0 ≤ v0 ∧ v0 ≤ f0) := by
  obtain ⟨_, _, vl, fl, _, hl⟩ := shape ok
  constructor
  · intro h
    obtain ⟨r, hr, h0, h1⟩ := h v0 hlt (le_refl _)
    rw [countAt_left hh hl hlt le_rfl hv, div_self (sub_pos.mpr hlt).ne', one_mul] at hr
    cases hr
    rw [← zero_div (2 : K)] at h0
    exact ⟨(div_le_div_iff_of_pos_right two_pos).mp h0, (div_le_div_iff_of_pos_right two_pos).mp h1⟩
  · intro ⟨h0, h1⟩ x hx hx'
    obtain ⟨l, _, u⟩ := left_monoOn.of_eq ⟨⟨hx, hx'⟩, h0, h1⟩ ⟨⟨hx, hx'⟩, h0, h1⟩ le_rfl rfl rfl
    exact ⟨_, countAt_left hh hl hx hx' (hx'.trans_lt hv), l, u⟩

/-- **The boundary ranks of `quantile`** (the guards are those of the source): at rank
`q_count = f0 / 2` the estimate is exactly the first centre, at rank `total - fl / 2` exactly the
last centre — both tests are non-strict, so the interior walk (which has no running sum above
`mb = Σ mids` and would raise `StopIteration`) is never entered at a boundary rank. -/
theorem quantile_boundary_ranks (ok : HistOK bins lo hi) {v0 f0 vl fl : K}
    (hh : bins.head? = some (v0, f0)) (hl : bins.getLast? = some (vl, fl)) :
    quantileQ bins (some lo) (some hi) (f0 / 2) = some v0 ∧
    quantileQ bins (some lo) (some hi) (mass bins - fl / 2) = some vl := by
  have hf0 : 0 < f0 := ok.pos _ (List.mem_of_mem_head? hh)
  have hh0 : f0 / 2 ≠ 0 := (half_pos hf0).ne'
  have first : quantileQ bins (some lo) (some hi) (f0 / 2) = some v0 := by
    rw [quantileQ_unfold hh hl _, if_pos (le_refl _), div_self hh0, one_mul, add_sub_cancel]
  refine ⟨first, ?_⟩
  obtain ⟨tail, rfl⟩ := List.head?_eq_some_iff.mp hh
  cases tail with
  | nil =>
    -- a single bin: the rank is `f0 / 2` again, and the first centre is the last
    cases hl
    rwa [mass_singleton, sub_half]
  | cons c rest =>
    rw [quantileQ_unfold hh hl _, if_neg (not_le.mpr (half_lt_top ok.pos hl)), if_pos (le_refl _), sub_self,
      zero_div, zero_mul, add_zero]

/-- **The `floor` parameter is not an empty assumption**: the floor the exact-mode driver runs
(`Rat.floor`, Python's `int()` on a non-negative number) satisfies `FloorLike` for every histogram
total that is a natural number — totals are sums of integer counts — and is non-negative on
non-negative arguments, so `quantile_0 / _1 / _bounds / _mono` apply to the model as it is executed. -/
theorem floorLike_rat (n : ℕ) :
    FloorLike (fun x : ℚ => ((x.floor : ℤ) : ℚ)) (n : ℚ) ∧ ∀ a : ℚ, 0 ≤ a → (0 : ℚ) ≤ ((a.floor : ℤ) : ℚ) := by
  refine ⟨⟨?_, ?_, ?_, ?_⟩, ?_⟩
  · intro a b h
    have : a.floor ≤ b.floor := Int.floor_mono (R := ℚ) h
    exact Int.cast_le.mpr this
  · have : (0 : ℚ).floor = 0 := Int.floor_zero (R := ℚ)
    simp only [this, Int.cast_zero]
  · have : ((n : ℚ)).floor = n := Int.floor_natCast (R := ℚ) n
    simp only [this, Int.cast_natCast]
  · intro a
    exact Int.floor_le (α := ℚ) a
  · intro a ha
    have : (0 : ℤ) ≤ a.floor := Int.floor_nonneg (α := ℚ) |>.mpr ha
    exact_mod_cast this

/-! ## Sequences on one column profile — estimate, add, estimate again -/

section profiles
open Gen.ProfileEst (addDropsCache)

variable {mrg : View K → List (K × K) → Except String (List (K × K))} {Base : EProf K → Prop} {p : EProf K}

/-- **The cache discipline of the source** (`Gen.ProfileEst.*`, regenerated from `profiler.py` on every
run): `__add__` removes the `Distogram` an earlier estimate left on the copy it starts from — or
the estimators never reuse one.  With `new_profile = self.deep_copy()` and nothing else,
`addDropsCache` is generated as `false`, this no longer checks, and with it everything below. -/
theorem cache_discipline : CacheDiscipline := by
  unfold CacheDiscipline; decide

/-- **`distogram.load` keeps the bounds it is given** (`Gen.ProfileEst.loadMin / loadMax`, regenerated from
`load` on every run): the histogram the estimators work on has the profile's `minimum` and `maximum`, also
when one of them is 0.  With `dgram.max = maximum or dgram.bins[-1][0]` this no longer checks. -/
theorem load_keeps_bounds : LoadGiven := by
  unfold LoadGiven; decide

/-- **No stale histogram after a sum**: on every profile reachable by building, estimating (in any
order, any number of times, on operands and on sums) and adding — whatever the histogram merge does —
`estimate_values_below / above` answer from the profile's *own current* `histogram`, `minimum`,
`maximum`, `count` and `missing`, never from a `Distogram` an earlier estimate left on an operand.
Rests on `cache_discipline`, i.e. on what `__add__` does with the copy it starts from
in the source as it is now. -/
theorem sum_estimates_use_the_sum (h : Reach mrg Base p) (x : K) :
    p.below x = estimateBelow p.hist p.minimum p.maximum x ∧
    p.above x = estimateAbove p.count p.missing p.hist p.minimum p.maximum x := by
  have hv := reach_view_fresh cache_discipline h
  unfold EProf.below EProf.above
  rw [hv, fresh_eq load_keeps_bounds]
  exact ⟨rfl, rfl⟩

/-- **Every reachable profile is well formed** (over C13's reference merge, from well-formed base
profiles — numpy's histogram of one batch is the parameter): C13's invariants of the histogram, at
most `binCount` bins, centres within `[minimum, maximum]`, and **the histogram's counts add up to
`count - missing`** — `count` and `missing` are the generated `addCount` / `addMissing` of the
operands', the histogram is merged, so the two totals an implementation might subtract from agree. -/
theorem reachable_profile_ok (h : Reach refMerge ProfOK p) :
    ProfOK p ∧ sumCounts p.view.bins = p.count - p.missing := by
  have ok := reach_profOK load_keeps_bounds h
  refine ⟨ok, ?_⟩
  rw [reach_view_fresh cache_discipline h, fresh_eq load_keeps_bounds, sumCounts_eq_mass]
  exact ok.mass

/-- **Below and above add up to the number of non-null values on every reachable profile**
(merged any number of times, estimated in between). -/
theorem reachable_below_add_above (h : Reach refMerge ProfOK p) {x b : K} (hb : p.below x = some b) :
    ∃ a, p.above x = some a ∧ b + a = p.count - p.missing := by
  obtain ⟨e1, e2⟩ := sum_estimates_use_the_sum h x
  rw [e1] at hb
  rw [e2]
  exact below_add_above p.count p.missing p.minimum p.maximum x b (reach_profOK load_keeps_bounds h).mass hb

/-- **The estimates of every reachable profile inherit the bounds**: inside `[minimum, maximum]`
both estimates exist and add up; below is 0 at the minimum and the number of non-null values at
the maximum (above the reverse); and at the minimum and everywhere right of the first bin
(`countAt_sound_off_left_tail` — a sum's first bin may be a merged one, so a sum can have a left
tail and C14-K01 reaches it) below is non-decreasing, above non-increasing, both within
`[0, count - missing]`. -/
theorem reachable_estimates_bounded (h : Reach refMerge ProfOK p) (hne : p.hist ≠ []) :
    ∃ lo hi, p.minimum = some lo ∧ p.maximum = some hi ∧
      p.below lo = some 0 ∧ p.above lo = some (p.count - p.missing) ∧
      (lo < hi → p.below hi = some (p.count - p.missing) ∧ p.above hi = some 0) ∧
      (∀ x, lo ≤ x → x ≤ hi → ∃ b a, p.below x = some b ∧ p.above x = some a ∧ b + a = p.count - p.missing) ∧
      (∀ v0 f0 x y bx by' ax ay, p.hist.head? = some (v0, f0) → (x = lo ∨ v0 < x) → (y = lo ∨ v0 < y) →
        x ≤ y → y ≤ hi → p.below x = some bx → p.below y = some by' → p.above x = some ax → p.above y = some ay →
        bx ≤ by' ∧ 0 ≤ bx ∧ by' ≤ p.count - p.missing ∧ ay ≤ ax ∧ 0 ≤ ay ∧ ax ≤ p.count - p.missing) := by
  have ok := reach_profOK load_keeps_bounds h
  obtain ⟨lo, hi, hlo, hhi, hok⟩ := profOK_histOK ok hne
  have below_eq : ∀ x, p.below x = countAt p.hist (some lo) (some hi) x := fun x => by
    rw [(sum_estimates_use_the_sum h x).1, hlo, hhi, estimate_below_is_count_at]
  have sum := fun x b (hb : p.below x = some b) => reachable_below_add_above h hb
  have blo : p.below lo = some 0 := (below_eq lo).trans (countAt_min hok)
  refine ⟨lo, hi, hlo, hhi, blo, ?_, ?_, ?_, ?_⟩
  · obtain ⟨a, ha, hs⟩ := sum lo 0 blo
    rw [ha, ← hs, zero_add]
  · intro hlt
    have bhi : p.below hi = some (p.count - p.missing) := by
      rw [below_eq, ← ok.mass]; exact countAt_max hok hlt
    obtain ⟨a, ha, hs⟩ := sum hi _ bhi
    rw [ha, add_eq_left.mp hs]
    exact ⟨bhi, rfl⟩
  · intro x hx hx'
    obtain ⟨b, hb⟩ := countAt_defined hok hx hx'
    rw [← below_eq] at hb
    obtain ⟨a, ha, hs⟩ := sum x b hb
    exact ⟨b, a, hb, ha, hs⟩
  · intro v0 f0 x y bx by' ax ay hh hx hy hxy hyhi h1 h2 h3 h4
    obtain ⟨a1, ha1, s1⟩ := sum x bx h1
    obtain ⟨a2, ha2, s2⟩ := sum y by' h2
    cases h3.symm.trans ha1
    cases h4.symm.trans ha2
    rw [below_eq] at h1 h2
    obtain ⟨m, z, t⟩ := countAt_sound_off_left_tail hok hh hx hy hxy hyhi h1 h2
    rw [ok.mass] at t
    exact ⟨m, z, t, complement_bounds s1 s2 m z t⟩

end profiles

/-- **What goes wrong when the copy keeps the attribute** (`addWith false`: `new_profile =
self.deep_copy()` and nothing else — the code before `fix: adding column profiles drops the
histogram cached by an earlier estimate`): estimate on the profile of `[0]`, add the profile of
`[1]`; the sum has maximum 1 and two non-null values, but it still carries the histogram of `[0]`
alone, which answers `None` at 1 and has a total of 1. -/
theorem stale_histogram_if_the_copy_keeps_it :
    let a : EProf ℚ := ⟨1, 0, some 0, some 0, [(0, 1)], none⟩
    let b : EProf ℚ := ⟨1, 0, some 1, some 1, [(1, 1)], none⟩
    ∃ c, EProf.addWith false refMerge a.touch b = .ok c ∧
      c.maximum = some 1 ∧ c.count - c.missing = 2 ∧ c.hist = [(0, 1), (1, 1)] ∧
      c.cache.map (·.bins) = some [(0, 1)] ∧ c.cache.map (·.max) = some (some 0) ∧
      countAt [((0 : ℚ), (1 : ℚ))] (some 0) (some 0) 1 = none ∧ sumCounts [((0 : ℚ), (1 : ℚ))] = 1 := by
  refine ⟨_, rfl, ?_⟩
  decide +kernel

/-! ## The base case — the histogram of a freshly built numeric profile -/

/-- **The histogram comprehension of `NumericProfiler` keeps the left edge of every non-empty bin**
(`Profile.histogramOf` with `Gen.ProfileExpr.histEdgesFrom / histEdgesDropRight / histKeep / histKeepsCount` regenerated from
`[(left_edge, count) for count, left_edge in zip(hist_counts, bin_edges[:-1]) if count > 0]` on every run).  With
`bin_edges[1:]` (right edges) or `if count > 1` this no longer checks. -/
theorem comprehension_keeps_left_edges : LeftEdgesKept K := by
  intro counts edges
  unfold profileHist Profile.histogramOf keptBins
  simp only [Gen.ProfileExpr.histEdgesFrom, Gen.ProfileExpr.histEdgesDropRight, Gen.ProfileExpr.histKeep,
    Gen.ProfileExpr.histKeepsCount, List.drop_zero, Nat.sub_zero, if_true, List.map_map, gt_iff_lt]
  rfl

/-- **A freshly built (one-batch) numeric profile is well formed and has no left tail** — `numpy.histogram`'s contract
(`NumpyHist`: one more edge than counts, edges strictly increasing from the data minimum to the data maximum, counts adding
up to the number of values, the minimum in the first bin, `DISTOGRAM_BIN_COUNT` bins) is the only hypothesis; the
comprehension `[(left_edge, count) for count, left_edge in zip(hist_counts, bin_edges[:-1]) if count > 0]` is the generated
`Profile.histogramOf` (slice, filter and kept pair regenerated on every run).  This discharges the hypothesis `ProfOK` of
the base case of `Reach` / `TReach` and the hypotheses `HistOK`, `hm`, `hhead` of `profile_estimates_bounded` /
`profile_below_mono`: on a one-batch profile the open finding C14-K01 cannot occur.  With `bin_edges[1:]` (right edges) this
no longer checks. -/
theorem one_batch_profile_ok {counts : List Nat} {edges : List K} {lo hi : K} {n : Nat}
    (h : NumpyHist counts edges lo hi n) (count missing : K) (hn : count - missing = (n : K)) :
    ProfOK (⟨count, missing, some lo, some hi, profileHist counts edges, none⟩ : EProf K) ∧
    HistOK (profileHist counts edges) lo hi ∧ mass (profileHist counts edges) = count - missing ∧
    (∀ v0 f0, (profileHist counts edges).head? = some (v0, f0) → lo = v0) := by
  obtain ⟨hi', hp, hl, hm, hw, f0, rest, hh⟩ := profileHist_facts comprehension_keeps_left_edges h (by decide)
  have hne : profileHist counts edges ≠ [] := by rw [hh]; simp
  refine ⟨⟨hi', hp, hl, by rw [hm, hn], fun _ => ⟨lo, hi, rfl, rfl, hw⟩⟩, ⟨hi', hp, hne, hw⟩, by rw [hm, hn], ?_⟩
  rw [hh]
  rintro _ _ ⟨⟩
  rfl

/-- **The estimates of a one-batch profile at full strength** (numpy's contract the only hypothesis): inside the observed
range both exist, lie in `[0, non-null]`, add up to the number of non-null values, and `below` is non-decreasing. -/
theorem one_batch_estimates_full {counts : List Nat} {edges : List K} {lo hi : K} {n : Nat}
    (h : NumpyHist counts edges lo hi n) (count missing : K) (hn : count - missing = (n : K)) {p q : K}
    (h0 : lo ≤ p) (hpq : p ≤ q) (h1 : q ≤ hi) :
    ∃ bp ap bq aq,
      estimateBelow (profileHist counts edges) (some lo) (some hi) p = some bp ∧
      estimateAbove count missing (profileHist counts edges) (some lo) (some hi) p = some ap ∧
      estimateBelow (profileHist counts edges) (some lo) (some hi) q = some bq ∧
      estimateAbove count missing (profileHist counts edges) (some lo) (some hi) q = some aq ∧
      0 ≤ bp ∧ bp ≤ bq ∧ bq ≤ count - missing ∧ bp + ap = count - missing ∧ bq + aq = count - missing ∧
      0 ≤ aq ∧ aq ≤ ap ∧ ap ≤ count - missing := by
  obtain ⟨_, ok, hm, hhead⟩ := one_batch_profile_ok h count missing hn
  exact profile_estimates_full ok count missing hm (fun v0 f0 h => Or.inl (hhead v0 f0 h)) h0 hpq h1

/-- Non-vacuity of numpy's contract: three bins over `[0, 3]`, the middle one empty; the profile keeps two bins, the first
at the minimum. -/
example : NumpyHist [2, 0, 1] [(0 : ℚ), 1, 2, 3] 0 3 3 ∧ profileHist [2, 0, 1] [(0 : ℚ), 1, 2, 3] = [(0, 2), (2, 1)] :=
  ⟨⟨by decide, by decide +kernel, rfl, rfl, rfl, ⟨2, [0, 1], rfl, by decide⟩, by decide⟩, by decide +kernel⟩

/-- The two base cases of `small_sum_keeps_first_bin_at_minimum`: a one-batch profile (numpy's contract) and the placeholder
`TableProfile.__add__` builds for a column one of the tables lacks have their first bin at the minimum (a placeholder has
neither). -/
theorem base_profiles_first_bin_at_minimum {counts : List Nat} {edges : List K} {lo hi : K} {n : Nat}
    (h : NumpyHist counts edges lo hi n) (count missing : K) (l : EProf K) (lr rr : K) :
    PHeadMin (⟨count, missing, some lo, some hi, profileHist counts edges, none⟩ : EProf K) ∧ PHeadMin (placeholder l lr rr) ∧
    PHeadMin (placeholderL l lr rr) := by
  obtain ⟨_, _, _, _, _, f0, rest, hh⟩ := profileHist_facts comprehension_keeps_left_edges h (by decide)
  refine ⟨?_, rfl, rfl⟩
  unfold PHeadMin
  simp only [hh, List.head?_cons]

/-- **A sum that never trims keeps its first bin at the minimum**: two well-formed profiles whose first bins sit at their
minima (`PHeadMin`: every one-batch profile by `one_batch_profile_ok`, an all-null batch, the placeholder of a table sum) and
whose histograms have at most `binCount` bins between them add up — over the reference merge — to a profile whose first bin
sits at its minimum: the sum has no left tail either. -/
theorem small_sum_keeps_first_bin_at_minimum {a b c : EProf K} (ha : ProfOK a) (hb : ProfOK b)
    (pa : PHeadMin a) (pb : PHeadMin b) (hfit : a.hist.length + b.hist.length ≤ Gen.Distogram.binCount)
    (h : EProf.addRef a b = .ok c) : ProfOK c ∧ PHeadMin c :=
  ⟨addRef_profOK load_keeps_bounds ha hb h, addRef_headMin load_keeps_bounds ha hb pa pb hfit h⟩

/-- **The estimates of such a profile at full strength** — the clause that is only `_partial` for trimmed sums (C14-K01):
a well-formed profile whose first bin is at its minimum answers inside `[minimum, maximum]` with both estimates defined, within
`[0, count - missing]`, adding up, `below` non-decreasing and `above` non-increasing.  By `one_batch_profile_ok` and
`small_sum_keeps_first_bin_at_minimum` this covers every one-batch profile and every sum of profiles that does not exceed the
bin limit (any grouping, as long as each `+` fits). -/
theorem first_bin_at_minimum_estimates_full {p : EProf K} (ok : ProfOK p) (hm : PHeadMin p) (hne : p.hist ≠ []) :
    ∃ lo hi, p.minimum = some lo ∧ p.maximum = some hi ∧
      ∀ x y, lo ≤ x → x ≤ y → y ≤ hi →
        ∃ bx ax by' ay,
          estimateBelow p.hist (some lo) (some hi) x = some bx ∧ estimateAbove p.count p.missing p.hist (some lo) (some hi) x = some ax ∧
          estimateBelow p.hist (some lo) (some hi) y = some by' ∧ estimateAbove p.count p.missing p.hist (some lo) (some hi) y = some ay ∧
          0 ≤ bx ∧ bx ≤ by' ∧ by' ≤ p.count - p.missing ∧ bx + ax = p.count - p.missing ∧ by' + ay = p.count - p.missing ∧
          0 ≤ ay ∧ ay ≤ ax ∧ ax ≤ p.count - p.missing := by
  obtain ⟨lo, hi, hlo, hhi, hok⟩ := profOK_histOK ok hne
  exact ⟨lo, hi, hlo, hhi, fun x y => profile_estimates_full hok p.count p.missing ok.mass (pHeadMin_leftTailOK hm hlo)⟩

/-! ## Table-level sums — `TableProfile + TableProfile` with different column sets and row counts -/

section tables
open Gen.TableProf (placeholderCount placeholderMissing leftPlaceholderCount leftPlaceholderMissing keepsRightOnly)

variable {t a b s : TProf K} {c : String × EProf K}

/-- **A stand-in for a column one table lacks holds no values** (`Gen.TableProf.placeholderCount / placeholderMissing` for a
column the right table lacks, `leftPlaceholderCount / leftPlaceholderMissing` for one the left table lacks — regenerated from
`TableProfile.__add__` on every run): whatever the present column and the row counts of the two tables, its `count - missing`
is 0, so it adds rows but no values to the column sum.  With a stand-in whose `count` and `missing` come from different sides
(`ColumnProfile(name, type, right_rows, left_rows)`) this no longer checks: it would hold `right_rows - left_rows` values no
histogram knows of. -/
theorem placeholder_holds_no_values : PlaceholderEmpty K := by
  intro c m lr rr
  constructor <;> simp [placeholderCount, placeholderMissing, leftPlaceholderCount, leftPlaceholderMissing]

/-- **Every column of every reachable table profile is a reachable column profile**: tables built from frames (columns
well formed, numpy's histogram the parameter), estimated on in between, added any number of times in any grouping — either
table lacking columns of the other, in another order, with any row count — have columns to which
`sum_estimates_use_the_sum`, `reachable_profile_ok`, `reachable_below_add_above` and `reachable_estimates_bounded` apply. -/
theorem table_columns_reachable (h : TReach t) (hc : c ∈ t.cols) : Reach refMerge ProfOK c.2 :=
  treach_cols placeholder_holds_no_values h c hc

/-- **What a table sum consists of**: the column names of the left table, in its order, followed (when the source has the
second loop: `Gen.TableProf.keepsRightOnly`) by the names only the right table has, in its order; each column holds the
non-null values of the left table's column of that name plus those of the right table's — **none** for the side that lacks
it, whatever the two row counts are. -/
theorem table_sum_columns (h : TProf.addRef a b = .ok s) :
    s.names = a.names ++ (if keepsRightOnly then b.names.filter (fun n => !a.names.contains n) else []) ∧
    ∀ c ∈ s.cols, ((a.column c.1).isSome ∨ (b.column c.1).isSome) ∧
      c.2.nonNull = (match a.column c.1 with | some l => l.nonNull | none => 0) +
                    (match b.column c.1 with | some r => r.nonNull | none => 0) := by
  refine ⟨?_, fun c hc => ?_⟩
  · obtain ⟨cs, ds, h1, h2, hs⟩ := tAddWith_ok h
    have hn1 := (sumLoop_spec _ _ _ _ (addColumns_eq EProf.addRef a b _ ▸ h1)).1
    have hn2 := (rightOnly_cols h2).1
    unfold TProf.names at *
    rw [hs, List.map_append, hn1, hn2]
  obtain ⟨l, r, hsum, hlr⟩ := tsum_col h hc
  have hn : c.2.nonNull = l.nonNull + r.nonNull := by
    rcases hsum with h | h
    · exact nonNull_add h
    · rw [nonNull_add h, add_comm]
  rcases hlr with ⟨hl, hr | ⟨hr, rfl⟩⟩ | ⟨hl, hr, rfl⟩
  · rw [hl, hr]
    exact ⟨Or.inl rfl, hn⟩
  · rw [hl, hr]
    exact ⟨Or.inl rfl, hn.trans (congrArg (l.nonNull + ·) (placeholder_holds_no_values l.count l.missing a.rows b.rows).1)⟩
  · rw [hl, hr]
    exact ⟨Or.inr rfl, hn.trans (congrArg (· + r.nonNull) (placeholder_holds_no_values r.count r.missing a.rows b.rows).2)⟩

/-- **Below and above add up on every column of every reachable table profile**, and the histogram the estimates are
computed from has exactly `count - missing` values — the clause a stand-in with `count` and `missing` from different sides
breaks. -/
theorem table_estimates_add_up (h : TReach t) (hc : c ∈ t.cols) :
    sumCounts c.2.view.bins = c.2.count - c.2.missing ∧
    ∀ x b', c.2.below x = some b' → ∃ a', c.2.above x = some a' ∧ b' + a' = c.2.count - c.2.missing :=
  ⟨(reachable_profile_ok (table_columns_reachable h hc)).2,
   fun _ _ hb => reachable_below_add_above (table_columns_reachable h hc) hb⟩

end tables

/-- Non-vacuity of the table theorems: the profile of a frame with columns `a`, `b` (three rows) plus the profile of a
one-row frame with columns `c`, `a`: the sum has `a`, `b`, then `c`; `b` keeps its 3 values, `c` its single one, and every
histogram total is the column's `count - missing` — on the source as it is now every column reports 4 rows. -/
example :
    let ta : TProf ℚ := ⟨[("a", ⟨3, 0, some 1, some 4, [(1, 2), (4, 1)], none⟩), ("b", ⟨3, 0, some 0, some 7, [(0, 1), (3, 1), (7, 1)], none⟩)]⟩
    let tb : TProf ℚ := ⟨[("c", ⟨1, 0, some 5, some 5, [(5, 1)], none⟩), ("a", ⟨1, 0, some 2, some 2, [(2, 1)], none⟩)]⟩
    ∃ s, TProf.addRef ta tb = .ok s ∧
      s.cols.map (fun c => c.2.nonNull) = s.cols.map (fun c => sumCounts c.2.hist) ∧
      (s.cols.filter (fun c => c.1 == "b")).map (fun c => c.2.nonNull) = [3] := by
  refine ⟨_, rfl, ?_⟩
  decide +kernel

/-- **What goes wrong when a stand-in takes its `count` from one side and its `missing` from the other**
(`ColumnProfile(name, type, right_rows, left_rows)`): a left column of three values added to the stand-in of a one-row right table reports `4 - 3 = 1` non-null value
while its histogram holds 3 and `count_at` answers 3 at the maximum: `(count - missing) - count_at(maximum)`, the estimate of
the values above the maximum, is `1 - 3 = -2`. -/
theorem half_updated_placeholder_breaks_the_sum :
    let l : EProf ℚ := ⟨3, 0, some 0, some 7, [(0, 1), (3, 1), (7, 1)], none⟩
    let ph : EProf ℚ := ⟨1, 3, none, none, [], none⟩
    ∃ c, EProf.addWith true refMerge l ph = .ok c ∧
      c.count - c.missing = 1 ∧ sumCounts c.hist = 3 ∧
      countAt c.hist c.minimum c.maximum 7 = some 3 ∧ (c.count - c.missing) - 3 = -2 := by
  refine ⟨_, rfl, ?_⟩
  decide +kernel

/-! ## Histogram objects — streams judged against the inserted values, operands after a `+` -/

/-- The C13 invariants give `HistOK`: every state reached by a history of the reference machine
with at least one bin satisfies the hypothesis of the theorems above. -/
theorem built_histOK {s : RState K} {L : List (K × K)} {B : List K} (h : Built s L B) (hne : s.bins ≠ []) :
    ∃ lo hi, s.min = some lo ∧ s.max = some hi ∧ HistOK s.bins lo hi := by
  have hi := (built_facts h).1
  obtain ⟨b, hb⟩ := List.exists_mem_of_ne_nil _ hne
  obtain ⟨m, M, hm, hM, _⟩ := hi.bounds hb
  exact ⟨m, M, hm, hM, hi.inc, hi.pos, hne, hi.within m M hm hM⟩

section objects
open Gen.DistogramObj (updBounds addTarget AddTarget noneOr someAnd)

/-- **The bounds statements of `update`, with the control flow they have in the source now**
(`Gen.DistogramObj.updBounds`: the `if` / `elif` / `else` structure is translated, not only the two
tests), **compute the running minimum and maximum of the stream from every state** — also from the
empty histogram, where the first value moves *both* bounds, and for a value that is a new minimum of
a histogram whose maximum is still missing.  `minO` / `maxO` are what the reference machine of C13
(and with it every `Built` history below) records.  With the second test chained to the first
(`elif`) this no longer checks: the first value of a stream would leave the maximum `None`. -/
theorem update_bounds_exact (mn mx : Option K) (v : K) :
    updBounds mn mx v = (some (minO mn v), some (maxO mx v)) := by
  rcases mn with _ | x <;> rcases mx with _ | y
  · rfl
  · by_cases hy : y < v <;> simp [updBounds, noneOr, minO, maxO, hy]
  · by_cases hx : v < x <;> simp [updBounds, noneOr, minO, maxO, hx]
  · by_cases hx : v < x <;> by_cases hy : y < v <;> simp [updBounds, noneOr, minO, maxO, hx, hy]

/-- The executable faithful machine (`Model/Distogram.lean`, `bumpBounds`) sets the bounds as those
statements do. -/
theorem faithful_bounds_follow_the_source (h : Hist K) (v : K) :
    ((bumpBounds h v).min, (bumpBounds h v).max) = updBounds h.min h.max v := by
  rw [update_bounds_exact, bumpBounds_min, bumpBounds_max]

/-- **The bounds statements of `Distogram.__add__`, with their control flow** (`Gen.DistogramObj.addBounds`:
`if operand.min is not None: dgram.min = min(self.min, operand.min); dgram.max = max(self.max, operand.max)`
translated statement by statement, Python's `min` / `max` included), **set the sum's bounds to the smaller
minimum and the larger maximum** — what the reference `addRef` records (`optMin` / `optMax`) — whenever the
right operand's bounds are both there or both missing and a non-empty right operand made the sum non-empty.
A slip between the four attributes (`max(self.max, operand.min)`) or a falsy test (`if operand.min:`) breaks it. -/
theorem add_bounds_exact (mn mx omn omx : Option K) (h1 : omn.isSome → mn.isSome ∧ mx.isSome)
    (h2 : omn = none ↔ omx = none) :
    Gen.DistogramObj.addBounds mn mx omn omx = (optMin mn omn, optMax mx omx) := by
  cases omn with
  | none =>
    -- the `if` is not taken, and `optMin _ none`, `optMax _ none` hand back the left bound
    cases h2.mp rfl
    cases mn <;> cases mx <;> rfl
  | some a =>
    obtain ⟨b, rfl⟩ := Option.ne_none_iff_exists'.mp (mt h2.mpr (Option.some_ne_none a))
    obtain ⟨x, rfl⟩ := Option.isSome_iff_exists.mp (h1 rfl).1
    obtain ⟨y, rfl⟩ := Option.isSome_iff_exists.mp (h1 rfl).2
    rfl

/-- **The bounds statements of `Distogram.bulkload`, with their control flow** (`Gen.DistogramObj.bulkBounds`: the
`if self.min is None: … else: …` at its end), **widen the bounds to the data's** — `minO` / `maxO` of the old bound
and `values.min()` / `values.max()`, what the reference `bulkRef` records — from every state whose bounds are both
there or both missing.  Overwriting instead of widening (`self.min = values.min()` in the `else` branch) breaks it. -/
theorem bulk_bounds_exact (mn mx : Option K) (lo hi : K) (h : mn = none ↔ mx = none) :
    Gen.DistogramObj.bulkBounds mn mx lo hi = (some (minO mn lo), some (maxO mx hi)) := by
  rcases mn with _ | x <;> rcases mx with _ | y
  · rfl
  · exact absurd (h.mp rfl) (Option.some_ne_none y)
  · exact absurd (h.mpr rfl) (Option.some_ne_none x)
  · rfl

/-- **The estimators are exact at the ends of the *inserted values*** — not merely at what the
histogram reports: for every history (`Built s L B`: `L` the inserted (value, weight) pairs, `B` the
data's bounds — for a plain `update` the value itself) that inserted anything, there are `lo`, `hi`
that *are* the minimum and the maximum of the inserted values, and `quantile(0) = lo`,
`quantile(1) = hi`, `count_at(lo) = 0`, `count_at(hi)` = the total inserted weight (when `lo < hi`),
`count_at` is `None` below `lo` and above `hi` and answers everywhere in between. -/
theorem built_exact_at_true_ends {s : RState K} {L : List (K × K)} {B : List K} (h : Built s L B)
    (hne : s.bins ≠ []) (floor : K → K) (hf : FloorLike floor (mass s.bins)) :
    ∃ lo hi, IsMinOf (some lo) B ∧ IsMaxOf (some hi) B ∧
      quantile floor s.bins s.min s.max 0 = some lo ∧ quantile floor s.bins s.min s.max 1 = some hi ∧
      countAt s.bins s.min s.max lo = some 0 ∧
      (lo < hi → countAt s.bins s.min s.max hi = some (mass L)) ∧
      (∀ x, x < lo ∨ hi < x → countAt s.bins s.min s.max x = none) ∧
      (∀ x, lo ≤ x → x ≤ hi → ∃ r, countAt s.bins s.min s.max x = some r) := by
  obtain ⟨lo, hi, hlo, hhi, ok⟩ := built_histOK h hne
  obtain ⟨_, hm, _, hmin, hmax⟩ := built_facts h
  rw [hlo] at hmin
  rw [hhi] at hmax
  rw [hlo, hhi, ← hm]
  exact ⟨lo, hi, hmin, hmax, quantile_0 floor ok hf, quantile_1 floor ok hf, countAt_min ok, countAt_max ok,
    fun x hx => (countAt_outside (bins := s.bins) (some lo) (some hi) x).2 hx, fun x => countAt_defined ok⟩

/-- **A histogram built by nothing but `update()`** — a stream of values in *any* order (ascending,
descending, the largest first, a single value, a constant stream), any positive weights, any bin
limit: the estimators are exact at the stream's own smallest and largest value and total weight. -/
theorem stream_exact_at_true_ends (cap : Nat) (hcap : 1 ≤ cap) (vs : List (K × K)) (hne : vs ≠ [])
    (hpos : ∀ u ∈ vs, 0 < u.2) (floor : K → K)
    (hf : FloorLike floor (mass (mergeRef (RState.init cap) vs).bins)) :
    let s := mergeRef (RState.init cap : RState K) vs
    ∃ lo hi, (lo ∈ vs.map (·.1) ∧ ∀ v ∈ vs.map (·.1), lo ≤ v) ∧ (hi ∈ vs.map (·.1) ∧ ∀ v ∈ vs.map (·.1), v ≤ hi) ∧
      quantile floor s.bins s.min s.max 0 = some lo ∧ quantile floor s.bins s.min s.max 1 = some hi ∧
      countAt s.bins s.min s.max lo = some 0 ∧ (lo < hi → countAt s.bins s.min s.max hi = some (mass vs)) ∧
      (∀ x, x < lo ∨ hi < x → countAt s.bins s.min s.max x = none) := by
  intro s
  obtain ⟨hb, hmass, hbins⟩ := stream_built cap hcap vs hne hpos
  obtain ⟨lo, hi, a, b, c, d, e, f, g, _⟩ := built_exact_at_true_ends hb hbins floor hf
  exact ⟨lo, hi, a, b, c, d, e, f, g⟩

/-- **For a stream that never exceeds the bin limit the count estimate is monotone and bounded
everywhere — full strength, the open finding C14-K01 does not reach it.**  A histogram built by
nothing but `update()` whose bins were never merged (`fitsFrom`: no update ever pushes the number of
bins over the limit — in particular every stream of at most `cap` values, `fitsFrom_of_length`) has
its first bin *at* its minimum, so `count_at` has no left tail: on the whole observed range it
answers, stays within `[0, total inserted weight]` and is non-decreasing.  (K01 needs a first bin
that was merged away from the minimum: a trimmed histogram, or a bulk load.) -/
theorem untrimmed_stream_countAt_full (cap : Nat) (hcap : 1 ≤ cap) (vs : List (K × K)) (hne : vs ≠ [])
    (hpos : ∀ u ∈ vs, 0 < u.2) (hfit : fitsFrom (RState.init cap : RState K) vs) :
    let s := mergeRef (RState.init cap : RState K) vs
    ∃ lo hi, s.min = some lo ∧ s.max = some hi ∧
      (∀ x, lo ≤ x → x ≤ hi → ∃ r, countAt s.bins s.min s.max x = some r ∧ 0 ≤ r ∧ r ≤ mass vs) ∧
      (∀ x y r1 r2, lo ≤ x → x ≤ y → y ≤ hi → countAt s.bins s.min s.max x = some r1 →
        countAt s.bins s.min s.max y = some r2 → r1 ≤ r2) := by
  intro s
  obtain ⟨hb, hmass, hbins⟩ := stream_built cap hcap vs hne hpos
  obtain ⟨lo, hi, hlo, hhi, ok⟩ := built_histOK hb hbins
  have hleft : LeftTailOK s.bins lo :=
    headMin_leftTailOK (mergeRef_headMin vs _ (headMin_init cap) hfit) hlo
  rw [hlo, hhi, ← hmass]
  exact ⟨lo, hi, rfl, rfl, fun x => countAt_bounds_partial ok hleft, fun x y r1 r2 => countAt_mono_partial ok hleft⟩

/-- **What `Distogram.__add__` merges into** (`Gen.DistogramObj.addTarget`, regenerated from the source
on every run) **is not a shallow copy of the left operand**: `merge(self, operand)` updates the left
operand in place — the sum *is* the left operand — or a refactor works on a deep copy.  With
`merge(copy(self), operand)` the sum and the left operand are two objects sharing one bin list, this
no longer checks, and `operands_after_add_ok` goes with it. -/
theorem add_target_sound : addTarget ≠ AddTarget.shallowCopy := by decide

/-- **Every object is still a well-formed histogram after it took part in a `+`**: for histories `a`,
`b`, the sum `c = a + b`, and any further updates of `c` afterwards, the left operand — whatever the
source makes of it (`leftAfter addTarget`: the sum itself, or untouched) — and the sum are again states
of a history, so every theorem of this file applies to them: asked again, the left operand's
estimators are monotone, within *its own* minimum and maximum and exact at them.  (The right
operand is never written to.) -/
theorem operands_after_add_ok {a b : RState K} {L1 L2 : List (K × K)} {B1 B2 : List K}
    (ha : Built a L1 B1) (hb : Built b L2 B2) (us : List (K × K)) (hus : ∀ u ∈ us, 0 < u.2) :
    (∃ L B, Built (mergeRef (addRef a b) us) L B) ∧
    (∃ L B, Built (leftAfter addTarget a (mergeRef (addRef a b) us)) L B) := by
  have hsum : Built (mergeRef (addRef a b) us) (L1 ++ L2 ++ us) (B1 ++ B2 ++ us.map (·.1)) :=
    built_mergeRef (Built.add ha hb) us hus
  refine ⟨⟨_, _, hsum⟩, ?_⟩
  cases h : addTarget with
  | self => exact ⟨_, _, hsum⟩
  | shallowCopy => exact absurd h add_target_sound
  | deepCopy => exact ⟨_, _, ha⟩

/-- **What goes wrong with a shallow copy** (`merge(copy(self), operand)`): `a` holds 20, `b` holds 29,
`c = a + b`.  The left operand afterwards holds the bins of the sum with its own old bounds
`[20, 20]`; its median estimate is 24.5 — outside what it reports as its range. -/
theorem shallow_copy_breaks_the_left_operand :
    let a : RState ℚ := updateRef (RState.init 8) 20 1
    let b : RState ℚ := updateRef (RState.init 8) 29 1
    let left := leftAfter Gen.DistogramObj.AddTarget.shallowCopy a (addRef a b)
    left.bins = [(20, 1), (29, 1)] ∧ left.min = some 20 ∧ left.max = some 20 ∧
    quantile (fun x => (x.floor : ℚ)) left.bins left.min left.max (1 / 2) = some (49 / 2) := by
  decide +kernel

/-- **What goes wrong when the second bounds test is chained to the first** (`if … elif …`, "a value
cannot move both bounds"): the stream 9, 2, 5 ends with maximum 5 although 9 was inserted. -/
theorem chained_bounds_lose_the_maximum :
    let chained : Option ℚ → Option ℚ → ℚ → Option ℚ × Option ℚ := fun mn mx v =>
      if Gen.DistogramObj.noneOr mn (fun m => decide (m > v)) then (some v, mx)
      else if Gen.DistogramObj.noneOr mx (fun m => decide (m < v)) then (mn, some v) else (mn, mx)
    let s1 := chained none none 9
    let s2 := chained s1.1 s1.2 2
    let s3 := chained s2.1 s2.2 5
    s1 = (some 9, none) ∧ s3 = (some 2, some 5) := by
  decide +kernel

set_option linter.unusedVariables false in
/-- **Values at the numeric limit of float64: why those histories are also run at bin limit 1.**  Of three
increasing centres inside `[lo, hi]` the closer adjacent pair is at most half the range apart.  `_trim` merges the closest
pair of `limit + 1` bins, so at every limit ≥ 2 (three or more bins: any three consecutive ones) the difference `v2 - v1` it
may form is at most `(hi - lo) / 2` — a finite float whenever `lo` and `hi` are.  A merged centre computed from that
difference can overflow only when two bins are folded into one: limit 1 (`distogram/__init__.py:211-223`). -/
theorem closest_gap_le_half_range {a b c lo hi : K} (hlo : lo ≤ a) (hab : a < b) (hbc : b < c) (hhi : c ≤ hi) :
    min (b - a) (c - b) ≤ (hi - lo) / 2 := by
  -- the smaller gap is at most the mean of the two, and the two add up to `c - a` (whatever the order of the centres)
  linarith [min_le_left (b - a) (c - b), min_le_right (b - a) (c - b)]

/-- the hypotheses are satisfiable and the bound is attained: centres -1, 0, 1 in [-1, 1] -/
example : min ((0 : ℚ) - (-1)) (1 - 0) = (1 - (-1)) / 2 := by norm_num

/-! ## Calls the source refuses leave no trace -/

/-- **A refused `update` leaves the histogram as it was** — bins, bounds, cache.  `rejectedUpdate` is what the
object holds when `update(h, value, count)` raises at its validation: the statements of the function body that
*precede* the `if count <= 0: raise ValueError` in the source, in source order, applied to the bounds
(`Gen.DistogramObj.updBeforeReject`, regenerated from the working tree on every run — on the tree as it is nothing
precedes the validation but the cast of the value).  Python objects are changed in place: a bounds statement moved
in front of the validation ("the bounds follow every value seen") would widen the range of the histogram the caller
still holds by a value that was never stored, and this no longer checks. -/
theorem update_rejected_leaves_state (h : Hist K) (v : K) : rejectedUpdate h v = h := by
  rfl

/-- What `update` refuses: the test of the source (`Gen.DistogramFlow.updCountBad`) is "`count ≤ 0`", and the faithful
machine answers such a call with `ValueError` from every state, whatever the value. -/
theorem update_refuses_nonpositive_counts (h : Hist K) (v c : K) :
    (Gen.DistogramFlow.updCountBad c = true ↔ c ≤ 0) ∧ (c ≤ 0 → update h v c = .error "ValueError") := by
  have h1 : Gen.DistogramFlow.updCountBad c = true ↔ c ≤ 0 := by simp [Gen.DistogramFlow.updCountBad]
  refine ⟨h1, fun hc => ?_⟩
  unfold update
  rw [if_pos (h1.2 hc)]

/-- **The model's step for a refused call is the identity**: the object a caller holds after
`try: update(h, value, count) except ValueError: pass` with `count ≤ 0` is the object it held before. -/
theorem caught_rejection_is_identity (h : Hist K) (v c : K) (hc : c ≤ 0) : updateCaught h v c = h := by
  have h1 := update_refuses_nonpositive_counts h v c
  simp only [updateCaught, h1.2 hc, h1.1.2 hc, if_true, update_rejected_leaves_state]

/-- **Every observable of the property is the same after a refused call**: bins, minimum, maximum, the estimated
count at every point (in particular `None` outside the observed range) and the quantile at every level (in
particular the minimum at 0 and the maximum at 1). -/
theorem rejected_update_keeps_every_answer (h : Hist K) (v c : K) (hc : c ≤ 0) (floor : K → K) (x q : K) :
    let h' := updateCaught h v c
    h'.bins = h.bins ∧ h'.min = h.min ∧ h'.max = h.max ∧
      countAt h'.bins h'.min h'.max x = countAt h.bins h.min h.max x ∧
      quantile floor h'.bins h'.min h'.max q = quantile floor h.bins h.min h.max q := by
  simp only [caught_rejection_is_identity h v c hc, and_self]

/-- **Histories with refused calls are the histories without them.**  A stream of calls on one object in which the
caller carries on after every refusal ends in the state the accepted calls alone produce — from any state, for any
interleaving — so every theorem about histograms reached by accepted operations (`stream_exact_at_true_ends`,
`untrimmed_stream_countAt_full`, `built_exact_at_true_ends`, …) speaks about these histories as well. -/
theorem rejected_updates_leave_no_trace (h : Hist K) (ops : List (K × K)) :
    runCaught h ops = runCaught h (ops.filter fun p => !Gen.DistogramFlow.updCountBad p.2) := by
  induction ops generalizing h with
  | nil => rfl
  | cons p ps ih =>
    by_cases hb : Gen.DistogramFlow.updCountBad p.2 = true
    · have hc : p.2 ≤ 0 := (update_refuses_nonpositive_counts h p.1 p.2).1.1 hb
      simp only [runCaught, List.foldl_cons, List.filter_cons, hb, Bool.not_true, Bool.false_eq_true, if_false,
        caught_rejection_is_identity h p.1 p.2 hc]
      exact ih h
    · simp only [Bool.not_eq_true] at hb
      simp only [runCaught, List.foldl_cons, List.filter_cons, hb, Bool.not_false, if_true]
      exact ih _

/-- The same on the object heap the correspondence run drives (`Drv/C14.lean`, op `upd`): a refused call reports
`ValueError` and **no register** — the one the call went through, another name of the same object, any other
object — answers differently afterwards. -/
theorem heap_rejected_update (s s' : ObjHeap K) (r : Nat) (v c : K) (hc : c ≤ 0) (e : Option String)
    (h : s.updCaught r v c = some (s', e)) :
    e = some "ValueError" ∧ ∀ r', s'.get r' = s.get r' := by
  unfold ObjHeap.updCaught at h
  cases hg : s.get r with
  | none => simp [hg] at h
  | some p =>
    obtain ⟨o, hh⟩ := p
    simp only [hg, Option.map_some, (update_refuses_nonpositive_counts hh v c).2 hc,
      caught_rejection_is_identity hh v c hc, Option.some.injEq, Prod.mk.injEq] at h
    obtain ⟨rfl, rfl⟩ := h
    exact ⟨rfl, ObjHeap.get_put_same s r o hh hg⟩

/-- **What goes wrong when the bounds statements precede the validation**: the statements as they are in the
source (`updBounds`), run on a histogram observed on `[mn, mx]` with a value above the maximum, make that value the
maximum — so a refused `update(h, 1000, count=0)` would leave `quantile(h, 1) = 1000` and `count_at` defined up to
1000 on a histogram that never stored it. -/
theorem early_bounds_leak_the_rejected_value (mn mx v : K) (h2 : mx < v) (h1 : mn ≤ mx) :
    updBounds (some mn) (some mx) v = (some mn, some v) := by
  have : ¬ mn > v := by
    intro h
    exact absurd h (not_lt.2 (le_of_lt (lt_of_le_of_lt h1 h2)))
  simp [updBounds, noneOr, this, h2]

end objects

/-! ## Unordered arguments: a level / a point that is not a number

The guards of `quantile` and `count_at` are regenerated from the source **as written** and are polymorphic in the
carrier, so they — and the whole models built on them — can be run at `PyNum F`: numbers of `F` plus a `nan` with which
every comparison is false (Python's float comparisons).  On numbers `not (0 <= v <= 1)` and `v < 0 or v > 1` are the
same test (`quantile_outside` holds for either); at `nan` they differ, and the property's "None outside [0, 1]" /
"None outside the observed range" includes `nan` (it is not a member of the interval). -/
section Unordered
variable {F : Type} [Add F] [Sub F] [Mul F] [Div F] [LT F] [LE F]
  [DecidableLT F] [DecidableLE F] [OfNat F 0] [OfNat F 1] [OfNat F 2]

/-- **The level guard of `quantile` refuses NaN** — about the generated `quantInRange`; the De Morgan rewrite
`if value < 0 or value > 1: return None` makes this `true` (seeded C14-w7s2). -/
theorem quantile_guard_refuses_nan :
    Gen.DistogramExpr.quantInRange (PyNum.nan : PyNum F) = false := by
  simp [Gen.DistogramExpr.quantInRange]

/-- **`quantile` is None at a level that is not a number**, for every histogram, every bounds, every `int()`. -/
theorem quantile_nan (floor : PyNum F → PyNum F) (bins : List (PyNum F × PyNum F)) (mn mx : Option (PyNum F)) :
    quantile floor bins mn mx PyNum.nan = none := by
  unfold quantile
  split
  · rfl
  · rw [if_pos (by simp [quantile_guard_refuses_nan])]

/-- On numbers the guard run at `PyNum F` is the guard run at `F`: the NaN carrier adds a point, it changes nothing else. -/
theorem quantile_guard_on_numbers (p : F) :
    Gen.DistogramExpr.quantInRange (PyNum.num p) = Gen.DistogramExpr.quantInRange p := by
  simp [Gen.DistogramExpr.quantInRange]

/-- **The range guard of `count_at` refuses NaN** — about the generated `countOutside` (repaired defect C14-F04: the
guard was `value < h.min or value > h.max`, which lets NaN through to the interior branch and answers NaN). -/
theorem countAt_guard_refuses_nan (lo hi : PyNum F) :
    Gen.DistogramExpr.countOutside (PyNum.nan : PyNum F) lo hi = true := by
  simp [Gen.DistogramExpr.countOutside]

/-- **`count_at` is None at a point that is not a number**, for every histogram and every bounds. -/
theorem countAt_nan (bins : List (PyNum F × PyNum F)) (mn mx : Option (PyNum F)) :
    countAt bins mn mx PyNum.nan = none := by
  unfold countAt
  split
  · rw [if_pos (countAt_guard_refuses_nan _ _)]
  · rfl

/-- …and so are the profile's two estimates (`estimate_values_below`: None; `estimate_values_above`: no number). -/
theorem estimates_nan (count missing : PyNum F) (bins : List (PyNum F × PyNum F)) (mn mx : Option (PyNum F)) :
    estimateBelow bins mn mx PyNum.nan = none ∧ estimateAbove count missing bins mn mx PyNum.nan = none := by
  simp [estimateBelow, estimateAbove, countAt_nan]

theorem countAt_guard_on_numbers (x lo hi : F) :
    Gen.DistogramExpr.countOutside (PyNum.num x) (PyNum.num lo) (PyNum.num hi) = Gen.DistogramExpr.countOutside x lo hi := by
  simp [Gen.DistogramExpr.countOutside]

/-- **What the De Morgan form does at NaN**: it is false of an unordered level, so a guard `if value < 0 or value > 1:
return None` goes on to `int(total_count * nan)`. -/
theorem de_morgan_guard_lets_nan_through :
    decide ((PyNum.nan : PyNum F) < 0 ∨ (PyNum.nan : PyNum F) > 1) = false ∧
    decide (¬ ((0 : PyNum F) ≤ PyNum.nan ∧ (PyNum.nan : PyNum F) ≤ 1)) = true := by
  simp

end Unordered

end C14
