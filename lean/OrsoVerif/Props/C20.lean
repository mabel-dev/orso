import OrsoVerif.Model.Sanitise
import OrsoVerif.Lemmas.Sanitise
import OrsoVerif.Lemmas.SanitiseVisible
import OrsoVerif.Lemmas.SanitiseDeep
import OrsoVerif.Lemmas.SanitiseUrlPlain
import OrsoVerif.Model.SanitiseEvent
import OrsoVerif.Generated.SanitiseFns
/-!
# C20 — Log sanitiser never emits values of sensitive keys

`Sanitise.sensitive` is computed from the pattern table, the IGNORECASE flag and the match method
that `harness/extractors/c20.py` reads from `orso/logging/log_formatter.py` on every run
(`Generated/Sanitise.lean`): `sensitive_spec` is stated against that table, so replacing
`.search` by `.match`, dropping a pattern or dropping the flag makes its proof fail.

Parameters of the model, universally quantified in every theorem: the digest `h`
(`hash_it(str(value))`), the JSON parser `parse` (`json.loads` gave a dict), the colour codes.
-/
namespace C20
open Sanitise

/-! ## which keys are sensitive -/

/-- "ends in password, pwd, _secret, _key or _token", letter case ignored. -/
def EndsInSecretWord (k : Str) : Prop :=
  EndsIn ['p', 'a', 's', 's', 'w', 'o', 'r', 'd'] k ∨ EndsIn ['p', 'w', 'd'] k ∨
  EndsIn ['_', 's', 'e', 'c', 'r', 'e', 't'] k ∨ EndsIn ['_', 'k', 'e', 'y'] k ∨
  EndsIn ['_', 't', 'o', 'k', 'e', 'n'] k

/-- The property's words: "a key that ends in password, pwd, _secret, _key or _token or contains
credentials, matched case-insensitively". -/
def NamesSecret (k : Str) : Prop :=
  EndsInSecretWord k ∨ Contains ['c', 'r', 'e', 'd', 'e', 'n', 't', 'i', 'a', 'l', 's'] k

/-- What `re.search` can see of a pattern of the fragment: its literal and whether it is anchored by `$`
(under `search` a leading `.*` changes nothing). -/
def patCore (p : Pat) : Str × Bool := (p.lit, p.dollar)

/-- The statement's table: five words a key may *end* in, one it may *contain*. -/
def namedCores : List (Str × Bool) :=
  [(['p', 'a', 's', 's', 'w', 'o', 'r', 'd'], true), (['p', 'w', 'd'], true),
   (['_', 's', 'e', 'c', 'r', 'e', 't'], true), (['_', 'k', 'e', 'y'], true),
   (['_', 't', 'o', 'k', 'e', 'n'], true),
   (['c', 'r', 'e', 'd', 'e', 'n', 't', 'i', 'a', 'l', 's'], false)]

/-- What a core asks of a key. -/
def coreNames (c : Str × Bool) (k : Str) : Prop :=
  if c.2 then EndsIn c.1 k ∨ ∃ k', k = k' ++ ['\n'] ∧ EndsIn c.1 k' else Contains c.1 k

/-- **The expressions the key test runs are the statement's table** — as *compiled*: the extractor
follows the name `clean_record` tests a key with to its `re.compile` call(s) and evaluates the
argument (a list of sources, word lists joined into one alternation, f-strings …); `a|b$` arrives as
`a`, `b$`.  As sets (order, repetitions and a leading `.*` do not matter under `search`): the
literals and their `$` anchors are exactly the six of the statement, the method is `search`, the flag
`re.IGNORECASE`.  A dropped / added / re-anchored pattern, `.match`, a dropped flag break this. -/
theorem key_table_is_the_named_one :
    Gen.Sanitise.matchMode = 1 ∧ Gen.Sanitise.ignoreCase = true ∧
      (∀ c ∈ patterns.map patCore, c ∈ namedCores) ∧ (∀ c ∈ namedCores, c ∈ patterns.map patCore) := by
  decide +kernel

/-- **Sensitive keys are exactly the keys the property names** — for the pattern table, flag and
match method found in the source.  The only other keys treated as sensitive are those that name a
secret after removing one final newline (Python's `$` also matches before a trailing `\n`). -/
theorem sensitive_spec (k : Str) :
    sensitive k = true ↔ NamesSecret k ∨ ∃ k', k = k' ++ ['\n'] ∧ EndsInSecretWord k' := by
  obtain ⟨hm, hi, h₁, h₂⟩ := key_table_is_the_named_one
  have hfold : ∀ c ∈ namedCores, c.1.map foldChar = c.1 := by decide
  have hpat : ∀ p ∈ patterns, (patMatches 1 p k = true ↔ coreNames (patCore p) k) := by
    intro p hp
    have hl := hfold _ (h₁ _ (List.mem_map_of_mem hp))
    obtain ⟨a, l, d⟩ := p
    cases d
    · simpa [coreNames, patCore] using search_plain l k a hl
    · simpa [coreNames, patCore] using search_dollar l k a hl
  have key : sensitive k = true ↔ ∃ c ∈ namedCores, coreNames c k := by
    simp only [sensitive, List.any_eq_true, hm]
    constructor
    · rintro ⟨p, hp, h⟩
      exact ⟨patCore p, h₁ _ (List.mem_map_of_mem hp), (hpat p hp).mp h⟩
    · rintro ⟨c, hc, h⟩
      obtain ⟨p, hp, rfl⟩ := List.mem_map.mp (h₂ c hc)
      exact ⟨p, hp, (hpat p hp).mpr h⟩
  rw [key]
  simp only [namedCores, List.mem_cons, List.not_mem_nil, or_false, exists_eq_or_imp, exists_eq_left,
    coreNames, if_true, NamesSecret, EndsInSecretWord, Bool.false_eq_true, if_false, exists_or, and_or_left]
  -- the same eleven alternatives on both sides, grouped differently
  constructor
  · rintro ((h | h) | (h | h) | (h | h) | (h | h) | (h | h) | h) <;> simp only [h, true_or, or_true]
  · rintro (((h | h | h | h | h) | h) | (h | h | h | h | h)) <;> simp only [h, true_or, or_true]

/-- The security direction on its own: every key the property names is treated as sensitive. -/
theorem named_keys_are_sensitive (k : Str) (hk : NamesSecret k) : sensitive k = true :=
  (sensitive_spec k).mpr (Or.inl hk)

/-- For a key that does not end in a newline the two notions coincide exactly. -/
theorem sensitive_iff_named (k : Str) (hn : ∀ k', k ≠ k' ++ ['\n']) :
    sensitive k = true ↔ NamesSecret k := by
  rw [sensitive_spec]
  constructor
  · rintro (h | ⟨k', hk, _⟩)
    · exact h
    · exact absurd hk (hn k')
  · exact Or.inl

/-! Non-vacuity of the key test and of the erasure (kept next to `sensitive_spec`: they are
re-evaluated against the extracted table). -/

/-- Two different secrets (a text and an object) with one digest, nested one level down under a
mixed-case sensitive key (`Db_PWD`), have the same erasure; a key that only looks sensitive
(`token`) is kept. -/
example :
    let h : Json → Str := fun _ => ['d']
    eraseObj h [(['a'], .obj [(['D', 'b', '_', 'P', 'W', 'D'], .str ['x']), (['t', 'o', 'k', 'e', 'n'], .num ['1'])])]
      = eraseObj h [(['a'], .obj [(['D', 'b', '_', 'P', 'W', 'D'], .obj [(['y'], .null)]), (['t', 'o', 'k', 'e', 'n'], .num ['1'])])]
    ∧ sensitive ['D', 'b', '_', 'P', 'W', 'D'] = true ∧ sensitive ['t', 'o', 'k', 'e', 'n'] = false := by
  refine ⟨by rfl, by decide, by decide⟩

/-- The cleaned record of `{"a": {"x_key": "s", "n": "v"}}` with colours off: placeholder for
`x_key`, `v` in clear. -/
example :
    cleanObj (fun _ => ['9']) (colorsFor false)
        [(['a'], .obj [(['x', '_', 'k', 'e', 'y'], .str ['s']), (['n'], .str ['v'])])]
      = [(['a'], "{'x_key': '<redacted:9>', 'n': 'v'}".toList)] := by
  rw [String.toList_ofList]
  decide +kernel

/-! ## the statements of the source, translated on every run, equal the model

`harness/extractors/c20_fns.py` translates the loop body of `clean_record`, `format`, the part of
`sanitize_record` after the isolation loop and the two branches of `write_event` statement by
statement (`Gen.SanitiseFns.*`).  The theorems of this section prove the translations equal to the
hand-written model, so the *order* of the tests (is the key sensitive? — is the value an object?)
and of the stages (sanitise — URL rule; clean — store — merge) is an extracted item every theorem
below depends on: swapping two branches or two stages in the source makes one of these proofs fail. -/

/-- **`clean_record`, one member.**  The if / elif / else chain of the loop body as it stands in the
source — key test first, then `isinstance(value, dict)`, then `str(value)` — and its three f-strings
compute exactly the member the model emits: the placeholder of the digest for a sensitive key
*whatever the value is*, the cleaned inner object for an object under another key, the
quote-coloured `str(value)` otherwise. -/
theorem generated_clean_member_eq_model (h : Json → Str) (c : Colors) (k : Str) (v : Json) :
    Gen.SanitiseFns.clean_member sensitive Json.isObj h (cleanRecText h c) (renderVal c) (colorOf c) k v
      = (c.key ++ k ++ c.off,
          c.value ++ (if sensitive k then placeholder c (h v) else cleanVal h c v) ++ c.off) := by
  obtain ⟨e₁, e₂, e₃, e₄⟩ := colorOf_names c
  simp only [Gen.SanitiseFns.clean_member, e₁, e₂, e₃, e₄]
  cases sensitive k
  · cases v <;> rfl
  · simp only [if_true, placeholder, List.append_assoc, List.cons_append, List.nil_append]

/-- **`clean_record`, the loop**: the cleaned record is the generated member function mapped over
the members (Python's `clean_record[clean_key] = …` on distinct keys appends). -/
theorem generated_clean_record_eq_model (h : Json → Str) (c : Colors) (d : List (Str × Json)) :
    cleanObj h c d
      = d.map fun kv => Gen.SanitiseFns.clean_member sensitive Json.isObj h (cleanRecText h c) (renderVal c) (colorOf c) kv.1 kv.2 := by
  rw [cleanObj_eq_map]
  exact List.map_congr_left fun kv _ => (generated_clean_member_eq_model h c kv.1 kv.2).symm

/-- **`format(record)`**: the inner formatter turns the record (template, %-arguments, traceback) into a
line; that line is sanitised; then the URL rule runs over the whole sanitised record, *guarded by a test
on that same text* — the order and the guard found in the source.  `LogRec.msg` (the template
`record.msg`) does not occur on the right-hand side: a guard or a stage of the source that reads the
template instead of the formatted text is translated as such and this proof fails. -/
theorem generated_format_eq_model (h : Json → Str) (can : Bool) (parse : Str → Option (List (Str × Json)))
    (orig : LogRec → Str) (record : LogRec) :
    Gen.SanitiseFns.format orig (sanitize h can parse) redactUrl record = formatRec h can parse orig record := by
  simp only [Gen.SanitiseFns.format, formatRec, format, Gen.Sanitise.urlGuard]
  split <;> simp_all

/-- **`sanitize_record` after the isolation loop**, JSON branch: the cleaned message (colours on) is
appended to the header fields after one space, joined and colourised. -/
theorem generated_sanitize_tail_json_eq_model (h : Json → Str) (can : Bool) (record : Str) (parts : List Str)
    (d : List (Str × Json)) :
    Gen.SanitiseFns.sanitize_tail (fun o => cleanObj h (colorsFor true) (o.getD [])) dumps (colorCode can)
        (colorizer can) strip pairColour record parts (some d)
      = colorizer can (joinWith '|' (parts ++ [' ' :: dumps (cleanObj h (colorsFor true) d)])) := by
  simp [Gen.SanitiseFns.sanitize_tail]

/-- … and the plain-text branch: colour exchange on the whole record, the three quote substitutions
on the last field in the order of the source, `strip()`, the ` *` marker. -/
theorem generated_sanitize_tail_plain_eq_model (h : Json → Str) (can : Bool) (record : Str) (parts : List Str) :
    Gen.SanitiseFns.sanitize_tail (fun o => cleanObj h (colorsFor true) (o.getD [])) dumps (colorCode can)
        (colorizer can) strip pairColour record parts none
      = renderPlain can record := by
  simp [Gen.SanitiseFns.sanitize_tail, renderPlain]

/-- The isolation loop starts at the first field (`range(len(parts))`): a layout without header
fields (`%(message)s`) is sanitised too. -/
theorem isolation_starts_at_first_field : Gen.Sanitise.isolateStart = 0 := by decide

/-- The guard of the isolation loop, as extracted: it strips JSON white space, does not strip `{`,
and looks for `{` — every text `json.loads` can turn into an object passes it. -/
theorem isolation_guard_admits_objects : GuardOK := by
  refine ⟨?_, by decide, by decide⟩
  intro c hc
  simp only [Bool.or_eq_true, beq_iff_eq] at hc
  rcases hc with ((hc | hc) | hc) | hc <;> subst hc <;> decide

/-! ## no value under a sensitive key is emitted -/

/-- **No value under a sensitive key is emitted** (non-interference; every depth of nested
objects, every value type, every digest function, colour on or off).  `eraseObj h` replaces each
value stored under a sensitive key — whatever its type, objects included, at any depth — by its
digest `h value`.  Two records with the same erasure are cleaned to the same text: the output of
`clean_record` is a function of the erased record only, so nothing of a sensitive value other than
its digest can reach it.  (Taking `h` constant: the output does not depend on the secrets at all.) -/
theorem clean_noninterference (h : Json → Str) (c : Colors) (r₁ r₂ : List (Str × Json))
    (he : eraseObj h r₁ = eraseObj h r₂) : cleanObj h c r₁ = cleanObj h c r₂ := by
  rw [cleanObj_erase, he, ← cleanObj_erase]

/-- The same, stated on the translation of the source itself: mapping the loop body *as it stands in
`log_formatter.py`* over two records with the same erasure gives the same members. -/
theorem clean_record_source_noninterference (h : Json → Str) (c : Colors) (r₁ r₂ : List (Str × Json))
    (he : eraseObj h r₁ = eraseObj h r₂) :
    (r₁.map fun kv => Gen.SanitiseFns.clean_member sensitive Json.isObj h (cleanRecText h c) (renderVal c) (colorOf c) kv.1 kv.2)
      = r₂.map fun kv => Gen.SanitiseFns.clean_member sensitive Json.isObj h (cleanRecText h c) (renderVal c) (colorOf c) kv.1 kv.2 := by
  rw [← generated_clean_record_eq_model, ← generated_clean_record_eq_model]
  exact clean_noninterference h c r₁ r₂ he

/-- **The formatted record as a whole** (`LogFormatter.format`): two records with the same header
fields whose messages are JSON objects with the same erasure — the messages may contain the field
separator — are formatted to the same text, for every colour setting and every parser.  The
hypotheses `ho` say that the message texts begin with `{`, `hno` that no longer run of trailing
fields parses as an object (the header is not itself JSON): what `split_recovers_json` needs. -/
theorem format_noninterference (h : Json → Str) (can : Bool) (parse : Str → Option (List (Str × Json)))
    (header j₁ j₂ : Str) (d₁ d₂ : List (Str × Json))
    (hj₁ : parse j₁ = some d₁) (hj₂ : parse j₂ = some d₂)
    (ho₁ : firstNonSpace j₁ = some '{') (ho₂ : firstNonSpace j₂ = some '{')
    (hno₁ : ∀ fs, fs ≠ [] → fs <:+ splitOn '|' header → parse (joinWith '|' (fs ++ splitOn '|' j₁)) = none)
    (hno₂ : ∀ fs, fs ≠ [] → fs <:+ splitOn '|' header → parse (joinWith '|' (fs ++ splitOn '|' j₂)) = none)
    (he : eraseObj h d₁ = eraseObj h d₂) :
    format h can parse (header ++ '|' :: j₁) = format h can parse (header ++ '|' :: j₂) := by
  have s := sanitize_json isolation_guard_admits_objects isolation_starts_at_first_field h can parse header
  simp only [format, s j₁ d₁ hj₁ ho₁ hno₁, s j₂ d₂ hj₂ ho₂ hno₂, renderJson, clean_noninterference h _ d₁ d₂ he]

/-! ## the two readings of "at any depth of nested objects"

The implementation (and everything above) treats an array as a value: an array under a sensitive
key is hidden whole, an array under another key is shown with `str(value)` and not looked into.
Under the *deep* reading an object inside an array is a nested object too.  Both are defined in
`Model/Sanitise.lean` (`eraseObj`/`cleanObj` as implemented, `eraseDeepObj`/`cleanDeepObj`); the
check enforces the first, and these theorems say exactly how the two relate. -/

/-- The deep cleaner satisfies non-interference for the deep erasure (what a sanitiser that
descends into arrays would guarantee). -/
theorem cleanDeep_noninterference (h : Json → Str) (c : Colors) (r₁ r₂ : List (Str × Json))
    (he : eraseDeepObj h r₁ = eraseDeepObj h r₂) : cleanDeepObj h c r₁ = cleanDeepObj h c r₂ := by
  rw [cleanDeepObj_erase, he, ← cleanDeepObj_erase]

/-- On records without arrays the implemented cleaner *is* the deep cleaner. -/
theorem clean_eq_cleanDeep_of_arrayFree (h : Json → Str) (c : Colors) (d : List (Str × Json))
    (ha : arrayFreeObj d = true) : cleanObj h c d = cleanDeepObj h c d :=
  cleanObj_eq_deep h c d ha

/-- The two erasures coincide unless a sensitive key occurs inside an array that is reachable
through non-sensitive keys (`readingsAgreeObj`). -/
theorem readings_agree (h : Json → Str) (d : List (Str × Json)) (ha : readingsAgreeObj d = true) :
    eraseObj h d = eraseDeepObj h d :=
  eraseObj_eq_deep h d ha

/-- Hence on such records the implementation meets the deep reading as well. -/
theorem clean_noninterference_deep_reading (h : Json → Str) (c : Colors) (r₁ r₂ : List (Str × Json))
    (h₁ : readingsAgreeObj r₁ = true) (h₂ : readingsAgreeObj r₂ = true)
    (he : eraseDeepObj h r₁ = eraseDeepObj h r₂) : cleanObj h c r₁ = cleanObj h c r₂ :=
  clean_noninterference h c r₁ r₂ (by rw [readings_agree h r₁ h₁, readings_agree h r₂ h₂, he])

/-- **Exactly what is descended into.**  An array under a non-sensitive key is a *value*: it is
rendered whole with `str()` (quote-coloured), no digest is computed for anything inside it — the
member's text is the same for every digest function — whereas an object under a non-sensitive key
is replaced by the rendering of its cleaned members (`other_keys_descend`) and anything under a
sensitive key by the placeholder (`sensitive_member_placeholder`).  Together with
`clean_noninterference` this characterises the descent: through objects under non-sensitive keys,
nowhere else. -/
theorem arrays_are_values (h₁ h₂ : Json → Str) (c : Colors) (k : Str) (xs : List Json) (hk : sensitive k = false) :
    cleanObj h₁ c [(k, .arr xs)] = cleanObj h₂ c [(k, .arr xs)]
    ∧ cleanObj h₁ c [(k, .arr xs)]
        = [(c.key ++ k ++ c.off, c.value ++ quoteColour c ('[' :: (pyReprItems xs ++ [']'])) ++ c.off)] := by
  constructor <;> simp [cleanObj, cleanVal, hk, pyStr, pyRepr]

/-- Counterexample (proved): outside that class the implementation does **not** meet the deep
reading — `{"a": [{"pwd": "x"}]}` and `{"a": [{"pwd": "y"}]}` have the same deep erasure and are
cleaned to different texts (the array is printed with `str()`).  This is the behaviour of orso as
it is; the check does not count it as a violation (see design_notes/C20.md). -/
theorem implementation_is_shallow :
    let h : Json → Str := fun _ => ['d']
    let r₁ : List (Str × Json) := [(['a'], .arr [.obj [(['p', 'w', 'd'], .str ['x'])]])]
    let r₂ : List (Str × Json) := [(['a'], .arr [.obj [(['p', 'w', 'd'], .str ['y'])]])]
    eraseDeepObj h r₁ = eraseDeepObj h r₂ ∧ cleanObj h (colorsFor false) r₁ ≠ cleanObj h (colorsFor false) r₂
    ∧ cleanDeepObj h (colorsFor false) r₁ = cleanDeepObj h (colorsFor false) r₂ := by
  refine ⟨by rfl, by decide +kernel, by rfl⟩

/-! ## values under other keys remain visible -/

/-- **Values under other keys remain visible.**  A member whose key is not sensitive and whose
value is not an object is emitted under its own key as `str(value)`; with colours off the text is
exactly `str(value)`, with colours on it is that text with colour codes inserted around quoted
runs (`quoteColour`), between the VALUE and OFF codes. -/
theorem other_keys_visible (h : Json → Str) (c : Colors) (d : List (Str × Json)) (k : Str) (v : Json)
    (hm : (k, v) ∈ d) (hk : sensitive k = false) (hv : ∀ kvs, v ≠ .obj kvs) :
    (c.key ++ k ++ c.off, c.value ++ quoteColour c (pyStr v) ++ c.off) ∈ cleanObj h c d
    ∧ (k, pyStr v) ∈ cleanObj h (colorsFor false) d := by
  have gen : ∀ c', (c'.key ++ k ++ c'.off, c'.value ++ quoteColour c' (pyStr v) ++ c'.off) ∈ cleanObj h c' d := by
    intro c'
    simpa only [hk, Bool.false_eq_true, if_false, cleanVal_leaf h c' v hv] using cleanObj_mem h c' d k v hm
  refine ⟨gen c, ?_⟩
  have := gen (colorsFor false)
  rw [quoteColour_plain] at this
  simpa [colorsFor] using this

/-- Objects under other keys are descended into: the member's text is Python's rendering of the
cleaned inner object (to which all of the above applies again). -/
theorem other_keys_descend (h : Json → Str) (c : Colors) (d kvs : List (Str × Json)) (k : Str)
    (hm : (k, .obj kvs) ∈ d) (hk : sensitive k = false) :
    (c.key ++ k ++ c.off, c.value ++ pyReprDict (cleanObj h c kvs) ++ c.off) ∈ cleanObj h c d := by
  simpa only [hk, Bool.false_eq_true, if_false, cleanVal] using cleanObj_mem h c d k (.obj kvs) hm

/-- **Values under other keys remain visible, at any depth of nested objects.**  A run `t` of
ASCII letters and digits that occurs in a value reachable through non-sensitive keys only
(`VisibleAt`) occurs verbatim in the JSON text `json.dumps(clean_record(d))` that the formatter
emits as the message — through quote colouring (colours on or off), Python's rendering of the
nested cleaned objects and JSON escaping, for every digest function. -/
theorem visible_token_survives (h : Json → Str) (c : Colors) (t : Str) (d : List (Str × Json))
    (hp : ∀ a ∈ t, plainChar a = true) (hv : VisibleAt t d) :
    t <:+: dumps (cleanObj h c d) :=
  members_infix jsonStr (fun s => jsonStr_infix t s hp) _ (visible_tokenIn h c t hp d hv)

/-- **… and in the formatted record.**  The same token occurs verbatim in what
`LogFormatter.format` returns for the record `header|json` — after the colouriser has translated or
removed every colour code — provided its first character occurs in no pattern the colouriser
replaces (`tokenHeadOK`: e.g. a digit 2..9; a token starting with `m` right after the text `\x01OFF`
*would* be eaten, so some such condition is needed) and the URL rule does not fire on the
sanitised record (no `://` in it; otherwise a visible value lying between a `://` and an `@` is cut
by design). -/
theorem visible_token_in_record (h : Json → Str) (can : Bool) (parse : Str → Option (List (Str × Json)))
    (header j : Str) (d : List (Str × Json)) (c0 : Char) (t' : Str)
    (hj : parse j = some d) (ho : firstNonSpace j = some '{')
    (hno : ∀ fs, fs ≠ [] → fs <:+ splitOn '|' header → parse (joinWith '|' (fs ++ splitOn '|' j)) = none)
    (hp : ∀ a ∈ c0 :: t', plainChar a = true) (hh : tokenHeadOK c0 = true)
    (hv : VisibleAt (c0 :: t') d)
    (hurl : isInfix Gen.Sanitise.urlGuard (sanitize h can parse (header ++ '|' :: j)) = false) :
    c0 :: t' <:+: format h can parse (header ++ '|' :: j) := by
  have hs := sanitize_json isolation_guard_admits_objects isolation_starts_at_first_field h can parse header j d hj ho hno
  have hf : format h can parse (header ++ '|' :: j) = sanitize h can parse (header ++ '|' :: j) := by
    unfold format
    simp only [hurl, Bool.false_eq_true, if_false]
  rw [hf, hs]
  unfold renderJson
  apply colorizer_token can c0 t' _ hp hh
  refine List.IsInfix.trans ?_ (joinWith_infix '|' _ _ (List.mem_append_right _ (List.mem_singleton.mpr rfl)))
  exact List.infix_cons_iff.mpr (Or.inr (visible_token_survives h (colorsFor true) _ d hp hv))

/-- Counterexample (proved): without `tokenHeadOK` the statement of `visible_token_in_record` is
**false** of the faithful model.  The visible value `"\x01OFFm123"` of `{"n": …}` contains the plain
token `m123`; `json.dumps` writes the control character as `\u0001`, the colouriser turns that
literal back into `\x01` and then removes `\x01OFFm` — the `m` of the token goes with it.  (Checked
on the real code by the harness's generators only in so far as tokens start with a digit; a value
under a non-sensitive key that spells a colour code is mangled, never a secret shown.) -/
theorem visible_token_needs_head_condition :
    let j : Str := ['{', '"', 'n', '"', ':', ' ', '"', '\\', 'u', '0', '0', '0', '1', 'O', 'F', 'F', 'm', '1', '2', '3', '"', '}']
    let d : List (Str × Json) := [(['n'], .str [Char.ofNat 1, 'O', 'F', 'F', 'm', '1', '2', '3'])]
    let parse : Str → Option (List (Str × Json)) := fun t => if t = j then some d else none
    VisibleAt ['m', '1', '2', '3'] d ∧ tokenHeadOK 'm' = false
      ∧ ¬ (['m', '1', '2', '3'] <:+: format (fun _ => []) false parse (['h', '|'] ++ j)) := by
  refine ⟨?_, by decide, by decide +kernel⟩
  exact .leaf _ ['n'] _ (List.mem_singleton.mpr rfl) (by decide) (by intro kvs h; cases h)
    ⟨[Char.ofNat 1, 'O', 'F', 'F'], [], rfl⟩

/-- Colour codes are only ever *inserted* into a visible value: the characters of `str(value)`
all appear, in order, in the coloured text. -/
theorem visible_value_sublist (c : Colors) (s : Str) : s.Sublist (quoteColour c s) :=
  quoteColourF_sublist c _ s

/-- **A digest placeholder appears instead**: a member with a sensitive key is emitted under its
own key as the placeholder built from the digest of the value — and from nothing else of it. -/
theorem sensitive_member_placeholder (h : Json → Str) (c : Colors) (d : List (Str × Json)) (k : Str) (v : Json)
    (hm : (k, v) ∈ d) (hk : sensitive k = true) :
    (c.key ++ k ++ c.off, c.value ++ placeholder c (h v) ++ c.off) ∈ cleanObj h c d := by
  simpa only [hk, if_true] using cleanObj_mem h c d k v hm

/-! ## isolating the JSON message -/

/-- **The JSON part is recovered whole, whatever it contains.**  For every header and every JSON
text `json` that parses as an object — including texts containing `|` — the isolation loop of
`sanitize_record` returns exactly the header fields and the parse of the whole `json`, provided the
text begins with `{` (after JSON white space) and no longer run of trailing fields (a piece of the
header glued to the message) parses as an object. -/
theorem split_recovers_json (parse : Str → Option (List (Str × Json))) (header json : Str)
    (d : List (Str × Json)) (hj : parse json = some d) (ho : firstNonSpace json = some '{')
    (hno : ∀ fs, fs ≠ [] → fs <:+ splitOn '|' header →
      parse (joinWith '|' (fs ++ splitOn '|' json)) = none) :
    isolate parse [] (splitOn '|' (header ++ '|' :: json)) = some (splitOn '|' header, d) := by
  rw [splitOn_append]
  exact isolate_message parse _ json d hj (opensObject_of_firstNonSpace isolation_guard_admits_objects json ho)
    fun p ps hs => Or.inr (hno _ (List.cons_ne_nil p ps) hs)

/-- The side condition in syntactic form.  A parser that only accepts texts whose first
non-blank character is `{` (true of `json.loads` returning a dict; the harness checks it on every
candidate) and a header none of whose fields begins with `{` (true of every layout of
`create_logger.py`: the fields begin with a colour code, a level name, a date, a function or file
name): then the message is recovered whole. -/
theorem split_recovers_json_syntactic (parse : Str → Option (List (Str × Json)))
    (hparse : ∀ t d, parse t = some d → firstNonSpace t = some '{')
    (header json : Str) (d : List (Str × Json)) (hj : parse json = some d)
    (hh : ∀ f ∈ splitOn '|' header, firstNonSpace f ≠ some '{') :
    isolate parse [] (splitOn '|' (header ++ '|' :: json)) = some (splitOn '|' header, d) :=
  split_recovers_json parse header json d hj (hparse _ _ hj)
    (no_longer_candidate parse hparse _ _ (splitOn_ne_nil _ _) hh)

/-- **The isolation theorem against the guard as extracted — no assumption on the parser.**  If no
header field passes the guard of the loop (`lstrip(<guardStrip>).startswith("{")`, both read from the
source; a leading BOM is stripped like white space) and the message text passes it and parses as an
object, the loop returns the header fields and the parse of the whole message: the header fields are
skipped without the parser being asked.  The harness checks the remaining premise on the running
code: every text `json.loads` turns into a dict passes the guard. -/
theorem split_recovers_json_guard (parse : Str → Option (List (Str × Json))) (header json : Str)
    (d : List (Str × Json)) (hj : parse json = some d) (ho : opensObject json = true)
    (hh : ∀ f ∈ splitOn '|' header, opensObject f = false) :
    isolate parse [] (splitOn '|' (header ++ '|' :: json)) = some (splitOn '|' header, d) := by
  rw [splitOn_append]
  exact isolate_message parse _ json d hj (opensObject_first_field (by decide) (by decide) json ho)
    fun p ps hs => Or.inl (hh p (hs.subset List.mem_cons_self))

/-- **What the parser rejects is plain text.**  The guarantee for JSON messages is conditional on the
parser: a record none of whose candidates parses (a leading BOM after a header, single quotes, a
trailing comma, an integer of 4301 digits — whatever `json.loads` refuses) takes the plain-text
branch whole, and only the URL rule applies to it.  The parser's acceptance set is exactly the
domain of the first sentence of the property. -/
theorem rejected_message_is_plain_text (h : Json → Str) (can : Bool) (parse : Str → Option (List (Str × Json)))
    (hp : ∀ t, parse t = none) (record : Str) :
    format h can parse record
      = (if isInfix Gen.Sanitise.urlGuard (renderPlain can record) then redactUrl (renderPlain can record)
         else renderPlain can record) := by
  simp only [format, sanitize_from_first isolation_starts_at_first_field, isolate_none parse hp]

/-- `split_recovers_json` for a layout without header fields (`%(message)s`). -/
theorem split_recovers_json_bare (parse : Str → Option (List (Str × Json))) (json : Str)
    (d : List (Str × Json)) (hj : parse json = some d) (ho : firstNonSpace json = some '{') :
    isolate parse [] (splitOn '|' json) = some ([], d) := by
  simpa using isolate_message parse [] json d hj (opensObject_of_firstNonSpace isolation_guard_admits_objects json ho)
    fun p ps hs => absurd (List.suffix_nil.mp hs) (List.cons_ne_nil p ps)

/-- Splitting on the separator and joining again is the identity, and the fields of
`header|json` are the fields of the header followed by the fields of the message: the two facts
the isolation loop rests on (before the repair F03 `sanitize_record` kept only the last field). -/
theorem split_join (s a b : Str) :
    joinWith '|' (splitOn '|' s) = s ∧ splitOn '|' (a ++ '|' :: b) = splitOn '|' a ++ splitOn '|' b :=
  ⟨join_splitOn '|' s, splitOn_append '|' a b⟩

/-! ## URL user-info -/

/-- **Credentials in the user-info part of a URL are removed** (non-interference): for arbitrary
surrounding text `pre` / `post` — other URLs, `@` signs, separators, newlines — the redacted text
does not depend on the user-info `u` between `://` and `@` (any text without `@` and newline,
which is what RFC 3986 user-info is).  Stated against the expression extracted from `format()`. -/
theorem url_userinfo_removed (pre post u₁ u₂ : Str)
    (h₁ : cleanRun Gen.Sanitise.urlClose u₁ = true) (h₂ : cleanRun Gen.Sanitise.urlClose u₂ = true) :
    redactUrl (pre ++ urlTail u₁ post) = redactUrl (pre ++ urlTail u₂ post) :=
  redactUrlWith_congr _ pre post u₁ u₂ h₁ h₂

/-- At the first URL of a text the user-info is replaced by the fixed token and redaction goes on
after the `@`. -/
theorem url_first_redacted (u post : Str) (hu : cleanRun Gen.Sanitise.urlClose u = true) :
    redactUrl (urlTail u post) = Gen.Sanitise.urlReplacement ++ redactUrl post :=
  redactUrlWith_match _ (urlStep_urlTail u post hu)

/-- **The URL rule composed with the plain-text branch.**  For a record whose message is not a
JSON object (`isolate … = none`), what `LogFormatter.format` returns — level colour exchange, the
three quote-colouring substitutions and `strip()` on the last field, the colouriser, then the URL
rule — does not depend on the user-info `u` of a URL occurring anywhere in it, for user-infos made
of RFC 3986 user-info characters other than the apostrophe (`UrlSafe`).  Every stage rewrites the
text around `://u@` without looking at `u` (`renderPlain_around`), so the URL rule still finds the same
`://…@` afterwards.  (For a user-info containing a quote character strict non-interference is
false: the quote changes how *other* quotes of the message are paired; that case is carried by the
correspondence and the token oracle.) -/
theorem plain_text_url_userinfo_removed (h : Json → Str) (can : Bool)
    (parse : Str → Option (List (Str × Json))) (pre post u₁ u₂ : Str)
    (hu₁ : UrlSafe u₁) (hu₂ : UrlSafe u₂)
    (hp₁ : isolate parse [] (splitOn '|' (pre ++ urlTail u₁ post)) = none)
    (hp₂ : isolate parse [] (splitOn '|' (pre ++ urlTail u₂ post)) = none) :
    format h can parse (pre ++ urlTail u₁ post) = format h can parse (pre ++ urlTail u₂ post) := by
  obtain ⟨a, b, o⟩ := renderPlain_urlTail can pre post
  simp only [format, sanitize_from_first isolation_starts_at_first_field, hp₁, hp₂, o u₁ hu₁, o u₂ hu₂,
    isInfix_urlTail (g := Gen.Sanitise.urlGuard) rfl, if_true]
  exact url_userinfo_removed a b u₁ u₂ (cleanRun_of_urlSafe u₁ hu₁) (cleanRun_of_urlSafe u₂ hu₂)

/-- Counterexample (proved): for a user-info that contains a quote character the *strict*
non-interference of `plain_text_url_userinfo_removed` is **false** of the faithful model (colour
on): the quote inside `://'@` pairs with the first quote of `'q'`, so the run between them is what
gets coloured, while with the user-info `x` it is `q`.  The two outputs differ in where a colour code
stands — one bit about the user-info (it contains a quote), not the credential, which is removed in
both.  This is why `UrlSafe` excludes the apostrophe; such user-infos are carried by the
correspondence and the token oracle. -/
theorem quote_in_userinfo_breaks_strict_noninterference :
    let pre : Str := ['a', ' ']
    let post : Str := ['h', ' ', '\'', 'q', '\'']
    format (fun _ => []) true (fun _ => none) (pre ++ urlTail ['\''] post)
      ≠ format (fun _ => []) true (fun _ => none) (pre ++ urlTail ['x'] post)
    ∧ cleanRun Gen.Sanitise.urlClose ['\''] = true ∧ ¬ UrlSafe ['\''] := by
  refine ⟨by decide +kernel, by decide, ?_⟩
  intro h
  exact absurd (h '\'' (List.mem_singleton.mpr rfl)) (by decide)

/-! ## the ways a message reaches the formatter

`format()` is handed a `LogRecord`: the template the caller wrote (`record.msg`), the %-arguments
(`record.args`), the traceback.  A URL or a JSON object can arrive through any of them
(`logger.error("cannot connect to %s", url)`, `logger.info("%s", json_text)`, a message object with
`__str__`, an exception text).  The theorems of this section are stated on the translation of the
source's `format` *with the record in scope* and for every inner formatter, so that what is scrubbed and
sanitised is provably the formatted text, whatever way its parts came in. -/

/-- **The scrub is over the formatted record.**  For every inner formatter and any two records —
any templates, any arguments — whose formatted lines differ only in the user-info of a URL, the source's
`format` returns the same text.  Nothing is assumed about where in the record the URL came from. -/
theorem url_in_formatted_record_removed (h : Json → Str) (can : Bool) (parse : Str → Option (List (Str × Json)))
    (orig : LogRec → Str) (r₁ r₂ : LogRec) (pre post u₁ u₂ : Str)
    (hu₁ : UrlSafe u₁) (hu₂ : UrlSafe u₂)
    (e₁ : orig r₁ = pre ++ urlTail u₁ post) (e₂ : orig r₂ = pre ++ urlTail u₂ post)
    (hp₁ : isolate parse [] (splitOn '|' (pre ++ urlTail u₁ post)) = none)
    (hp₂ : isolate parse [] (splitOn '|' (pre ++ urlTail u₂ post)) = none) :
    Gen.SanitiseFns.format orig (sanitize h can parse) redactUrl r₁
      = Gen.SanitiseFns.format orig (sanitize h can parse) redactUrl r₂ := by
  rw [generated_format_eq_model, generated_format_eq_model, formatRec, formatRec, e₁, e₂]
  exact plain_text_url_userinfo_removed h can parse pre post u₁ u₂ hu₁ hu₂ hp₁ hp₂

/-- **… and so is the sanitising.**  Two records — any templates, any arguments — whose formatted lines
are the same header followed by JSON objects with the same erasure are formatted to the same text
(`logger.info("%s", json_text)` is sanitised like `logger.info(json_text)`). -/
theorem json_in_formatted_record_noninterference (h : Json → Str) (can : Bool)
    (parse : Str → Option (List (Str × Json))) (orig : LogRec → Str) (r₁ r₂ : LogRec)
    (header j₁ j₂ : Str) (d₁ d₂ : List (Str × Json))
    (e₁ : orig r₁ = header ++ '|' :: j₁) (e₂ : orig r₂ = header ++ '|' :: j₂)
    (hj₁ : parse j₁ = some d₁) (hj₂ : parse j₂ = some d₂)
    (ho₁ : firstNonSpace j₁ = some '{') (ho₂ : firstNonSpace j₂ = some '{')
    (hno₁ : ∀ fs, fs ≠ [] → fs <:+ splitOn '|' header → parse (joinWith '|' (fs ++ splitOn '|' j₁)) = none)
    (hno₂ : ∀ fs, fs ≠ [] → fs <:+ splitOn '|' header → parse (joinWith '|' (fs ++ splitOn '|' j₂)) = none)
    (he : eraseObj h d₁ = eraseObj h d₂) :
    Gen.SanitiseFns.format orig (sanitize h can parse) redactUrl r₁
      = Gen.SanitiseFns.format orig (sanitize h can parse) redactUrl r₂ := by
  rw [generated_format_eq_model, generated_format_eq_model, formatRec, formatRec, e₁, e₂]
  exact format_noninterference h can parse header j₁ j₂ d₁ d₂ hj₁ hj₂ ho₁ ho₂ hno₁ hno₂ he

/-- `template % (x,)` for a template with one `%s` and no other `%`: the argument is spliced in. -/
theorem pctFormat_one_argument (a b x : Str) (ha : '%' ∉ a) (hb : '%' ∉ b) :
    pctFormat (a ++ '%' :: 's' :: b) [x] = some (a ++ x ++ b) := by
  induction a with
  | nil => rw [List.nil_append, pctFormat_s, pctFormat_plain b hb]; simp
  | cons c a ih =>
    have hc : c ≠ '%' := fun e => ha (by simp [e])
    have ha' : '%' ∉ a := fun m => ha (List.mem_cons_of_mem _ m)
    rw [List.cons_append, pctFormat_cons_ne _ _ _ hc, ih ha']; simp

/-- **A URL that arrives as a %-argument is scrubbed** (`logger.error("cannot connect to %s", url)`, the
idiom the logging module recommends): for the standard inner formatter (header fields, the message,
the traceback), a template with one `%s` — which need not contain `://` — and an argument holding a URL,
the source's `format` does not depend on the user-info. -/
theorem url_as_argument_removed (h : Json → Str) (can : Bool) (parse : Str → Option (List (Str × Json)))
    (header a b p q trailer u₁ u₂ : Str) (ha : '%' ∉ a) (hb : '%' ∉ b)
    (hu₁ : UrlSafe u₁) (hu₂ : UrlSafe u₂)
    (hp₁ : isolate parse [] (splitOn '|' ((header ++ a ++ p) ++ urlTail u₁ (q ++ b ++ trailer))) = none)
    (hp₂ : isolate parse [] (splitOn '|' ((header ++ a ++ p) ++ urlTail u₂ (q ++ b ++ trailer))) = none) :
    Gen.SanitiseFns.format (fun r => (stdLine header r).getD []) (sanitize h can parse) redactUrl
        ⟨a ++ '%' :: 's' :: b, [p ++ urlTail u₁ q], trailer⟩
      = Gen.SanitiseFns.format (fun r => (stdLine header r).getD []) (sanitize h can parse) redactUrl
        ⟨a ++ '%' :: 's' :: b, [p ++ urlTail u₂ q], trailer⟩ := by
  have line : ∀ u, (stdLine header ⟨a ++ '%' :: 's' :: b, [p ++ urlTail u q], trailer⟩).getD []
      = (header ++ a ++ p) ++ urlTail u (q ++ b ++ trailer) := by
    intro u
    simp [stdLine, LogRec.getMessage, pctFormat_one_argument a b _ ha hb, urlTail, List.append_assoc]
  exact url_in_formatted_record_removed h can parse _ _ _ _ _ u₁ u₂ hu₁ hu₂ (line u₁) (line u₂) hp₁ hp₂

/-- The seeded guard, as a counterexample kept in the file: testing the *template* for `://` instead of
the formatted text is not the model — for `logger.error("to %s", "db://u:p@h")` the template holds no
URL, the scrub is skipped and the user-info `u:p` is in the record. -/
theorem a_guard_on_the_template_is_not_the_model :
    let r : LogRec := ⟨"to %s".toList, ["db://u:p@h".toList], []⟩
    let orig : LogRec → Str := fun r => (stdLine "n | ".toList r).getD []
    let line := sanitize (fun _ => []) false (fun _ => none) (orig r)
    let seeded := if isInfix "://".toList r.msg then redactUrl line else line
    seeded ≠ formatRec (fun _ => []) false (fun _ => none) orig r
      ∧ isInfix "u:p".toList seeded = true
      ∧ isInfix "u:p".toList (formatRec (fun _ => []) false (fun _ => none) orig r) = false := by
  iterate 5 rw [String.toList_ofList]
  decide +kernel

/-! ## the structured logger -/

/-- **`GoogleLogger.write_event`**: the JSON line it prints and returns for a dict message —
`clean_record(message, False)`, `str(message) + " *"` under `"message"`, the cleaned members merged
into the structured log, `orjson.dumps` — is a function of the erased message, for every digest and
every content of the structured log (severity, labels, source location, span id). -/
theorem write_event_noninterference (h : Json → Str) (base : List (Str × GVal)) (r₁ r₂ : List (Str × Json))
    (he : eraseObj h r₁ = eraseObj h r₂) : writeEvent h base r₁ = writeEvent h base r₂ := by
  simp only [writeEvent, eventLog, clean_noninterference h _ r₁ r₂ he]

/-- **`write_event`, dict message**: clean with colours off, store `str(cleaned) + " *"` under
`"message"`, merge the cleaned members, print — in the order of the source. -/
theorem generated_write_event_dict_eq_model (h : Json → Str) (base : List (Str × GVal)) (msg : List (Str × Json)) :
    Gen.SanitiseFns.write_event_dict (cleanObj h (colorsFor false)) orjsonDumps base msg = writeEvent h base msg := by
  simp only [Gen.SanitiseFns.write_event_dict, writeEvent, eventLog]

/-- **`write_event`, text message**: the URL rule first, then the message is stored and printed. -/
theorem generated_write_event_text_eq_model (base : List (Str × GVal)) (msg : Str) :
    Gen.SanitiseFns.write_event_text (redactUrlWith Gen.Sanitise.gUrlReplacement) orjsonDumps base msg
      = writeEventText base msg := by
  simp only [Gen.SanitiseFns.write_event_text, writeEventText, eventTextLog, Gen.Sanitise.gUrlGuard, true_and]
  split <;> simp_all

/-- The structured logger uses the URL expression of `format()` (only the replacement differs). -/
theorem write_event_uses_the_url_rule_of_format :
    Gen.Sanitise.gUrlOpen = Gen.Sanitise.urlOpen ∧ Gen.Sanitise.gUrlClose = Gen.Sanitise.urlClose
      ∧ Gen.Sanitise.gUrlGuard = Gen.Sanitise.urlOpen := by decide

/-- **URL credentials in a text message of the structured logger are removed**: the line
`write_event` prints for a text message does not depend on the user-info of a URL in it, for
arbitrary surrounding text and every content of the structured log. -/
theorem write_event_text_url_userinfo_removed (base : List (Str × GVal)) (pre post u₁ u₂ : Str)
    (h₁ : cleanRun Gen.Sanitise.urlClose u₁ = true) (h₂ : cleanRun Gen.Sanitise.urlClose u₂ = true) :
    writeEventText base (pre ++ urlTail u₁ post) = writeEventText base (pre ++ urlTail u₂ post) := by
  simp only [writeEventText, eventTextLog, isInfix_urlTail (g := Gen.Sanitise.gUrlGuard) rfl, if_true,
    redactUrlWith_congr _ pre post u₁ u₂ h₁ h₂]

/-! ## the structured logger's entry points (`GoogleLogger()`, what `get_logger()` returns under `K_SERVICE`) -/

/-- **Every entry point hands the caller's message to `write_event` as it is**: the argument expressions of
`base_logger` (what `logger.debug/…/alert` are) and of `__call__`, translated from the source, are the
message itself - not `str(message)`, not a decorated text, and `write_event` is the function called. -/
theorem structured_logger_entry_points_pass_the_message {α : Type} (w : Msg → α) (pyStr : Msg → Msg) (m : Msg) :
    Gen.SanitiseFns.base_logger w pyStr m = w m ∧ Gen.SanitiseFns.call_logger w pyStr m = w m :=
  ⟨rfl, rfl⟩

/-- **A level method of a `GoogleLogger()` instance, end to end**: what `logger.<level>(dict)` prints - nothing
below the level, else `write_event`'s line - is the same for two dicts with the same erasure.  Which levels are filtered (`Gen.SanitiseFns.logs_at`, the
translated test of `create_logger`) is not part of the property: the statement holds for the test as it stands. -/
theorem structured_logger_method_noninterference (h : Json → Str) (base : List (Str × GVal))
    (level selfLevel : Int) (r₁ r₂ : List (Str × Json)) (he : eraseObj h r₁ = eraseObj h r₂) :
    (if Gen.SanitiseFns.logs_at level selfLevel then
        some (Gen.SanitiseFns.base_logger (fun m => match m with | .dict d => writeEvent h base d | _ => []) id (.dict r₁))
      else none)
    = (if Gen.SanitiseFns.logs_at level selfLevel then
        some (Gen.SanitiseFns.base_logger (fun m => match m with | .dict d => writeEvent h base d | _ => []) id (.dict r₂))
      else none) := by
  rw [(structured_logger_entry_points_pass_the_message _ id (.dict r₁)).1,
    (structured_logger_entry_points_pass_the_message _ id (.dict r₂)).1]
  simp only [write_event_noninterference h base r₁ r₂ he]

/-! ## from `logger.<level>(dict)` to the handler: `add_level.py`

`get_logger()` installs `log_for_level` as `logger.debug / info / warning / error / audit / alert`.  It is
the code between the caller's dict and the text `LogFormatter.format` sees; the statement's "a log message
is a JSON object" is decided on what *it* hands to `Logger._log`. -/

/-- The translation of `log_for_level` as it stands in `add_level.py` is the model `logForLevel`: serialise a
dict (orjson, else json, else `str`), decode bytes, drop a record below the level or a repeated WARNING,
hand everything else to `_log` unchanged.  A cap, a prefix, another fallback order, a decoration of the
text break this equation. -/
theorem generated_log_for_level_eq_model (oj js : List (Str × Json) → Option Str) (str : List (Str × Json) → Str)
    (enabled isWarning : Bool) (seen : Msg → Bool) (m : Msg) :
    Gen.SanitiseFns.log_for_level (ojMsg oj) (jsMsg js) (strMsg str) enabled isWarning seen m
      = logForLevel oj js str enabled isWarning seen m := by
  -- once it is fixed which serialiser answers and what the two flags are, both sides compute
  unfold Gen.SanitiseFns.log_for_level logForLevel handOver
  cases m with
  | dict d =>
    simp only [ojMsg, jsMsg]
    cases oj d <;> cases js d <;> cases enabled <;> cases isWarning <;> rfl
  | bytes b => cases enabled <;> cases isWarning <;> rfl
  | text t => cases enabled <;> cases isWarning <;> rfl

/-- **A dict reaches the formatter as its whole serialisation**: on the source's own translation, an enabled
call that is not a repeated warning hands `_log` exactly the text `orjson.dumps` wrote - of any length. -/
theorem logger_call_hands_over_the_serialisation (oj js : List (Str × Json) → Option Str)
    (str : List (Str × Json) → Str) (isWarning : Bool) (seen : Msg → Bool) (d : List (Str × Json)) (t : Str)
    (ht : oj d = some t) (hw : isWarning = false ∨ seen (.text t) = false) :
    Gen.SanitiseFns.log_for_level (ojMsg oj) (jsMsg js) (strMsg str) true isWarning seen (.dict d) = some (.text t) := by
  rw [generated_log_for_level_eq_model]
  rcases hw with hw | hw <;> simp [logForLevel, handOver, ht, hw]

/-- ... and when orjson refuses the dict (an integer beyond 64 bits, an unpaired surrogate) it is the
standard library's JSON text, not `str(dict)` (F08). -/
theorem logger_call_falls_back_to_json (oj js : List (Str × Json) → Option Str)
    (str : List (Str × Json) → Str) (isWarning : Bool) (seen : Msg → Bool) (d : List (Str × Json)) (t : Str)
    (ho : oj d = none) (ht : js d = some t) (hw : isWarning = false ∨ seen (.text t) = false) :
    Gen.SanitiseFns.log_for_level (ojMsg oj) (jsMsg js) (strMsg str) true isWarning seen (.dict d) = some (.text t) := by
  rw [generated_log_for_level_eq_model]
  rcases hw with hw | hw <;> simp [logForLevel, handOver, ho, ht, hw]

/-- **End to end** (`logger.error(dict)` → record): two dicts with the same erasure, logged through the
translated `log_for_level` and formatted by `LogFormatter.format` behind the same header, give the same
record (or are both dropped) - for every serialiser that the parser reads back (`hrt`: `json.loads` of the
text `orjson.dumps` wrote is the dict; measured on every end-to-end case), whatever the level filter says,
for every digest, colour setting and message length.  `hno`: the header is not itself JSON. -/
theorem logger_call_noninterference (h : Json → Str) (can : Bool) (parse : Str → Option (List (Str × Json)))
    (oj js : List (Str × Json) → Option Str) (str : List (Str × Json) → Str) (enabled : Bool)
    (header j₁ j₂ : Str) (d₁ d₂ : List (Str × Json))
    (hs₁ : oj d₁ = some j₁) (hs₂ : oj d₂ = some j₂)
    (hrt₁ : parse j₁ = some d₁) (hrt₂ : parse j₂ = some d₂)
    (ho₁ : firstNonSpace j₁ = some '{') (ho₂ : firstNonSpace j₂ = some '{')
    (hno₁ : ∀ fs, fs ≠ [] → fs <:+ splitOn '|' header → parse (joinWith '|' (fs ++ splitOn '|' j₁)) = none)
    (hno₂ : ∀ fs, fs ≠ [] → fs <:+ splitOn '|' header → parse (joinWith '|' (fs ++ splitOn '|' j₂)) = none)
    (he : eraseObj h d₁ = eraseObj h d₂) :
    emitted h can parse header
        (Gen.SanitiseFns.log_for_level (ojMsg oj) (jsMsg js) (strMsg str) enabled false (fun _ => false) (.dict d₁))
      = emitted h can parse header
        (Gen.SanitiseFns.log_for_level (ojMsg oj) (jsMsg js) (strMsg str) enabled false (fun _ => false) (.dict d₂)) := by
  rw [generated_log_for_level_eq_model, generated_log_for_level_eq_model]
  cases enabled
  · simp [logForLevel, emitted]
  · simp only [logForLevel, handOver, hs₁, hs₂, emitted, if_true, Bool.false_and, Bool.false_eq_true, if_false]
    rw [format_noninterference h can parse header j₁ j₂ d₁ d₂ hrt₁ hrt₂ ho₁ ho₂ hno₁ hno₂ he]

/-- The seeded cap, as a counterexample kept in the file: a hand-over that cuts the text after `n`
characters is *not* the model - already a three-character object loses its closing brace at `n = 2`. -/
theorem a_capped_hand_over_is_not_the_model :
    ∃ (oj : List (Str × Json) → Option Str) (d : List (Str × Json)),
      (match handOver oj (fun _ => none) (fun _ => []) (.dict d) with
        | .text t => some (t.take 2)
        | _ => none) ≠ (oj d) := by
  refine ⟨fun _ => some ['{', ' ', '}'], [], ?_⟩
  decide

/-! ## non-vacuity -/

/-- `UrlSafe` / `tokenHeadOK` are inhabited by what they are meant for, the isolation fails on a
plain message for the parser that accepts nothing, and `write_event` on `{"pwd": "x", "n": "v"}`. -/
example :
    (∀ c ∈ "user:p%40ss-W0rd".toList, urlSafeChar c = true) ∧ tokenHeadOK '7' = true ∧ tokenHeadOK 'm' = false
    ∧ isolate (fun _ => none) [] (splitOn '|' "a | see ftp://u:p@h".toList) = none
    ∧ writeEvent (fun _ => ['9']) [(['s'], .text ['D'])] [(['p', 'w', 'd'], .str ['x']), (['n'], .str ['v'])]
      = "{\"s\":\"D\",\"message\":\"{'pwd': '<redacted:9>', 'n': 'v'} *\",\"pwd\":\"<redacted:9>\",\"n\":\"v\"}".toList := by
  refine ⟨by rw [String.toList_ofList]; decide +kernel, by decide +kernel, by decide +kernel,
    isolate_none _ (fun _ => rfl) _ _,
    eq_toList (by decide +kernel)⟩

/-- The guard hypotheses of `split_recovers_json_guard` on a header shaped like `create_logger.py`'s
and on a message that starts with a BOM and white space; a field that starts with `{` does pass. -/
example :
    (∀ f ∈ splitOn '|' ['n', ' ', '|', ' ', 'E', ' '], opensObject f = false)
    ∧ opensObject [Char.ofNat 0xfeff, ' ', '{', '"', 'a', '"', ':', '1', '}'] = true
    ∧ opensObject ['x', '{'] = false := by decide +kernel

/-- `log_for_level` on concrete arguments: a dict orjson writes, a dict only json writes, a dict
neither writes, bytes, a filtered call, a repeated warning - and the table the key theorem is about. -/
example :
    let oj : List (Str × Json) → Option Str := fun d => if d.length = 1 then some ['{', 'o', '}'] else none
    let js : List (Str × Json) → Option Str := fun d => if d.length ≤ 2 then some ['{', 'j', '}'] else none
    let f := Gen.SanitiseFns.log_for_level (ojMsg oj) (jsMsg js) (strMsg fun _ => ['s'])
    f true false (fun _ => false) (.dict [(['a'], .null)]) = some (.text ['{', 'o', '}'])
    ∧ f true false (fun _ => false) (.dict [(['a'], .null), (['b'], .null)]) = some (.text ['{', 'j', '}'])
    ∧ f true false (fun _ => false) (.dict [(['a'], .null), (['b'], .null), (['c'], .null)]) = some (.text ['s'])
    ∧ f true true (fun _ => false) (.bytes ['x']) = some (.text ['x'])
    ∧ f false false (fun _ => false) (.text ['x']) = none
    ∧ f true true (fun _ => true) (.text ['x']) = none
    ∧ patterns.map patCore ≠ [] := by
  refine ⟨by rfl, by rfl, by rfl, by rfl, by rfl, by rfl, by decide⟩

/-- `VisibleAt` is inhabited two objects down: the token `T1` inside `{"a": {"n": "xT1y"}}`. -/
example : VisibleAt ['T', '1'] [(['a'], .obj [(['n'], .str ['x', 'T', '1', 'y'])])] :=
  .inner _ _ _ (List.mem_singleton.mpr rfl) (by decide)
    (.leaf _ _ _ (List.mem_singleton.mpr rfl) (by decide) (by intro kvs h; cases h) ⟨['x'], ['y'], rfl⟩)

/-- The syntactic side condition holds of a header shaped like the one of `create_logger.py`
(`name | LEVEL `, fields not starting with `{`). -/
example : ∀ f ∈ splitOn '|' ['n', ' ', '|', ' ', 'E', ' '], firstNonSpace f ≠ some '{' := by decide +kernel

/-- The isolation hypotheses are satisfiable with a message that contains the separator, and the
URL rule on a text with two URLs and a stray `@`. -/
example :
    let parse : Str → Option (List (Str × Json)) := fun t => if t = ['{', '|', '}'] then some [] else none
    isolate parse [] (splitOn '|' ['h', '|', '{', '|', '}']) = some ([['h']], [])
    ∧ redactUrl "a://u:p@h b://q@i @".toList = "a://\x01BOLD_PURLEm<redacted>\x01OFFmh b://\x01BOLD_PURLEm<redacted>\x01OFFmi @".toList := by
  refine ⟨by rfl, ?_⟩
  rw [String.toList_ofList]
  exact eq_toList (by decide +kernel)

/-- The record-level hypotheses are inhabited: `"to %s" % ("db://u:p@h",)` behind the header `n | `, no
traceback, is formatted to a line whose user-info is replaced; too few / too many arguments and an unknown
directive are errors, `%%` is a per cent sign, and no arguments means no formatting at all. -/
example :
    formatRec (fun _ => []) false (fun _ => none) (fun r => (stdLine "n | ".toList r).getD [])
        ⟨"to %s".toList, ["db://u:p@h".toList], []⟩
      = "n | to db://\x01BOLD_PURLEm<redacted>\x01OFFmh *".toList
    ∧ pctFormat "%s".toList [] = none ∧ pctFormat "x".toList [['a']] = none ∧ pctFormat "%q".toList [['a']] = none
    ∧ pctFormat "%d%% of %s".toList [['7'], ['x']] = some "7% of x".toList
    ∧ (⟨"100%".toList, [], []⟩ : LogRec).getMessage = some "100%".toList := by
  iterate 10 rw [String.toList_ofList]
  decide +kernel

/-! ## the state of the process before the logger is made -/

/-- the level methods that turn a dictionary into JSON text, by the level name `get_logger()` registers them under -/
def overriddenLevels : List String := ["DEBUG", "INFO", "WARNING", "ERROR"]

/-- "through the logger `create_logger.get_logger()` builds": the methods `debug`, `info`, `warning`, `error` of the standard
library exist on every `logging.Logger` and print a dictionary as `str(dict)` (no JSON, no sanitising).  `get_logger()` replaces
each of them by `log_for_level` **on every call and under no test of what the process already holds** - the list read from
`get_logger()` on this run (`Gen.Sanitise.levelInstalls`) has each of the four names with an empty list of enclosing tests.
Moving the calls under `if not hasattr(logger, "audit")` (seeded C20-w9s2) makes the replacement depend on attributes another
library may have put on `logging.Logger`, and this proof fails. -/
theorem overrides_installed_unconditionally :
    ∀ n ∈ overriddenLevels, (n, ([] : List String)) ∈ Gen.Sanitise.levelInstalls := by
  decide +kernel

/-- every one of the six level names is registered by `get_logger()` at all (guarded or not) -/
theorem every_level_method_is_installed :
    ∀ n ∈ ["DEBUG", "INFO", "WARNING", "ERROR", "AUDIT", "ALERT"], n ∈ Gen.Sanitise.levelInstalls.map Prod.fst := by
  decide +kernel

end C20
