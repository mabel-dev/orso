import OrsoVerif.Lemmas.Persist
import OrsoVerif.Lemmas.PersistAll
import OrsoVerif.Lemmas.PersistPy
import OrsoVerif.Lemmas.PersistFns
import OrsoVerif.Lemmas.PersistSession
/-!
# C16 — Schemas and columns survive persistence round-trips unchanged

Property theorems only, about `Model/Persist.lean` (`init` = `FlatColumn.__init__`, `toFlat` =
`to_flatcolumn`, `toDict`/`fromDict` = `RelationSchema.to_dict`/`from_dict`, `jsonRoundTrip` =
`FlatColumn.from_json(c.to_json())`, `vcols` = what `RelationSchema.validate` reads, `describe` = what
`DataFrame.description` reports).  The model interprets the lists of `Generated/Persist.lean` (declared
fields, keywords forwarded by `to_flatcolumn`, attributes restored by `from_dict`, disposition members)
and of `Generated/TypeName.lean` (type names and what they resolve to), re-extracted on every run: a
dropped or swapped attribute makes the proofs below fail.

Values enter through a `Caster K` (truthiness, the type's cast, the effect of JSON on a value).  The
only thing assumed of the cast is C07's first clause, as a hypothesis where it is used:

  `hIdem : ∀ m v w, K.parse m v = some w → K.truthy w = true → K.parse m w = some w`
  (casting a value the cast produced gives that value)

and, for JSON, `DefaultSurvivesJson` (casting the JSON rendering of the default gives it back — C07's
"canonical rendering" clause) and `JsonNative` (the statistics are values JSON carries unchanged).

`Persistable c`: the type is a base type or untyped, the element type (if any) a base type or untyped, the
disposition is a member.  A stored type that is the int 0 lies outside it and round-trips all the same
(`fromDict_toDict_constructed`, through `Writable` of `Lemmas/PersistAll.lean`); what `Persistable` adds is that
the description does not raise (`persistable_describes`).  The counterexamples under "the boundary" are the open
findings C16-K01, K02; K03 (ARRAY without element type) and K04 (TIME default through JSON) are repaired in the
source; their theorems say that the column comes back.

The model also interprets, statement by statement, `FlatColumn.from_dict`
(`Gen.Persist.fromDictRules`), the fill statements of the type-literal block of `__init__`
(`Gen.Persist.initFills`, with their guards), the guards of the DECIMAL defaults
(`Gen.Persist.decimalFills`), the attribute `_converter` writes for an enum (`Gen.Persist.enumWrittenAs`)
and which loader `RelationSchema.from_dict` / `from_json` call (`Gen.Persist.columnLoader`/`jsonLoader`).
-/
namespace C16
open Persist
open TypeName (Str Ty)

variable {V : Type}

/-- **The constructor's normalisation is idempotent.**  Whatever keyword arguments a column was built
from, building a column again from its seventeen attributes (type and element type as stored, default
as cast, DECIMAL precision and scale as defaulted) gives the same column. -/
theorem init_idempotent (K : Caster V)
    (hIdem : ∀ m v w, K.parse m v = some w → K.truthy w = true → K.parse m w = some w)
    (fresh fresh' : String) (r : Raw V) (c : Col V) (h : init K fresh r = .ok c) :
    init K fresh' (rawOf c) = .ok c :=
  init_rawOf K fresh' c (init_establishes K hIdem fresh r c h)

/-- **Flattening keeps the eleven attributes the statement lists** — identity, name, type, precision,
scale, element type, nullability, default, aliases, description and the three statistics — for any
column the constructor produced (every subclass shares `to_flatcolumn` and `__init__`).  It succeeds:
the default is not re-cast into something else and a defaulted DECIMAL precision stays. -/
theorem toFlat_preserves (K : Caster V)
    (hIdem : ∀ m v w, K.parse m v = some w → K.truthy w = true → K.parse m w = some w)
    (fresh fresh' : String) (r : Raw V) (c : Col V) (h : init K fresh r = .ok c) :
    ∃ c', toFlat K fresh' c = .ok c'
      ∧ c'.identity = c.identity ∧ c'.name = c.name ∧ c'.type = c.type
      ∧ c'.precision = c.precision ∧ c'.scale = c.scale ∧ c'.element_type = c.element_type
      ∧ c'.nullable = c.nullable ∧ c'.default = c.default ∧ c'.aliases = c.aliases
      ∧ c'.description = c.description
      ∧ c'.highest_value = c.highest_value ∧ c'.lowest_value = c.lowest_value ∧ c'.null_count = c.null_count :=
  ⟨_, toFlat_eq K fresh' c (init_establishes K hIdem fresh r c h),
    rfl, rfl, rfl, rfl, rfl, rfl, rfl, rfl, rfl, rfl, rfl, rfl, rfl⟩

/-- **Flattening reads the column's current state.**  For a column in *any* state that satisfies what the
constructor establishes (attributes assigned after construction included - statistics recorded later,
aliases and nullability adjusted by a planner), `to_flatcolumn` returns exactly the current attributes,
with disposition, expectations, length and origin reset: no earlier flat copy, no attribute of another
moment can show through. -/
theorem toFlat_of_constructed (K : Caster V) (fresh : String) (c : Col V) (hc : Constructed K c) :
    toFlat K fresh c = .ok { c with disposition := none, expectations := [], length := none, origin := [] } :=
  toFlat_eq K fresh c hc

/-- **A schema written to a dictionary and read back is the same schema**: its name, aliases and
primary key, and every column in every declared attribute (name, type with length, precision, scale and
element type, nullability, default, aliases, description, disposition, identity, statistics; also
origin and expectations), for every schema whose columns are constructed and persistable. -/
theorem fromDict_toDict (K : Caster V) (fresh : String) (s : Schema V)
    (h : ∀ c ∈ s.columns, Constructed K c ∧ Persistable c) :
    fromDict K fresh (toDict s) = .ok s :=
  fromDict_toDict_eq' K fresh s fun c hc => ⟨(h c hc).1, writable_of_persistable c (h c hc).2⟩

/-- … in particular for every schema whose columns came out of the constructor. -/
theorem fromDict_toDict_of_init (K : Caster V)
    (hIdem : ∀ m v w, K.parse m v = some w → K.truthy w = true → K.parse m w = some w)
    (fresh : String) (s : Schema V)
    (h : ∀ c ∈ s.columns, (∃ f r, init K f r = .ok c) ∧ Persistable c) :
    fromDict K fresh (toDict s) = .ok s :=
  fromDict_toDict K fresh s fun c hc =>
    let ⟨⟨f, r, hi⟩, hp⟩ := h c hc
    ⟨init_establishes K hIdem f r c hi, hp⟩

/-- **Full strength: every schema whose columns the constructor built.**  No vocabulary in the hypothesis: each
column is the result of `FlatColumn(**kwargs)` for *some* keyword arguments - any type literal (`'decimal(10,2)'`,
`'ARRAY<DATE>'`, `'VARIANT'`, the int 0, a member), any element type literal, any disposition literal, any default the
cast accepts, any other attributes - the only condition being that an enum member passed in is a member of its enum
(`WellTyped`, an identification, not a restriction).  In particular a column whose stored type is the int `0`
(`'VARIANT'`/`'MISSING'`/`'0'`, C06's reading) is written as 0 and read back as 0, and an ARRAY column without an element
type comes back without one (repair F09).  By C06's totality of `from_name`: a resolved name is a member or the int 0. -/
theorem fromDict_toDict_constructed (K : Caster V)
    (hIdem : ∀ m v w, K.parse m v = some w → K.truthy w = true → K.parse m w = some w)
    (fresh : String) (s : Schema V)
    (h : ∀ c ∈ s.columns, ∃ f r, WellTyped r ∧ init K f r = .ok c) :
    fromDict K fresh (toDict s) = .ok s :=
  fromDict_toDict_eq' K fresh s fun c hc =>
    let ⟨f, r, hw, hi⟩ := h c hc
    ⟨init_establishes K hIdem f r c hi, init_writable K f r c hi hw⟩

/-- ... and it **behaves identically**: the restored schema gives `validate` (C05's model) the same outcome on every
record and `DataFrame.description` (C06's type codes) the same entries - including the columns whose description
raises (a stored type that is the int 0): it raises on both sides. -/
theorem restored_behaves_same_constructed (K : Caster V)
    (hIdem : ∀ m v w, K.parse m v = some w → K.truthy w = true → K.parse m w = some w)
    (fresh : String) (s s' : Schema V)
    (h : ∀ c ∈ s.columns, ∃ f r, WellTyped r ∧ init K f r = .ok c)
    (hr : fromDict K fresh (toDict s) = .ok s') :
    (∀ rec : Validate.Record, Validate.validate (vcols s') rec = Validate.validate (vcols s) rec)
    ∧ describe s' = describe s := by
  rw [fromDict_toDict_constructed K hIdem fresh s h] at hr
  cases hr
  exact ⟨fun _ => rfl, rfl⟩

/-- the JSON round trip for every column the constructor built (stored type / element type possibly the int 0) -/
theorem fromJson_toJson_constructed (K : Caster V)
    (hIdem : ∀ m v w, K.parse m v = some w → K.truthy w = true → K.parse m w = some w)
    (fresh f : String) (r : Raw V) (c : Col V) (hw : WellTyped r) (hi : init K f r = .ok c)
    (hn : JsonNative K c) (hd : DefaultSurvivesJson K c) :
    jsonRoundTrip K fresh c = .ok c :=
  jsonRoundTrip_eq' K fresh c (init_establishes K hIdem f r c hi) (init_writable K f r c hi hw) hn hd

/-- **A column written to JSON and read back is the same column**, when JSON can carry its values:
the statistics are JSON-native and the default's JSON rendering casts back to it. -/
theorem fromJson_toJson (K : Caster V) (fresh : String) (c : Col V)
    (hc : Constructed K c) (hp : Persistable c) (hn : JsonNative K c) (hd : DefaultSurvivesJson K c) :
    jsonRoundTrip K fresh c = .ok c :=
  jsonRoundTrip_eq' K fresh c hc (writable_of_persistable c hp) hn hd

/-- **The restored schema accepts and rejects the same records** (C05's `validate`, on what validation
reads of each column), with the same error content. -/
theorem restored_validates_same (K : Caster V) (fresh : String) (s s' : Schema V)
    (h : ∀ c ∈ s.columns, Constructed K c ∧ Persistable c)
    (hr : fromDict K fresh (toDict s) = .ok s') (rec : Validate.Record) :
    Validate.validate (vcols s') rec = Validate.validate (vcols s) rec := by
  rw [fromDict_toDict K fresh s h] at hr
  cases hr
  rfl

/-- **The restored schema reports the same column descriptions.** -/
theorem restored_describes_same (K : Caster V) (fresh : String) (s s' : Schema V)
    (h : ∀ c ∈ s.columns, Constructed K c ∧ Persistable c)
    (hr : fromDict K fresh (toDict s) = .ok s') :
    describe s' = describe s := by
  rw [fromDict_toDict K fresh s h] at hr
  cases hr
  rfl

/-- **Reading the same written form again gives the same schema again** (a dictionary can be loaded any
number of times; the second load equals the first, and both equal the original). -/
theorem fromDict_repeatable (K : Caster V) (fresh fresh' : String) (s : Schema V)
    (h : ∀ c ∈ s.columns, Constructed K c ∧ Persistable c) :
    fromDict K fresh' (toDict s) = fromDict K fresh (toDict s) := by
  rw [fromDict_toDict K fresh s h, fromDict_toDict K fresh' s h]

/-- **Persisting the restored schema writes the same dictionary** (to_dict ∘ from_dict ∘ to_dict = to_dict). -/
theorem toDict_stable (K : Caster V) (fresh : String) (s s' : Schema V)
    (h : ∀ c ∈ s.columns, Constructed K c ∧ Persistable c)
    (hr : fromDict K fresh (toDict s) = .ok s') : toDict s' = toDict s := by
  rw [fromDict_toDict K fresh s h] at hr
  cases hr
  rfl

/-- A persistable column's description never raises (type and element type are members). -/
theorem persistable_describes (c : Col V) (hp : Persistable c) : (describeCol c).isSome = true := by
  obtain ⟨⟨m, hty, _⟩, helem, _⟩ := hp
  have hcode := fun e =>
    typeCode_member { ty := c.type, length := c.length, precision := c.precision, scale := c.scale, elem := e } m hty
  unfold describeCol
  cases he : c.element_type with
  | none =>
    obtain ⟨code, h⟩ := hcode none
    simp only [h]
    rfl
  | some t =>
    obtain ⟨e, rfl, _⟩ := helem t he
    obtain ⟨code, h⟩ := hcode (some e)
    simp only [h]
    rfl

/-! ## the extracted lists carry every attribute the statement names

These mention the generated definitions directly: removing an attribute from the dataclass, a keyword
from `to_flatcolumn` or from `from_dict` (or reading it from another attribute / key) fails here by name,
besides breaking the round-trip theorems above. -/

/-- every attribute the statement lists for a column is a declared field (written by `to_dict` /
`to_json`, read by the constructor) -/
theorem listed_attributes_declared :
    ∀ k ∈ ["name", "type", "length", "precision", "scale", "element_type", "nullable", "default", "aliases",
           "description", "disposition", "identity", "highest_value", "lowest_value", "null_count"],
      k ∈ Gen.Persist.columnFields := by decide +kernel

/-- `to_flatcolumn` forwards each attribute the statement lists for flattening, from the attribute of the
same name -/
theorem flat_forwards_listed :
    ∀ k ∈ ["identity", "name", "type", "precision", "scale", "element_type", "nullable", "default", "aliases",
           "description", "highest_value", "lowest_value", "null_count"],
      Gen.Persist.flatKwargs.lookup k = some k := by decide +kernel

/-- `to_dict` writes, and `from_dict` restores from the key of the same name, the schema's name, aliases,
primary key and columns -/
theorem from_dict_restores_listed :
    Gen.Persist.toDictAsdict = true
    ∧ ∀ k ∈ ["name", "aliases", "primary_key", "columns"],
        k ∈ Gen.Persist.schemaFields ∧ Gen.Persist.fromDictRestores.lookup k = some k := by decide +kernel

/-! ## the statements of the loaders and of the constructor, as extracted -/

/-- **Declared parameters win over parsed ones, 0 included.**  In the block of `__init__` that maps a type
literal, an explicitly given length / precision / scale (any value: `x is None` guards, not `x or parsed`)
and element type are kept whatever the type name says.  This is what lets `DECIMAL(12,0)`, `VARCHAR[0]`
survive a reload: they are written as `'DECIMAL'` + `scale = 0`, `'VARCHAR'` + `length = 0`. -/
theorem declared_parameters_kept (t : RawTy) (e : RawTy) (l p s : Nat) (r : Resolved)
    (h : resolveType t (some e) (some l) (some p) (some s) = .ok r) :
    r.elem = some e ∧ r.length = some l ∧ r.precision = some p ∧ r.scale = some s := by
  cases hm : t.isMember with
  | true =>
    cases t <;> cases hm
    cases h
    exact ⟨rfl, rfl, rfl, rfl⟩
  | false =>
    -- `Option.or` keeps a value that is there
    rw [resolveType_literal hm] at h
    split at h
    · cases h
    · split at h <;> cases h <;> exact ⟨rfl, rfl, rfl, rfl⟩

/-- **A declared DECIMAL precision / scale is never replaced by the default, 0 included** (the guards of the two
defaulting statements are `is None`). -/
theorem decimal_defaults_only_fill_none (ty : Ty) (p s : Nat) :
    decimalPrecision ty (some p) = some p ∧ decimalScale ty (some p) (some s) = some s :=
  ⟨decimalPrecision_fixed (fun _ => rfl), decimalScale_fixed (fun _ => rfl)⟩

/-- the extracted statements have the shape the round trips need: every fill is guarded by `is None` and takes
the parsed field of the same meaning; the DECIMAL defaults are guarded by `is None`; an enum member is written
as its value; both loaders go through `FlatColumn.from_dict`; `from_dict` maps the written value of
`_MISSING_TYPE` back to the member for the type and for the element type, and hands a written `'ARRAY'` with a
null element type over as the member -/
theorem extracted_statements :
    Gen.Persist.initFills = [("element_type", "isNone", "elem"), ("precision", "isNone", "precision"),
                             ("scale", "isNone", "scale"), ("length", "isNone", "length")]
    ∧ Gen.Persist.decimalFills = [("precision", "isNone"), ("scale", "isNone")]
    ∧ Gen.Persist.enumWrittenAs = "value"
    ∧ Gen.Persist.columnLoader = "from_dict" ∧ Gen.Persist.jsonLoader = "from_dict"
    ∧ ([("eqValue", "type", "_MISSING_TYPE")], "type", "_MISSING_TYPE") ∈ Gen.Persist.fromDictRules
    ∧ ([("eqValue", "element_type", "_MISSING_TYPE")], "element_type", "_MISSING_TYPE") ∈ Gen.Persist.fromDictRules
    ∧ ([("eqValue", "type", "ARRAY"), ("present", "element_type", ""), ("isNone", "element_type", "")], "type", "ARRAY")
        ∈ Gen.Persist.fromDictRules :=
  ⟨rfl, rfl, rfl, rfl, rfl, .head _, .tail _ (.head _), .tail _ (.tail _ (.head _))⟩

/-- **`from_dict` does not touch a dictionary it has nothing to repair in**: a hand-written column dictionary whose
type is a name other than `'0'`, with an element type other than `'0'`, and that is not a bare `'ARRAY'` with an
explicit null element type, reaches the constructor unchanged (so the loaders add nothing to what
`FlatColumn(**dic)` means for it). -/
theorem from_dict_only_repairs (K : Caster V) (fresh : String) (d : Raw V)
    (h1 : typeIs d missingName = false)
    (h2 : ∀ t, d.element_type = some (some t) → tyEqValue t missingName = false)
    (h3 : (typeIs d TypeName.litArray && elemIsNull d) = false) :
    colFromDict K fresh d = init K fresh d := by
  unfold colFromDict
  rw [prepare_eq]
  have he : restoreElem d.element_type = d.element_type := by
    unfold restoreElem
    split
    · rename_i t heq; rw [h2 t heq]; simp [heq]
    · rfl
  simp only [h1, Bool.false_eq_true, if_false, he]
  have hd : ({ d with element_type := d.element_type } : Raw V) = d := by cases d; rfl
  rw [hd, h3]
  rfl

/-! ## the persistence functions *as translated from the source, statement by statement*

`Generated/PersistFns.lean` (namespace `Gen.PersistFns`) is rewritten on every run by harness/extractors/c16_fns.py through
harness/pystmt.py: `FlatColumn.from_dict`, `from_json`, `to_json` with its `default_serializer`, `to_flatcolumn`,
`RelationSchema.from_dict` and `to_dict` with `_converter`, and every statement of `FlatColumn.__init__` after the attribute
loop.  The theorems below say that each translated function *is* the reference function of the model, and state the round
trips over the translated functions.  A change of the source that changes what one of these functions does changes the
text the theorem is about. -/

/-- `FlatColumn.from_dict` (its tests and repairs in source order, then `cls(**dic)`) is the model's `colFromDict` -/
theorem generated_column_from_dict_eq_model (K : Caster V) (fresh : String) (d : Raw V) :
    Gen.PersistFns.column_from_dict K fresh d = colFromDict K fresh d :=
  gen_column_from_dict_eq K fresh d

/-- `FlatColumn.from_json`: parse, then the loader the model calls -/
theorem generated_from_json_eq_model (K : Caster V) (fresh : String) (d : Raw V) :
    Gen.PersistFns.from_json K fresh d = load Gen.Persist.jsonLoader K fresh d :=
  gen_from_json_eq K fresh d

/-- the hook `to_json` gives orjson for what orjson does not write itself: a type member as its text, an expectation
as its attributes, **anything else TypeError** — bytes, `Decimal`, `timedelta` (this line of the source is the open
finding C16-K01) -/
theorem generated_default_serializer_eq_model (o : SerObj) :
    Gen.PersistFns.default_serializer o = defaultSerializer o := by
  cases o with
  | orsoType m => rfl
  | expectation => rfl
  | value cls =>
    -- `isinstance` compares the class name from the other side
    unfold Gen.PersistFns.default_serializer defaultSerializer
    simp only [SerObj.isInstance, BEq.comm (b := cls)]
    rfl

/-- `FlatColumn.to_json` (`orjson.dumps(asdict(self), default=default_serializer)`, then parsed) is the model's `colToJson` -/
theorem generated_to_json_eq_model (K : Caster V) (c : Col V) :
    Gen.PersistFns.to_json K c = colToJson K c :=
  gen_to_json_eq K c

/-- `to_flatcolumn` (the keywords it passes, each from the attribute it reads) is the model's `toFlat` -/
theorem generated_to_flatcolumn_eq_model (K : Caster V) (fresh : String) (c : Col V) :
    Gen.PersistFns.to_flatcolumn K fresh c = toFlat K fresh c :=
  gen_to_flatcolumn_eq K fresh c

/-- `RelationSchema.from_dict` on **any** dictionary (keys absent, column entries that are dictionaries, names or
neither) is the reference `fromDictE` -/
theorem generated_schema_from_dict_eq_model (K : Caster V) (fresh : String) (d : SDictE V) :
    Gen.PersistFns.schema_from_dict K fresh d = fromDictE K fresh d :=
  gen_schema_from_dict_eq K fresh d

/-- `RelationSchema.to_dict` (`asdict` with `_converter`'s rule for one value) is the model's `toDict` -/
theorem generated_schema_to_dict_eq_model (s : Schema V) : Gen.PersistFns.schema_to_dict s = toDict s :=
  gen_schema_to_dict_eq s

/-- the statements of `FlatColumn.__init__` after the attribute loop, composed in source order, are the model's
normalisation (type literal with its fills and their guards, element type, disposition, the default's cast and what its
`try` turns an exception into, the two DECIMAL defaults with their guards and constants) -/
theorem generated_init_body_eq_model (K : Caster V) (s : St V) :
    Gen.PersistFns.init_body K s = initBody K s :=
  gen_init_body_eq K s

/-- ... and the model's constructor is the attribute loop followed by those translated statements -/
theorem constructor_is_loop_then_generated_body (K : Caster V) (fresh : String) (r : Raw V) :
    initSt K fresh r = loopThen K r (Gen.PersistFns.init_body K) := by
  rw [init_eq_initBody]
  have : Gen.PersistFns.init_body K = initBody K := funext (gen_init_body_eq K)
  rw [this]

/-- **The round trip over the translated functions, for every reachable column state**: for a schema whose columns
are each in a state reachable by a constructor call (any keyword arguments) followed by any assignments to name,
description, aliases, nullability, identity, the three statistics, origin and length, the *translated* `from_dict`
applied to what the *translated* `to_dict` writes gives the schema back. -/
theorem generated_from_dict_to_dict (K : Caster V)
    (hIdem : ∀ m v w, K.parse m v = some w → K.truthy w = true → K.parse m w = some w)
    (fresh : String) (s : Schema V) (h : ∀ c ∈ s.columns, Reachable K c) :
    Gen.PersistFns.schema_from_dict K fresh (SDictE.ofSDict (Gen.PersistFns.schema_to_dict s)) = .ok s := by
  rw [gen_dictRoundTrip_eq]
  exact fromDict_toDict_eq' K fresh s (fun c hc => reachable_ok K hIdem c (h c hc))

/-- the same for one column through JSON (translated `to_json`, then translated `from_json`), when JSON can carry its
values -/
theorem generated_from_json_to_json (K : Caster V)
    (hIdem : ∀ m v w, K.parse m v = some w → K.truthy w = true → K.parse m w = some w)
    (fresh : String) (c : Col V) (h : Reachable K c) (hn : JsonNative K c) (hd : DefaultSurvivesJson K c) :
    (Gen.PersistFns.to_json K c).bind (Gen.PersistFns.from_json K fresh) = .ok c := by
  have hr := reachable_ok K hIdem c h
  rw [gen_jsonRoundTrip_eq]
  exact jsonRoundTrip_eq' K fresh c hr.1 hr.2 hn hd

/-- and the translated `to_flatcolumn` returns the reachable state's current attributes (disposition, expectations,
length and origin reset) -/
theorem generated_flatten_reachable (K : Caster V)
    (hIdem : ∀ m v w, K.parse m v = some w → K.truthy w = true → K.parse m w = some w)
    (fresh : String) (c : Col V) (h : Reachable K c) :
    Gen.PersistFns.to_flatcolumn K fresh c
      = .ok { c with disposition := none, expectations := [], length := none, origin := [] } := by
  rw [gen_to_flatcolumn_eq]
  exact toFlat_eq K fresh c (reachable_ok K hIdem c h).1

/-- **A dictionary written by hand**: a column entry that is a name is loaded as `FlatColumn(name=…)` with every declared
default, an entry that is neither a dictionary nor a name is skipped, a missing `aliases` / `primary_key` key is the
declared default, a missing `name` / `columns` key is a KeyError. -/
theorem generated_schema_from_dict_by_hand (K : Caster V) (hn : K.truthy K.none = false) (fresh : String) (a b : String) :
    Gen.PersistFns.schema_from_dict K fresh { name := some "t", columns := some [.name a, .other, .name b] }
      = .ok ⟨"t", [], [nameOnly K fresh a, nameOnly K fresh b], none⟩
    ∧ Gen.PersistFns.schema_from_dict K fresh ({ columns := some [] } : SDictE V) = .error .key
    ∧ Gen.PersistFns.schema_from_dict K fresh ({ name := some "t" } : SDictE V) = .error .key := by
  refine ⟨?_, ?_, ?_⟩
  · rw [gen_schema_from_dict_eq]
    simp only [fromDictE, loadEntries, init_name_only K hn]
    rfl
  · rw [gen_schema_from_dict_eq]; rfl
  · rw [gen_schema_from_dict_eq]; rfl

/-! ### the declared defaults and the column subclasses, as extracted -/

/-- the declared default of every `FlatColumn` field, from the dataclass declaration (what `init` gives an absent
keyword; `init_name_only` evaluates the model on a name alone) -/
theorem declared_defaults :
    Gen.PersistFns.columnDefaults =
      [("name", "required"), ("default", "None"), ("type", "OrsoTypes._MISSING_TYPE"), ("element_type", "None"),
       ("description", "None"), ("disposition", "None"), ("aliases", "factory:list"), ("nullable", "True"),
       ("expectations", "factory:list"), ("identity", "factory:random_string"), ("length", "None"), ("precision", "None"),
       ("scale", "None"), ("origin", "factory:list"), ("highest_value", "None"), ("lowest_value", "None"),
       ("null_count", "None")]
    ∧ Gen.PersistFns.columnDefaults.map Prod.fst = Gen.Persist.columnFields
    ∧ Gen.PersistFns.schemaDefaults.map Prod.fst = Gen.Persist.schemaFields
    ∧ ∀ k ∈ ["aliases", "columns"], Gen.PersistFns.schemaDefaults.lookup k = some "factory:list" :=
  ⟨rfl, rfl, rfl, by decide +kernel⟩

/-- **every column subclass constructs through the base constructor and leaves the declared attributes alone**: its
own `__init__` (if it has one) starts with `super().__init__(**kwargs)` and afterwards assigns no declared field of
`FlatColumn` — so a subclass instance's declared attributes are the result of `init` on its keyword arguments (with the
subclass's own default for a redeclared field), to which `toFlat_preserves` applies -/
theorem subclasses_construct_through_base :
    Gen.PersistFns.subclasses = ["FunctionColumn", "ConstantColumn", "SparseColumn", "RLEColumn", "DictionaryColumn"]
    ∧ (Gen.PersistFns.subclassInit.map Prod.fst = Gen.PersistFns.subclasses)
    ∧ ∀ e ∈ Gen.PersistFns.subclassInit, e.2.1 = true ∧ ∀ a ∈ e.2.2, a ∉ Gen.Persist.columnFields :=
  ⟨rfl, rfl, by decide +kernel⟩

/-- **every column subclass flattens and persists with the base class's code**: none defines `to_flatcolumn`, `to_json`,
`from_json`, `from_dict`, an equality or an attribute hook of its own -/
theorem subclasses_share_persistence :
    ∀ e ∈ Gen.PersistFns.subclassMethods,
      ∀ m ∈ ["to_flatcolumn", "to_json", "from_json", "from_dict", "__eq__", "__setattr__", "__getattr__",
             "__getattribute__", "__post_init__"], m ∉ e.2 := by
  decide +kernel

/-- a declared field that a subclass redeclares (which changes its default: `length = 1` in `FunctionColumn` and
`ConstantColumn`) is not one of the attributes flattening is to keep -/
theorem subclass_redeclared_fields_not_flattened :
    ∀ e ∈ Gen.PersistFns.subclassFields, ∀ f ∈ e.2, f.1 ∈ Gen.Persist.columnFields →
      f.1 ∉ Gen.Persist.flatKwargs.map Prod.snd := by
  decide +kernel

/-! ## the boundary: what the written forms do not carry (open findings), proved of the model -/

/-- a concrete column over the driver's values -/
def col (name : String) (ty : String) : Col PyVal :=
  { name := name, default := .none, type := .member ty.toList, element_type := none, description := none,
    disposition := none, aliases := some [], nullable := true, expectations := [], identity := "id-" ++ name,
    length := none, precision := none, scale := none, origin := [], highest_value := .none, lowest_value := .none,
    null_count := none }

/-- C16-K03 (repaired, F09): an ARRAY column without an element type (declared with the member, or as
`LIST`) is written as `'ARRAY'` with a null element type; `from_dict` hands the member to the constructor,
so the column comes back without an element type.  Read by the constructor alone (`cls(**dic)`, as before the
repair) the bare name defaults the element type to VARCHAR. -/
theorem array_without_element_type_restored :
    colFromDict Py.caster "f" (colToDict (col "a" "ARRAY")) = .ok (col "a" "ARRAY")
    ∧ init Py.caster "f" (colToDict (col "a" "ARRAY"))
        = .ok { col "a" "ARRAY" with element_type := some (.member "VARCHAR".toList) } := by
  -- the closed forms first: evaluating the field lists string by string is what makes this slow to check
  rw [colFromDict, prepare_eq, init_eq, init_eq, colToDict_eq]
  decide +kernel

/-- C16-K02: a statistic that JSON renders in another form (a date becomes its ISO text) comes back
as that other form. -/
theorem json_changes_temporal_statistics :
    jsonRoundTrip Py.caster "f" { col "a" "DATE" with highest_value := Py.tagged "date" "2020-01-02" }
      = .ok { col "a" "DATE" with highest_value := .str "2020-01-02" } :=
  jsonRoundTrip_renders Py.caster "f" _ (by decide) (writable_of_persistable _ (persistable_of_B _ (by decide)))
    (j := .none) (by decide) (by decide) (by decide) (by decide) (by decide) (by decide)

/-- C16-K01: a default (or statistic) JSON cannot carry — bytes, Decimal, timedelta, integers beyond 64
bits — makes `to_json` raise TypeError. -/
theorem json_unserialisable_raises :
    jsonRoundTrip Py.caster "f" { col "a" "BLOB" with default := .bytes [1, 2] } = .error .type
    ∧ jsonRoundTrip Py.caster "f" { col "a" "DECIMAL" with default := Py.tagged "Decimal" "1.5", precision := some 10, scale := some 2 }
        = .error .type
    ∧ jsonRoundTrip Py.caster "f" { col "a" "INTEGER" with lowest_value := .int (-(2 ^ 64)) } = .error .type
    ∧ jsonRoundTrip Py.caster "f" { col "a" "VARCHAR" with length := some (10 ^ 20) } = .error .type := by
  decide +kernel

/-- C16-K04 (repaired, F10): a TIME default is written as `'HH:MM:SS'`, which the TIME cast reads since the
repair; the column comes back equal. -/
theorem json_time_default_survives :
    jsonRoundTrip Py.caster "f" { col "a" "TIME" with default := Py.tagged "time" "03:04:05" }
      = .ok { col "a" "TIME" with default := Py.tagged "time" "03:04:05" } :=
  fromJson_toJson Py.caster "f" _ (constructed_of_B _ _ (by decide)) (persistable_of_B _ (by decide))
    ⟨by decide, by decide, by decide, by decide⟩ ⟨.str "03:04:05", by decide, by decide⟩

/-- C16-F08 (repaired): an ARRAY column whose element type is the untyped member is written with the
member's value `'0'`, and `from_dict` maps that value back to the member - for the element type as it
does for the type; before the repair the element type came back as the integer `0` (`Ty.zero`). -/
theorem untyped_element_type_restored :
    colFromDict Py.caster "f" (colToDict { col "a" "ARRAY" with element_type := some (.member "_MISSING_TYPE".toList) })
      = .ok { col "a" "ARRAY" with element_type := some (.member "_MISSING_TYPE".toList) }
    ∧ init Py.caster "f" (colToDict { col "a" "ARRAY" with element_type := some (.member "_MISSING_TYPE".toList) })
      = .ok { col "a" "ARRAY" with element_type := some .zero } := by
  rw [colFromDict, prepare_eq, init_eq, init_eq, colToDict_eq]
  decide +kernel

/-! ## non-vacuity -/

/-- a schema with an untyped column, a defaulted DECIMAL, a disposition, an ARRAY<T>, a default and statistics
meets the hypotheses (over the driver's values) … -/
def demo : Schema PyVal :=
  { name := "t", aliases := ["u"], primary_key := some "k",
    columns := [
      col "u" "_MISSING_TYPE",
      { col "d" "DECIMAL" with precision := some 28, scale := some 21, disposition := some "AGE", nullable := false },
      { col "l" "ARRAY" with element_type := some (.member "DATE".toList), aliases := some ["x", "y"] },
      { col "m" "ARRAY" with element_type := some (.member "_MISSING_TYPE".toList) },
      col "n" "ARRAY",
      { col "w" "TIME" with default := Py.tagged "time" "03:04:05.250000" },
      { col "k" "INTEGER" with default := .int 7, highest_value := .int 9, lowest_value := .int (-1), null_count := some 0,
                               description := some "key" },
      { col "v" "VARCHAR" with length := some 12, default := .str "" } ] }

theorem nonvacuity_demo : ∀ c ∈ demo.columns, Constructed Py.caster c ∧ Persistable c := by
  intro c hc
  have : ∀ c ∈ demo.columns, constructedB Py.caster c = true ∧ persistableB c = true := by decide +kernel
  exact ⟨constructed_of_B _ c (this c hc).1, persistable_of_B c (this c hc).2⟩

/-- … and the round trip is then computed by the model to be the identity (also by evaluation). -/
example : fromDict Py.caster "fresh" (toDict demo) = .ok demo := fromDict_toDict Py.caster "fresh" demo nonvacuity_demo

example : fromDict Py.caster "fresh" (toDict demo) = .ok demo := by
  -- on the closed forms, as in `array_without_element_type_restored`: what is evaluated is the model's reading of the eight
  -- type names, its casts and its decoders, not the field lists
  rw [toDict_eq, fromDict_eq, funext colToDict_eq,
    show colFromDict Py.caster "fresh" = fun d => init Py.caster "fresh" (prepare d) from rfl,
    funext prepare_eq, funext (init_eq Py.caster "fresh")]
  decide +kernel

/-- the behavioural clauses are not vacuous on it: `validate` (C05's model, shared) accepts one record and rejects
another with all three kinds of error, and the restored schema - by `restored_validates_same` - does the same;
`describe` (C06's type codes, shared) reports every column -/
example :
    Validate.validate (vcols demo)
        [("u", some "set"), ("d", some "Decimal"), ("l", some "list"), ("m", none), ("n", some "list"), ("w", some "time"),
         ("k", some "bool"), ("v", some "str")] = .ok
    ∧ Validate.validate (vcols demo)
        [("u", none), ("d", none), ("l", some "tuple"), ("m", none), ("n", none), ("w", some "datetime"), ("k", some "float")]
        = .invalid ["v"] ["d"] ["l", "w", "k"]
    ∧ Validate.validate (vcols demo) [("zz", none)] = .excess ["zz"]
    ∧ (describe demo).all Option.isSome = true
    ∧ (describe demo).length = 8 := by
  decide +kernel

example (s' : Schema PyVal) (hr : fromDict Py.caster "fresh" (toDict demo) = .ok s') (rec : Validate.Record) :
    Validate.validate (vcols s') rec = Validate.validate (vcols demo) rec ∧ describe s' = describe demo :=
  ⟨restored_validates_same Py.caster "fresh" demo s' nonvacuity_demo hr rec,
   restored_describes_same Py.caster "fresh" demo s' nonvacuity_demo hr⟩

/-- the full-strength theorem applies to columns given by raw keyword arguments, among them one whose stored type is
the int 0 and an ARRAY declared as `LIST` (no element type) -/
def rawDemo : List (Raw PyVal) :=
  [{ name := some "z", type := some (.text "variant".toList), identity := some "i1" },
   { name := some "l", type := some (.text "LIST".toList), identity := some "i2", nullable := some false },
   { name := some "e", type := some (.member "ARRAY".toList), element_type := some (some (.text "0".toList)), identity := some "i3" },
   { name := some "p", type := some (.text "decimal(12, 0)".toList), default := some (.int 0), identity := some "i4",
     disposition := some (some (.text "age")) },
   { name := some "q", type := some .zero, identity := some "i5", aliases := some none }]

example :
    (rawDemo.map (init Py.caster "fresh")) =
      [.ok { col "z" "x" with type := .zero, identity := "i1" },
       .ok { col "l" "ARRAY" with identity := "i2", nullable := false },
       .ok { col "e" "ARRAY" with element_type := some .zero, identity := "i3" },
       .ok { col "p" "DECIMAL" with default := .int 0, precision := some 12, scale := some 0, identity := "i4",
                                    disposition := some "AGE" },
       .ok { col "q" "x" with type := .zero, identity := "i5", aliases := none }]
    ∧ rawDemo.all wellTypedB = true := by
  rw [funext (init_eq Py.caster "fresh")]
  decide +kernel

example (s : Schema PyVal) (hs : s.columns.map Except.ok = rawDemo.map (init Py.caster "fresh")) :
    fromDict Py.caster "g" (toDict s) = .ok s := by
  refine fromDict_toDict_constructed Py.caster Py.caster_idem "g" s ?_
  intro c hc
  have : (Except.ok c : Except Err (Col PyVal)) ∈ rawDemo.map (init Py.caster "fresh") := by
    rw [← hs]; exact List.mem_map_of_mem hc
  obtain ⟨r, hr, hi⟩ := List.mem_map.mp this
  exact ⟨"fresh", r, wellTyped_of_B r (by
    have hall : rawDemo.all wellTypedB = true := by decide +kernel
    exact List.all_eq_true.mp hall r hr), hi⟩

/-- the JSON theorem's hypotheses are met by a DATE column with a date default (written as ISO text, cast
back by the DATE cast), JSON-native statistics and a disposition -/
def dateCol : Col PyVal :=
  { col "d" "DATE" with default := Py.tagged "date" "2020-01-02", highest_value := .int 3, lowest_value := .str "a",
                        null_count := some 2, disposition := some "NAME", nullable := false }

example : jsonRoundTrip Py.caster "f" dateCol = .ok dateCol :=
  fromJson_toJson Py.caster "f" dateCol (constructed_of_B _ _ (by decide)) (persistable_of_B _ (by decide))
    ⟨by decide, by decide, by decide, by decide⟩ ⟨.str "2020-01-02", by decide, by decide⟩

/-- ... and by a TIME column with a time default (with microseconds), since repair F10 -/
def timeCol : Col PyVal :=
  { col "w" "TIME" with default := Py.tagged "time" "23:59:59.999999", null_count := some 0 }

example : jsonRoundTrip Py.caster "f" timeCol = .ok timeCol :=
  fromJson_toJson Py.caster "f" timeCol (constructed_of_B _ _ (by decide)) (persistable_of_B _ (by decide))
    ⟨by decide, by decide, by decide, by decide⟩ ⟨.str "23:59:59.999999", by decide, by decide⟩

/-- The hypothesis `hIdem` is satisfiable: the caster the driver runs against the implementation meets it
(proved in `Lemmas/PersistPy.lean`), so the theorems apply to every column that model constructs. -/
theorem driver_caster_idem (m : Str) (v w : PyVal) (h : Py.caster.parse m v = some w)
    (hw : Py.caster.truthy w = true) : Py.caster.parse m w = some w :=
  Py.caster_idem m v w h hw

example (fresh : String) (r : Raw PyVal) (c : Col PyVal) (h : init Py.caster fresh r = .ok c) :
    init Py.caster "other" (rawOf c) = .ok c ∧ ∃ c', toFlat Py.caster "other" c = .ok c' ∧ c'.identity = c.identity :=
  ⟨init_idempotent Py.caster driver_caster_idem fresh "other" r c h,
   let ⟨c', h1, h2, _⟩ := toFlat_preserves Py.caster driver_caster_idem fresh "other" r c h
   ⟨c', h1, h2⟩⟩

/-- the constructor on raw keyword arguments: a type name is resolved, the default cast (a default the cast refuses is a
ValueError), a disposition literal mapped to the member; without a name it raises ColumnDefinitionError -/
example :
    init Py.caster "fresh" { name := some "p", type := some (.text "decimal(10,2)".toList), default := some (.int 0) }
      = .ok { col "p" "DECIMAL" with default := .int 0, precision := some 10, scale := some 2, identity := "fresh" }
    ∧ init Py.caster "fresh" { name := some "q", type := some (.text "integer".toList), default := some (.str "-12"),
                                disposition := some (some (.text "name")) }
      = .ok { col "q" "INTEGER" with default := .int (-12), disposition := some "NAME", identity := "fresh" }
    ∧ init Py.caster "fresh" { name := some "q", type := some (.text "integer".toList), default := some (.str "x") }
      = .error .value
    ∧ init Py.caster "fresh" ({ } : Raw PyVal) = .error .columnDefinition := by
  rw [init_eq, init_eq, init_eq, init_eq]
  decide +kernel

/-! ## the "behaves identically" clause on a schema with a history -/

/-- **`validate` judges by the columns as they are now.**  Extracted from the working tree on every run (C05's reading of
`RelationSchema.validate`, through properties and helper methods): it depends on no state that is not a declared field
(no cached plan, no memoising decorator, no undeclared attribute, no write to `self`), what it reads of the schema is
restored by `from_dict` from the key of the same name, and what it reads of a column is its name, type and nullability -
declared fields that `to_dict` writes and that `vcol` carries.  This is what makes `Validate.validate (vcols s)` the
outcome for *every* schema object in state `s`, whatever was validated against it before: the original with its
history, and the restored copy without one. -/
theorem validate_reads_current_columns :
    Gen.ValidateFlow.hiddenState = []
    ∧ (∀ a ∈ Gen.ValidateFlow.schemaReads, Gen.Persist.fromDictRestores.lookup a = some a)
    ∧ (∀ a ∈ Gen.ValidateFlow.columnReads, a ∈ ["name", "type", "nullable"] ∧ a ∈ Gen.Persist.columnFields) := by
  decide +kernel

/-- **After any session the restored schema behaves identically.**  Start from a schema whose columns are reachable
states, run any list of steps - validate a record, assign an attribute of a column in place, add / remove / replace a
column (by a reachable one), reverse the columns, assign the schema's name, aliases, primary key - then write the schema
with the translated `to_dict` and load it with the translated `from_dict`: the loaded schema is the schema as it is now,
gives every record the same validation outcome and reports the same description. -/
theorem session_restored_behaves_same (K : Caster V)
    (hIdem : ∀ m v w, K.parse m v = some w → K.truthy w = true → K.parse m w = some w)
    (fresh : String) (s : Schema V) (es : List (Edit V))
    (h0 : ∀ c ∈ s.columns, Reachable K c) (hes : ∀ e ∈ es, e.Fine K) :
    ∃ s', Gen.PersistFns.schema_from_dict K fresh (SDictE.ofSDict (Gen.PersistFns.schema_to_dict (runSession es s))) = .ok s'
      ∧ s' = runSession es s
      ∧ (∀ rec : Validate.Record, Validate.validate (vcols s') rec = Validate.validate (vcols (runSession es s)) rec)
      ∧ describe s' = describe (runSession es s) :=
  ⟨runSession es s,
   generated_from_dict_to_dict K hIdem fresh (runSession es s) (runSession_keeps K es hes s h0), rfl, fun _ => rfl, rfl⟩

/-- **Validating leaves no trace**: the schema a session ends in - hence every later validation outcome, written
dictionary and description - is the one the same edits give without any record validated in between. -/
theorem session_history_invisible (es : List (Edit V)) (s : Schema V) (rec : Validate.Record) :
    runSession es s = runSession (es.filter Edit.writes) s
    ∧ Validate.validate (vcols (runSession es s)) rec
      = Validate.validate (vcols (runSession (es.filter Edit.writes) s)) rec := by
  have h := runSession_ignores_use es s
  exact ⟨h, congrArg (fun x => Validate.validate (vcols x) rec) h⟩

/-- **Whatever state the columns were left in**: an attribute assigned in place can give a state no constructor call
produces (a type member next to a default of the old type, a DECIMAL without precision, a raw default); the dictionary
round trip is then not the identity (the constructor casts the default and fills DECIMAL parameters on load) and may
raise.  Whenever it succeeds - the only hypothesis is that every column's type is an `OrsoTypes` member or the int 0,
which in-place assignment of a member keeps true - the loaded schema shows `validate` the same columns, so it accepts
and rejects the same records; over the model's functions and over the translated ones. -/
theorem restored_validates_same_any_state (K : Caster V) (fresh : String) (s s' : Schema V)
    (hw : ∀ c ∈ s.columns, TypeWritable c) (rec : Validate.Record) :
    (fromDict K fresh (toDict s) = .ok s' → Validate.validate (vcols s') rec = Validate.validate (vcols s) rec)
    ∧ (Gen.PersistFns.schema_from_dict K fresh (SDictE.ofSDict (Gen.PersistFns.schema_to_dict s)) = .ok s' →
        Validate.validate (vcols s') rec = Validate.validate (vcols s) rec) := by
  rw [gen_dictRoundTrip_eq]
  have h := fun hr => congrArg (fun v => Validate.validate v rec) (fromDict_vcols K fresh s s' hw hr)
  exact ⟨h, h⟩

/-- ... and through JSON, one column at a time: whatever the column holds (K01 / K02 concern its default and statistics),
if `from_json(to_json(c))` succeeds it has the name, type and nullability of `c` - over the model's functions and over
the translated ones -/
theorem json_restored_column_validates_same (K : Caster V) (fresh : String) (c c' : Col V) (hw : TypeWritable c) :
    (jsonRoundTrip K fresh c = .ok c' → vcol c' = vcol c)
    ∧ ((Gen.PersistFns.to_json K c).bind (Gen.PersistFns.from_json K fresh) = .ok c' → vcol c' = vcol c) := by
  rw [gen_jsonRoundTrip_eq]
  exact ⟨jsonRoundTrip_vcol K fresh c c' hw, jsonRoundTrip_vcol K fresh c c' hw⟩

/-- **After a session of arbitrary in-place writes** - validate records, write anything to any attribute of a column but
its type, assign an `OrsoTypes` member to a column's type, add / remove / replace columns, reverse them - starting from
columns built by the constructor: if the written dictionary loads, the loaded schema accepts and rejects the same
records as the schema with the history. -/
theorem session_any_writes_validates_same (K : Caster V)
    (hIdem : ∀ m v w, K.parse m v = some w → K.truthy w = true → K.parse m w = some w)
    (fresh : String) (s s' : Schema V) (es : List (RawEdit V))
    (h0 : ∀ c ∈ s.columns, Reachable K c) (hes : ∀ e ∈ es, e.Fine)
    (hr : Gen.PersistFns.schema_from_dict K fresh (SDictE.ofSDict (Gen.PersistFns.schema_to_dict (runRaw es s))) = .ok s')
    (rec : Validate.Record) :
    Validate.validate (vcols s') rec = Validate.validate (vcols (runRaw es s)) rec :=
  (restored_validates_same_any_state K fresh (runRaw es s) s'
    (runRaw_keeps es hes s (fun c hc => typeWritable_of_reachable K c (h0 c hc))) rec).2 hr

/-- in-place assignments keep the hypothesis of `restored_validates_same_any_state`: a type member of the enum, and any
value at all for every other attribute -/
theorem type_writable_kept (c : Col V) (h : TypeWritable c) (m : Str) (hm : m ∈ persistableTypes)
    (d hv lv : V) (p sc l : Option Nat) (e : Option Ty) (n : Bool) (nm : String) :
    TypeWritable { c with type := .member m }
    ∧ TypeWritable { c with default := d, highest_value := hv, lowest_value := lv, precision := p, scale := sc,
                            length := l, element_type := e, nullable := n, name := nm } :=
  ⟨.inr ⟨m, rfl, hm⟩, h⟩

/-- non-vacuity of `restored_validates_same_any_state`: the demo schema with its VARCHAR[12] column retyped in place to
DECIMAL (no precision, no scale - a state the constructor never leaves) and made non-nullable meets the hypothesis; the
dictionary loads, the loaded schema is *not* the edited one (precision and scale were filled on load), and `validate`
reads the same columns of both -/
def retyped : Schema PyVal :=
  { demo with columns := modifyAt (fun c => { c with type := .member "DECIMAL".toList, nullable := false }) 7 demo.columns }

theorem retyped_writable : ∀ c ∈ retyped.columns, TypeWritable c :=
  forall_mem_modifyAt _ TypeWritable (fun _ _ => .inr ⟨_, rfl, by decide +kernel⟩) 7 demo.columns
    fun c hc => .inr (nonvacuity_demo c hc).2.1

example : (match fromDict Py.caster "fresh" (toDict retyped) with
           | .ok s' => decide (s' ≠ retyped) && (vcols s' == vcols retyped)
           | _ => false) = true := by
  rw [fromDict_toDict_reload Py.caster "fresh" retyped retyped_writable]
  decide +kernel

example (s' : Schema PyVal) (hr : fromDict Py.caster "fresh" (toDict retyped) = .ok s') (rec : Validate.Record) :
    Validate.validate (vcols s') rec = Validate.validate (vcols retyped) rec :=
  (restored_validates_same_any_state Py.caster "fresh" retyped s' retyped_writable rec).1 hr

/-- non-vacuity: the seeded session - validate, make a column non-nullable in place, retype nothing - on the demo schema:
the record with a null in that column is accepted before the edit and rejected after it (and the restored copy judges as
the original does at either moment, by `session_restored_behaves_same`) -/
example :
    Validate.validate (vcols (runSession [.use [("v", some "str")], .col 7 (.nullable false)] demo))
        [("u", some "set"), ("d", some "Decimal"), ("l", some "list"), ("m", none), ("n", some "list"), ("w", some "time"),
         ("k", some "bool"), ("v", none)]
      ≠ Validate.validate (vcols demo)
        [("u", some "set"), ("d", some "Decimal"), ("l", some "list"), ("m", none), ("n", some "list"), ("w", some "time"),
         ("k", some "bool"), ("v", none)] := by
  decide +kernel

end C16
