import OrsoVerif.Lemmas.Validate
import OrsoVerif.Lemmas.Family
import OrsoVerif.Lemmas.RowClass
import OrsoVerif.Lemmas.Layout
import OrsoVerif.Generated.RecordUse
/-!
# C05 — Validation accepts exactly conforming records; append is atomic

The model's `validate` and `append` (`Model/Validate.lean`) *run the control flow regenerated from the working tree*
(`Gen.ValidateFlow.columnRule`, `.top`, `.excessAgainst`, `.appendSteps`).  Part 1 proves that this flow is the
statement's (`validateSpec`, `Conforms`), so that a change of the order of the checks, of a guard, of an early
`continue` or of what the keys are compared with breaks a theorem of part 1 by name, and one of the order of the
statements of `append` breaks `append_spec`.  Parts 2–5 are the clauses of the property; parts 6–11 widen what a
record, a frame and a schema are.
-/
namespace C05
open Validate

/-! ## 1. the generated control flow is the statement's -/

/-- The loop body of `validate`, as the source has it now, is the three rules of the statement: a column
that is absent is reported missing and nothing else; a null is reported exactly when the column is not
nullable — also for untyped columns; a non-null value is reported exactly when the column is typed and
`isinstance` fails. -/
theorem columnRule_spec (p n nl t i : Bool) :
    Gen.ValidateFlow.columnRule p n nl t i =
      if !p then [kMissing] else if n then (if nl then [] else [kNull]) else if t && !i then [kWrong] else [] := by
  -- along the tests of the rule: absent; present, not null (untyped, typed); present and null
  cases p
  · rfl
  · cases n
    · cases t
      · rfl
      · cases i <;> rfl
    · cases nl <;> rfl

/-- The loop body never raises, whatever the record and the column: with Python's evaluation order (left to
right, short-circuit) the source looks `data[column.name]` up only when the key is there and
`ORSO_TO_PYTHON_MAP[column.type]` only for a typed column — for all 32 combinations of the atoms it returns
what `columnRule` returns. -/
theorem columnRule_never_raises (p n nl t i : Bool) :
    Gen.ValidateFlow.columnRuleE p n nl t i = some (Gen.ValidateFlow.columnRule p n nl t i) := by
  -- along the tests of the rule: absent; present, not null (untyped, typed); present and null
  cases p
  · rfl
  · cases n
    · cases t
      · rfl
      · cases i <;> rfl
    · cases nl <;> rfl

/-- The top level of `validate`, as the source has it now: a non-mapping is refused first; excess keys
raise at once, before and instead of the collected errors; the collected errors raise together. -/
theorem top_spec (x e : Bool) :
    Gen.ValidateFlow.top false x e = (if x then .excess else if e then .invalid else .ok)
    ∧ Gen.ValidateFlow.top true x e = .typeError := by
  cases x <;> cases e <;> exact ⟨rfl, rfl⟩

/-- The record's keys are compared with the column names — not with names and aliases. -/
theorem excess_against_names : Gen.ValidateFlow.excessAgainst = "name" := by decide

/-- `validate` reads nothing but declared dataclass fields of the schema and of its columns (through
properties and helper methods): no cached property, no memoising decorator, no undeclared attribute, no
write to `self` or to a module global.  This is what makes the outcome a function of the schema as it is
now (part 4). -/
theorem no_hidden_state :
    Gen.ValidateFlow.hiddenState = []
    ∧ (∀ a ∈ Gen.ValidateFlow.schemaReads, a ∈ Gen.ValidateFlow.schemaFields)
    ∧ (∀ a ∈ Gen.ValidateFlow.columnReads, a ∈ Gen.ValidateFlow.columnFields) := by decide +kernel

theorem excessKeys_eq (s : List Column) (r : Record) : excessKeys s r = excessNames s r := by
  simp [excessKeys, excessNames, knownKeys, excess_against_names]

/-- Per column, the generated rule appends to exactly the lists the statement's three predicates name. -/
theorem rule_flags (r : Record) (c : Column) :
    decide (kMissing ∈ ruleOf r c) = isMissing r c
    ∧ decide (kNull ∈ ruleOf r c) = isNullViolation r c
    ∧ decide (kWrong ∈ ruleOf r c) = isWrongType r c
    ∧ decide (ruleOf r c ≠ []) = (isMissing r c || isNullViolation r c || isWrongType r c) := by
  unfold ruleOf
  rw [columnRule_spec]
  unfold atomPresent atomIsNone atomTyped atomInst isMissing isNullViolation isWrongType
  cases hl : lookup c.name r with
  | none => simp [kMissing, kNull, kWrong]
  | some v =>
    cases v with
    | none => cases c.nullable <;> simp [kMissing, kNull, kWrong]
    | some cls =>
      cases ht : c.type with
      | none => simp [kMissing, kNull, kWrong]
      | some ty => cases hi : isInstance cls ty <;> simp [kMissing, kNull, kWrong]

/-- **Refinement**: `validate` as the working tree has it (generated flow) computes the statement. -/
theorem validate_refines_spec (s : List Column) (r : Record) : validate s r = validateSpec s r := by
  have hc : ∀ (key : String) (p : Column → Bool), (∀ c, decide (key ∈ ruleOf r c) = p c) →
      collect key s r = (s.filter p).map (·.name) :=
    fun key p h => congrArg (fun q => (s.filter q).map fun c : Column => c.name) (funext h)
  -- some column is appended to some list exactly when not all three lists of the statement are empty
  have hany : (s.any fun c => decide (ruleOf r c ≠ [])) = false ↔
      ((s.filter (isMissing r)).map (·.name) = [] ∧ (s.filter (isNullViolation r)).map (·.name) = []
        ∧ (s.filter (isWrongType r)).map (·.name) = []) := by
    simp only [List.any_eq_false, (rule_flags r _).2.2.2, Bool.or_eq_true, not_or, Bool.not_eq_true, Spec.filter_map_nil_iff]
    exact ⟨fun h => ⟨fun c hc => (h c hc).1.1, fun c hc => (h c hc).1.2, fun c hc => (h c hc).2⟩,
      fun ⟨h1, h2, h3⟩ c hc => ⟨⟨h1 c hc, h2 c hc⟩, h3 c hc⟩⟩
  unfold validate
  rw [excessKeys_eq, hc _ _ fun c => (rule_flags r c).1, hc _ _ fun c => (rule_flags r c).2.1,
    hc _ _ fun c => (rule_flags r c).2.2.1, (top_spec _ _).1]
  rcases Spec.validateSpec_cases s r with ⟨hx, h⟩ | ⟨hx, ⟨he, h⟩ | ⟨he, h⟩⟩ <;> rw [h]
  · simp only [hx, ne_eq, not_false_eq_true, decide_true, if_true]
  · simp only [hx, hany.mpr he, ne_eq, not_true_eq_false, decide_false, Bool.false_eq_true, if_false]
  · simp only [hx, Bool.of_not_eq_false (mt hany.mp he), ne_eq, not_true_eq_false, decide_false, Bool.false_eq_true,
      if_false, if_true]

/-- Which exception carries the offending columns: both validation errors are `DataError`s, the excess-keys
error keeps the set of excess keys it is given under `.columns`, the validation error keeps the dict of lists it
is given under `.errors` — as given, not a copy or a digest of it. -/
theorem error_carriers :
    (∀ p ∈ Gen.AppendFlow.errorBases, "DataError" ∈ p.2)
    ∧ (Gen.AppendFlow.errorBases.map (·.1)) = ["DataValidationError", "ExcessColumnsInDataError"]
    ∧ ("DataValidationError", "errors", "errors") ∈ Gen.AppendFlow.errorStores
    ∧ ("ExcessColumnsInDataError", "columns", "columns") ∈ Gen.AppendFlow.errorStores := by decide +kernel

/-- The constructors of the two errors can be given ANY offending keys, names and values: while they build their message
they apply nothing to them that needs more than being an object — no sorting or ordering (record keys of different kinds
cannot be ordered), no arithmetic, no join of elements that were not made strings first.  So the error that is raised is
the validation error, never a `TypeError` from its own constructor. -/
theorem error_constructors_total : Gen.AppendFlow.errorPartialOps = [] := by decide

/-! ## 2. validation: acceptance and error content -/

/-- **Validation succeeds exactly when the record conforms** (keys all name columns, every column
present, nulls only in nullable columns, every non-null value an instance of its column's class;
untyped columns accept anything). -/
theorem validate_ok_iff (s : List Column) (r : Record) : validate s r = .ok ↔ Conforms s r := by
  rw [validate_refines_spec]; exact Spec.validateSpec_ok_iff s r

/-- The excess-keys error is raised exactly when some key is not a column name — whatever else is wrong
with the record — and it names precisely those keys. -/
theorem excess_exact (s : List Column) (r : Record) :
    ((∃ ks, validate s r = .excess ks) ↔ ∃ k ∈ keys r, k ∉ names s)
    ∧ ∀ ks, validate s r = .excess ks → ∀ k, k ∈ ks ↔ (k ∈ keys r ∧ k ∉ names s) := by
  rw [validate_refines_spec]; exact Spec.excess_exact s r

/-- The validation error names precisely the offending columns — also when several rules fire:
`missing` are exactly the absent columns, `nulls` exactly the non-nullable columns holding null,
`wrongType` exactly the typed columns whose non-null value is not an instance of the class. -/
theorem invalid_exact (s : List Column) (r : Record) (m n w : List String)
    (h : validate s r = .invalid m n w) :
    (∀ x, x ∈ m ↔ ∃ c ∈ s, c.name = x ∧ lookup c.name r = none)
    ∧ (∀ x, x ∈ n ↔ ∃ c ∈ s, c.name = x ∧ lookup c.name r = some none ∧ c.nullable = false)
    ∧ (∀ x, x ∈ w ↔ ∃ c ∈ s, c.name = x ∧ ∃ cls ty, lookup c.name r = some (some cls) ∧ c.type = some ty
          ∧ isInstance cls ty = false)
    ∧ (m ≠ [] ∨ n ≠ [] ∨ w ≠ [])
    ∧ (∀ k ∈ keys r, k ∈ names s) := by
  rw [validate_refines_spec] at h; exact Spec.invalid_exact s r m n w h

/-- Every combination of the four kinds of offence is decided: validation of a mapping ends in exactly
one of `ok`, an excess-keys error (with at least one key) or a validation error — never anything else. -/
theorem outcome_total (s : List Column) (r : Record) :
    validate s r = .ok ∨ (∃ ks, ks ≠ [] ∧ validate s r = .excess ks) ∨ (∃ m n w, validate s r = .invalid m n w) := by
  rw [validate_refines_spec]
  rcases Spec.validateSpec_cases s r with ⟨hx, h⟩ | ⟨_, ⟨_, h⟩ | ⟨_, h⟩⟩
  · exact Or.inr (Or.inl ⟨_, hx, h⟩)
  · exact Or.inl h
  · exact Or.inr (Or.inr ⟨_, _, _, h⟩)

/-- The validation error (as opposed to the excess-keys error) is raised exactly when all keys name
columns and the record does not conform. -/
theorem invalid_iff (s : List Column) (r : Record) :
    (∃ m n w, validate s r = .invalid m n w) ↔ ((∀ k ∈ keys r, k ∈ names s) ∧ ¬ Conforms s r) := by
  constructor
  · rintro ⟨m, n, w, h⟩
    refine ⟨(invalid_exact s r m n w h).2.2.2.2, fun hc => ?_⟩
    rw [(validate_ok_iff s r).mpr hc] at h; cases h
  · rintro ⟨hk, hnc⟩
    rcases outcome_total s r with h | ⟨ks, hne, h⟩ | h
    · exact absurd ((validate_ok_iff s r).mp h) hnc
    · obtain ⟨k, hk1, hk2⟩ := ((excess_exact s r).1).mp ⟨ks, h⟩
      exact absurd (hk k hk1) hk2
    · exact h

/-- Each list of the validation error is in schema order and names a column at most as often as the
schema lists it: it is a sublist of the column names. -/
theorem invalid_lists_in_column_order (s : List Column) (r : Record) (m n w : List String)
    (h : validate s r = .invalid m n w) :
    m.Sublist (names s) ∧ n.Sublist (names s) ∧ w.Sublist (names s) := by
  rw [validate_refines_spec] at h
  rcases Spec.validateSpec_cases s r with ⟨_, h'⟩ | ⟨_, ⟨_, h'⟩ | ⟨_, h'⟩⟩ <;> rw [h'] at h <;> cases h
  exact ⟨List.Sublist.map _ List.filter_sublist, List.Sublist.map _ List.filter_sublist,
    List.Sublist.map _ List.filter_sublist⟩

/-- A column breaks at most one of the three rules. -/
theorem rules_exclusive (r : Record) (c : Column) :
    ¬ (isMissing r c = true ∧ isNullViolation r c = true)
    ∧ ¬ (isMissing r c = true ∧ isWrongType r c = true)
    ∧ ¬ (isNullViolation r c = true ∧ isWrongType r c = true) := by
  unfold isMissing isNullViolation isWrongType
  cases lookup c.name r with
  | none => simp
  | some v => cases v <;> simp

/-! ## 3. append -/

/-- **`DataFrame.append`, with its statements in the order the source has them now**, stores the row
exactly when validation succeeds and the row can be sized; whenever it raises, the rows are as before. -/
theorem append_spec (s : List Column) (rows : List (List Value)) (r : Record) (z : Bool) :
    append s rows r z =
      if validate s r = .ok then (if z then (rows ++ [rowOf s r], .ok) else (rows, .unsizable))
      else (rows, .rejected (validate s r)) := by
  simp only [append, Gen.ValidateFlow.appendSteps, runSteps]

/-- A frame created from a generator of rows (or by `from_arrow`) holds no list yet: `append` makes it one
before anything is stored — and stores exactly once. -/
theorem append_materialises_before_storing :
    Gen.ValidateFlow.appendSteps.idxOf .materialize < Gen.ValidateFlow.appendSteps.idxOf .store
    ∧ Gen.ValidateFlow.appendSteps.count .store = 1 ∧ Gen.ValidateFlow.appendSteps.count .validate = 1 := by decide

/-- An accepted record adds exactly one row, with the values in column order. -/
theorem append_ok (s : List Column) (rows : List (List Value)) (r : Record) (h : validate s r = .ok) :
    append s rows r true = (rows ++ [rowOf s r], .ok)
    ∧ (rowOf s r).length = s.length
    ∧ ∀ (i : Nat) (c : Column), s[i]? = some c → (rowOf s r)[i]? = some ((lookup c.name r).getD none) := by
  refine ⟨by simp [append_spec, h], by simp [rowOf], ?_⟩
  intro i c hc
  simp [rowOf, hc]

/-- Append succeeds exactly when the record validates and the row can be sized. -/
theorem append_ok_iff (s : List Column) (rows : List (List Value)) (r : Record) (z : Bool) :
    (append s rows r z).2 = .ok ↔ (validate s r = .ok ∧ z = true) := by
  rw [append_spec]
  by_cases h : validate s r = .ok <;> cases z <;> simp [h]

/-- A rejected record — or one whose row cannot be sized — raises and leaves the frame's rows unchanged;
a rejected record raises the validation outcome. -/
theorem append_rejected_unchanged (s : List Column) (rows : List (List Value)) (r : Record) (z : Bool)
    (h : (append s rows r z).2 ≠ .ok) :
    (append s rows r z).1 = rows
    ∧ (validate s r ≠ .ok → (append s rows r z).2 = .rejected (validate s r)) := by
  rw [append_spec] at h ⊢
  by_cases hv : validate s r = .ok <;> cases z <;> simp_all

theorem mem_zip_map_self {β γ : Type} (l : List β) (f : β → γ) (c : β) (v : γ)
    (h : (c, v) ∈ l.zip (l.map f)) : v = f c := by
  rw [← List.map_prod_left_eq_zip] at h
  obtain ⟨a, -, e⟩ := List.mem_map.mp h
  cases e
  rfl

/-- The row stored for a conforming record conforms to the schema. -/
theorem rowOf_conforms (s : List Column) (r : Record) (h : validate s r = .ok) :
    rowConforms s (rowOf s r) = true := by
  obtain ⟨_, hp, hn, hw⟩ := (validate_ok_iff s r).mp h
  simp only [rowConforms, rowOf, List.length_map, List.all_eq_true, decide_eq_true_eq, true_and]
  intro ⟨c, v⟩ hcv
  have hc : c ∈ s := (List.of_mem_zip hcv).1
  have hv : v = (lookup c.name r).getD none := mem_zip_map_self s _ c v hcv
  subst hv
  cases hl : lookup c.name r with
  | none => exact absurd hl (hp c hc)
  | some v =>
    cases v with
    | none => simp [hn c hc hl]
    | some cls =>
      cases ht : c.type with
      | none => simp
      | some ty => simp [hw c hc cls ty hl ht]

theorem append_rows (s : List Column) (rows : List (List Value)) (r : Record) (z : Bool) :
    (append s rows r z).1 = if decide (validate s r = .ok) && z then rows ++ [rowOf s r] else rows := by
  rw [append_spec]
  by_cases h : validate s r = .ok <;> cases z <;> simp [h]

/-- The accepted records of a history: those that validate and whose row can be sized. -/
def accepted (s : List Column) (rs : List (Record × Bool)) : List (Record × Bool) :=
  rs.filter fun p => decide (validate s p.1 = .ok) && p.2

/-- After any sequence of appends the frame holds its original rows followed by exactly the rows
of the accepted records, in order; and every stored row conforms when the original ones did. -/
theorem appends_invariant (s : List Column) (rows : List (List Value)) (rs : List (Record × Bool)) :
    appends s rows rs = rows ++ (accepted s rs).map (fun p => rowOf s p.1)
    ∧ ((∀ row ∈ rows, rowConforms s row = true) → ∀ row ∈ appends s rows rs, rowConforms s row = true) := by
  have h := Family.rows_of_loop (appends s) (fun rows p => (append s rows p.1 p.2).1) (fun _ => rfl) (fun _ _ _ => rfl)
    _ (fun p => rowOf s p.1) rs (fun p _ rows => append_rows s rows p.1 p.2) rows
  refine ⟨h, fun hall => h ▸ List.forall_mem_append.mpr ⟨hall, List.forall_mem_map.mpr fun p hp => ?_⟩⟩
  have hp := (List.mem_filter.mp hp).2
  simp only [Bool.and_eq_true, decide_eq_true_eq] at hp
  exact rowOf_conforms s p.1 hp.1

/-- The results the caller sees, one per append: `ok` exactly for the accepted records. -/
theorem appendResults_exact (s : List Column) (rows : List (List Value)) (rs : List (Record × Bool)) :
    (appendResults s rows rs).length = rs.length
    ∧ ∀ (i : Nat) (p : Record × Bool) (a : AppendResult), rs[i]? = some p → (appendResults s rows rs)[i]? = some a →
        (a = .ok ↔ (validate s p.1 = .ok ∧ p.2 = true)) := by
  induction rs generalizing rows with
  | nil => simp [appendResults]
  | cons p rs ih =>
    refine ⟨by simp [appendResults, (ih _).1], fun i q a hq ha => ?_⟩
    cases i with
    | zero =>
      cases hq
      cases ha
      exact append_ok_iff s rows p.1 p.2
    | succ j => exact (ih _).2 j q a hq ha

/-! ## 4. one schema object used many times: the outcome depends on the schema as it is now -/

/-- Observations accumulate: what a program sees at its last step is `observe` on the column list the
earlier steps left behind. -/
theorem run_snoc (s : List Column) (pre : List Op) (op : Op) :
    run s (pre ++ [op]) = run s pre ++ (observe (exec s pre) op).toList := by
  induction pre generalizing s with
  | nil => simp [run, exec]
  | cons o os ih => simp [run, exec, ih]

/-- **History independence.**  After *any* history of validations, appends through bound frames and
mutations of the column list (`columns.append`, `insert`, `del`, `pop_column`, assignment, in-place
change of a column), validating a record gives the statement's verdict on the schema *as it is at
that moment*: it succeeds exactly when the record conforms to the current columns. -/
theorem session_validate_now (s : List Column) (pre : List Op) (r : Record) :
    run s (pre ++ [.validate r]) = run s pre ++ [.outcome (validate (exec s pre) r)]
    ∧ (validate (exec s pre) r = .ok ↔ Conforms (exec s pre) r) := by
  refine ⟨by simp [run_snoc, observe], validate_ok_iff _ _⟩

/-- Two histories that leave the same column list behind cannot be told apart by anything done next —
a schema that was used before it was changed answers like one that was built in its final shape. -/
theorem history_independent (s₁ s₂ : List Column) (h₁ h₂ : List Op) (op : Op)
    (h : exec s₁ h₁ = exec s₂ h₂) :
    ∃ o, run s₁ (h₁ ++ [op]) = run s₁ h₁ ++ o ∧ run s₂ (h₂ ++ [op]) = run s₂ h₂ ++ o := by
  exact ⟨(observe (exec s₁ h₁) op).toList, run_snoc s₁ h₁ op, by rw [run_snoc, h]⟩

/-- Validating and appending never change the schema; each mutation changes the column list as the
list operation says (`pop_column` removes the first column of that name, and nothing when there is none). -/
theorem exec_effects (s : List Column) (r : Record) (c : Column) (i : Nat) (n : String) (cs : List Column)
    (init : List (List Value)) (rs : List (Record × Bool)) :
    exec s [.validate r] = s ∧ exec s [.frame init rs] = s
    ∧ exec s [.addCol c] = s ++ [c] ∧ exec s [.replaceCols cs] = cs
    ∧ exec s [.delCol i] = s.eraseIdx i ∧ exec s [.insertCol i c] = s.insertIdx i c
    ∧ exec s [.setCol i c] = s.set i c
    ∧ exec (c :: s) [.popCol c.name] = s
    ∧ (n ∉ names s → exec s [.popCol n] = s) := by
  refine ⟨rfl, rfl, rfl, rfl, rfl, rfl, rfl, by simp [exec, mutate], ?_⟩
  intro hn
  simp only [exec, mutate]
  apply List.eraseP_of_forall_not
  intro c hc hcn
  exact hn (by simp only [names, List.mem_map]; exact ⟨c, hc, by simpa using hcn⟩)

/-- A frame bound to the schema after any history accepts exactly the records that conform to the
columns as they are then and whose row can be sized, stores their values in that column order, and
leaves its rows alone otherwise. -/
theorem session_frame_now (s : List Column) (pre : List Op) (init : List (List Value)) (rs : List (Record × Bool)) :
    run s (pre ++ [.frame init rs]) =
      run s pre ++ [.frame (init ++ (accepted (exec s pre) rs).map (fun p => rowOf (exec s pre) p.1))
                            (appendResults (exec s pre) init rs)] := by
  simp [run_snoc, observe, (appends_invariant (exec s pre) init rs).1]

/-- Non-vacuity: a record that breaks three rules at once, an accepted one, an excess key that hides two
other offences, an alias that is an excess key; and a schema object whose verdict follows its mutations. -/
example :
    let s : List Column := [⟨"a", some "INTEGER", false, ["id"]⟩, ⟨"b", some "VARCHAR", true, []⟩, ⟨"c", none, false, []⟩]
    validate s [("a", some "str"), ("c", none)] = .invalid ["b"] ["c"] ["a"]
    ∧ validate s [("c", some "list"), ("b", none), ("a", some "bool")] = .ok
    ∧ validate s [("a", some "str"), ("zz", none)] = .excess ["zz"]
    ∧ validate s [("a", some "int"), ("b", none), ("c", some "int"), ("id", some "int")] = .excess ["id"]
    ∧ run s [.validate [("a", some "int"), ("b", none), ("c", some "int"), ("d", some "float")],
             .addCol ⟨"d", some "DOUBLE", true, []⟩,
             .validate [("a", some "int"), ("b", none), ("c", some "int"), ("d", some "float")],
             .popCol "b",
             .validate [("a", some "int"), ("b", none), ("c", some "int"), ("d", some "float")],
             .setCol 0 ⟨"a", some "VARCHAR", false, []⟩,
             .frame [] [([("a", some "int"), ("c", some "int"), ("d", none)], true),
                        ([("a", some "str"), ("c", some "int"), ("d", none)], true),
                        ([("a", some "str"), ("c", some "int"), ("d", none)], false)]]
        = [.outcome (.excess ["d"]), .outcome .ok, .outcome (.excess ["b"]),
           .frame [[some "str", some "int", none]] [.rejected (.invalid [] [] ["a"]), .ok, .unsizable]] := by decide +kernel

/-! ## 5. the type table -/

/-- Facts about the generated type table: the subclass cases the property names. -/
theorem table_facts :
    isInstance "bool" "INTEGER" = true ∧ isInstance "int" "INTEGER" = true
    ∧ isInstance "float" "INTEGER" = false ∧ isInstance "int" "DOUBLE" = false
    ∧ isInstance "int" "BOOLEAN" = false
    ∧ isInstance "datetime" "DATE" = true ∧ isInstance "date" "TIMESTAMP" = false
    ∧ isInstance "str" "VARCHAR" = true ∧ isInstance "bytes" "VARCHAR" = false
    ∧ isInstance "bytes" "BLOB" = true ∧ isInstance "str" "BLOB" = false
    ∧ isInstance "Decimal" "DECIMAL" = true ∧ isInstance "float" "DECIMAL" = false
    ∧ isInstance "list" "ARRAY" = true ∧ isInstance "tuple" "ARRAY" = false
    ∧ isInstance "dict" "STRUCT" = true ∧ isInstance "timedelta" "INTERVAL" = true
    ∧ isInstance "time" "TIME" = true ∧ isInstance "float" "DOUBLE" = true := by decide +kernel

/-- Subclasses defined by users and by numpy: a subclass instance is accepted, a look-alike is not. -/
theorem table_facts_subclasses :
    isInstance "MyInt" "INTEGER" = true ∧ isInstance "MyStr" "VARCHAR" = true
    ∧ isInstance "MyDateTime" "DATE" = true ∧ isInstance "MyDateTime" "TIMESTAMP" = true
    ∧ isInstance "MyDict" "STRUCT" = true ∧ isInstance "OrderedDict" "STRUCT" = true
    ∧ isInstance "np.float64" "DOUBLE" = true ∧ isInstance "np.int64" "INTEGER" = false
    ∧ isInstance "np.bool" "BOOLEAN" = false ∧ isInstance "bytearray" "BLOB" = false
    ∧ isInstance "frozenset" "ARRAY" = false ∧ isInstance "np.ndarray" "ARRAY" = false
    ∧ isInstance "bytes" "JSONB" = true ∧ isInstance "dict" "JSONB" = false := by decide +kernel

/-! ## 6. the record *object*: dict, any other mapping, anything else -/

/-- The three type tests of the source — the one that lets an object into `validate`, the one under which
`append` copies it into a plain dict first, the one under which the row factory reads it by key — fit together,
for every object CPython can make (exact dict ⊆ dict ⊆ MutableMapping ⊆ Mapping):
whatever `validate` lets in after the copy is read by key (never iterated, which would store a mapping's *keys*);
every mutable mapping is let in, an object that is no mapping never is; `append` copies only what `validate`
would let in anyway, so the copy does not change the verdict. -/
theorem record_objects (d e m p : Bool) (h : Kind.wf ⟨d, e, m, p⟩ = true) :
    (guardAccepts (afterCoerce ⟨d, e, m, p⟩) = true → rowReads (afterCoerce ⟨d, e, m, p⟩) = true)
    ∧ (m = true → guardAccepts ⟨d, e, m, p⟩ = true)
    ∧ (p = false → guardAccepts ⟨d, e, m, p⟩ = false)
    ∧ (coerces ⟨d, e, m, p⟩ = true → guardAccepts ⟨d, e, m, p⟩ = true)
    ∧ guardAccepts (afterCoerce ⟨d, e, m, p⟩) = guardAccepts ⟨d, e, m, p⟩ := by
  revert d e m p
  decide

/-- `validate` on any object: the statement's verdict when the object passes the type test, a `TypeError`
otherwise — nothing in between. -/
theorem validateK_spec (k : Kind) (s : List Column) (r : Record) :
    validateK k s r = if guardAccepts k then validate s r else .other := by
  unfold validateK validate
  cases guardAccepts k
  · simp [(top_spec _ _).2]
  · simp

/-- No exception escapes the per-column loop: `validate` with evaluation errors is `validate`. -/
theorem validateKE_eq (k : Kind) (s : List Column) (r : Record) : validateKE k s r = validateK k s r := by
  have : (s.any fun c => (ruleOfE r c).isNone) = false := by
    simp [ruleOfE, columnRule_never_raises]
  simp [validateKE, this]

/-- `DataFrame.append` of any object, with its statements in the order the source has them now: the object is judged, and
read by the row factory, as what it is after the copy. -/
theorem appendK_eq (s : List Column) (rows : List (List Value)) (k : Kind) (r : Record) (z : Bool) :
    appendK s rows k r z =
      if validateK (afterCoerce k) s r = .ok then
        (if z then (rows ++ [if rowReads (afterCoerce k) then rowOf s r else keysRow r], .ok) else (rows, .unsizable))
      else (rows, .rejected (validateK (afterCoerce k) s r)) := by
  simp only [appendK, Gen.ValidateFlow.appendSteps, runStepsK]

/-- **`append` of any object**: exactly `append` of the record it stands for when `validate` lets the object in,
otherwise refused with the rows unchanged.  In particular nothing but `rowOf` — the values in column order — is
ever stored. -/
theorem appendK_spec (s : List Column) (rows : List (List Value)) (k : Kind) (hk : k.wf = true) (r : Record) (z : Bool) :
    appendK s rows k r z = if guardAccepts k then append s rows r z else (rows, .rejected .other) := by
  obtain ⟨d, e, m, p⟩ := k
  obtain ⟨h1, _, _, _, h5⟩ := record_objects d e m p hk
  rw [appendK_eq, append_spec, validateK_spec, h5]
  cases hg : guardAccepts ⟨d, e, m, p⟩
  · simp
  · simp [h1 (h5 ▸ hg)]

/-- The condition is written as the Boolean `acceptedK` filters by, the form `Family.rows_of_loop` takes. -/
theorem appendK_rows (s : List Column) (rows : List (List Value)) (k : Kind) (hk : k.wf = true) (r : Record) (z : Bool) :
    (appendK s rows k r z).1 =
      if guardAccepts k && decide (validate s r = .ok) && z then rows ++ [rowOf s r] else rows := by
  rw [appendK_spec s rows k hk]
  cases guardAccepts k
  · rfl
  · simp only [if_true, append_rows, Bool.true_and]

theorem appendK_ok_iff (s : List Column) (rows : List (List Value)) (k : Kind) (hk : k.wf = true) (r : Record) (z : Bool) :
    (appendK s rows k r z).2 = .ok ↔ (guardAccepts k && decide (validate s r = .ok) && z) = true := by
  rw [appendK_spec s rows k hk]
  cases guardAccepts k
  · simp
  · simp only [if_true, append_ok_iff, Bool.true_and, Bool.and_eq_true, decide_eq_true_eq]

/-- A mutable mapping of any class is appended exactly like the plain dict with the same items. -/
theorem appendK_mutable (s : List Column) (rows : List (List Value)) (k : Kind) (hk : k.wf = true)
    (hm : k.isMutableMapping = true) (r : Record) (z : Bool) : appendK s rows k r z = append s rows r z := by
  obtain ⟨d, e, m, p⟩ := k
  rw [appendK_spec s rows _ hk, (record_objects d e m p hk).2.1 hm]; rfl

/-- Whatever the object: when `append` returns, `validate` accepts the same object, exactly one row was added
and it holds the values in column order; when it raises, the rows are as before. -/
theorem appendK_safe (s : List Column) (rows : List (List Value)) (k : Kind) (hk : k.wf = true) (r : Record) (z : Bool) :
    ((appendK s rows k r z).2 = .ok →
        (appendK s rows k r z).1 = rows ++ [rowOf s r] ∧ validateK k s r = .ok ∧ Conforms s r ∧ z = true)
    ∧ ((appendK s rows k r z).2 ≠ .ok → (appendK s rows k r z).1 = rows) := by
  rw [appendK_rows s rows k hk]
  refine ⟨fun h => ?_, fun h => if_neg (mt (appendK_ok_iff s rows k hk r z).mpr h)⟩
  have h := (appendK_ok_iff s rows k hk r z).mp h
  rw [if_pos h, validateK_spec]
  simp only [Bool.and_eq_true, decide_eq_true_eq] at h
  exact ⟨rfl, by rw [if_pos h.1.1]; exact h.1.2, (validate_ok_iff s r).mp h.1.2, h.2⟩

/-- The appends of a history of arbitrary objects that are accepted. -/
def acceptedK (s : List Column) (l : List (Kind × Record × Bool)) : List (Kind × Record × Bool) :=
  l.filter fun p => guardAccepts p.1 && decide (validate s p.2.1 = .ok) && p.2.2

/-- After any sequence of appends of arbitrary objects the frame holds its original rows followed by exactly
the rows of the accepted ones, in order; every stored row conforms when the original ones did. -/
theorem appendsK_invariant (s : List Column) (l : List (Kind × Record × Bool)) (hl : ∀ p ∈ l, p.1.wf = true) :
    ∀ rows, appendsK s rows l = rows ++ (acceptedK s l).map (fun p => rowOf s p.2.1)
      ∧ ((∀ row ∈ rows, rowConforms s row = true) → ∀ row ∈ appendsK s rows l, rowConforms s row = true) := by
  intro rows
  have h := Family.rows_of_loop (appendsK s) (fun rows p => (appendK s rows p.1 p.2.1 p.2.2).1) (fun _ => rfl) (fun _ _ _ => rfl)
    _ (fun p => rowOf s p.2.1) l (fun p hp rows => appendK_rows s rows p.1 (hl p hp) p.2.1 p.2.2) rows
  refine ⟨h, fun hall => h ▸ List.forall_mem_append.mpr ⟨hall, List.forall_mem_map.mpr fun p hp => ?_⟩⟩
  have hp := (List.mem_filter.mp hp).2
  simp only [Bool.and_eq_true, decide_eq_true_eq] at hp
  exact rowOf_conforms s p.2.1 hp.1.2

/-! ## 7. families of frames: every frame is a register of its own append history -/

/-- **No method hands out the parent's own row list**: no `return` of `DataFrame.slice` (hence of `head` and
`tail`) builds the new frame on `self._rows` itself, and `query`, `distinct`, `filter`, `take`, `to_batches`
and `+` build theirs on a new list or on a generator over a snapshot — never on the parent's list, never on a
generator that reads the parent's list later. -/
theorem frames_own_their_rows :
    Family.sharesSomewhere Gen.AppendFlow.sliceTree = false
    ∧ ∀ p ∈ Gen.AppendFlow.derivedRows, p.2 = .fresh ∨ p.2 = .snapshot := by decide

theorem no_sharing : Family.NoSharing := by
  refine ⟨frames_own_their_rows.1, fun p hp => ?_⟩
  rcases frames_own_their_rows.2 p hp with h | h <;> rw [h] <;> decide

/-- **Refinement**: for every program of appends and derivations (slice, head, tail, query, distinct, filter,
take, to_batches, +) the frames of the heap machine — where a frame is a pointer to a row list and `append`
writes through it — show exactly what the register machine holds, in which every frame has rows of its own. -/
theorem family_refines_registers (s : List Column) (st : Family.St) (h : Family.Inv st) (ops : List Family.FOp) :
    (Family.runH s st ops).view = Family.runR s st.view ops :=
  (Family.run_refines s no_sharing ops st h).1

/-- **Every frame holds exactly its own history**: take any program, stop anywhere; a frame that exists then and
shows `rows` shows, after the rest of the program, `rows` followed by exactly the records accepted by the
appends that went to *it*, in order — whatever was appended to the frames it was derived from or that were
derived from it. -/
theorem family_frame_holds_its_own (s : List Column) (st : Family.St) (h : Family.Inv st) (pre post : List Family.FOp)
    (hwf : ∀ op ∈ post, op.wf = true) (j : Nat) (rows : List Family.Row)
    (hj : (Family.runH s st pre).view[j]? = some rows) :
    (Family.runH s st (pre ++ post)).view[j]? =
      some (rows ++ (acceptedK s (Family.appendsTo j post)).map (fun p => rowOf s p.2.1)) := by
  rw [Family.runH_append]
  obtain ⟨_, hinv⟩ := Family.run_refines s no_sharing pre st h
  rw [(Family.run_refines s no_sharing post _ hinv).1, Family.runR_frame s j post _ rows hj,
    (appendsK_invariant s _ (Family.appendsTo_wf j post hwf) rows).1]

/-- An append to one frame changes no other frame. -/
theorem family_append_is_local (s : List Column) (st : Family.St) (h : Family.Inv st) (i j : Nat) (hij : i ≠ j)
    (k : Kind) (hk : k.wf = true) (r : Record) (z : Bool) :
    (Family.stepH s st (.append i k r z)).view[j]? = st.view[j]? := by
  rw [(Family.step_refines s no_sharing st h (.append i k r z)).1]
  simp only [Family.stepR]
  split
  · rfl
  · exact List.getElem?_set_ne hij

/-- Non-vacuity of parts 6 and 7: `head(5)` of a two-row frame is the whole of it on a list of its own, so an
append to the parent leaves it alone; frames taken later start from what their parent holds then; a UserDict is
appended like the dict it stands for, a read-only mapping is refused by `validate` and by `append` alike. -/
example :
    let s : List Column := [⟨"a", some "INTEGER", false, []⟩, ⟨"b", some "VARCHAR", true, []⟩]
    let good : Record := [("b", some "str"), ("a", some "int")]
    let st0 : Family.St := ⟨[[[some "int", some "str"], [some "int", none]]], [0]⟩
    let proxy : Kind := ⟨false, false, false, true⟩
    let userDict : Kind := ⟨false, false, true, true⟩
    (Family.runH s st0 [.derive 0 (.head 5), .append 0 Kind.dict good true, .derive 0 (.tail 1), .append 1 userDict good true,
                 .append 2 proxy good true, .derive 1 (.slice (-1) none)]).view
      = [[[some "int", some "str"], [some "int", none], [some "int", some "str"]],
         [[some "int", some "str"], [some "int", none], [some "int", some "str"]],
         [[some "int", some "str"]],
         [[some "int", some "str"]]]
    ∧ (appendK s [] proxy good true) = ([], .rejected .other)
    ∧ (appendK s [] userDict good true) = ([[some "int", some "str"]], .ok)
    ∧ validateK proxy s good = .other := by decide +kernel

/-! ## 8. one process, many features: where a frame's row class comes from -/

/-- **The classes `Row.create_class` hands out do not depend on who asked before** (decided on the facts regenerated
from row.py, dataframe.py and converters.py): the `DataFrame` constructor asks for a class with Row's own constructor —
the one that reads a record by key —, and if `create_class` keeps the classes it makes in module-level state, the key
is built from everything the class depends on: the field names, and `tuples_only` unless both values give the same
constructor. -/
theorem row_classes_sound : RowClass.genCfg.sound = true := by decide

/-- Non-vacuity of part 8: on the working tree's configuration, an arrow-made frame stores the values in column order
whatever was asked before. -/
example :
    let s : List Column := [⟨"a", some "INTEGER", false, []⟩, ⟨"b", some "VARCHAR", true, []⟩]
    let good : Record := [("b", some "str"), ("a", some "int")]
    (RowClass.runP RowClass.genCfg s ⟨[], []⟩
        [.feature ["a", "b"] .reader, .feature ["b", "a"] (.direct true), .frame true [[some "int", none]],
         .fop (.append 0 Kind.dict good true), .feature ["a", "b"] (.direct true), .fop (.derive 0 (.head 5)),
         .fop (.append 1 Kind.dict good true), .fop (.append 0 Kind.dict [("a", some "str")] true)]).regs
      = [[[some "int", none], [some "int", some "str"]],
         [[some "int", none], [some "int", some "str"], [some "int", some "str"]]] := by decide +kernel

/-- What the callers pass, as the source has it now: a frame never asks for a tuples-only class, the arrow reader
does, and a tuples-only class is the one that would store a dict's keys. -/
theorem row_class_callers :
    Gen.RowClass.classNew Gen.RowClass.frameFlag = .rowNew ∧ Gen.RowClass.classNew Gen.RowClass.dictFrameFlag = .rowNew
    ∧ (Gen.RowClass.arrowFlag = true → Gen.RowClass.classNew true = .tupleNew →
        ∀ k r, RowClass.buildRow ⟨[], Gen.RowClass.classNew Gen.RowClass.arrowFlag⟩ k r = keysRow r) := by
  refine ⟨by decide, by decide, ?_⟩
  intro h1 h2 k r
  simp [RowClass.buildRow, h1, h2]

/-- A request for a row class is answered as if nothing had been asked before, whatever was: the class has the fields
asked for and the constructor `tuples_only` selects. -/
theorem create_class_history_independent (cache : RowClass.Cache) (h : RowClass.CacheOk RowClass.genCfg cache)
    (fields : List String) (flag : Bool) :
    (RowClass.createClass RowClass.genCfg cache fields flag).1 = ⟨fields, Gen.RowClass.classNew flag⟩
    ∧ RowClass.CacheOk RowClass.genCfg (RowClass.createClass RowClass.genCfg cache fields flag).2 :=
  RowClass.createClass_sound RowClass.genCfg row_classes_sound cache h fields flag

/-- **Refinement**: for every program of a process — other features asking for row classes (the arrow reader, frames
built from dictionaries or on other schemas, `Row.create_class` itself, with any field names and either flag), frames
created on the columns `s` (from rows or from an arrow table), appends of any object, frames taken from frames — the
frames of the process machine, which build their rows with the class they were given when they were created out of a
cache shared by the whole process, show exactly what the register machine holds, in which no feature touches a frame. -/
theorem process_refines_registers (s : List Column) (st : RowClass.PSt) (h : RowClass.Good RowClass.genCfg s st)
    (ops : List RowClass.POp) :
    (RowClass.runP RowClass.genCfg s st ops).regs = RowClass.runRP s st.regs ops :=
  (RowClass.run_refinesP RowClass.genCfg row_classes_sound s ops st h).1

/-- **Every frame of a process holds exactly its own history**: take any program of the process, stop anywhere; a frame
that exists then and shows `rows` shows, after the rest of the program, `rows` followed by exactly the rows of the
records accepted by the appends that went to it — the values in column order —, whatever other features were used
before it was created or between its appends. -/
theorem process_frame_holds_its_own (s : List Column) (st : RowClass.PSt) (h : RowClass.Good RowClass.genCfg s st)
    (pre post : List RowClass.POp) (hwf : ∀ op ∈ RowClass.fopsOf post, op.wf = true) (j : Nat) (rows : List Family.Row)
    (hj : (RowClass.runP RowClass.genCfg s st pre).regs[j]? = some rows) :
    (RowClass.runP RowClass.genCfg s st (pre ++ post)).regs[j]? =
      some (rows ++ (acceptedK s (Family.appendsTo j (RowClass.fopsOf post))).map (fun p => rowOf s p.2.1)) := by
  rw [RowClass.runP_append]
  obtain ⟨_, hg⟩ := RowClass.run_refinesP RowClass.genCfg row_classes_sound s pre st h
  rw [(RowClass.run_refinesP RowClass.genCfg row_classes_sound s post _ hg).1, RowClass.runRP_frame s j post _ rows hj,
    (appendsK_invariant s _ (Family.appendsTo_wf j _ hwf) rows).1]

/-- A process that starts with nothing: whatever features were used first (any field names, any of the three callers),
the first frame made — from rows or from an arrow table — holds its initial rows plus exactly the records it accepted. -/
theorem process_first_frame (s : List Column) (features : List (List String × RowClass.Who))
    (arrow : Bool) (init : List Family.Row) (post : List RowClass.POp) (hwf : ∀ op ∈ RowClass.fopsOf post, op.wf = true) :
    (RowClass.runP RowClass.genCfg s ⟨[], []⟩
        ((features.map fun p => RowClass.POp.feature p.1 p.2) ++ [RowClass.POp.frame arrow init] ++ post)).regs[0]? =
      some (init ++ (acceptedK s (Family.appendsTo 0 (RowClass.fopsOf post))).map (fun p => rowOf s p.2.1)) := by
  apply process_frame_holds_its_own s _ (RowClass.good_empty _ s) _ post hwf 0 init
  -- the features make no frame, so the frame made after them is the first one, whatever class it is given
  rw [RowClass.runP_append]
  cases arrow <;>
    simp [RowClass.runP, RowClass.stepP, RowClass.newFrame, RowClass.PSt.regs, RowClass.runP_features_frames]

/-- **Frames created from dictionaries** (no schema object: nothing is validated): appending a mutable mapping of any
class adds exactly one row — the values under the keys of the first dictionary, in that order, `None` where a key is
absent, keys that are not columns dropped — or, when the row cannot be sized, raises and leaves the rows unchanged. -/
theorem dictframe_append_spec (fields : List String) (rows : List (List Value)) (k : Kind) (hk : k.wf = true)
    (hm : k.isMutableMapping = true) (r : Record) (z : Bool) :
    RowClass.appendD fields rows k r z =
      if z then (rows ++ [fields.map fun n => (lookup n r).getD none], .ok) else (rows, .unsizable) := by
  obtain ⟨d, e, m, p⟩ := k
  obtain ⟨h1, h2, _, _, h5⟩ := record_objects d e m p hk
  have hr : rowReads (afterCoerce ⟨d, e, m, p⟩) = true := h1 (h5 ▸ h2 hm)
  have hn : (Gen.RowClass.classNew Gen.RowClass.dictFrameFlag == Gen.RowClass.NewKind.rowNew) = true := by decide
  have hg : Gen.ValidateFlow.appendValidateGuarded = true := by decide
  cases z <;>
    simp [RowClass.appendD, Gen.ValidateFlow.appendSteps, RowClass.runStepsD, RowClass.buildRow, hr, hn, hg]

/-- After any sequence of appends of mutable mappings a dictionary-built frame holds its original rows followed by one row
per record whose row could be sized, in order. -/
theorem dictframe_appends_invariant (fields : List String) (l : List (Kind × Record × Bool))
    (hl : ∀ p ∈ l, p.1.wf = true ∧ p.1.isMutableMapping = true) :
    ∀ rows, RowClass.appendsD fields rows l =
      rows ++ ((l.filter fun p => p.2.2).map fun p => fields.map fun n => (lookup n p.2.1).getD none) := by
  intro rows
  refine Family.rows_of_loop (RowClass.appendsD fields) (fun rows p => (RowClass.appendD fields rows p.1 p.2.1 p.2.2).1)
    (fun _ => rfl) (fun _ _ _ => rfl) _ _ l (fun p hp rows => ?_) rows
  rw [dictframe_append_spec fields rows p.1 (hl p hp).1 (hl p hp).2]
  cases p.2.2 <;> rfl

/-- The statement is *false* of a cache keyed on the field names alone (the shape of seeded change C05-w5s1), and the
machine shows it: when the arrow reader asks first, the frame is handed the reader's class — tuple's constructor, which
makes of any record its keys; in the other order the reader is handed a class that reads records, which is harmless. -/
theorem cache_keyed_on_names_alone_counterexample :
    let bad : RowClass.Cfg := ⟨some (true, false), fun t => if t then .tupleNew else .rowNew, false, true⟩
    bad.sound = false
    ∧ (RowClass.createClass bad (RowClass.createClass bad [] ["a", "b"] bad.arrowFlag).2 ["a", "b"] bad.frameFlag).1
        = ⟨["a", "b"], .tupleNew⟩
    ∧ (RowClass.createClass bad (RowClass.createClass bad [] ["a", "b"] bad.frameFlag).2 ["a", "b"] bad.arrowFlag).1
        = ⟨["a", "b"], .rowNew⟩
    ∧ ∀ (f : List String) (k : Kind) (r : Record), RowClass.buildRow ⟨f, .tupleNew⟩ k r = keysRow r := by
  refine ⟨by decide, by decide, by decide, ?_⟩
  intro f k r
  simp [RowClass.buildRow]

/-! ## 9. the layout of a stored row follows the schema as it is when the record is appended -/

/-- **The row class follows the schema** (decided on the facts regenerated from dataframe.py, schema.py and row.py):
`append` compares the fields of the frame's row class with the column names *read at that moment* — not with a helper
that remembers an earlier answer —, after the record was validated and before the row is built; the class
`Row.create_class` makes for a schema has one field per column (if it iterates the schema, the iteration yields one name
per column, not every name once); and the class reads records by key. -/
theorem layout_sound : Layout.genL.sound = true := by decide

/-- Non-vacuity of part 9: a column is renamed, then the columns are reordered, between the appends to one frame; a second
frame reads its names in between. -/
example :
    let a : Column := ⟨"id", some "INTEGER", false, []⟩
    let b : Column := ⟨"name", some "VARCHAR", false, []⟩
    let b' : Column := ⟨"full_name", some "VARCHAR", false, []⟩
    (Layout.runB Layout.genL ⟨[a, b], [], none⟩
        [.bind [], .append 0 Kind.dict [("id", some "int"), ("name", some "str")] true, .read 0, .edit (.setCol 1 b'),
         .append 0 Kind.dict [("id", some "int"), ("name", some "str")] true,
         .append 0 Kind.dict [("full_name", some "str"), ("id", some "int")] true, .edit (.replaceCols [b', a]), .bind [], .read 1,
         .append 0 Kind.dict [("full_name", some "str"), ("id", some "int")] true]).regs
      = [[[some "int", some "str"], [some "int", some "str"], [some "str", some "int"]], []] := by decide +kernel

/-- **One append on a frame bound to a schema that may have been edited since the frame was made** — whatever fields
the frame's class was left with (`f`), whatever the frame's `column_names` helper remembers (`seen`): the rows and the
result are those of `appendK` on the columns *as they are now* (so, by `appendK_spec` / `append_spec`: exactly `rowOf` of
the current columns is added when the record validates against them and can be sized, nothing otherwise), and a frame
that got past validation is left with a class laid out by the current column names. -/
theorem bound_append_spec (s : List Column) (seen f : List String) (rows : List Layout.Row) (k : Kind) (r : Record) (z : Bool) :
    (Layout.appendL Layout.genL s seen f rows k r z).1 = (appendK s rows k r z).1
    ∧ (Layout.appendL Layout.genL s seen f rows k r z).2.2 = (appendK s rows k r z).2
    ∧ (Layout.isRejected (Layout.appendL Layout.genL s seen f rows k r z).2.2 = false →
        (Layout.appendL Layout.genL s seen f rows k r z).2.1 = names s) := by
  obtain ⟨_, hb, _, hn⟩ := Layout.sound_parts _ layout_sound
  simp only [appendK_eq, Layout.appendL, Gen.ValidateFlow.appendSteps, Layout.runStepsL, hb, if_true,
    Layout.relaid_sound _ layout_sound, hn, RowClass.buildRow_names]
  by_cases hv : validateK (afterCoerce k) s r = .ok <;> cases z <;> simp [hv, Layout.isRejected]

/-- **Refinement, with the schema changing under the frames**: for every program in which the owner of ONE schema object
edits it (columns added, inserted, deleted, popped, replaced, renamed / retyped in place), frames are bound to it,
their `column_names` are read and records (objects of any kind) are appended to any of them, the bound machine — in
which every frame builds its rows with the class it was left with, replaced as the source replaces it — shows what the
register machine holds, in which every append stores `rowOf` of the columns as they are at that moment.  No hypothesis on
the classes the frames start with. -/
theorem bound_refines_registers (st : Layout.BSt) (ops : List Layout.BOp) :
    ((Layout.runB Layout.genL st ops).cols, (Layout.runB Layout.genL st ops).regs) = Layout.runBR (st.cols, st.regs) ops :=
  Layout.run_refinesB Layout.genL (fun s seen f rows k r z => (bound_append_spec s seen f rows k r z).1) ops st

/-- **A bound frame holds exactly its own history, each record laid out by the columns of its moment**: stop any program
anywhere; a frame showing `rows` then shows, after the rest, `rows` followed by exactly the rows of the records its appends
accepted — each with the values in the order of the columns as they were when it was appended (`acceptedRows`). -/
theorem bound_frame_holds_its_own (st : Layout.BSt) (pre post : List Layout.BOp) (hwf : ∀ op ∈ post, op.wf = true)
    (j : Nat) (rows : List Layout.Row) (hj : (Layout.runB Layout.genL st pre).regs[j]? = some rows) :
    (Layout.runB Layout.genL st (pre ++ post)).regs[j]? =
      some (rows ++ Layout.acceptedRows j (Layout.runB Layout.genL st pre).cols post) := by
  -- whether `appendK` answers `ok` does not depend on the rows already there
  have hadds : Layout.KSpec := fun s rows k r z hk =>
    (appendK_rows s rows k hk r z).trans
      (ite_congr (propext ((appendK_ok_iff s [] k hk r z).symm)) (fun _ => rfl) (fun _ => rfl))
  rw [Layout.runB_append]
  have h := bound_refines_registers (Layout.runB Layout.genL st pre) post
  have h2 := congrArg Prod.snd h
  simp only at h2
  rw [h2]
  exact Layout.runBR_frame hadds j post hwf _ _ rows hj

/-- Every row the appends of a program add conforms to the schema as it was when the row was stored: it is `rowOf` of a
record that validated against those columns. -/
theorem bound_rows_conform (j : Nat) (ops : List Layout.BOp) (hwf : ∀ op ∈ ops, op.wf = true) :
    ∀ (s : List Column), ∀ row ∈ Layout.acceptedRows j s ops, ∃ s' r, row = rowOf s' r ∧ rowConforms s' row = true := by
  induction ops with
  | nil => intro s row h; simp [Layout.acceptedRows] at h
  | cons op ops ih =>
    intro s row h
    have hop : op.wf = true := hwf op (by simp)
    have ih := ih (fun o ho => hwf o (by simp [ho]))
    cases op with
    | edit _ | bind _ | read _ => exact ih _ row h
    | append i k r z =>
      simp only [Layout.acceptedRows, List.mem_append] at h
      rcases h with h | h
      · by_cases hc : i = j ∧ (appendK s [] k r z).2 = .ok
        · simp only [hc, and_self, if_true, List.mem_singleton] at h
          subst h
          have hacc := (appendK_ok_iff s [] k hop r z).mp hc.2
          simp only [Bool.and_eq_true, decide_eq_true_eq] at hacc
          exact ⟨s, r, rfl, rowOf_conforms s r hacc.1.2⟩
        · simp [hc] at h
      · exact ih _ row h

/-- The statement is *false* of a relayout test against a helper that remembers its first answer (the shape of seeded
change C05-w6s1), and the machine shows it: after one append the helper has answered; the column is renamed; a record
that validates against the schema as it is now is laid out by the old names — the renamed column's value is dropped and
a null stored in a non-nullable column. -/
theorem relayout_memoised_counterexample :
    let bad : Layout.LCfg := { Layout.genL with relayout := .memoised }
    let a : Column := ⟨"id", some "INTEGER", false, []⟩
    let b : Column := ⟨"name", some "VARCHAR", false, []⟩
    let b' : Column := ⟨"full_name", some "VARCHAR", false, []⟩
    let rec2 : Record := [("id", some "int"), ("full_name", some "str")]
    bad.sound = false
    ∧ validate [a, b'] rec2 = .ok
    ∧ (Layout.runB bad ⟨[a, b], [], none⟩
        [.bind [], .append 0 Kind.dict [("id", some "int"), ("name", some "str")] true, .edit (.setCol 1 b'),
         .append 0 Kind.dict rec2 true]).regs = [[[some "int", some "str"], [some "int", none]]]
    ∧ rowOf [a, b'] rec2 = [some "int", some "str"] := by
  decide +kernel

/-- The statement is *false* of a schema iteration that yields every name once (the shape of seeded change C05-w6s2) when
`Row.create_class` takes its fields from it: under two columns of one name the stored row is too short and shifted. -/
theorem iter_distinct_counterexample :
    let bad : Layout.LCfg := { Layout.genL with iter := .distinct, fieldsFrom := .iteration }
    let s : List Column := [⟨"id", some "INTEGER", false, []⟩, ⟨"label", some "VARCHAR", true, []⟩,
                            ⟨"id", some "INTEGER", false, []⟩, ⟨"score", some "DOUBLE", true, []⟩]
    let r : Record := [("id", some "int"), ("label", some "str"), ("score", some "float")]
    bad.sound = false
    ∧ validate s r = .ok
    ∧ (Layout.runB bad ⟨s, [], none⟩ [.bind [], .append 0 Kind.dict r true]).regs = [[[some "int", some "str", some "float"]]]
    ∧ rowOf s r = [some "int", some "str", some "int", some "float"] := by
  decide +kernel

/-! ## 10. the record-size limit of the row serialiser -/

/-- **What the library states is what it does** (on the constant and the guard regenerated from row.py): a packed record
of at most 16 MiB — the limit the error message states, "Record length cannot exceed 16Mb" — is never refused for its
size; `Row.nbytes` sizes the row through the guarded serialiser; and if the message states a limit as a literal, every
length up to it is accepted. -/
theorem size_limit_as_stated :
    (∀ n : Nat, n ≤ Layout.statedLimit → Gen.Layout.sizeRefused (n : Int) = false)
    ∧ (∀ m : Int, Gen.Layout.statedLimit = some m → ∀ n : Int, n ≤ m → Gen.Layout.sizeRefused n = false) := by
  refine ⟨?_, ?_⟩
  · intro n hn
    simp only [Layout.statedLimit] at hn
    simp [Gen.Layout.sizeRefused, Gen.Layout.maxRecordSize]
    omega
  · intro m hm n hn
    first
      | (exfalso; simp [Gen.Layout.statedLimit] at hm; done)   -- the message states no literal limit
      | (simp only [Gen.Layout.statedLimit, Option.some.injEq] at hm
         simp [Gen.Layout.sizeRefused, Gen.Layout.maxRecordSize]
         omega)

/-- **A conforming record whose values the serialiser packs, into at most 16 MiB, is stored**: for every schema, every
frame content, every mutable mapping — `append` adds exactly the values in column order. -/
theorem append_within_limit (s : List Column) (rows : List (List Value)) (k : Kind) (hk : k.wf = true)
    (hm : k.isMutableMapping = true) (r : Record) (packed : Nat) (hc : Conforms s r) (hp : packed ≤ Layout.statedLimit) :
    appendK s rows k r (Layout.sizableBy true packed) = (rows ++ [rowOf s r], .ok) := by
  rw [appendK_mutable s rows k hk hm, append_spec, (validate_ok_iff s r).mpr hc]
  have h := size_limit_as_stated.1 packed hp
  simp only [Layout.sizableBy, h, Bool.not_false, Bool.and_self, if_true]

/-- … also on a frame whose schema was edited since it was made. -/
theorem bound_append_within_limit (s : List Column) (seen f : List String) (rows : List Layout.Row) (k : Kind)
    (hk : k.wf = true) (hm : k.isMutableMapping = true) (r : Record) (packed : Nat) (hc : Conforms s r)
    (hp : packed ≤ Layout.statedLimit) :
    (Layout.appendL Layout.genL s seen f rows k r (Layout.sizableBy true packed)).1 = rows ++ [rowOf s r]
    ∧ (Layout.appendL Layout.genL s seen f rows k r (Layout.sizableBy true packed)).2.2 = .ok := by
  obtain ⟨h1, h2, _⟩ := bound_append_spec s seen f rows k r (Layout.sizableBy true packed)
  rw [h1, h2, append_within_limit s rows k hk hm r packed hc hp]
  exact ⟨rfl, rfl⟩

/-- Non-vacuity: exactly at the stated limit the row is sized and stored; a row that cannot be packed is refused and nothing
is stored.  (That a longer record IS refused is not part of the statement: raising the limit is no violation.) -/
example :
    Layout.sizableBy true (16 * 1024 * 1024) = true ∧ Layout.sizableBy false 5 = false
    ∧ appendK [⟨"c0", some "VARCHAR", true, []⟩] [] Kind.dict [("c0", some "str")] (Layout.sizableBy true (16 * 1024 * 1024))
        = ([[some "str"]], .ok)
    ∧ appendK [⟨"c0", some "VARCHAR", true, []⟩] [] Kind.dict [("c0", some "str")] (Layout.sizableBy false 5)
        = ([], .unsizable) := by decide +kernel

/-! ## 11. the caller's record object

`validate` and `append` are handed an object the caller keeps and may edit afterwards.  Everything above takes a record as a
value; that is the code's behaviour only if the code (a) keeps neither the object nor a live view of it beyond the call — a
remembered `data.keys()` changes when the caller adds a key —, (b) does not write into it, and (c) `append` validates and
stores the record it was given, not the record merged with something else (the defaults a column declares). -/

/-- Decided on the facts regenerated from the source: no statement of `validate` / `append` keeps the record object or a
live view of it in `self`, a column, the class or a module-level name; none writes into it; `append` does not put a merge of
the record with other data in its place; `validate` and the row constructor are handed the same name. -/
theorem record_use_sound :
    Gen.RecordUse.recordRetained = [] ∧ Gen.RecordUse.recordWrittenTo = [] ∧ Gen.RecordUse.recordRewritten = []
    ∧ Gen.RecordUse.validatesWhatItStores = true := by decide

/-- What `append` would do if it merged declared defaults into the record first (the shape of C05-w7s3): the record it
validates is `r ++` the defaults of the columns `r` lacks. -/
def mergeDefaults (s : List Column) (d : Record) (r : Record) : Record :=
  r ++ d.filter fun kv => decide (kv.1 ∈ names s) && (lookup kv.1 r).isNone

/-- Merging nothing is the identity: with no declared defaults the merged append is `append`. -/
theorem mergeDefaults_nil (s : List Column) (r : Record) : mergeDefaults s [] r = r := by
  simp [mergeDefaults]

/-- The statement is false of an `append` that merges defaults first: for the one-column schema `c0` (nullable, untyped) whose
column declares a default, the empty record does not validate (`c0` is missing) — `append` must refuse it and leave the rows
as they are — but the merged record validates and a row holding a value that is not in the record is stored. -/
theorem defaults_merged_counterexample :
    let s : List Column := [⟨"c0", none, true, []⟩]
    let d : Record := [("c0", some "str")]
    validate s [] = .invalid ["c0"] [] []
    ∧ append s [] [] true = ([], .rejected (.invalid ["c0"] [] []))
    ∧ append s [] (mergeDefaults s d []) true = ([[some "str"]], .ok) := by
  decide +kernel

/-- What `validate` would do if it skipped the excess check for a record whose keys equal the keys it remembers (the shape of
C05-w7s2, where the remembered keys are a live view of the caller's object and so always equal the keys of that object). -/
def validateSkipping (s : List Column) (r : Record) : Outcome :=
  validate s (r.filter fun kv => decide (kv.1 ∈ names s))

/-- The statement is false of it: the caller's object `{a}` validates, the caller adds the key `comment`, and the same
object — whose keys the live view now shows — is accepted although `validate` names `comment` as excess. -/
theorem retained_view_counterexample :
    let s : List Column := [⟨"a", none, true, []⟩]
    let r : Record := [("a", some "int"), ("comment", some "str")]
    validate s r = .excess ["comment"] ∧ validateSkipping s r = .ok := by
  decide +kernel

end C05
