import OrsoVerif.Model.Kernels
import OrsoVerif.Lemmas.CallSites
import OrsoVerif.Lemmas.KernelFns
import OrsoVerif.Generated.KernelFns
/-!
# C10 — Native kernels match their Python definitions and are bounds-safe

The kernels of `Model/Kernels.lean`; then the same statements about `compiled.pyx` translated statement by statement
(`Gen.KernelFns`, proved equal to the models); then the Python call sites (`Model/CallSites.lean`).  The full safety
statement ("no input makes a helper read outside a row") is **false** of the faithful model: `collect_ragged_oob` and
`collect_nontuple_oob` are proved counterexamples (replayed on the real binary as known findings C10-K01/K02, which
cannot be repaired here because the extension cannot be rebuilt).  Proved instead: `collect_oob_iff`, the exact set of
inputs on which a read leaves a row, and its corollary `collect_safe_partial`.
-/
namespace C10
open Kernels CallSites KernelSem PyDictM

variable {α : Type}

theorem mapM_pair (rows : List (RowObj α)) (c0 c1 : Nat) :
    (rows.mapM (readPair c0 c1)).map (fun cells => [cells.map Prod.fst, cells.map Prod.snd])
      = (rows.mapM fun r => readCell r c0).bind fun a =>
          (rows.mapM fun r => readCell r c1).bind fun b => some [a, b] := by
  have hpair : readPair c0 c1 = fun r : RowObj α =>
      (readCell r c0).bind fun a => (readCell r c1).bind fun b => some (a, b) := by
    funext r; unfold readPair; cases readCell r c0 <;> cases readCell r c1 <;> rfl
  rw [hpair, mapM_zip]
  cases ha : rows.mapM fun r => readCell r c0 with
  | none => rfl
  | some a =>
    cases hb : rows.mapM fun r => readCell r c1 with
    | none => rfl
    | some b =>
      -- both columns have one cell per row, so the zip loses nothing
      have hl : a.length = b.length := (List.length_of_mapM_eq_some ha).trans (List.length_of_mapM_eq_some hb).symm
      show some [(a.zip b).map Prod.fst, (a.zip b).map Prod.snd] = some [a, b]
      rw [List.map_fst_zip (Nat.le_of_eq hl), List.map_snd_zip (Nat.le_of_eq hl.symm)]

theorem mapM_isSome {β γ : Type} (l : List β) (f : β → Option γ)
    (h : ∀ x ∈ l, (f x).isSome = true) : (l.mapM f).isSome = true := by
  cases hm : l.mapM f with
  | some r => rfl
  | none =>
    obtain ⟨x, hx, hfx⟩ := (mapM_none_iff f l).mp hm
    have := h x hx
    rw [hfx] at this
    cases this

/-- The 1-, 2- and many-column code paths are the same function: the specialised widths and the
`columns` positions they read (`Gen.Kernels.fastWidth*`, `path*Src*`, from the source) are wired as the
general double loop is. -/
theorem paths_agree (rows : List (RowObj α)) (cols : List Nat) : paths rows cols = pathN rows cols := by
  unfold paths Gen.Kernels.fastWidth1 Gen.Kernels.fastWidth2 Gen.Kernels.path1Src Gen.Kernels.path2Src0
    Gen.Kernels.path2Src1
  match cols with
  | [] => rfl
  | [c0] =>
    show (path1 rows c0) = _
    unfold path1 pathN
    rw [List.mapM_cons, List.mapM_nil]
    cases rows.mapM (fun r => readCell r c0) <;> rfl
  | [c0, c1] =>
    show (path2 rows c0 c1) = _
    unfold path2 pathN
    rw [mapM_pair, List.mapM_cons, List.mapM_cons, List.mapM_nil]
    cases rows.mapM (fun r => readCell r c0) <;> cases rows.mapM (fun r => readCell r c1) <;> rfl
  | _ :: _ :: _ :: _ => rfl

/-- All rows are collected unless `0 ≤ limit < len(rows)`: a negative limit or one at or beyond
the row count means all rows. -/
theorem effectiveRows_spec (n : Nat) (limit : Int) :
    (limit < 0 → effectiveRows n limit = n)
    ∧ ((n : Int) ≤ limit → effectiveRows n limit = n)
    ∧ (0 ≤ limit → limit < (n : Int) → effectiveRows n limit = limit.toNat) := by
  rw [effectiveRows_eq]
  exact ⟨fun h => if_neg (by omega), fun h => if_neg (by omega), fun h1 h2 => if_pos ⟨h1, h2⟩⟩

theorem earlyExit_iff (nrows ncols : Nat) :
    Gen.Kernels.earlyExit nrows ncols ↔ (nrows = 0 ∨ ncols = 0) := by
  unfold Gen.Kernels.earlyExit; omega

theorem badIndex_iff (c w : Int) : Gen.Kernels.badIndex c w ↔ (c < 0 ∨ c ≥ w) := by
  unfold Gen.Kernels.badIndex; omega

theorem any_badIndex_false (cols : List Int) (w : Nat) (hc : ∀ c ∈ cols, 0 ≤ c ∧ c < (w : Int)) :
    cols.any (fun c => decide (Gen.Kernels.badIndex c (w : Int))) = false := by
  rw [List.any_eq_false]
  intro c hcm
  rw [decide_eq_true_eq, badIndex_iff]
  exact fun h => h.elim (Int.not_lt.mpr (hc c hcm).1) (Int.not_le.mpr (hc c hcm).2)

/-- Nothing to collect: no rows, or no columns, gives the empty result without touching a row. -/
theorem collect_empty (rows : List (RowObj α)) (cols : List Int) (limit : Int) :
    collect ([] : List (RowObj α)) cols limit = .ok (cols.map fun _ => [])
    ∧ (rows ≠ [] → collect rows [] limit = .ok []) :=
  ⟨if_pos ((earlyExit_iff 0 cols.length).mpr (Or.inl rfl)),
   fun _ => if_pos ((earlyExit_iff rows.length 0).mpr (Or.inr rfl))⟩

theorem collect_cons (first : RowObj α) (rest : List (RowObj α)) (cols : List Int) (limit : Int) :
    collect (first :: rest) cols limit =
      if cols.any (fun c => decide (Gen.Kernels.badIndex c (first.cells.length : Int))) = true then .raises "IndexError"
      else toOutcome (ofOpt (pathN ((first :: rest).take (effectiveRows (first :: rest).length limit))
        (cols.map Int.toNat))) := by
  cases cols with
  | nil => exact (collect_empty (first :: rest) [] limit).2 (List.cons_ne_nil _ _)   -- no column: both sides are `.ok []`
  | cons c cs =>
    have hee : ¬ Gen.Kernels.earlyExit ((first :: rest).length : Nat) ((c :: cs).length : Nat) := by
      rw [earlyExit_iff]
      exact fun h => h.elim (fun h => nomatch h) (fun h => nomatch h)
    unfold collect
    rw [if_neg hee, paths_agree]
    cases pathN ((first :: rest).take (effectiveRows (first :: rest).length limit)) ((c :: cs).map Int.toNat) <;> rfl

theorem collect_in_range (first : RowObj α) (rest : List (RowObj α)) (cols : List Int) (limit : Int)
    (hin : ∀ c ∈ cols, 0 ≤ c ∧ c < (first.cells.length : Int)) :
    collect (first :: rest) cols limit =
      toOutcome (ofOpt (pathN ((first :: rest).take (effectiveRows (first :: rest).length limit))
        (cols.map Int.toNat))) := by
  rw [collect_cons first rest cols limit, any_badIndex_false cols _ hin]
  rfl

/-- A column index outside `0..width-1` — negative, equal to the width, or larger — raises
`IndexError` (whenever there is anything to collect), and never reads memory. -/
theorem collect_oob_raises (first : RowObj α) (rest : List (RowObj α)) (cols : List Int) (limit : Int)
    (c : Int) (hc : c ∈ cols) (hbad : c < 0 ∨ (first.cells.length : Int) ≤ c) :
    collect (first :: rest) cols limit = .raises "IndexError" := by
  rw [collect_cons first rest cols limit, if_pos]
  exact List.any_eq_true.mpr ⟨c, hc, decide_eq_true ((badIndex_iff c _).mpr hbad)⟩

theorem collect_rect [Inhabited α] (rows : List (RowObj α)) (cols : List Int) (limit : Int) (w : Nat)
    (hw : ∀ r ∈ rows, r.isTuple = true ∧ r.cells.length = w) (hc : ∀ c ∈ cols, 0 ≤ c ∧ c < (w : Int)) :
    collect rows cols limit =
      .ok (cols.map fun c => (rows.take (effectiveRows rows.length limit)).map fun r => r.cells[c.toNat]!) := by
  cases rows with
  | nil => rw [(collect_empty [] cols limit).1, List.take_nil]; rfl
  | cons first rest =>
    have hcell : ∀ r ∈ (first :: rest).take (effectiveRows (first :: rest).length limit), ∀ c ∈ cols,
        readCell r c.toNat = some r.cells[c.toNat]! := fun r hr c hcm => by
      obtain ⟨ht, hl⟩ := hw r (List.mem_of_mem_take hr)
      have hlt : c.toNat < r.cells.length := (Int.toNat_lt (hc c hcm).1).mpr (hl ▸ (hc c hcm).2)
      unfold readCell
      rw [if_pos ht, List.getElem?_eq_getElem hlt, getElem!_pos r.cells c.toNat hlt]
    rw [collect_in_range first rest cols limit (by rw [(hw first List.mem_cons_self).2]; exact hc), pathN_eq default,
      if_pos fun r hr => List.forall_mem_map.mpr fun c hcm => by rw [hcell r hr c hcm]; rfl, List.map_map]
    exact congrArg Outcome.ok (List.map_congr_left fun c hcm => List.map_congr_left fun r hr =>
      congrArg (fun o => o.getD default) (hcell r hr c hcm))

/-- **Column collection is the column-major transpose**: for tuple rows all of width `w` and
indexes inside `0..w-1`, `result[i][j] = rows[j][columns[i]]` for the first `limit` rows. -/
theorem collect_spec [Inhabited α] (first : RowObj α) (rest : List (RowObj α)) (cols : List Int)
    (limit : Int) (w : Nat)
    (hw : ∀ r ∈ first :: rest, r.isTuple = true ∧ r.cells.length = w)
    (hc : ∀ c ∈ cols, 0 ≤ c ∧ c < (w : Int)) (hne : cols ≠ []) :
    collect (first :: rest) cols limit =
      .ok (cols.map fun c =>
        ((first :: rest).take (effectiveRows (first :: rest).length limit)).map fun r => r.cells[c.toNat]!) :=
  collect_rect (first :: rest) cols limit w hw hc

/-- **Exactly when the collector reads outside a row**: there is something to collect, every requested index passes
the one-time check against the *first* row's width, and among the rows that are collected there is one that is not
a tuple or is too short for a requested index. -/
theorem collect_oob_iff (rows : List (RowObj α)) (cols : List Int) (limit : Int) :
    collect rows cols limit = .oob ↔
      ∃ first rest, rows = first :: rest ∧ cols ≠ [] ∧ (∀ c ∈ cols, 0 ≤ c ∧ c < (first.cells.length : Int))
        ∧ ∃ r ∈ rows.take (effectiveRows rows.length limit),
            (r.isTuple = false ∨ ∃ c ∈ cols, (r.cells.length : Int) ≤ c) := by
  constructor
  · intro h
    cases rows with
    | nil => rw [(collect_empty [] cols limit).1] at h; cases h
    | cons first rest =>
      by_cases hbad : ∃ c ∈ cols, c < 0 ∨ (first.cells.length : Int) ≤ c
      · obtain ⟨c, hc, hb⟩ := hbad
        rw [collect_oob_raises first rest cols limit c hc hb] at h; cases h
      · have hin : ∀ c ∈ cols, 0 ≤ c ∧ c < (first.cells.length : Int) := fun c hc =>
          ⟨Int.not_lt.mp fun h => hbad ⟨c, hc, .inl h⟩, Int.not_le.mp fun h => hbad ⟨c, hc, .inr h⟩⟩
        rw [collect_in_range first rest cols limit hin, toOutcome_ofOpt_eq_oob, pathN_none_iff] at h
        obtain ⟨r, hr, c, hc, hb⟩ := h
        obtain ⟨c', hc', rfl⟩ := List.mem_map.mp hc
        exact ⟨first, rest, rfl, List.ne_nil_of_mem hc', hin, r, hr,
          hb.imp id fun hb => ⟨c', hc', (Int.le_toNat (hin c' hc').1).mp hb⟩⟩
  · rintro ⟨first, rest, rfl, hne, hin, r, hr, hbad⟩
    rw [collect_in_range first rest cols limit hin, toOutcome_ofOpt_eq_oob, pathN_none_iff]
    rcases hbad with hb | ⟨c, hc, hb⟩
    · obtain ⟨c, hc⟩ := List.exists_mem_of_ne_nil cols hne
      exact ⟨r, hr, c.toNat, List.mem_map.mpr ⟨c, hc, rfl⟩, Or.inl hb⟩
    · exact ⟨r, hr, c.toNat, List.mem_map.mpr ⟨c, hc, rfl⟩, Or.inr ((Int.le_toNat (hin c hc).1).mpr hb)⟩

theorem collect_safe_of_collected (rows : List (RowObj α)) (cols : List Int) (limit : Int)
    (h : ∀ first ∈ rows.head?, ∀ r ∈ rows.take (effectiveRows rows.length limit),
      r.isTuple = true ∧ first.cells.length ≤ r.cells.length) :
    collect rows cols limit ≠ .oob := by
  intro hoob
  obtain ⟨first, rest, rfl, -, hin, r, hr, hbad⟩ := (collect_oob_iff _ _ _).mp hoob
  obtain ⟨ht, hl⟩ := h first rfl r hr
  rcases hbad with hb | ⟨c, hc, hb⟩
  · rw [ht] at hb; cases hb
  · exact absurd (Int.lt_of_lt_of_le (hin c hc).2 (Int.ofNat_le.mpr hl)) (Int.not_lt.mpr hb)

/-- **Safety, partial**: if every row (collected or beyond the limit) is a tuple at least as wide as
the first row, no read leaves a row — whatever the indexes and the limit. -/
theorem collect_safe_partial (rows : List (RowObj α)) (cols : List Int) (limit : Int)
    (h : ∀ first ∈ rows.head?, ∀ r ∈ rows, r.isTuple = true ∧ first.cells.length ≤ r.cells.length) :
    collect rows cols limit ≠ .oob :=
  collect_safe_of_collected rows cols limit fun first hf r hr => h first hf r (List.mem_of_mem_take hr)

/-- The full safety statement fails on ragged rows: the width is taken from the first row only,
so index 1 passes the bounds check and is then read from a 1-tuple. -/
theorem collect_ragged_oob :
    collect [⟨true, [10, 11]⟩, ⟨true, [20]⟩] [1] (-1) = (.oob : Outcome Nat) := by decide +kernel

/-- …and on rows that are not tuples (the `<tuple>` cast is unchecked). -/
theorem collect_nontuple_oob :
    collect [⟨false, [10, 11]⟩] [0] (-1) = (.oob : Outcome Nat) := by decide +kernel

theorem widthStep_some (acc w : Nat) : widthStep acc (some w) = if w > acc then w else acc :=
  ite_congr (propext Int.ofNat_lt) (fun _ => rfl) (fun _ => rfl)

theorem le_widthStep (acc : Nat) (l : Option Nat) :
    acc ≤ widthStep acc l ∧ ∀ w, l = some w → w ≤ widthStep acc l := by
  cases l with
  | none => exact ⟨Nat.le_refl _, fun _ h => nomatch h⟩
  | some v =>
    rw [widthStep_some]
    by_cases h : v > acc
    · rw [if_pos h]; exact ⟨Nat.le_of_lt h, fun w e => by cases e; exact Nat.le_refl _⟩
    · rw [if_neg h]; exact ⟨Nat.le_refl _, fun w e => by cases e; exact Nat.le_of_not_lt h⟩

theorem widthStep_cases (acc : Nat) (l : Option Nat) : widthStep acc l = acc ∨ l = some (widthStep acc l) := by
  cases l with
  | none => exact Or.inl rfl
  | some v =>
    rw [widthStep_some]
    by_cases h : v > acc
    · rw [if_pos h]; exact Or.inr rfl
    · rw [if_neg h]; exact Or.inl rfl

theorem foldl_width_ge (lens : List (Option Nat)) (acc : Nat) :
    acc ≤ lens.foldl widthStep acc ∧ ∀ w, some w ∈ lens → w ≤ lens.foldl widthStep acc := by
  induction lens generalizing acc with
  | nil => exact ⟨Nat.le_refl _, fun _ h => nomatch h⟩
  | cons l ls ih =>
    obtain ⟨h1, h2⟩ := ih (widthStep acc l)
    obtain ⟨s1, s2⟩ := le_widthStep acc l
    refine ⟨Nat.le_trans s1 h1, fun w hw => ?_⟩
    rcases List.mem_cons.mp hw with hl | hw
    · exact Nat.le_trans (s2 w hl.symm) h1
    · exact h2 w hw

theorem foldl_width_attained (lens : List (Option Nat)) (acc : Nat) :
    lens.foldl widthStep acc = acc ∨ some (lens.foldl widthStep acc) ∈ lens := by
  induction lens generalizing acc with
  | nil => exact Or.inl rfl
  | cons l ls ih =>
    rcases ih (widthStep acc l) with h | h
    · rcases widthStep_cases acc l with s | s
      · exact Or.inl (h.trans s)
      · right; rw [List.foldl_cons, h, ← s]; exact List.mem_cons_self
    · exact Or.inr (List.mem_cons_of_mem _ h)

/-- The display-width helper gives the longest rendered non-null value, but at least four
(`Gen.Kernels.widthFloor`, the constant in the source). -/
theorem dataWidth_spec (lens : List (Option Nat)) :
    4 ≤ dataWidth lens
    ∧ (∀ w, some w ∈ lens → w ≤ dataWidth lens)
    ∧ (dataWidth lens = 4 ∨ some (dataWidth lens) ∈ lens) := by
  unfold dataWidth Gen.Kernels.widthFloor
  exact ⟨(foldl_width_ge lens 4).1, (foldl_width_ge lens 4).2, foldl_width_attained lens 4⟩

/-- Field extraction gives the dictionary's value, or null, for each requested field in order. -/
theorem extract_spec (null : α) (fields : List String) (d : List (String × α)) :
    (DictRow.extract null fields d).length = fields.length
    ∧ ∀ i : Nat, (DictRow.extract null fields d)[i]? =
        (fields[i]?).map fun f => (DictRow.lookup f d).getD null := by
  refine ⟨by simp [DictRow.extract], ?_⟩
  intro i; simp [DictRow.extract]

/-- **Field extraction is memory-safe and is the plain definition**: with the field count, allocation
size and loop bound the source has now (`Gen.Kernels.extract*`), every `fields[i]` read stays inside
the tuple, every `field_data[i]` write inside the list, and the result is the per-field lookup. -/
theorem extract_safe (null : α) (fields : List String) (d : List (String × α)) :
    extractLoop null fields d = some (DictRow.extract null fields d) := by
  unfold extractLoop Gen.Kernels.extractCount Gen.Kernels.extractBound Gen.Kernels.extractAlloc
  simp only [Int.toNat_natCast]
  rw [CallSites.loop_prefix null fields d fields.length (Nat.le_refl _)]
  simp [DictRow.extract]

/-! ## The kernels as the source has them now, statement by statement (`Gen.KernelFns`)

`harness/extractors/c10_fns.py` translates `collect_cython`, `extract_dict_columns` and `calculate_data_width`
from the working tree's `compiled.pyx` (de-cythonised by `harness/pyxshadow.py`) on every run: every statement,
guard, loop bound, unchecked read and write.  The three theorems below say that these translations *are* the
models the theorems above are about, so `collect_spec`, `collect_oob_raises`, `collect_safe_partial`,
`extract_spec`, `dataWidth_spec` hold of the code as it is now. -/

theorem eff_cast (L : Nat) (limit : Int) :
    (if limit ≥ 0 ∧ limit < (L : Int) then limit else (L : Int)) = ((effectiveRows L limit : Nat) : Int) := by
  rw [effectiveRows_eq]
  by_cases h : limit ≥ 0 ∧ limit < (L : Int)
  · rw [if_pos h, if_pos h]; omega
  · rw [if_neg h, if_neg h]

theorem eff_le (L : Nat) (limit : Int) : effectiveRows L limit ≤ L := by
  rw [effectiveRows_eq]
  by_cases h : limit ≥ 0 ∧ limit < (L : Int)
  · rw [if_pos h]; omega
  · rw [if_neg h]; exact Nat.le_refl _

/-- **`collect_cython` as written = the model**, for every input: the early exit, the width taken from the first
row, the limit clamp, the bounds-check loop, and each of the three write paths (one column, two columns, the
general nest) with its unchecked reads `rows[i]`, `columns[j]`, `tuple_row[c]` and writes `result[j, i]`:
same value, same exception, and a read outside an object (`oob`) on exactly the same inputs. -/
theorem generated_collect_eq_model (null : α) (rows : List (RowObj α)) (cols : List Int) (limit : Int) :
    toOutcome (Gen.KernelFns.collect_cython null rows cols limit) = collect rows cols limit := by
  unfold Gen.KernelFns.collect_cython
  simp only [len_list, len_row, eff_cast]
  cases rows with
  | nil =>
    rw [if_pos (by exact Or.inl rfl), (collect_empty [] cols limit).1]
    exact congrArg Outcome.ok (List.map_const' ..).symm
  | cons first rest =>
    by_cases hne : cols = []
    · subst hne
      rw [if_pos (by exact Or.inr rfl), (collect_empty (first :: rest) [] limit).2 (List.cons_ne_nil _ _)]
      rfl
    · have hlen : cols.length ≠ 0 := fun h => hne (List.length_eq_zero_iff.mp h)
      rw [if_neg (by rw [List.length_cons]; omega), collect_cons first rest cols limit, uget_cons_zero, ok_bind,
        check_loop (fun c => c < 0 ∨ c ≥ (first.cells.length : Int))]
      have hbad : (cols.any fun c => decide (Gen.Kernels.badIndex c (first.cells.length : Int)))
          = cols.any fun c => decide (c < 0 ∨ c ≥ (first.cells.length : Int)) :=
        congrArg cols.any (funext fun c => decide_eq_decide.mpr (badIndex_iff c _))
      rw [hbad]
      by_cases hany : (cols.any fun c => decide (c < 0 ∨ c ≥ (first.cells.length : Int))) = true
      · rw [if_pos hany, if_pos hany]; rfl
      rw [if_neg hany, if_neg hany, ok_bind]
      refine congrArg toOutcome ?_
      have hc : ∀ c ∈ cols, 0 ≤ c := fun c hcm =>
        Int.not_lt.mp fun h => hany (List.any_eq_true.mpr ⟨c, hcm, decide_eq_true (.inl h)⟩)
      have hn := eff_le (first :: rest).length limit
      by_cases h1 : cols.length = 1
      · rw [if_pos (by omega)]
        obtain ⟨c0, rfl⟩ := List.length_eq_one_iff.mp h1
        rw [uget_cons_zero, ok_bind]
        exact write_rows null (first :: rest) [c0] hc _ hn _ fun m r i => by simp [List.zipIdx_cons, writeStep]
      · rw [if_neg (by omega)]
        by_cases h2 : cols.length = 2
        · rw [if_pos (by omega)]
          obtain ⟨c0, c1, rfl⟩ := length_eq_two cols h2
          rw [uget_cons_zero, uget_cons_one, ok_bind, ok_bind]
          exact write_rows null (first :: rest) [c0, c1] hc _ hn _ fun m r i => by simp [List.zipIdx_cons, writeStep]
        · rw [if_neg (by omega)]
          exact write_rows null (first :: rest) cols hc _ hn _ fun m r i => column_loop r i _ m

/-- **`extract_dict_columns` as written** never leaves the field tuple or the list it allocates, and returns the
dictionary's value, or null, for each requested field in order. -/
theorem generated_extract_spec (null : α) (d : List (String × α)) (fields : List String) :
    Gen.KernelFns.extract_dict_columns null d fields = .ok (DictRow.extract null fields d) := by
  unfold Gen.KernelFns.extract_dict_columns
  simp only [len_list]
  rw [forRange_uget fields fields.length (Nat.le_refl _), List.take_length]
  have hpre : pyRepeat null (fields.length : Int) = ([] : List α) ++ List.replicate fields.length null := by
    simp [pyRepeat]
  rw [hpre]
  show (fields.zipIdx ([] : List α).length).foldlM _ _ = _
  rw [fill_list null (fun f => (DictRow.lookup f d).getD null) _ ?_ fields []]
  · simp [DictRow.extract]
  · intro s p
    cases DictRow.lookup p.1 d <;> rfl

/-- …which is the hand-written loop of `Model/Kernels.lean`. -/
theorem generated_extract_eq_model (null : α) (d : List (String × α)) (fields : List String) :
    Gen.KernelFns.extract_dict_columns null d fields = ofOpt (extractLoop null fields d) := by
  rw [generated_extract_spec, extract_safe]; rfl

/-- **`calculate_data_width` as written = the model**: the floor, the null test, the update test. -/
theorem generated_width_eq_model (strLen : α → Nat) (vals : List (Option α)) :
    Gen.KernelFns.calculate_data_width strLen vals = .ok ((dataWidth (vals.map (Option.map strLen)) : Nat) : Int) := by
  unfold Gen.KernelFns.calculate_data_width dataWidth forEach
  have hf : ((4 : Int)) = ((Gen.Kernels.widthFloor : Nat) : Int) := rfl
  rw [hf]
  apply width_fold strLen
  intro acc v
  cases v with
  | none => rfl
  | some x =>
    -- the same test (`Gen.Kernels.widthUpdates`) on both sides; the model casts its result, the code its operands
    exact congrArg Except.ok (apply_ite (Nat.cast : Nat → Int) _ _ _).symm

/-- The statement of the property for `collect_cython` as written: `result[i][j] = rows[j][columns[i]]` for the
first `limit` rows. -/
theorem generated_collect_spec [Inhabited α] (null : α) (first : RowObj α) (rest : List (RowObj α)) (cols : List Int)
    (limit : Int) (w : Nat)
    (hw : ∀ r ∈ first :: rest, r.isTuple = true ∧ r.cells.length = w)
    (hc : ∀ c ∈ cols, 0 ≤ c ∧ c < (w : Int)) (hne : cols ≠ []) :
    Gen.KernelFns.collect_cython null (first :: rest) cols limit =
      .ok (cols.map fun c =>
        ((first :: rest).take (effectiveRows (first :: rest).length limit)).map fun r => r.cells[c.toNat]!) :=
  toOutcome_injective ((generated_collect_eq_model null (first :: rest) cols limit).trans
    (collect_spec first rest cols limit w hw hc hne))

/-- …a column index outside `0..width-1` raises `IndexError` in the code as written… -/
theorem generated_collect_oob_raises (null : α) (first : RowObj α) (rest : List (RowObj α)) (cols : List Int)
    (limit : Int) (c : Int) (hc : c ∈ cols) (hbad : c < 0 ∨ (first.cells.length : Int) ≤ c) :
    Gen.KernelFns.collect_cython null (first :: rest) cols limit = .error (.raises "IndexError") :=
  toOutcome_injective ((generated_collect_eq_model null (first :: rest) cols limit).trans
    (collect_oob_raises first rest cols limit c hc hbad))

/-- …and no read or write of the code as written leaves an object when every row is a tuple at least
as wide as the first (the full statement is false: `collect_ragged_oob`, `collect_nontuple_oob`). -/
theorem generated_collect_safe_partial (null : α) (rows : List (RowObj α)) (cols : List Int) (limit : Int)
    (h : ∀ first ∈ rows.head?, ∀ r ∈ rows, r.isTuple = true ∧ first.cells.length ≤ r.cells.length) :
    Gen.KernelFns.collect_cython null rows cols limit ≠ .error .oob := by
  intro hx
  have he := generated_collect_eq_model null rows cols limit
  rw [hx] at he
  exact collect_safe_partial rows cols limit h he.symm

/-- The counterexamples, on the code as written. -/
theorem generated_collect_unsafe :
    Gen.KernelFns.collect_cython 0 [⟨true, [10, 11]⟩, ⟨true, [20]⟩] [1] (-1) = (.error .oob : K (List (List Nat)))
    ∧ Gen.KernelFns.collect_cython 0 [⟨false, [10, 11]⟩] [0] (-1) = (.error .oob : K (List (List Nat))) :=
  ⟨toOutcome_injective ((generated_collect_eq_model 0 _ _ _).trans collect_ragged_oob),
   toOutcome_injective ((generated_collect_eq_model 0 _ _ _).trans collect_nontuple_oob)⟩

/-- `collect_oob_iff` on the code as written: exactly when `collect_cython` reads outside a row. -/
theorem generated_collect_oob_iff (null : α) (rows : List (RowObj α)) (cols : List Int) (limit : Int) :
    Gen.KernelFns.collect_cython null rows cols limit = .error .oob ↔
      ∃ first rest, rows = first :: rest ∧ cols ≠ [] ∧ (∀ c ∈ cols, 0 ≤ c ∧ c < (first.cells.length : Int))
        ∧ ∃ r ∈ rows.take (effectiveRows rows.length limit),
            (r.isTuple = false ∨ ∃ c ∈ cols, (r.cells.length : Int) ≤ c) := by
  rw [← collect_oob_iff, ← generated_collect_eq_model null rows cols limit]
  exact ⟨congrArg toOutcome, toOutcome_injective (b := .error .oob)⟩

/-- The display-width helper as written gives the longest rendered non-null value, but at least four. -/
theorem generated_width_spec (strLen : α → Nat) (vals : List (Option α)) :
    ∃ w : Nat, Gen.KernelFns.calculate_data_width strLen vals = .ok (w : Int)
      ∧ 4 ≤ w ∧ (∀ v, some v ∈ vals → strLen v ≤ w) ∧ (w = 4 ∨ ∃ v, some v ∈ vals ∧ strLen v = w) := by
  refine ⟨dataWidth (vals.map (Option.map strLen)), generated_width_eq_model strLen vals, ?_⟩
  obtain ⟨h1, h2, h3⟩ := dataWidth_spec (vals.map (Option.map strLen))
  refine ⟨h1, ?_, ?_⟩
  · intro v hv
    exact h2 (strLen v) (List.mem_map.mpr ⟨some v, hv, rfl⟩)
  · rcases h3 with h | h
    · exact Or.inl h
    · right
      obtain ⟨o, ho, hm⟩ := List.mem_map.mp h
      cases o with
      | none => simp at hm
      | some v => exact ⟨v, ho, by simpa using hm⟩

example : Gen.KernelFns.collect_cython 0 [⟨true, [1, 2, 3]⟩, ⟨true, [4, 5, 6]⟩, ⟨true, [7, 8, 9]⟩] [2, 0] 2
    = (.ok [[3, 6], [1, 4]] : K (List (List Nat))) := by decide +kernel
example : Gen.KernelFns.extract_dict_columns 0 [("z", 3), ("x", 1)] ["x", "y", "z"] = (.ok [1, 0, 3] : K (List Nat)) := by decide +kernel
example : Gen.KernelFns.calculate_data_width (fun (n : Nat) => n) [some 2, none, some 7] = .ok 7 := by decide +kernel

/-- Non-vacuity. -/
example : collect [⟨true, [1, 2, 3]⟩, ⟨true, [4, 5, 6]⟩, ⟨true, [7, 8, 9]⟩] [2, 0] 2
    = (.ok [[3, 6], [1, 4]] : Outcome Nat) := by decide +kernel
example : collect [⟨true, [1, 2]⟩] [2] 0 = (.raises "IndexError" : Outcome Nat) ∧
    collect [⟨true, [1, 2]⟩] [-1] 5 = (.raises "IndexError" : Outcome Nat) := by decide +kernel
example : dataWidth [some 2, none, some 7, some 5] = 7 ∧ dataWidth [some 1, none] = 4 := by decide +kernel

/-! ## The Python call sites (`Model/CallSites.lean`): `DataFrame.collect`, `Row.__new__`, the display's width computation -/

/-- What the limit must be when it reaches the kernel. -/
def limitOk (n : Nat) (limit : Option Int) : Option Int → Prop
  | some l => FitsC (Gen.CallSites.kernelLimit l)
      ∧ effectiveRows n (Gen.CallSites.kernelLimit l) = specRows n limit
  | none => False

/-- **Limit normalisation at the call site**: whatever limit the caller of `DataFrame.collect` passes —
`None`, negative, zero, inside, at or beyond the row count, beyond a C `int` — the value that reaches
`collect_cython` (through the generated `limitSteps` and `kernelLimit`) fits a C `int` and makes the
kernel collect exactly the rows of the plain-Python definition (`specRows`). -/
theorem norm_limit_spec (n : Nat) (hn : (n : Int) < 2147483648) (limit : Option Int) :
    limitOk n limit (normLimit limit n) := by
  have hminus : effectiveRows n (-1) = n := (effectiveRows_spec n (-1)).1 (by decide)
  cases limit with
  | none => rw [normLimit_none]; exact ⟨by decide, hminus⟩
  | some l =>
    rw [normLimit_some]
    by_cases h : l < 0 ∨ (n : Int) ≤ l
    · rw [if_pos h]; exact ⟨by decide, hminus.trans (if_pos h).symm⟩
    · rw [if_neg h]
      exact ⟨by unfold FitsC Gen.CallSites.kernelLimit; omega,
        ((effectiveRows_spec n l).2.2 (by omega) (by omega)).trans (if_neg h).symm⟩

/-- What `DataFrame.collect` makes of the kernel's outcome: `collected[0]` for a single column (`dataframe.py:260-265`). -/
def present (single : Bool) : Outcome α → PubOutcome α
  | .ok m =>
    if single then
      match m[Gen.CallSites.singleIndex]? with
      | some c => .one c
      | none => .raises "IndexError"
    else .many m
  | .raises c => .raises c
  | .oob => .oob

theorem publicCollect_resolved (names : List String) (rows : List (RowObj α)) (cols : List ColRef) (idxs : List Int)
    (single : Bool) (limit : Option Int) (hn : ((rows.length : Nat) : Int) < 2147483648)
    (hres : cols.mapM (resolve names) = some idxs) :
    ∃ l, effectiveRows rows.length l = specRows rows.length limit ∧
      publicCollect names rows cols single limit =
        if idxs.any (fun i => decide (¬ FitsC i)) = true then .raises "OverflowError"
        else present single (collect rows idxs l) := by
  have hok := norm_limit_spec rows.length hn limit
  cases hnl : normLimit limit rows.length with
  | none => rw [hnl] at hok; exact hok.elim
  | some l =>
    rw [hnl] at hok
    refine ⟨Gen.CallSites.kernelLimit l, hok.2, ?_⟩
    unfold publicCollect publicCollectWith
    simp only [hres, Gen.CallSites.indexConvChecked, hnl, hok.1, true_and, not_true_eq_false, if_false, if_true]
    split
    · rfl
    · cases collect rows idxs (Gen.CallSites.kernelLimit l) <;> rfl

theorem publicCollect_in_range [Inhabited α] (names : List String) (rows : List (RowObj α)) (cols : List ColRef)
    (idxs : List Int) (single : Bool) (limit : Option Int) (w : Nat)
    (hn : ((rows.length : Nat) : Int) < 2147483648) (hw32 : (w : Int) ≤ 2147483648)
    (hw : ∀ r ∈ rows, r.isTuple = true ∧ r.cells.length = w)
    (hres : cols.mapM (resolve names) = some idxs) (hc : ∀ c ∈ idxs, 0 ≤ c ∧ c < (w : Int)) :
    publicCollect names rows cols single limit =
      present single (.ok (idxs.map fun c => (rows.take (specRows rows.length limit)).map fun r => r.cells[c.toNat]!)) := by
  obtain ⟨l, he, h⟩ := publicCollect_resolved names rows cols idxs single limit hn hres
  rw [h, fits_any_false idxs fun c hcm => by have := hc c hcm; unfold FitsC; omega,
    collect_rect rows idxs l w hw hc, he]
  rfl

theorem public_collect_spec [Inhabited α] (names : List String) (first : RowObj α) (rest : List (RowObj α))
    (cols : List ColRef) (idxs : List Int) (limit : Option Int) (w : Nat)
    (hn : (((first :: rest).length : Nat) : Int) < 2147483648) (hw32 : (w : Int) ≤ 2147483648)
    (hw : ∀ r ∈ first :: rest, r.isTuple = true ∧ r.cells.length = w)
    (hres : cols.mapM (resolve names) = some idxs)
    (hc : ∀ c ∈ idxs, 0 ≤ c ∧ c < (w : Int)) (hne : cols ≠ []) :
    publicCollect names (first :: rest) cols false limit =
      .many (idxs.map fun c =>
        ((first :: rest).take (specRows (first :: rest).length limit)).map fun r => r.cells[c.toNat]!) :=
  publicCollect_in_range names (first :: rest) cols idxs false limit w hn hw32 hw hres hc

/-- A single column (by index or by name): the column itself, not a one-row matrix. -/
theorem public_collect_single_spec [Inhabited α] (names : List String) (first : RowObj α)
    (rest : List (RowObj α)) (c : ColRef) (i : Int) (limit : Option Int) (w : Nat)
    (hn : (((first :: rest).length : Nat) : Int) < 2147483648) (hw32 : (w : Int) ≤ 2147483648)
    (hw : ∀ r ∈ first :: rest, r.isTuple = true ∧ r.cells.length = w)
    (hres : resolve names c = some i) (hc : 0 ≤ i ∧ i < (w : Int)) :
    publicCollect names (first :: rest) [c] true limit =
      .one (((first :: rest).take (specRows (first :: rest).length limit)).map fun r => r.cells[i.toNat]!) :=
  publicCollect_in_range names (first :: rest) [c] [i] true limit w hn hw32 hw (by rw [List.mapM_cons, hres]; rfl)
    (List.forall_mem_singleton.mpr hc)

/-- A frame without rows: every request gives empty columns (nothing is read). -/
theorem public_collect_empty (names : List String) (cols : List ColRef) (idxs : List Int)
    (limit : Option Int) (hres : cols.mapM (resolve names) = some idxs)
    (hfit : ∀ c ∈ idxs, FitsC c) :
    publicCollect names ([] : List (RowObj α)) cols false limit = .many (idxs.map fun _ => []) := by
  obtain ⟨l, -, h⟩ := publicCollect_resolved names ([] : List (RowObj α)) cols idxs false limit (by rw [List.length_nil]; decide) hres
  rw [h, fits_any_false idxs hfit, (collect_empty ([] : List (RowObj α)) idxs l).1]
  rfl

theorem public_collect_single_empty (names : List String) (c : ColRef) (i : Int) (limit : Option Int)
    (hres : resolve names c = some i) (hfit : FitsC i) :
    publicCollect names ([] : List (RowObj α)) [c] true limit = .one [] := by
  have hres' : [c].mapM (resolve names) = some [i] := by rw [List.mapM_cons, hres]; rfl
  obtain ⟨l, -, h⟩ := publicCollect_resolved names ([] : List (RowObj α)) [c] [i] true limit
    (by rw [List.length_nil]; decide) hres'
  rw [h, fits_any_false [i] (List.forall_mem_singleton.mpr hfit),
    (collect_empty ([] : List (RowObj α)) [i] l).1]
  rfl

/-- A resolved index outside `0..width-1` raises a Python exception through the public call as
well (whenever there is a row), for every limit. -/
theorem public_collect_bad_index_raises (names : List String) (first : RowObj α)
    (rest : List (RowObj α)) (cols : List ColRef) (idxs : List Int) (single : Bool) (limit : Option Int)
    (hn : (((first :: rest).length : Nat) : Int) < 2147483648)
    (hres : cols.mapM (resolve names) = some idxs)
    (c : Int) (hc : c ∈ idxs) (hbad : c < 0 ∨ (first.cells.length : Int) ≤ c) :
    ∃ cls, publicCollect names (first :: rest) cols single limit = .raises cls := by
  obtain ⟨l, -, h⟩ := publicCollect_resolved names (first :: rest) cols idxs single limit hn hres
  rw [h, collect_oob_raises first rest idxs l c hc hbad]
  split
  · exact ⟨_, rfl⟩
  · exact ⟨_, rfl⟩

/-- A column name that the frame does not have raises (`tuple.index`), and a name it has resolves
to the first column of that name. -/
theorem public_collect_names (names : List String) (s : String) :
    (s ∉ names → ∀ (rows : List (RowObj α)) (pre post : List ColRef) (single : Bool) (limit : Option Int),
        publicCollect names rows (pre ++ .name s :: post) single limit = .raises "ValueError")
    ∧ (∀ k : Int, resolve names (.name s) = some k →
        0 ≤ k ∧ names[k.toNat]? = some s ∧ ∀ j, j < k.toNat → names[j]? ≠ some s) := by
  refine ⟨?_, ?_⟩
  · intro hs rows pre post single limit
    have hnone : resolve names (.name s) = none := by
      cases h : DictRow.indexOf names s with
      | none => show (DictRow.indexOf names s).map Int.ofNat = none; rw [h]; rfl
      | some k => exact absurd (List.mem_of_getElem? (indexOf_spec names s k h).1) hs
    unfold publicCollect publicCollectWith
    rw [(mapM_none_iff (resolve names) (pre ++ ColRef.name s :: post)).mpr
      ⟨.name s, List.mem_append_right _ List.mem_cons_self, hnone⟩]
  · intro k hk
    obtain ⟨k', hk', rfl⟩ := Option.map_eq_some_iff.mp hk
    exact ⟨Int.natCast_nonneg k', indexOf_spec names s k' hk'⟩

/-- Why the conversion has to reject: with a conversion that wraps (`.astype(numpy.int32)`), position `2**32` of
a one-column frame is answered with column 0's data instead of an exception. -/
theorem wrapping_conversion_counterexample :
    publicCollectWith false ["a"] [⟨true, [7]⟩, ⟨true, [8]⟩] [.idx 4294967296] true none = (.one [7, 8] : PubOutcome Nat)
    ∧ publicCollectWith true ["a"] [⟨true, [7]⟩, ⟨true, [8]⟩] [.idx 4294967296] true none
        = (.raises "OverflowError" : PubOutcome Nat) := by
  decide +kernel

/-- The statements of `Row.__new__` in front of the dictionary test, that test, and the statements between it and the
helper call (as the source has them now, `Gen.DictGlue.rowPre` / `rowGuard` / `rowPrepare`): every dictionary-like
argument -- an exact `dict`, an instance of a subclass, a `Mapping` that is no dict (UserDict, ChainMap,
MappingProxyType, a class of the caller's) -- passes the test, and the helper is handed an exact `dict` in which every
field name finds what it finds in the caller's mapping, whatever the keys of that mapping are (numbers, `None`, bytes,
tuples, instances of `str` subclasses next to or instead of text). -/
theorem row_prepare_keeps_dictionary (d : PyDict α) :
    Gen.DictGlue.rowGuard (Gen.DictGlue.rowPre d) = true
    ∧ (Gen.DictGlue.rowPrepare (Gen.DictGlue.rowPre d)).exact = true
    ∧ ∀ f, (Gen.DictGlue.rowPrepare (Gen.DictGlue.rowPre d)).get f = d.get f := by
  obtain ⟨e, i, m, items⟩ := d
  cases e <;> cases i <;>
    simp [Gen.DictGlue.rowPre, Gen.DictGlue.rowGuard, Gen.DictGlue.rowPrepare, PyDict.copy, PyDict.get]

/-- Any glue that brings the argument past the dictionary test, hands the helper an exact `dict` and keeps what each
field name finds builds the row of the definition. -/
theorem row_glue_sound (pre : PyDict α → PyDict α) (guard : PyDict α → Bool) (prepare : PyDict α → PyDict α) (null : α)
    (fields : List String) (d : PyDict α) (hg : guard (pre d) = true) (he : (prepare (pre d)).exact = true)
    (hp : ∀ f, (prepare (pre d)).get f = d.get f) :
    rowNewOf pre guard prepare null (createClass fields false) (.dict d)
      = some (fields.map fun f => (d.get f).getD null) := by
  unfold rowNewOf
  simp only [createClass, hg, he, Bool.false_eq_true, if_false, if_true, DictRow.extract]
  congr 1
  apply List.map_congr_left
  intro f _
  rw [lookup_helperView]
  exact congrArg (fun o => o.getD null) (hp f)

/-- **Field extraction through the caller, for arbitrary dictionaries**: a row built from a dictionary -- or from any
other `Mapping` -- through a class made by `Row.create_class(fields)` is `tuple(data.get(field) for field in fields)`
-- the value stored under the field name *as text*, or null; a key that is not text (`1`, `None`, `True`, `b'a'`, a
tuple, an instance of a `str` subclass with its own `__eq__`) is never mistaken for the field its `str()` spells, and a
mapping that is no dict never gives a row of its keys.  About the statements and the guard of the source as it is now. -/
theorem row_from_dict_is_get_per_field (null : α) (fields : List String) (d : PyDict α) :
    rowNew null (createClass fields false) (.dict d) = some (fields.map fun f => (d.get f).getD null) :=
  row_glue_sound _ _ _ null fields d (row_prepare_keeps_dictionary d).1 (row_prepare_keeps_dictionary d).2.1
    (row_prepare_keeps_dictionary d).2.2

/-- Non-vacuity: `{1: 20, '1': 10, None: 30}` through a class with the fields `'1'`, `'None'`, `'x'`, as a dict and as a
UserDict. -/
example : rowNew 0 (createClass ["1", "None", "x"] false)
    (.dict ⟨true, true, true, [(⟨.other 0, false, false, "1"⟩, 20), (PyKey.ofStr "1", 10), (⟨.other 1, false, false, "None"⟩, 30)]⟩) = some [10, 0, 0] := by decide +kernel
example : rowNew 0 (createClass ["1", "None", "x"] false)
    (.dict ⟨false, false, true, [(⟨.other 0, false, false, "1"⟩, 20), (PyKey.ofStr "1", 10), (⟨.other 1, false, false, "None"⟩, 30)]⟩) = some [10, 0, 0] := by decide +kernel

/-- The same for a mapping keyed by text only (exact `dict`, an instance of a subclass, or a Mapping that is no dict),
in the vocabulary of the kernel theorems -- and a row built from a tuple is that tuple. -/
theorem row_from_dict_spec (null : α) (fields : List String) (d : List (String × α)) (t : List α) (exact isDict mutable : Bool) :
    rowNew null (createClass fields false) (.dict ⟨exact, isDict, mutable, ofTextItems d⟩)
      = some (fields.map fun f => (DictRow.lookup f d).getD null)
    ∧ ∀ b, rowNew null (createClass fields b) (.tuple t) = some t := by
  refine ⟨?_, fun _ => rfl⟩
  rw [row_from_dict_is_get_per_field]
  congr 1
  apply List.map_congr_left
  intro f _
  simp only [PyDict.get]
  rw [← lookup_helperView, helperView_ofTextItems]

/-- …and through the helper as written: the row is what `extract_dict_columns` (statement by statement from the
`.pyx`) returns on the helper's view of the prepared dictionary. -/
theorem row_from_dict_through_generated_helper (null : α) (fields : List String) (d : PyDict α) :
    (Gen.KernelFns.extract_dict_columns null (helperView (Gen.DictGlue.rowPrepare (Gen.DictGlue.rowPre d)).items) fields).toOption
      = rowNew null (createClass fields false) (.dict d) := by
  rw [generated_extract_spec]
  have h := row_prepare_keeps_dictionary d
  simp [rowNew, rowNewOf, createClass, h.1, h.2.1, Except.toOption]

/-- **The second layer, `DataFrame.append(dict)`**: the statements of `append` that rebind the entry before it reaches
the row factory (as the source has them now, `Gen.DictGlue.appendPrepare`) followed by `Row.__new__` store
`tuple(entry.get(f) for f in fields)` -- for every mapping, keys of any kind. -/
theorem append_from_dict_is_get_per_field (null : α) (fields : List String) (d : PyDict α) :
    rowNew null (createClass fields false) (.dict (Gen.DictGlue.appendPrepare d))
      = some (fields.map fun f => (d.get f).getD null) := by
  rw [row_from_dict_is_get_per_field]
  congr 1
  apply List.map_congr_left
  intro f _
  obtain ⟨e, i, m, items⟩ := d
  cases e <;> cases m <;> simp [Gen.DictGlue.appendPrepare, PyDict.copy, PyDict.get]

/-- Why both halves of the guard are needed: a test that admits exact dictionaries only (`type(data) is dict`), or
one that admits subclasses but hands them to the helper uncopied, does not extract an `OrderedDict`. -/
theorem row_guard_counterexample :
    rowNewOf mappingStep (fun d => d.exact) copyStep (0 : Nat) (createClass ["a"] false) (.dict ⟨false, true, true, [(PyKey.ofStr "a", 1)]⟩) = none
    ∧ rowNewOf mappingStep (fun d => d.isDict) id (0 : Nat) (createClass ["a"] false) (.dict ⟨false, true, true, [(PyKey.ofStr "a", 1)]⟩) = none
    ∧ rowNewOf mappingStep (fun d => d.isDict) copyStep (0 : Nat) (createClass ["a"] false) (.dict ⟨false, true, true, [(PyKey.ofStr "a", 1)]⟩) = some [1] := by
  decide +kernel

/-- Why a Mapping that is no dict is copied into one in front of the dictionary test: without that step a `UserDict`
(a `ChainMap`, a `MappingProxyType`) does not pass `isinstance(data, dict)` and the row is made of its keys; with it the
row is the extraction. -/
theorem row_mapping_counterexample :
    rowNewOf id (fun d => d.isDict) copyStep (0 : Nat) (createClass ["a", "b"] false)
        (.dict ⟨false, false, true, [(PyKey.ofStr "b", 2), (PyKey.ofStr "a", 1)]⟩) = none
    ∧ rowNewOf mappingStep (fun d => d.isDict) copyStep (0 : Nat) (createClass ["a", "b"] false)
        (.dict ⟨false, false, true, [(PyKey.ofStr "b", 2), (PyKey.ofStr "a", 1)]⟩) = some [1, 2] := by
  decide +kernel

/-- Why the dictionary must reach the helper with the keys the caller gave: with a step that re-keys a record by the
text of its keys (`{str(key): value for …}` whenever some key is not an exact `str`), `{'1': 10, 1: 20}` gives the
field `'1'` the value stored under the *number* (20; the definition: 10), and `{1: 20}` gives it 20 instead of null
-- while a dictionary keyed by text only (everything a test-suite feeds) never shows the step. -/
theorem rekey_counterexample :
    rowNewOf mappingStep (fun d => d.isDict) (fun d => rekeyStep (copyStep d)) (0 : Nat) (createClass ["1"] false)
        (.dict ⟨true, true, true, [(PyKey.ofStr "1", 10), (⟨.other 0, false, false, "1"⟩, 20)]⟩) = some [20]
    ∧ rowNewOf mappingStep (fun d => d.isDict) copyStep (0 : Nat) (createClass ["1"] false)
        (.dict ⟨true, true, true, [(PyKey.ofStr "1", 10), (⟨.other 0, false, false, "1"⟩, 20)]⟩) = some [10]
    ∧ rowNewOf mappingStep (fun d => d.isDict) (fun d => rekeyStep (copyStep d)) (0 : Nat) (createClass ["1"] false)
        (.dict ⟨true, true, true, [(⟨.other 0, false, false, "1"⟩, 20)]⟩) = some [20]
    ∧ rowNewOf mappingStep (fun d => d.isDict) copyStep (0 : Nat) (createClass ["1"] false)
        (.dict ⟨true, true, true, [(⟨.other 0, false, false, "1"⟩, 20)]⟩) = some [0] := by
  decide +kernel

/-- …and why no dictionary keyed by text only can tell: on such a dictionary the re-keying step does nothing. -/
theorem rekey_invisible_on_text_keys (d : PyDict α) (h : d.allKeys (fun key => key.exact) = true) : rekeyStep d = d := by
  simp [rekeyStep, h]

/-- Creating further row classes never changes what an existing class builds: the class with number `k`
builds the same row at every later point of a session. -/
theorem row_class_independent (null : α) (reg : List RowClass) (k : Nat) (c : RowClass)
    (hk : reg[k]? = some c) (arg : RowArg α) (creates : List (List String × Bool)) :
    runOps null reg (creates.map (fun p => ClassOp.create p.1 p.2) ++ [ClassOp.build k arg])
      = [rowNew null c arg] := by
  induction creates generalizing reg with
  | nil => simp [runOps, hk]
  | cons p ps ih =>
    simp only [List.map_cons, List.cons_append, runOps]
    apply ih
    exact List.getElem?_append_of_eq_some _ hk

/-- `t.collect(i, <measure>)` of the display collects every row of the printed frame. -/
theorem measure_all_rows (n : Nat) (limit : Int) : specRows n (Gen.CallSites.measureLimit limit) = n := by
  simp [specRows]

/-- **Which column reaches the helper**: the display hands `t.collect` the *position* of each printed
column, in order (`Gen.CallSites.measureRefs`: the loop of `display.py:369` and the argument of
`t.collect`, from the source) — never a name, which `DataFrame.collect` would resolve to the first
column so named. -/
theorem measure_refs_positions (names : List String) :
    (Gen.CallSites.measureRefs names).map refOf
      = (List.range names.length).map fun i => ColRef.idx (Int.ofNat i) := by
  unfold Gen.CallSites.measureRefs
  -- the display's loop runs over `range(…)` or over `enumerate(…)`: the generated list has the one shape or the other
  first
    | (rw [List.map_map]; apply List.map_congr_left; intro i _; rfl)
    | (rw [List.map_map]; exact zipIdx_map_snd names (fun i => ColRef.idx (Int.ofNat i)))

/-- One measurement: the column at position `i` of the printed frame, all its rows. -/
theorem measure_one_spec (names : List String) (trows : List (RowObj (Option Nat))) (limit : Int) (i : Nat)
    (hi' : i < names.length)
    (hn : ((trows.length : Nat) : Int) < 2147483648) (hw32 : ((names.length : Nat) : Int) ≤ 2147483648)
    (hw : ∀ r ∈ trows, r.isTuple = true ∧ r.cells.length = names.length) :
    measureOne names trows limit (.idx (Int.ofNat i)) = some (dataWidth (trows.map fun r => r.cells[i]!)) := by
  unfold measureOne
  rw [publicCollect_in_range names trows [.idx (Int.ofNat i)] [Int.ofNat i] true _ names.length hn hw32 hw rfl
    (List.forall_mem_singleton.mpr ⟨Int.natCast_nonneg i, Int.ofNat_lt.mpr hi'⟩),
    measure_all_rows, List.take_length]
  rfl

/-- **The display's data width**: for every printed frame `t` (head only, head + tail, or the whole
table; eager or lazy), every `limit` and **every list of column names (repeated names included)**,
the width measured for the column at position `i` is the longest rendered non-null value of *that*
column among *all* rows of `t`, but at least four. -/
theorem display_widths_spec (names : List String) (trows : List (RowObj (Option Nat))) (limit : Int)
    (hn : ((trows.length : Nat) : Int) < 2147483648) (hw32 : ((names.length : Nat) : Int) ≤ 2147483648)
    (hw : ∀ r ∈ trows, r.isTuple = true ∧ r.cells.length = names.length) :
    displayDataWidths names trows limit =
      (List.range names.length).map fun i => some (dataWidth (trows.map fun r => r.cells[i]!)) := by
  have hrefs := measure_refs_positions names
  unfold displayDataWidths
  have hmm : (Gen.CallSites.measureRefs names).map (fun ref => measureOne names trows limit (refOf ref))
      = ((Gen.CallSites.measureRefs names).map refOf).map (measureOne names trows limit) := by
    rw [List.map_map]; rfl
  rw [hmm, hrefs, List.map_map]
  apply List.map_congr_left
  intro i hi
  rw [Function.comp_apply]
  exact measure_one_spec names trows limit i (List.mem_range.mp hi) hn hw32 hw

/-- Measuring **by name** is not the same thing: when two columns carry one name, the later one is
measured on the first one's values (`schema = ["value", "key", "value"]`, the long values in the last
column: by name `[5, 4, 5]`, by position `[5, 4, 17]`). -/
theorem display_by_name_counterexample :
    displayDataWidthsByName ["value", "key", "value"]
        [⟨true, [some 1, some 2, some 17]⟩, ⟨true, [some 5, none, some 10]⟩] 10 = [some 5, some 4, some 5]
    ∧ displayDataWidths ["value", "key", "value"]
        [⟨true, [some 1, some 2, some 17]⟩, ⟨true, [some 5, none, some 10]⟩] 10 = [some 5, some 4, some 17] := by
  decide +kernel

/-- A function that does not keep its result, or whose returned array is always made by the helper call, answers every
request of every session -- whatever the caller did to the arrays it was handed before -- with what a single call
computes. -/
theorem session_answers_are_computed {ρ β : Type} [DecidableEq ρ] (kept fresh : Bool) (compute : ρ → β)
    (h : kept = false ∨ fresh = true) (evs : List (Event ρ β)) :
    ∀ memo : Option (ρ × β), (fresh = true ∨ memo = none) →
      runSession kept fresh compute memo evs = (requestsOf evs).map compute := by
  induction evs with
  | nil => intro memo _; rfl
  | cons ev rest ih =>
    intro memo hm
    cases ev with
    | call req =>
      have hans : (sessionCall kept fresh compute memo req).1 = compute req := by
        rcases hm with hf | hn
        · cases memo with
          | none => rfl
          | some p => simp [sessionCall, hf]
        · subst hn; rfl
      have hnext : fresh = true ∨ (sessionCall kept fresh compute memo req).2 = none :=
        hm.elim Or.inl fun hn => h.elim (fun hk => Or.inr (by subst hn; simp [sessionCall, hk])) Or.inl
      simp only [runSession, requestsOf, List.map_cons, hans, ih _ hnext]
    | edit e =>
      have hnext : fresh = true ∨ (memo.map fun p => (p.1, e p.2)) = none :=
        hm.imp_right fun hn => by subst hn; rfl
      simp only [runSession, requestsOf, ih _ hnext]

/-- **Column collection gives result[i][j] = rows[j][columns[i]] on every call**, not only on the first: in every session
on a frame (requests through `collect` or `frame[...]`, the caller editing in place the arrays it was handed, in any
order) each answer is `publicCollect` of that request alone -- which `public_collect_spec` equates with the definition.
Holds because the `DataFrame.collect` of the working tree stores no result (`entryKeeps`: `Gen.CallSites.resultKept = false`
and `__getitem__` is one call of it) or returns only arrays made by the helper call (`entryFresh`:
`Gen.CallSites.resultFresh` and `getitemDirect`); a memo of the answer in either entry point makes the `decide` below fail. -/
theorem public_collect_keeps_no_result (names : List String) (rows : List (RowObj α))
    (evs : List (Event Request (PubOutcome α))) [DecidableEq α] :
    runSession entryKeeps entryFresh (answerOf names rows) none evs
      = (requestsOf evs).map (answerOf names rows) :=
  session_answers_are_computed _ _ _ (by decide) evs none (Or.inr rfl)

/-- What the two flags guard against: a function that keeps the array it hands out and answers the repeated request with
it returns the caller's edit, not the column (request 5 computes 5; the caller adds one to its result; asked again: 6). -/
theorem kept_result_counterexample :
    runSession true false (fun r : Nat => r) none [.call 5, .edit (· + 1), .call 5] = [5, 6]
    ∧ runSession true true (fun r : Nat => r) none [.call 5, .edit (· + 1), .call 5] = [5, 5]
    ∧ runSession false false (fun r : Nat => r) none [.call 5, .edit (· + 1), .call 5] = [5, 5] := by
  decide +kernel

/-- Non-vacuity of the call-site theorems. -/
example : publicCollect ["a", "b"] [⟨true, [1, 2]⟩, ⟨true, [3, 4]⟩, ⟨true, [5, 6]⟩] [.name "b", .idx 0] false (some 0)
    = (.many [[], []] : PubOutcome Nat) ∧
  publicCollect ["a", "b"] [⟨true, [1, 2]⟩, ⟨true, [3, 4]⟩, ⟨true, [5, 6]⟩] [.name "b", .idx 0] false (some 2)
    = (.many [[2, 4], [1, 3]] : PubOutcome Nat) ∧
  publicCollect ["a", "b"] [⟨true, [1, 2]⟩, ⟨true, [3, 4]⟩] [.name "b"] true none
    = (.one [2, 4] : PubOutcome Nat) ∧
  publicCollect ["a", "b"] [⟨true, [1, 2]⟩, ⟨true, [3, 4]⟩] [.idx 0] false (some 4294967296)
    = (.many [[1, 3]] : PubOutcome Nat) := by decide +kernel
example : rowNew 0 (createClass ["x", "y", "z"] false) (.dict ⟨false, true, true, ofTextItems [("z", 3), ("x", 1), ("q", 9)]⟩) = some [1, 0, 3] := by decide +kernel
example : displayDataWidths ["a", "b"] [⟨true, [some 2, none]⟩, ⟨true, [some 1, some 3]⟩, ⟨true, [some 9, some 12]⟩] 1
    = [some 9, some 12] := by decide +kernel
example : displayDataWidths ["1", "0", "1"] [⟨true, [some 2, none, some 8]⟩, ⟨true, [some 1, some 3, none]⟩] 0
    = [some 4, some 4, some 8] := by decide +kernel

end C10
