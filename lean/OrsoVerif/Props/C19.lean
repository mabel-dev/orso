import OrsoVerif.Lemmas.Cache
import OrsoVerif.Lemmas.CacheLru
import OrsoVerif.Lemmas.CacheLock
import OrsoVerif.Lemmas.CacheSeq
import OrsoVerif.Lemmas.CacheRefine
import OrsoVerif.Lemmas.CacheGen
import OrsoVerif.Lemmas.CacheGenEq
import OrsoVerif.Lemmas.CacheKey
import OrsoVerif.Generated.CacheKey
/-!
# C19 — Memoised functions return only results computed for the same arguments

Values returned by a wrapper are *invocation indices* into the log of calls of the wrapped
function, so "returned a value computed for equal arguments" is `log[v] = (key, time)`.
-/
namespace C19
open Cache

/-! ## Ties to the source (extraction) -/

/-- The single-item wrapper in the working tree loads one snapshot and publishes one tuple:
the line program extracted from its AST is the program the theorems below are about. -/
theorem single_program_extracted : parseProgram Gen.Cache.singleLines = some repairedProgram := by
  decide +kernel

/-- The LRU wrapper in the working tree has the statement order, comparison operators,
eviction side and tuple layout that `Model/Cache.lean` was written from, and its dictionary key
is the tuple of the positional arguments and the frozenset of the keyword items (so key
equality is equality of the arguments - the model's `K` - and not, say, equality of a hash). -/
theorem lru_program_extracted :
    Gen.Cache.lruLines = lruShape ∧ Gen.Cache.lruExpireOp = ">" ∧ Gen.Cache.singleFreshOp = "<=" ∧
    Gen.Cache.lruPopLast = false ∧ Gen.Cache.lruResultIndex = (1, 1) ∧
    Gen.Cache.lruKeyForm = "tuple(args, frozenset(kwargs.items()))" ∧
    Gen.Cache.lruLocked = lruGuarded ∧ (Gen.Cache.lruLockKind = "RLock" ∨ Gen.Cache.lruLockKind = "Lock") :=
  ⟨rfl, rfl, rfl, rfl, rfl, rfl, rfl, .inl rfl⟩

/-- The decorator plumbing in the working tree (extracted facts): both decorators return the wrapper, guard
`func is None`, forward every configuration parameter to the recursive application, start with no entry (an initial
value that can equal no call / an empty dict), and create the cache ONCE PER DECORATED FUNCTION - not in a scope that
a configured decorator `d = lru_cache_with_expiry(max_size=2)` would share between the functions it is applied to. -/
theorem decorator_glue_extracted :
    Gen.Cache.singleGlue = ["guard:func is None", "forward:valid_for_seconds", "cache:per-function", "init:no-entry", "return:wrapper"] ∧
    Gen.Cache.lruGlue = ["guard:func is None", "forward:max_size", "forward:valid_for_seconds", "cache:per-function", "lock:per-function", "init:no-entry", "return:wrapper"] :=
  ⟨rfl, rfl⟩

/-! ## The dictionary key of the LRU wrapper as GENERATED from the working tree (`Gen.CacheKey.keyOf`, harness/extractors/c19_key.py)

A call is its positional values and its keyword `(name, value)` pairs in call order; "equal keyword arguments" is equality
as dictionaries (`List.Perm`).  Tuples are `PyVal.list`, the primitives are those of `Model/CacheKey.lean`. -/

/-- Clause "a value that the wrapped function produced for EQUAL POSITIONAL AND KEYWORD arguments", LRU cache: the key the
working tree builds from a call's arguments (`Gen.CacheKey.keyOf`, translated from the source expression on every run)
is injective - two calls with the same key have the same positional arguments and the same keyword arguments.  So an
entry found under a call's key (the model's `K`) was stored by a call with equal arguments: the positional part cannot be
mistaken for the keyword part, a nested tuple not for flat arguments, an empty `kwargs` not for anything else. -/
theorem key_injective (a1 a2 : List PyVal) (k1 k2 : List (String × PyVal)) :
    Gen.CacheKey.keyOf a1 k1 = Gen.CacheKey.keyOf a2 k2 → a1 = a2 ∧ k1.Perm k2 := by
  intro h
  simp only [Gen.CacheKey.keyOf, CacheKey.tuple_inj, CacheKey.frozenset_inj, List.cons.injEq, and_true] at h
  exact ⟨h.1, CacheKey.perm_of_sorted_items_eq h.2⟩

/-- The look-alike calls of the generators get DIFFERENT keys from the working tree's key expression: `f(limit=10)`,
`f(("limit", 10))`, `f((("limit", 10),))`; `f(1, x=2)` and `f(1, ("x", 2))`; `f((1, 2))` and `f(1, 2)`; `f()` and `f(())`. -/
theorem key_separates_lookalikes :
    Gen.CacheKey.keyOf [] [("limit", .int 10)] ≠ Gen.CacheKey.keyOf [.list [.str "limit", .int 10]] [] ∧
    Gen.CacheKey.keyOf [] [("limit", .int 10)] ≠ Gen.CacheKey.keyOf [.list [.list [.str "limit", .int 10]]] [] ∧
    Gen.CacheKey.keyOf [.int 1] [("x", .int 2)] ≠ Gen.CacheKey.keyOf [.int 1, .list [.str "x", .int 2]] [] ∧
    Gen.CacheKey.keyOf [.list [.int 1, .int 2]] [] ≠ Gen.CacheKey.keyOf [.int 1, .int 2] [] ∧
    Gen.CacheKey.keyOf [] [] ≠ Gen.CacheKey.keyOf [.list []] [] := by
  refine ⟨?_, ?_, ?_, ?_, ?_⟩ <;> intro h <;> have := key_injective _ _ _ _ h <;> simp at this

/-- The flat key without a separator between the positional and the keyword part
(`args + tuple(sorted(kwargs.items())) if kwargs else args`, seeded change C19-w8s1) is NOT injective: `f(("limit", 10))`
and `f(limit=10)`, and `f(1, ("x", 2))` and `f(1, x=2)`, are different calls with one key. -/
theorem flat_key_confuses_positional_with_keyword :
    CacheKey.flatKey [.list [.str "limit", .int 10]] [] = CacheKey.flatKey [] [("limit", .int 10)] ∧
    CacheKey.flatKey [.int 1, .list [.str "x", .int 2]] [] = CacheKey.flatKey [.int 1] [("x", .int 2)] ∧
    ¬ (∀ a1 a2 k1 k2, CacheKey.flatKey a1 k1 = CacheKey.flatKey a2 k2 → a1 = a2 ∧ k1.Perm k2) := by
  refine ⟨rfl, rfl, ?_⟩
  intro h
  have := (h [.list [.str "limit", .int 10]] [] [] [("limit", .int 10)] rfl).1
  simp at this

/-- The key with the keyword ORDER in it (`(args, tuple(kwargs.items()))`, hand mutation N7) is injective but not a
function of the arguments as the property means them: `f(x=1, y=2)` and `f(y=2, x=1)` have equal keyword arguments and
different keys (the wrapped function is invoked although an entry for equal arguments is held); the working tree's key
gives them one key. -/
theorem ordered_key_separates_equal_keywords :
    CacheKey.orderedKey [] [("x", .int 1), ("y", .int 2)] ≠ CacheKey.orderedKey [] [("y", .int 2), ("x", .int 1)] ∧
    Gen.CacheKey.keyOf [] [("x", .int 1), ("y", .int 2)] = Gen.CacheKey.keyOf [] [("y", .int 2), ("x", .int 1)] := by
  constructor
  · intro h
    simp only [CacheKey.orderedKey, CacheKey.tuple_inj, List.cons.injEq, and_true, true_and] at h
    have := CacheKey.items_inj h
    simp at this
  · decide +kernel

/-! ## The wrapper bodies as GENERATED from the working tree (`Gen.CacheFns`, harness/extractors/c19_fns.py)

"Equal arguments" is Python `==`: a `BEq` instance on the argument types about which nothing is assumed for the
single-item cache, and only reflexivity (Python: the identity shortcut of dict lookups) for the LRU cache.
`sameArgs stored call` = the identical arguments, or `stored == call` on the positional and the keyword part. -/

/-- Clause "returns a value that the wrapped function produced for equal positional and keyword arguments no longer
ago than the validity period", single-item cache, for the GENERATED wrapper and ANY `==`: in every history of calls and
clock advances every call returns the index of an invocation of the wrapped function whose arguments are the call's own
or `==` to them (stored value on the left, as Python evaluates it), made at most `valid_for_seconds` before the call. -/
theorem generated_single_returns_for_equal_arguments {α β : Type} [BEq α] [BEq β] (cost : α × β → Int)
    (valid : Option Int) (hv : ∀ v, valid = some v → 0 ≤ v) (t0 : Int) (ops : List (Op (α × β))) :
    ∀ e ∈ (gSingleRun cost valid Gen.CacheFns.single_init { now := t0, log := [] } ops).2,
      ∃ i stored tm, e.ret = some i ∧
        (gSingleRun cost valid Gen.CacheFns.single_init { now := t0, log := [] } ops).1.2.log[i]? = some (stored, tm) ∧
        sameArgs stored e.key ∧ leInf (e.now - tm) valid = true :=
  (gSingleRun_ok cost valid hv ops _ _ (GSInv_init _)).2

/-- The same clause for the GENERATED LRU wrapper (any `max_size`), for any reflexive `==` and any `hash`: the
dictionary lookup compares hashes and then `stored_key == key`; whatever the hash function does, a returned value was
produced for arguments `==` to the call's. -/
theorem generated_lru_returns_for_equal_arguments {α β : Type} [BEq α] [BEq β] [Hashable α] [Hashable β]
    [ReflBEq α] [ReflBEq β] (cost : α × β → Int) (maxSize : Nat) (valid : Option Int)
    (hv : ∀ v, valid = some v → 0 ≤ v) (t0 : Int) (ops : List (Op (α × β))) :
    ∀ e ∈ (gLruRun cost maxSize valid Gen.CacheFns.lru_init { now := t0, log := [] } ops).2,
      ∃ i stored tm, e.ret = some i ∧
        (gLruRun cost maxSize valid Gen.CacheFns.lru_init { now := t0, log := [] } ops).1.2.log[i]? = some (stored, tm) ∧
        sameArgs stored e.key ∧ leInf (e.now - tm) valid = true :=
  (gLruRun_ok cost maxSize valid hv ops _ _ (by intro e he; cases he)).2

/-- The generated single-item wrapper IS the hand-written statement-level machine: for lawful equality, every history
run through `Gen.CacheFns.single_wrapper` from `Gen.CacheFns.single_init` gives the events, the final entry and the
invocation log of `singleRun` - so `single_refines_spec` and `single_invokes_exactly_on_miss` below are theorems about
the wrapper body as it is in the working tree. -/
theorem generated_single_eq_model {α β : Type} [DecidableEq α] [DecidableEq β] (cost : α × β → Int) (valid : Option Int)
    (t0 : Int) (ops : List (Op (α × β))) :
    gSingleRun cost valid Gen.CacheFns.single_init { now := t0, log := [] } ops =
      ((encS (singleRun valid cost (SState.init t0) ops).1.entry,
        { now := (singleRun valid cost (SState.init t0) ops).1.now, log := (singleRun valid cost (SState.init t0) ops).1.log }),
       (singleRun valid cost (SState.init t0) ops).2.map gev) :=
  gSingleRun_eq cost valid ops (SState.init t0)

/-- The generated LRU wrapper IS the hand-written statement-level machine `lruRun` (for lawful equality and ANY hash
function): expiry sweep, membership test, `move_to_end`, insertion, `popitem(last=False)` above `max_size`. With
`lru_refines_spec` the generated wrapper refines the declarative specification. -/
theorem generated_lru_eq_model {α β : Type} [DecidableEq α] [DecidableEq β] [Hashable α] [Hashable β]
    (cost : α × β → Int) (maxSize : Nat) (valid : Option Int) (t0 : Int) (ops : List (Op (α × β))) :
    gLruRun cost maxSize valid Gen.CacheFns.lru_init { now := t0, log := [] } ops =
      ((encL (lruRun maxSize valid cost (LState.init t0) ops).1.cache,
        { now := (lruRun maxSize valid cost (LState.init t0) ops).1.now, log := (lruRun maxSize valid cost (LState.init t0) ops).1.log }),
       (lruRun maxSize valid cost (LState.init t0) ops).2.map gev) :=
  gLruRun_eq cost maxSize valid ops (LState.init t0)

/-- Non-vacuity with a NON-lawful `==`: arguments compared modulo 10 (`3 == 13`), single-item cache, validity 5:
f(3) computes, f(13) is served f(3)'s value (a value for `==` arguments), f(4) computes, after 6 s f(4) recomputes. -/
example : (@gSingleRun Nat Nat ⟨fun a b => a % 10 == b % 10⟩ ⟨fun a b => a == b⟩ (fun _ => 0) (some 5)
    Gen.CacheFns.single_init { now := 0, log := [] }
    [.call (3, 0), .call (13, 0), .call (4, 0), .advance 6, .call (4, 0)]).2.map (·.ret) = [some 0, some 0, some 1, some 2] := by
  decide +kernel

/-- Clause "which in particular keeps one DataFrame's cached column names from being served to another":
`DataFrame.column_names` / `columncount` are the bare `@single_item_cache` (no expiry) on a method of `self` only, and
`DataFrame` defines no `__eq__`, so the key is the frame compared by identity (`F` with lawful equality, no keyword
arguments).  For every history of reads on any frames, what a read returns was computed by the wrapped method for a
frame with the same identity - whatever `names` the method computes from a frame, the caller gets its own frame's. -/
theorem frame_is_served_its_own_names {F N : Type} [DecidableEq F] (names : F → N) (cost : F × Unit → Int) (t0 : Int)
    (ops : List (Op (F × Unit))) :
    ∀ e ∈ (gSingleRun cost none Gen.CacheFns.single_init { now := t0, log := [] } ops).2,
      ∃ i stored tm, e.ret = some i ∧
        (gSingleRun cost none Gen.CacheFns.single_init { now := t0, log := [] } ops).1.2.log[i]? = some (stored, tm) ∧
        names stored.1 = names e.key.1 := by
  intro e he
  obtain ⟨i, stored, tm, h1, h2, h3, _⟩ :=
    generated_single_returns_for_equal_arguments cost none (by intro v hv; cases hv) t0 ops e he
  exact ⟨i, stored, tm, h1, h2, congrArg _ (sameArgs_fst h3)⟩

/-- The glue of clause 8, PER USE SITE (generated facts `Gen.Cache.useSites`: every decorated use site found by parsing
`orso/**/*.py` on this run - name, decorator, key arity, whether the receiver class defines `__eq__` / `__hash__`, which
attributes of `self` the wrapped body reads).  For every site decorated with the bare single-item cache whose only
argument is the receiver and whose class defines no `__eq__` (the key is the receiver compared by identity), every
history of reads on any receivers returns, at that site, a value the wrapped method computed for a receiver of the same
identity: the instance of `generated_single_returns_for_equal_arguments` at the site's own key type.  A new site of this
kind is covered by the same statement; a site with value equality is covered by the general theorem with its `==`. -/
theorem every_use_site_is_served_its_own_receiver :
    ∀ s ∈ Gen.Cache.useSites, s.decorator = "single_item_cache" → s.arity = 1 → s.receiverDefinesEq = false →
    -- the site configures nothing but (possibly) the validity: the wrapper installed there IS the generated wrapper and its
    -- key IS the receiver (a `key=` / identity / weak-reference argument would make the key something that can outlive
    -- the receiver and be met again by a different receiver at the same address)
    (∀ a ∈ s.decoratorArgs, a.1 = "valid_for_seconds") ∧
    ∀ {F N : Type} [DecidableEq F] (result : F → N) (cost : F × Unit → Int) (valid : Option Int)
      (_ : ∀ v, valid = some v → 0 ≤ v) (t0 : Int) (ops : List (Op (F × Unit))),
    ∀ e ∈ (gSingleRun cost valid Gen.CacheFns.single_init { now := t0, log := [] } ops).2,
      ∃ i stored tm, e.ret = some i ∧
        (gSingleRun cost valid Gen.CacheFns.single_init { now := t0, log := [] } ops).1.2.log[i]? = some (stored, tm) ∧
        result stored.1 = result e.key.1 := by
  intro s hs h1 h2 h3
  refine ⟨?_, fun result cost valid hv t0 ops e he => ?_⟩
  · -- a fact about the table of use sites
    revert s
    decide +kernel
  · obtain ⟨i, stored, tm, h1, h2, h3, _⟩ := generated_single_returns_for_equal_arguments cost valid hv t0 ops e he
    exact ⟨i, stored, tm, h1, h2, congrArg _ (sameArgs_fst h3)⟩

/-- What a use site may CONFIGURE (generated fact `decoratorArgs`: the arguments the decorator is called with at the site,
extracted from the working tree on every run).  The theorems above are about the wrapper whose key is the tuple of the
call's own argument OBJECTS (held by the cache, so they stay alive and their identity stays theirs) and whose only
parameters are the validity and the size.  Every site of orso's two decorators passes nothing but these two, by keyword:
no site replaces the key by something derived from the arguments (`key=`, `id`, a weak reference, a hash), which would
be a key that can outlive its object and be met again by a different object at the same address. -/
theorem use_site_arguments_are_the_models_parameters :
    ∀ s ∈ Gen.Cache.useSites, s.decorator ∈ ["single_item_cache", "lru_cache_with_expiry"] →
      ∀ a ∈ s.decoratorArgs, a.1 ∈ ["valid_for_seconds", "max_size"] := by
  decide +kernel

/-- Every use site listed in the generated facts is decorated with a cache the framework has theorems for (orso's two)
or a correspondence for (the functools caches).  Which sites satisfy the hypotheses of the per-site instance above
(one-argument method, class without `__eq__`) is reported in the evidence (`use_sites_covered_by_the_per_site_theorem`);
a site that does not is not an alarm: it is covered by the general `==` theorems and examined by correspondence
(modes `frames` and `mutate`). -/
theorem use_site_decorators_known :
    ∀ s ∈ Gen.Cache.useSites, s.decorator ∈ ["single_item_cache", "lru_cache_with_expiry", "lru_cache", "cache", "cached_property"] := by
  decide +kernel

/-- The size arithmetic of the GENERATED LRU wrapper (`len(cache) > max_size` -> `popitem`), for an ARBITRARY `==` and hash
(no law assumed) and every `max_size` including 0: a call that starts with at most `max_size` entries ends with at most
`max_size` entries - the sweep only deletes, a hit re-orders, a miss adds one entry and evicts one when the bound is
exceeded.  (With `generated_lru_eq_model` + `lru_refines_spec` the evicted entry is the least recently used one and
`generated_lru_returns_for_equal_arguments` shows that no expired entry is served.) -/
theorem generated_lru_size_bounded {α β : Type} [BEq α] [BEq β] [Hashable α] [Hashable β] (cost : α × β → Int)
    (maxSize : Nat) (valid : Option Int) (a : α) (b : β) (c : PyOD (α × β) (Int × Nat)) (w : FnWorld (α × β))
    (h : PyOD.len c ≤ maxSize) :
    PyOD.len (Gen.CacheFns.lru_wrapper cost maxSize valid a b c w).2.1 ≤ maxSize := by
  generalize hc1 : (gExpired valid w.now c).foldl (fun c k => PyOD.delitem c k) c = c1
  have hl1 : c1.length ≤ maxSize := by
    rw [← hc1, foldl_delitem]; exact Nat.le_trans (List.length_filter_le _ _) h
  rw [lru_wrapper_cases cost maxSize valid a b c w hc1]
  split
  · rename_i e he
    have hmv := len_move_to_end_le c1 (a, b)
    rw [PyOD.move_to_end, he] at hmv
    exact Nat.le_trans hmv hl1
  · show List.length (if _ then _ else _) ≤ maxSize
    split
    · rw [List.length_tail, List.length_append]
      exact Nat.sub_le_of_le_add (Nat.add_le_add_right hl1 1)
    · rename_i hgt; exact Nat.le_of_not_gt hgt

/-! ## Several wrappers made by one decorator (the plumbing around the wrapper) -/

/-- Each wrapper has its own entries: with the cache scope EXTRACTED from `lru_cache_with_expiry`, in any history of
calls on any number of wrappers (wrapper `j` wraps function `j`) and clock advances, the events of wrapper `j` are
exactly the events of the sequential machine `lruRun` on `j`'s own calls - the other wrappers' calls appear only as the
clock advances they caused - and function `j`'s invocation log is that run's log. -/
theorem lru_wrappers_independent {K : Type} [DecidableEq K] (maxSize : Nat) (valid : Option Int) (cost : K → Int)
    (t0 : Int) (j : Nat) (ops : List (AOp K)) :
    let M := lruMach maxSize valid cost
    let sh := scopeShared Gen.Cache.lruGlue
    let solo := lruRun maxSize valid cost (LState.init t0) (projOps M sh j (MState.init M t0) ops)
    ((multiRun M sh (MState.init M t0) ops).2.filter (fun p => p.1 = j)).map (·.2) = solo.2 ∧
    (multiRun M sh (MState.init M t0) ops).1.logs j = solo.1.log := by
  have hsh : scopeShared Gen.Cache.lruGlue = false := by
    simp only [scopeShared, Gen.Cache.lruGlue, List.contains_eq_mem, List.mem_cons, String.reduceEq, List.not_mem_nil,
      or_self, decide_false]
  simp only [hsh]
  exact multiRun_independent_init _ t0 j ops (machRun_lru maxSize valid cost _ (LState.init t0))

/-- The same for `single_item_cache`. -/
theorem single_wrappers_independent {K : Type} [DecidableEq K] (valid : Option Int) (cost : K → Int)
    (t0 : Int) (j : Nat) (ops : List (AOp K)) :
    let M := singleMach valid cost
    let sh := scopeShared Gen.Cache.singleGlue
    let solo := singleRun valid cost (SState.init t0) (projOps M sh j (MState.init M t0) ops)
    ((multiRun M sh (MState.init M t0) ops).2.filter (fun p => p.1 = j)).map (·.2) = solo.2 ∧
    (multiRun M sh (MState.init M t0) ops).1.logs j = solo.1.log := by
  have hsh : scopeShared Gen.Cache.singleGlue = false := by
    simp only [scopeShared, Gen.Cache.singleGlue, List.contains_eq_mem, List.mem_cons, String.reduceEq, List.not_mem_nil,
      or_self, decide_false]
  simp only [hsh]
  exact multiRun_independent_init _ t0 j ops (machRun_single valid cost _ (SState.init t0))

/-- Why the scope matters: with ONE cache for everything a configured decorator is applied to
(`cache:outer-scope`), `f0(7)` followed by `f1(7)` serves `f0`'s value to the caller of `f1` - the call of wrapper 1
does not invoke function 1 (whose log stays empty) and returns invocation 0 of function 0. -/
theorem shared_scope_serves_foreign :
    let r := multiRun (lruMach 2 none (fun (_ : Nat) => 0)) (scopeShared ["cache:outer-scope"])
      (MState.init (lruMach 2 none (fun (_ : Nat) => 0)) 0) [.call 0 7, .call 1 7]
    r.2.map (fun p => (p.1, p.2.ret, p.2.invoked)) = [(0, 0, true), (1, 0, false)] ∧ r.1.logs 1 = [] ∧ r.1.logs 0 = [(7, 0)] := by
  decide +kernel

/-! ## Every sequence of calls and clock advances: single-item cache

`SingleSpec` (Lemmas/CacheSeq.lean) is the property's sequential clause as a predicate on the
observable trace and the log of invocations of the wrapped function. -/

/-- For every history of calls and clock advances (any key type, any non-negative or
infinite validity, any clock advance inside the wrapped function) the single-item machine
satisfies the specification: each call returns a value produced for equal arguments no
longer ago than the validity period (boundary `<=`); the wrapped function is not invoked
iff the LAST call had equal arguments and its value is still valid; a call that does not
invoke returns the last call's value; an invocation is logged for this key at this time. -/
theorem single_refines_spec {K : Type} [DecidableEq K] (valid : Option Int)
    (hv : ∀ v, valid = some v → 0 ≤ v) (cost : K → Int) (t0 : Int) (ops : List (Op K)) :
    SingleSpec valid (singleRun valid cost (SState.init t0) ops).1.log none
      (singleRun valid cost (SState.init t0) ops).2 :=
  single_trace valid hv cost ops (SState.init t0) none rfl

/-- The wrapped function is invoked exactly once per miss and never otherwise: the log of
invocations has as many entries as there are events flagged `invoked`. -/
theorem single_invokes_exactly_on_miss {K : Type} [DecidableEq K] (valid : Option Int)
    (cost : K → Int) (t0 : Int) (ops : List (Op K)) :
    (singleRun valid cost (SState.init t0) ops).1.log.length =
      ((singleRun valid cost (SState.init t0) ops).2.filter (·.invoked)).length := by
  rw [singleRun_log, List.length_append, List.length_map]
  exact Nat.zero_add _

/-- The hypotheses are satisfiable and the boundary is `<=`: validity 10, call x, advance
10 (exactly at the boundary: hit), advance 1 (above: miss), then y, then x (miss: only the
last call is held). -/
example : (singleRun (some 10) (fun _ => 0) (SState.init 0)
    [.call 1, .advance 10, .call 1, .advance 1, .call 1, .call 2, .call 1]).2.map (fun e => (e.ret, e.invoked))
    = [(0, true), (0, false), (1, true), (2, true), (3, true)] := by decide +kernel

/-! ## Every sequence of calls and clock advances: LRU cache with expiry -/

/-- For every history, every `max_size`, the statement-level LRU machine returns at every
call a value the wrapped function produced for an equal key no longer ago than the validity
period, and a call flagged `invoked` returns the value logged for its key at its own time. -/
theorem lru_returns_own_fresh {K : Type} [DecidableEq K] (maxSize : Nat) (valid : Option Int)
    (hv : ∀ v, valid = some v → 0 ≤ v) (cost : K → Int) (t0 : Int) (ops : List (Op K)) :
    ∀ e ∈ (lruRun maxSize valid cost (LState.init t0) ops).2,
      (∃ tm, (lruRun maxSize valid cost (LState.init t0) ops).1.log[e.ret]? = some (e.key, tm) ∧
        fresh valid e.now tm = true) ∧
      (e.invoked = true →
        (lruRun maxSize valid cost (LState.init t0) ops).1.log[e.ret]? = some (e.key, e.now)) :=
  lruRun_trace maxSize valid hv cost ops (LState.init t0) nofun

set_option linter.unusedVariables false in
/-- The wrapped function is invoked exactly once per event flagged `invoked`.  (`hv` is not used: `lruRun_log` holds for any validity.) -/
theorem lru_invokes_exactly_on_miss {K : Type} [DecidableEq K] (maxSize : Nat) (valid : Option Int)
    (hv : ∀ v, valid = some v → 0 ≤ v) (cost : K → Int) (t0 : Int) (ops : List (Op K)) :
    (lruRun maxSize valid cost (LState.init t0) ops).1.log.length =
      ((lruRun maxSize valid cost (LState.init t0) ops).2.filter (·.invoked)).length := by
  rw [lruRun_log, List.length_append, List.length_map]
  exact Nat.zero_add _

/-- A call is a hit (the function is not invoked) iff, after the expiry sweep at the call's
time, an entry for an equal key is held; the swept cache holds exactly the entries that are
not older than the validity period (boundary: kept when `now - time <= valid`). -/
theorem lru_hit_iff_held {K : Type} [DecidableEq K] (maxSize : Nat) (valid : Option Int)
    (cost : K → Int) (s : LState K) (k : K) :
    ((lruCall maxSize valid cost s k).2.invoked = false ↔ ∃ e ∈ sweep valid s.now s.cache, e.key = k) ∧
    ∀ e ∈ sweep valid s.now s.cache, e ∈ s.cache ∧ fresh valid s.now e.time = true := by
  refine ⟨?_, fun e he => mem_sweep he⟩
  rcases lruCall_cases maxSize valid cost s k with ⟨e, hmem, hk, hc⟩ | ⟨hno, hev, _, _⟩
  · rw [hc]; exact ⟨fun _ => ⟨e, hmem, hk⟩, fun _ => rfl⟩
  · rw [hev]; exact ⟨nofun, fun ⟨e, he, hk⟩ => absurd hk (hno e he)⟩

/-- Refinement: for every history of calls and clock advances, every `max_size`, validity and
clock behaviour, the statement-level machine of `lru_cache_with_expiry` (expiry loop of
`del cache[k]`, `key in cache`, `move_to_end`, insert, `popitem(last=False)` when
`len(cache) > max_size`) produces exactly the trace, log and state of the declarative
specification `specRun`: held = the unexpired entries (`now - time <= valid`), least recently
used first; a call is a hit iff an entry for an equal key is held, and a hit makes it the most
recently used; a miss invokes the function, appends the entry and keeps the last `max_size`
(= the `max_size` most recently used). -/
theorem lru_refines_spec {K : Type} [DecidableEq K] (maxSize : Nat) (valid : Option Int)
    (cost : K → Int) (t0 : Int) (ops : List (Op K)) :
    lruRun maxSize valid cost (LState.init t0) ops = specRun maxSize valid cost (LState.init t0) ops :=
  (lruRun_eq_specRun maxSize valid cost ops (LState.init t0)
    ⟨nofun, Nat.zero_le _⟩).1

/-- The invariants behind the refinement, for every reachable state: stored keys are unique
and at most `max_size` entries are held. -/
theorem lru_keys_unique_size_bounded {K : Type} [DecidableEq K] (maxSize : Nat) (valid : Option Int)
    (cost : K → Int) (t0 : Int) (ops : List (Op K)) :
    (∀ e ∈ (lruRun maxSize valid cost (LState.init t0) ops).1.cache,
      ∀ e' ∈ (lruRun maxSize valid cost (LState.init t0) ops).1.cache, e.key = e'.key → e = e') ∧
    (lruRun maxSize valid cost (LState.init t0) ops).1.cache.length ≤ maxSize := by
  have h := lruRun_eq_specRun maxSize valid cost ops (LState.init t0)
    ⟨nofun, Nat.zero_le _⟩
  rw [h.1]; exact h.2

/-- Why the specification is a machine and not the classical closed formula "held = the `max_size` most recently
used keys of the history": with expiry the formula is FALSE of the code.  `max_size` 2, validity 10: `1`@0, `0`@8,
`1`@9 (hit), `2`@11 (the sweep deletes `1`, computed at 0, so nothing is evicted), `0`@12 is a HIT although the two
most recently used keys before it are `2` and `1`. -/
theorem lru_held_is_not_the_mru_closed_formula :
    ((lruRun 2 (some 10) (fun _ => 0) (LState.init 0)
        [.call 1, .advance 8, .call 0, .advance 1, .call 1, .advance 2, .call 2, .advance 1, .call 0]).2.map
      (fun e => (e.key, e.invoked)) = [(1, true), (0, true), (1, false), (2, true), (0, false)]) ∧
    ([2, 1, 0, 1].eraseDups.take 2 = [2, 1]) := by
  decide +kernel

/-- What a hit means in the specification: the function is not invoked iff an unexpired entry
for an equal key is stored (boundary `<=`). -/
theorem spec_hit_iff_unexpired_entry {K : Type} [DecidableEq K] (maxSize : Nat) (valid : Option Int)
    (cost : K → Int) (s : LState K) (k : K) :
    (specCall maxSize valid cost s k).2.invoked = false ↔
      ∃ e ∈ s.cache, e.key = k ∧ fresh valid s.now e.time = true := by
  simp only [specCall]
  cases hfind : (s.cache.filter (fun e => fresh valid s.now e.time)).find? (fun e => decide (e.key = k)) with
  | some e =>
    have hmem := List.mem_filter.mp (List.mem_of_find?_eq_some hfind)
    exact ⟨fun _ => ⟨e, hmem.1, by simpa using List.find?_some hfind, hmem.2⟩, fun _ => rfl⟩
  | none =>
    refine ⟨nofun, fun ⟨e, he, hk, hf⟩ => ?_⟩
    have := List.find?_eq_none.mp hfind e (List.mem_filter.mpr ⟨he, hf⟩)
    simp [hk] at this

/-- Non-vacuity and the LRU order: `max_size` 2, keys 1 2, hit on 1 (moves it to the end),
insert 3 (evicts 2, the least recently used), so 1 hits and 2 misses; after 11 s all expire. -/
example : (lruRun 2 (some 10) (fun _ => 0) (LState.init 0)
    [.call 1, .call 2, .call 1, .call 3, .call 1, .call 2, .advance 10, .call 2, .advance 1, .call 2]).2.map
      (fun e => (e.ret, e.invoked))
    = [(0, true), (1, true), (0, false), (2, true), (0, false), (3, true), (3, false), (4, true)] := by decide +kernel

/-! ## Concurrent callers, single-item cache -/

/-- "No caller ever receives a result that was computed for different arguments", for the
line program `P`: whatever the validity, the clock behaviour of the wrapped function, the
number of threads and their arguments, and the schedule (single lines, clock ticks, runs
to completion), every thread that has returned holds a value and that value was produced
by an invocation of the wrapped function with the thread's own `(args, kwargs)`. -/
def NoForeign (A B : Type) [DecidableEq A] [DecidableEq B] (P : Program) : Prop :=
  ∀ (valid : Option Int) (cost : A × B → Int) (t0 : Int) (keys : List (A × B)) (sched : List SStep)
    (c : Conc A B), Conc.runSched P valid cost (Conc.init t0 keys) sched = some c →
    ∀ t ∈ c.thr, ∀ r, t.out = some r → ∃ v tm, r = some v ∧ c.w.log[v]? = some ((t.ka, t.kb), tm)

/-- Clause "for every interleaving of concurrent callers" for the single-item cache as
repaired: holds for the program EXTRACTED from the working tree, any number of threads,
any schedule. (Assumes line-level atomicity, see the module header of Model/Cache.lean.) -/
theorem no_foreign_result (A B : Type) [DecidableEq A] [DecidableEq B] :
    NoForeign A B extractedProgram := by
  have hp : extractedProgram = repairedProgram := by
    unfold extractedProgram; rw [single_program_extracted]; rfl
  rw [hp]
  intro valid cost t0 keys sched c hrun t ht r hr
  have hinv := runSched_repaired valid cost sched _ c (CInv.init t0 keys) hrun
  obtain ⟨v, hv, tm, ho⟩ := (hinv.2 t ht).out r hr
  exact ⟨v, tm, hv, ho⟩

/-- The schedule that breaks the four-store wrapper `pinnedProgram`: the cache holds the entry of
`y = (1,0)`; thread 1 calls with `x = (2,0)`, misses, calls the function and stores
`last_args` (4 lines); thread 2 calls with `x`, passes all three comparisons against the
half-published entry and returns `y`'s result. -/
def raceSchedule : List SStep := [.finish 0, .run 1, .run 1, .run 1, .run 1, .finish 2]

/-- The design before C19-F01 was fixed (`pinnedProgram`: four separate slot stores, four separate
loads) violates the property: negation of `NoForeign`, by the explicit schedule above. -/
theorem four_slot_race : ¬ NoForeign Nat Nat pinnedProgram := by
  intro h
  have hrun : Conc.runSched pinnedProgram (some 10) (fun _ => 0) (Conc.init 0 [(1, 0), (2, 0), (2, 0)]) raceSchedule
      = some { w := { sh := { a := some 2, b := some 0, r := some 0, t := 0 }, clock := 0, log := [((1, 0), 0), ((2, 0), 0)] },
               thr := [ { ka := 1, kb := 0, pc := 9, now := 0, snap := { a := none, b := none, r := none, t := 0 }, res := some 0, out := some (some 0) },
                        { ka := 2, kb := 0, pc := 7, now := 0, snap := { a := some 1, b := none, r := none, t := 0 }, res := some 1, out := none },
                        { ka := 2, kb := 0, pc := 4, now := 0, snap := { a := some 2, b := some 0, r := some 0, t := 0 }, res := none, out := some (some 0) } ] } := by
    decide +kernel
  obtain ⟨v, tm, hv, hl⟩ := h (some 10) (fun _ => 0) 0 [(1, 0), (2, 0), (2, 0)] raceSchedule _ hrun
    { ka := 2, kb := 0, pc := 4, now := 0, snap := { a := some 2, b := some 0, r := some 0, t := 0 }, res := none, out := some (some 0) }
    (by simp) (some 0) rfl
  simp only [Option.some.injEq] at hv
  subst hv
  simp at hl

/-! ## Concurrent callers, LRU cache -/

/-- Clause "for every interleaving of concurrent callers" at FULL strength for the LRU cache (finding
C19-K01, repaired by `fix: lru_cache_with_expiry does its bookkeeping under a lock`): for any `max_size`,
validity, clock behaviour, any number of threads with any arguments and ANY schedule of the line-level
semantics - in which every dictionary operation keeps its failure branch (`KeyError` of `del` /
`move_to_end` / `cache[key]` / `popitem`, `RuntimeError` of the iterator) and a thread that finds the lock
taken does not proceed -
* a call that has ended has RETURNED (no exception), and returned an invocation of the wrapped function
  made for the thread's own arguments;
* no thread is on an exception path;
* at most one thread is inside a `with lock:` block, and then the lock is taken;
* the dictionary's keys are unique. -/
theorem lru_every_call_returns_its_own_result (K : Type) [DecidableEq K] (maxSize : Nat) (valid : Option Int)
    (cost : K → Int) (t0 : Int) (keys : List K) (sched : List SStep) (c : LConc K)
    (hrun : LConc.runSched maxSize valid cost (LConc.init t0 keys) sched = some c) :
    (∀ t ∈ c.thr, ∀ o, t.out = some o → ∃ v tm, o = .ok v ∧ c.w.log[v]? = some (t.key, tm)) ∧
    (∀ t ∈ c.thr, t.out = none → ∀ cls, t.pc ≠ .relErr cls ∧ t.pc ≠ .cleanup cls) ∧
    (∀ (i j : Nat) (ti tj : LThr K), c.thr[i]? = some ti → c.thr[j]? = some tj →
      ti.crit = true → tj.crit = true → i = j) ∧
    (∀ t ∈ c.thr, t.crit = true → c.w.lock = true) ∧
    (c.w.od.items.map (·.key)).Nodup := by
  have hinv := LockInv.runSched maxSize valid cost sched _ c (LockInv.init t0 keys) hrun
  refine ⟨fun t ht o ho => ?_, fun t ht hout => ?_, hinv.excl, fun t ht hc => ?_, hinv.nodup⟩
  all_goals obtain ⟨j, hj⟩ := List.getElem?_of_mem ht
  · obtain ⟨v, rfl, tm, hl⟩ := (hinv.thr j t hj).of_out ho
    exact ⟨v, tm, rfl, hl⟩
  · exact (hinv.thr j t hj).no_exception hout
  · exact hinv.held j t hj hc

/-- Clause "for every interleaving of concurrent callers" for the LRU cache (entries are
published by one dict store): any `max_size`, validity, number of threads, schedule; every
value RETURNED to a caller was produced by the wrapped function for that caller's key.
The first clause of `lru_every_call_returns_its_own_result`, without the part that no call ends in an exception raised
by the wrapper's own bookkeeping (`Outcome.err`). -/
theorem lru_no_foreign_result (K : Type) [DecidableEq K] (maxSize : Nat) (valid : Option Int)
    (cost : K → Int) (t0 : Int) (keys : List K) (sched : List SStep) (c : LConc K)
    (hrun : LConc.runSched maxSize valid cost (LConc.init t0 keys) sched = some c) :
    ∀ t ∈ c.thr, ∀ v, t.out = some (.ok v) → ∃ tm, c.w.log[v]? = some (t.key, tm) := by
  intro t ht v hv
  obtain ⟨_, tm, ho, hl⟩ := (lru_every_call_returns_its_own_result K maxSize valid cost t0 keys sched c hrun).1 t ht _ hv
  cases ho
  exact ⟨tm, hl⟩

/-- The design before the repair is refuted (finding C19-K01 was real): the same line-level machine with
the two `with lock:` lines doing nothing (`lstepNoLock`).  `max_size = 1`, the cache holds `x`: a caller
of `x` that has passed `key in cache` loses its entry to a concurrent caller of `y` (insert + `popitem`)
and `move_to_end` raises `KeyError` - the call ends in an exception although the wrapped function did not fail. -/
theorem lru_without_lock_keyerror :
    (LConc.runNoLock 1 (some 10) (fun _ => 0) (LConc.init 0 [1, 1, 2])
        (List.replicate 10 0 ++ List.replicate 5 1 ++ List.replicate 12 2 ++ List.replicate 2 1)).map
      (fun c => c.thr.map (·.out)) = some [some (.ok 0), some (.err "KeyError"), some (.ok 1)] := by
  decide +kernel

/-- ... and with the lock the same attempt cannot be scheduled: the caller of `y` finds the lock taken and
does not proceed (its `with` line changes nothing) until the caller of `x` has left the block. -/
example :
    (LConc.runSched 1 (some 10) (fun _ => 0) (LConc.init 0 [1, 1, 2])
        ([.finish 0] ++ List.replicate 5 (.run 1) ++ List.replicate 4 (.run 2) ++ [.finish 1, .finish 2])).map
      (fun c => c.thr.map (·.out)) = some [some (.ok 0), some (.ok 0), some (.ok 1)] := by
  decide +kernel

end C19
