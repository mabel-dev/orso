import OrsoVerif.Lemmas.Profile
import OrsoVerif.Lemmas.ProfileOrder
import OrsoVerif.Lemmas.ProfileTime
import OrsoVerif.Lemmas.ProfileGlue
/-!
# C15 — Column profiles report exact counts, extremes and frequencies

The property theorems; lemmas about the model alone are in `Lemmas/Profile*.lean`.  A column is a
`List (Option α)` (`none` = null) of any length.  The element order, the integer a value is reported
as (`key`), and the hash function of the sketch are parameters of the model; the hypotheses under
which each clause holds are stated explicitly:

* `TotalPreorder le` — Python's `<=` on the column's values is total and transitive (true of floats
  without NaN, of text, of epoch seconds);
* `StrictTotal lt` — `<` is asymmetric and any two different values are comparable;
* `Monotone le key` — the reported integer is monotone in the order (truncation toward zero of a
  number, the identity on epoch seconds, the repaired `string_to_int64` on text);
* **no** hypothesis on the hash function: below the sketch size the sketch keeps one entry per distinct
  value even when hashes collide; above it the sketch is the `KVM_SIZE` smallest hashes.

The model is assembled from `Gen.ProfileExpr` (expressions translated from the source on every run).  The
theorems whose names end in `_expressions` / `_source` say what those generated expressions compute; they
are the ones that stop checking when an operator, operand, constant, statement order or data source in
`profiler.py` changes meaning; the form of one that the proofs use stands next to it (`sketch_replace_ok`, `kmv_eq`,
`orderAndTransitions_cons`, `addCore_eq`, `addMfv_cases`).
-/
namespace C15
open Profile

variable {α : Type}

structure TotalPreorder (le : α → α → Bool) : Prop where
  total : ∀ a b, le a b = true ∨ le b a = true
  trans : ∀ a b c, le a b = true → le b c = true → le a c = true

structure StrictTotal (lt : α → α → Bool) : Prop where
  asymm : ∀ a b, lt a b = true → lt b a = false
  connected : ∀ a b, a ≠ b → lt a b = true ∨ lt b a = true

def Monotone (le : α → α → Bool) (key : α → Int) : Prop := ∀ a b, le a b = true → key a ≤ key b

/-- An ascent / a descent somewhere between neighbours. -/
def Ascends (lt : α → α → Bool) (vs : List α) : Prop := ∃ p ∈ adj vs, lt p.1 p.2 = true
def Descends (lt : α → α → Bool) (vs : List α) : Prop := ∃ p ∈ adj vs, lt p.2 p.1 = true

/-! ## non-vacuity (kept ahead of the theorems: an `example` that stops evaluating is reported on its own,
not as the failure of the theorem that happens to precede it) -/

/-- The order hypotheses are satisfiable (integers), the monotone key too. -/
example : TotalPreorder (fun a b : Int => decide (a ≤ b)) ∧ StrictTotal (fun a b : Int => decide (a < b))
    ∧ Monotone (fun a b : Int => decide (a ≤ b)) id :=
  ⟨⟨by intro a b; simp only [decide_eq_true_eq]; omega, by intro a b c; simp only [decide_eq_true_eq]; omega⟩,
   ⟨by intro a b; simp only [decide_eq_true_eq, decide_eq_false_iff_not]; omega,
    by intro a b; simp only [decide_eq_true_eq]; omega⟩,
   by intro a b; simp⟩

/-- A concrete column with a null, a zero and a negative; a cut; frequencies with a tie; the order
indicators of ascending, descending, constant and unsorted data. -/
example :
    core (fun a b : Int => decide (a ≤ b)) id [some 3, none, some 0, some (-2), some 3]
      = { count := 5, missing := 1, minimum := some (-2), maximum := some 3 } ∧
    addCore (core (fun a b : Int => decide (a ≤ b)) id [some 0, some 5])
        (core (fun a b : Int => decide (a ≤ b)) id [none, some 3])
      = core (fun a b : Int => decide (a ≤ b)) id [some 0, some 5, none, some 3] ∧
    mfv 2 [1, 2, 2, 3, 3, 1, 3] = [(3, 3), (1, 2)] ∧
    kmv (fun _ : Nat => 7) 4 [5, 6, 5] = [7, 7] ∧
    estimateCardinality 4 (kmv (fun _ : Nat => 7) 4 [5, 6, 5]) = some 2 ∧
    orderAndTransitions (fun a b : Int => decide (a < b)) [1, 1, 2, 5] = some (some 1, 2) ∧
    orderAndTransitions (fun a b : Int => decide (a < b)) [5, 2, 2] = some (some (-1), 1) ∧
    orderAndTransitions (fun a b : Int => decide (a < b)) [4, 4] = some (none, 0) ∧
    orderAndTransitions (fun a b : Int => decide (a < b)) [1, 3, 2] = some (some 0, 2) ∧
    batched (core (fun a b : Int => decide (a ≤ b)) id) 2 [some 1, none, some 0, some 4, some (-1)]
      = some { count := 5, missing := 1, minimum := some (-1), maximum := some 4 } := by decide

/-- Numbers as the driver instantiates them: truncation toward zero on both sides of zero. -/
example :
    truncRat (mkRat (-7) 2) = -3 ∧ truncRat (mkRat 7 2) = 3 ∧ truncRat (mkRat (-1) 2) = 0 ∧
    (profileNumeric { le := ratLe, lt := ratLt, key := truncRat, hash := fun _ => 1 }
        [some (mkRat (-7) 2), none, some 0]).core
      = { count := 3, missing := 1, minimum := some (-3), maximum := some 0 } := by decide

/-- The generated `__add__` expressions on a present 0, the byte order and the key on short strings
("ab" < "b"), the heap loop above the sketch size. -/
example :
    optMin (some 0) (some 3) = some 0 ∧ optMin none (some 3) = some 3 ∧ optMax (some (-5)) (some 0) = some 0 ∧
    optMin none none = none ∧
    bytesLe [97, 98] [98] = true ∧ bytesLt [97] [97, 0] = true ∧ keyVal 8 [97, 98] < keyVal 8 [98] ∧
    kmv (fun n : Nat => 100 - n) 2 [5, 60, 7, 30] = [40, 70] := by decide

/-- The histogram comprehension (a zero count is dropped, the mass stays), `to_batches` by index arithmetic,
the states of one frame object under `append` and the reads of its profile, ties in the most-frequent list, a
hash-de-duplicating sketch next to the source's. -/
example :
    histogramOf [2, 0, 3] [10, 20, 30, 40] = [(10, 2), (30, 3)] ∧ histMass (histogramOf [2, 0, 3] [10, 20, 30, 40]) = 5 ∧
    toBatches 2 [1, 2, 3, 4, 5] = [[1, 2], [3, 4], [5]] ∧ toBatches 2 ([] : List Nat) = [] ∧
    frameStates [1] [[2], [], [3, 4]] = [[1], [1, 2], [1, 2], [1, 2, 3, 4]] ∧
    profileReads List.length [1] [[2], [], [3, 4]] = [1, 2, 2, 4] ∧
    mfv 2 [5, 7, 9, 7, 5, 9] = [(5, 2), (7, 2)] ∧
    kmvByHashes (fun n : Nat => n % 2) 4 [1, 3, 2] = [0, 1] ∧ kmv (fun n : Nat => n % 2) 4 [1, 3, 2] = [0, 1, 1] := by decide

/-! ## how the per-type profilers are wired to the helpers -/

/-- **What `DateProfiler` copies from the numeric profile of the epoch seconds** (the generated table of its
`self.profile.F = numeric_profile.G` statements): minimum from minimum, maximum from maximum, the most-frequent
list (values and counts) and the sketch; count and missing are its own.  (Swap or drop one of the two extreme
copies and this stops checking.  The order and transition indicators are not copied on the repaired tree; the
statement does not cover them for temporal columns, so copying them too changes nothing here.) -/
theorem temporal_copies_expressions [DecidableEq α] (p : Ops α) (xs : List (Option α)) :
    (profileTemporal p xs).core = { (profileNumeric p xs).core with
      count := xs.length, missing := xs.length - (present xs).length } ∧
    (profileTemporal p xs).mfv = (profileNumeric p xs).mfv ∧
    (profileTemporal p xs).kmv = (profileNumeric p xs).kmv :=
  ⟨rfl, rfl, rfl⟩

/-- The shape of every typed profiler's core, whatever the generated sources of the extremes are. -/
theorem profilers_core_shape [DecidableEq α] (p : Ops α) (cut : α → α) (xs : List (Option α)) :
    (profileNumeric p xs).core
      = coreFrom Gen.ProfileExpr.numericMinimumSource Gen.ProfileExpr.numericMaximumSource p.le p.key xs ∧
    (profileTemporal p xs).core
      = coreFrom Gen.ProfileExpr.numericMinimumSource Gen.ProfileExpr.numericMaximumSource p.le p.key xs ∧
    (profileText p cut xs).core
      = coreFrom Gen.ProfileExpr.textMinimumSource Gen.ProfileExpr.textMaximumSource p.le p.key
          (xs.map (Option.map cut)) := by
  have hn : (profileNumeric p xs).core
      = coreFrom Gen.ProfileExpr.numericMinimumSource Gen.ProfileExpr.numericMaximumSource p.le p.key xs := by
    unfold profileNumeric
    dsimp only
    split <;> rfl
  refine ⟨hn, ?_, ?_⟩
  · rw [(temporal_copies_expressions p xs).1, hn]
    rfl
  · unfold profileText
    cases hp : present xs with
    | nil =>
      simp only [List.map_nil, orderAndTransitions, coreFrom, coreCounts, present_map, hp, pickExtreme_nil,
        Option.map_none, List.length_map, List.length_nil]
    | cons v vs => rfl

/-- **The reported extremes are computed from the data** (`int(numpy.min(column_data))`,
`int(numpy.max(column_data))`, `string_to_int64(min(column_data))`, `string_to_int64(max(column_data))` in
the source as it is now): minimum from the minimum, maximum from the maximum. -/
theorem extremes_source (le : α → α → Bool) (key : α → Int) (xs : List (Option α)) :
    coreFrom Gen.ProfileExpr.numericMinimumSource Gen.ProfileExpr.numericMaximumSource le key xs = core le key xs ∧
    coreFrom Gen.ProfileExpr.textMinimumSource Gen.ProfileExpr.textMaximumSource le key xs = core le key xs := by
  constructor <;> rfl

/-- **Wiring.** The numeric, the temporal and the text profiler report the core of their column (text: of the
prefixes of `textCutWidth` characters), and — when some value is not null — the most-frequent list, the sketch and
(numeric, text) the order indicators of the helper functions at the extracted sizes.  The text sketch sees *whole*
values: hashing comes before the cut in the source (`textHashBeforeCut`).  (The profilers without extremes —
boolean, list/struct, untyped — report `coreCounts`: `count_eq_length`, `missing_eq_nulls`.) -/
theorem profilers_wiring [DecidableEq α] (p : Ops α) (cut : α → α) (xs : List (Option α)) :
    (profileNumeric p xs).core = core p.le p.key xs ∧
    (profileTemporal p xs).core = core p.le p.key xs ∧
    (profileText p cut xs).core = core p.le p.key (xs.map (Option.map cut)) ∧
    (present xs ≠ [] →
      (profileNumeric p xs).mfv = mfv Gen.Profile.mfvSize (present xs) ∧
      (profileNumeric p xs).kmv = kmv p.hash Gen.Profile.kvmSize (present xs) ∧
      some ((profileNumeric p xs).order, (profileNumeric p xs).transitions) = orderAndTransitions p.lt (present xs) ∧
      (profileTemporal p xs).mfv = mfv Gen.Profile.mfvSize (present xs) ∧
      (profileTemporal p xs).kmv = kmv p.hash Gen.Profile.kvmSize (present xs) ∧
      (profileText p cut xs).mfv = mfv Gen.Profile.mfvSize ((present xs).map cut) ∧
      (profileText p cut xs).kmv = kmv p.hash Gen.Profile.kvmSize (present xs) ∧
      some ((profileText p cut xs).order, (profileText p cut xs).transitions)
        = orderAndTransitions p.lt ((present xs).map cut)) := by
  obtain ⟨h1, h2, h3⟩ := profilers_core_shape p cut xs
  refine ⟨?_, ?_, ?_, ?_⟩
  · rw [h1]; exact (extremes_source _ _ _).1
  · rw [h2]; exact (extremes_source _ _ _).1
  · rw [h3]; exact (extremes_source _ _ _).2
  · intro hne
    have hcut : Gen.ProfileExpr.textHashBeforeCut = true := rfl
    obtain ⟨_, tm, tk⟩ := temporal_copies_expressions p xs
    rw [tm, tk]
    cases hp : present xs with
    | nil => exact absurd hp hne
    | cons v vs =>
      simp [profileNumeric, profileText, orderAndTransitions, hp, hcut]

/-! ## the generated pieces of `get_kvm_hashes`, `find_mfvs` and `DataFrame.to_batches` -/

/-- **`get_kvm_hashes` as it stands in the source**: duplicates are removed from the *values*
(`data = list(set(data))`; `sketchDedup = .values`), the heap is seeded with `data[:size]`, the loop runs over
`data[size:]`, and the replacement test replaces only a hash that is not above the largest kept one and keeps
the heap only when the hash is not below it (`<` as it stands; `<=` would do as well).  (A rewrite that collects
the hashes in a set makes `sketchDedup = .hashes` and this theorem, with every theorem below that rests on it,
stops checking.) -/
theorem sketch_expressions [DecidableEq α] (h : α → Nat) (size : Nat) (vs : List α) :
    Gen.ProfileExpr.sketchDedup = .values ∧
    (∀ hv top, (Gen.ProfileExpr.sketchReplaceTest hv top → hv ≤ top) ∧
      (¬ Gen.ProfileExpr.sketchReplaceTest hv top → top ≤ hv)) ∧
    Gen.ProfileExpr.sketchInitCount size = size ∧ Gen.ProfileExpr.sketchLoopFrom size = size ∧
    kmv h size vs = kmvG (fun hv top => decide (Gen.ProfileExpr.sketchReplaceTest hv top)) size size h vs := by
  refine ⟨rfl, ?_, rfl, rfl, rfl⟩
  intro hv top
  unfold Gen.ProfileExpr.sketchReplaceTest
  omega

/-- The replacement test in the Boolean form the loop lemmas take. -/
theorem sketch_replace_ok (hv m : Nat) :
    (decide (Gen.ProfileExpr.sketchReplaceTest hv m) = true → hv ≤ m) ∧
    (decide (Gen.ProfileExpr.sketchReplaceTest hv m) = false → m ≤ hv) := by
  have := (sketch_expressions (α := Nat) id 0 []).2.1 hv m
  simpa using this

/-- `get_kvm_hashes` as an equation: the `size` smallest hashes of the distinct values, in ascending order.  (The right side
depends on the distinct values only through the hashes they have, not on the order `list(set(data))` lists them in.) -/
theorem kmv_eq [DecidableEq α] (h : α → Nat) (size : Nat) (vs : List α) :
    kmv h size vs = (sortAsc ((distinct vs).map h)).take size := by
  rw [(sketch_expressions h size vs).2.2.2.2, kmvG_eq _ sketch_replace_ok]

/-- **`find_mfvs` as it stands in the source**: `Counter(data).most_common(top_n)` keeps `top_n` entries. -/
theorem mfv_expressions [DecidableEq α] (n : Nat) (vs : List α) :
    Gen.ProfileExpr.mfvTakeCount n = n ∧ mfv n vs = (sortDesc (tally vs)).take n :=
  ⟨rfl, rfl⟩

/-- **`DataFrame.to_batches` as it stands in the source** (`for i in range(0, self.rowcount, batch_size):
yield rows[i : i + batch_size]`, range and slice bounds generated): for a positive batch size the batches
are the consecutive cuts of `batch_size` rows — their concatenation is the frame, none is empty, none is
longer than `batch_size`. -/
theorem to_batches_expressions {β : Type} (b : Nat) (hb : 0 < b) (xs : List β) :
    toBatches b xs = chunks b xs ∧ (toBatches b xs).flatten = xs ∧
    ∀ c ∈ toBatches b xs, c ≠ [] ∧ c.length ≤ b := by
  have h1 : toBatches b xs = chunks b xs := by
    have := slices_eq_chunksAux b hb xs xs.length 0
    simpa [toBatches, chunks, pyRange, Gen.ProfileExpr.batchRangeStart, Gen.ProfileExpr.batchRangeStop,
      Gen.ProfileExpr.batchRangeStep, Gen.ProfileExpr.batchSliceLo, Gen.ProfileExpr.batchSliceHi] using this
  rw [h1]
  exact ⟨rfl, chunksAux_spec b hb xs.length xs (Nat.le_refl _)⟩

/-- **The histogram comprehension as it stands in the source** keeps every non-zero count: the filter drops only
zero counts, every count is paired with an edge (`bin_edges[:-1]` has as many entries as `hist_counts`) and the
kept pair carries the count.  So — for the counts and edges of `numpy.histogram` (a parameter; its contract is
`len(edges) = len(counts) + 1` and `sum(counts) = number of values`) — **the histogram counts sum to the number
of non-null values**. -/
theorem histogram_mass {β : Type} (counts : List Nat) (edges : List β) (hlen : edges.length = counts.length + 1) :
    (∀ c, ¬ Gen.ProfileExpr.histKeep c → c = 0) ∧ Gen.ProfileExpr.histKeepsCount = true ∧
    histMass (histogramOf counts edges) = counts.sum := by
  have hk : ∀ c, ¬ Gen.ProfileExpr.histKeep c → c = 0 := by
    intro c; unfold Gen.ProfileExpr.histKeep; omega
  refine ⟨hk, rfl, ?_⟩
  have hes : counts.length ≤ ((edges.drop Gen.ProfileExpr.histEdgesFrom).take
      (edges.length - Gen.ProfileExpr.histEdgesFrom - Gen.ProfileExpr.histEdgesDropRight)).length := by
    simp only [Gen.ProfileExpr.histEdgesFrom, Gen.ProfileExpr.histEdgesDropRight, List.length_take, List.length_drop]
    omega
  unfold histMass histogramOf
  generalize ((edges.drop Gen.ProfileExpr.histEdgesFrom).take
      (edges.length - Gen.ProfileExpr.histEdgesFrom - Gen.ProfileExpr.histEdgesDropRight)) = es at hes
  have hkc : Gen.ProfileExpr.histKeepsCount = true := rfl
  simp only [hkc, if_true, List.map_map]
  have h1 : (((counts.zip es).filter (fun p => decide (Gen.ProfileExpr.histKeep p.1))).map
      (Prod.snd ∘ fun p => (p.2, p.1))) = ((counts.zip es).map Prod.fst).filter (fun c => decide (Gen.ProfileExpr.histKeep c)) := by
    rw [List.filter_map]; rfl
  rw [h1, List.map_fst_zip hes]
  exact sum_filter_of_zero_dropped _ (fun c hc => hk c (by simpa using hc)) counts

/-- **`DataFrame.profile` recomputes on every read** (`@property` alone around `return
TableProfile.from_dataframe(self)`: no cache, nothing stored): successive reads on one frame object, with rows
appended in between, return the profile of the rows the frame holds at each read — the first read included, a
read with nothing appended included. -/
theorem entry_point_recomputes {β γ : Type} (prof : List β → γ) (rows : List β) (appends : List (List β)) :
    Gen.ProfileExpr.profileEntryRecomputes = true ∧
    profileReads prof rows appends = (frameStates rows appends).map prof ∧
    (frameStates rows appends).length = appends.length + 1 ∧
    (frameStates rows appends).getLast? = some (rows ++ appends.flatten) := by
  refine ⟨rfl, rfl, ?_, ?_⟩
  · induction appends generalizing rows with
    | nil => rfl
    | cons c cs ih => simp [frameStates, ih]
  · induction appends generalizing rows with
    | nil => simp [frameStates]
    | cons c cs ih =>
      have hne : frameStates (rows ++ c) cs ≠ [] := by cases cs <;> simp [frameStates]
      simp only [frameStates, List.flatten_cons]
      rw [List.getLast?_cons_of_ne_nil hne, ih, List.append_assoc]

/-! ## count and missing -/

/-- **count = number of rows**, for every profiler (numeric, temporal, text, boolean, list/struct and
untyped). -/
theorem count_eq_length [DecidableEq α] (p : Ops α) (cut : α → α) (xs : List (Option α))
    (bs : List (Option Bool)) :
    (profileNumeric p xs).core.count = xs.length ∧
    (profileTemporal p xs).core.count = xs.length ∧
    (profileText p cut xs).core.count = xs.length ∧
    (profileBoolean bs).core.count = bs.length ∧
    (profileCounts xs).core.count = xs.length := by
  obtain ⟨h1, h2, h3⟩ := profilers_core_shape p cut xs
  rw [h1, h2, h3]
  exact ⟨rfl, rfl, List.length_map _, rfl, rfl⟩

/-- **missing = number of nulls**, for every profiler. -/
theorem missing_eq_nulls [DecidableEq α] (p : Ops α) (cut : α → α) (xs : List (Option α))
    (bs : List (Option Bool)) :
    (profileNumeric p xs).core.missing = xs.countP (fun x => x.isNone) ∧
    (profileTemporal p xs).core.missing = xs.countP (fun x => x.isNone) ∧
    (profileText p cut xs).core.missing = xs.countP (fun x => x.isNone) ∧
    (profileBoolean bs).core.missing = bs.countP (fun x => x.isNone) ∧
    (profileCounts xs).core.missing = xs.countP (fun x => x.isNone) := by
  obtain ⟨h1, h2, h3⟩ := profilers_core_shape p cut xs
  rw [h1, h2, h3]
  exact ⟨length_sub_present xs, length_sub_present xs,
    (length_sub_present _).trans (countP_isNone_map cut xs), length_sub_present bs, length_sub_present xs⟩

/-! ## extremes -/

/-- **minimum and maximum are the true extremes**, reported through `key` (for numbers: truncation
toward zero, `truncRat`; for instants: the epoch seconds themselves): when every value is null both
are absent; otherwise some non-null value `lo` is below and some `hi` above every non-null value, and
the profile reports `key lo` and `key hi`. -/
theorem minmax_true (le : α → α → Bool) (key : α → Int) (h : TotalPreorder le)
    (xs : List (Option α)) :
    (present xs = [] → (core le key xs).minimum = none ∧ (core le key xs).maximum = none) ∧
    (present xs ≠ [] → ∃ lo ∈ present xs, ∃ hi ∈ present xs,
      (∀ x ∈ present xs, le lo x = true ∧ le x hi = true) ∧
      (core le key xs).minimum = some (key lo) ∧ (core le key xs).maximum = some (key hi)) := by
  -- the reported extremes are `(minBy le (present xs)).map key` and `(maxBy le (present xs)).map key` by definition
  constructor
  · intro he
    exact ⟨congrArg (Option.map key) ((minBy_eq_none_iff le _).mpr he),
      congrArg (Option.map key) ((maxBy_eq_none_iff le _).mpr he)⟩
  · intro hne
    cases hlo : minBy le (present xs) with
    | none => exact absurd ((minBy_eq_none_iff le _).mp hlo) hne
    | some lo =>
      cases hhi : maxBy le (present xs) with
      | none => exact absurd ((maxBy_eq_none_iff le _).mp hhi) hne
      | some hi =>
        obtain ⟨m1, l1⟩ := minBy_spec le h.total h.trans hlo
        obtain ⟨m2, l2⟩ := maxBy_spec le h.total h.trans hhi
        exact ⟨lo, m1, hi, m2, fun x hx => ⟨l1 x hx, l2 x hx⟩, congrArg (Option.map key) hlo,
          congrArg (Option.map key) hhi⟩

/-! ## most frequent values -/

/-- **Listed counts are exact**: every listed pair is a value of the column with its exact number of
occurrences, no value is listed twice, and the list has `min(MOST_FREQUENT_VALUE_SIZE, #distinct)`
entries. -/
theorem mfv_counts_exact [DecidableEq α] (vs : List α) :
    (∀ v c, (v, c) ∈ mfv Gen.Profile.mfvSize vs → v ∈ vs ∧ c = vs.count v) ∧
    ((mfv Gen.Profile.mfvSize vs).map Prod.fst).Nodup ∧
    (mfv Gen.Profile.mfvSize vs).length = min Gen.Profile.mfvSize (distinct vs).length := by
  rw [(mfv_expressions _ vs).2]
  refine ⟨fun v c hm => mem_sortDesc_tally.mp (List.mem_of_mem_take hm), ?_, ?_⟩
  · rw [List.map_take]
    exact (nodup_keys_sortDesc_tally vs).sublist (List.take_sublist _ _)
  · rw [List.length_take, (sortDesc_perm _).length_eq, tally, List.length_map]

/-- **The listed values are the most frequent ones**: no value of the column that is not listed occurs
more often than a listed one. -/
theorem mfv_are_most_frequent [DecidableEq α] (vs : List α) (v : α) (c : Nat)
    (hl : (v, c) ∈ mfv Gen.Profile.mfvSize vs) (w : α) (hw : w ∈ vs)
    (hu : w ∉ (mfv Gen.Profile.mfvSize vs).map Prod.fst) : vs.count w ≤ c := by
  rw [(mfv_expressions _ vs).2] at hl hu
  -- `w` is in the sorted tally, so behind the cut, where no count is larger than one before the cut
  exact rel_of_mem_take_of_not_mem_take (x := (w, vs.count w)) (sortDesc_sorted (tally vs)) _ hl
    (mem_sortDesc_tally.mpr ⟨hw, rfl⟩) (fun h => hu (List.mem_map.mpr ⟨_, h, rfl⟩))

/-- **Ties keep the order of first occurrence** (`Counter.most_common` sorts stably): of two values with the
same number of occurrences the one that occurs first in the column is listed first, and whenever the later one
makes it into the list of `n` entries so does the earlier one. -/
theorem mfv_ties_first_occurrence [DecidableEq α] (vs : List α) (v w : α) (hc : vs.count v = vs.count w)
    (hb : [v, w].Sublist (distinct vs)) (n : Nat) :
    [(v, vs.count v), (w, vs.count w)].Sublist (sortDesc (tally vs)) ∧
    ((w, vs.count w) ∈ mfv n vs → (v, vs.count v) ∈ mfv n vs) := by
  have h1 : [(v, vs.count v), (w, vs.count w)].Sublist (sortDesc (tally vs)) :=
    sortDesc_stable _ _ _ hc (hb.map (fun v => (v, vs.count v)))
  refine ⟨h1, fun hw => ?_⟩
  rw [(mfv_expressions n vs).2] at hw ⊢
  have hnd : (sortDesc (tally vs)).Nodup :=
    (nodup_keys_sortDesc_tally vs).of_map Prod.fst (fun _ _ hne e => hne (congrArg Prod.fst e))
  exact mem_take_of_sublist_pair _ n _ _ hnd h1 hw

/-! ## distinct-count estimate -/

/-- `distinct` lists every value of the column exactly once, so its length is the number of distinct
values. -/
theorem distinct_spec [DecidableEq α] (vs : List α) :
    (distinct vs).Nodup ∧ ∀ a, a ∈ distinct vs ↔ a ∈ vs :=
  ⟨nodup_distinct vs, fun a => mem_distinct a vs⟩

/-- **The exact branch of `estimate_cardinality`** (generated guard `len(self.kmv_hashes) < KVM_SIZE`): a sketch
with fewer than `KVM_SIZE` entries is answered with its length. -/
theorem estimate_exact_branch (hs : List Nat) (hlt : hs.length < Gen.Profile.kvmSize) :
    estimateCardinality Gen.Profile.kvmSize hs = some hs.length := by
  unfold estimateCardinality
  cases hs with
  | nil => rfl
  | cons a as => exact (if_neg Bool.false_ne_true).trans (if_pos hlt)

/-- **Why the values, not the hashes, must be de-duplicated.**  For a sketch that removes duplicate *hashes*
(`kmvByHashes`: `heapq.nsmallest(size, {hash(v) for v in set(data)})`, the shape the model follows the source
into when `sketchDedup = .hashes`) the estimate below the sketch size is exact **iff the hash is injective on
the column**: with a collision between two different values it is strictly too small.  The source's own shape
needs no such hypothesis (`cardinality_exact_below_k`). -/
theorem hash_set_sketch_exact_iff_injective [DecidableEq α] (h : α → Nat) (vs : List α)
    (hlt : (distinct vs).length < Gen.Profile.kvmSize) :
    ((∀ a ∈ vs, ∀ b ∈ vs, h a = h b → a = b) →
      estimateCardinality Gen.Profile.kvmSize (kmvByHashes h Gen.Profile.kvmSize vs) = some (distinct vs).length) ∧
    (¬ (∀ a ∈ vs, ∀ b ∈ vs, h a = h b → a = b) →
      ∃ n, estimateCardinality Gen.Profile.kvmSize (kmvByHashes h Gen.Profile.kvmSize vs) = some n ∧
        n < (distinct vs).length) := by
  have hle := Nat.lt_of_le_of_lt (length_distinct_le ((distinct vs).map h)) (by rwa [List.length_map])
  have hest : estimateCardinality Gen.Profile.kvmSize (kmvByHashes h Gen.Profile.kvmSize vs)
      = some (distinct ((distinct vs).map h)).length := by
    unfold kmvByHashes
    rw [List.take_of_length_le (by rw [length_sortAsc]; exact Nat.le_of_lt hle),
      estimate_exact_branch _ (by rwa [length_sortAsc]), length_sortAsc]
  have hinj := nodup_map_iff_inj_on h (nodup_distinct vs)
  simp only [mem_distinct] at hinj
  rw [hest, ← hinj]
  constructor
  · intro hnd
    rw [distinct_of_nodup _ hnd, List.length_map]
  · intro hnn
    have := length_distinct_lt_of_not_nodup _ hnn
    rw [List.length_map] at this
    exact ⟨_, rfl, this⟩

/-- The smallest instance: two different values with one hash — a hash-de-duplicating sketch reports 1. -/
theorem hash_set_sketch_undercounts :
    (distinct [1, 2]).length = 2 ∧
    estimateCardinality Gen.Profile.kvmSize (kmvByHashes (fun _ : Nat => 7) Gen.Profile.kvmSize [1, 2]) = some 1 ∧
    estimateCardinality Gen.Profile.kvmSize (kmvSpec (fun _ : Nat => 7) Gen.Profile.kvmSize [1, 2]) = some 2 := by
  decide

/-- **The distinct-count estimate is exact below the sketch size** — for ANY hash function `h`
(collisions included): with fewer than `KVM_SIZE` distinct values the sketch holds the hash of each
distinct value once and `estimate_cardinality` (generated guard `len(self.kmv_hashes) < KVM_SIZE`)
returns their number. -/
theorem cardinality_exact_below_k [DecidableEq α] (h : α → Nat) (vs : List α)
    (hlt : (distinct vs).length < Gen.Profile.kvmSize) :
    estimateCardinality Gen.Profile.kvmSize (kmv h Gen.Profile.kvmSize vs) = some (distinct vs).length ∧
    (kmv h Gen.Profile.kvmSize vs).Perm ((distinct vs).map h) := by
  rw [kmv_eq, List.take_of_length_le (by rw [length_sortAsc, List.length_map]; exact Nat.le_of_lt hlt)]
  refine ⟨?_, sortAsc_perm _⟩
  rw [estimate_exact_branch _ (by rwa [length_sortAsc, List.length_map]), length_sortAsc, List.length_map]

/-- **The sketch is full from `KVM_SIZE` distinct values on** (for any hash function): it always holds
`min(KVM_SIZE, #distinct)` hashes, so the exact branch of `estimate_cardinality` is taken exactly when
the column has fewer than `KVM_SIZE` distinct values. -/
theorem sketch_size [DecidableEq α] (h : α → Nat) (vs : List α) :
    (kmv h Gen.Profile.kvmSize vs).length = min Gen.Profile.kvmSize (distinct vs).length := by
  rw [kmv_eq, List.length_take, length_sortAsc, List.length_map]

/-- **The heap loop of `get_kvm_hashes` yields the `KVM_SIZE` smallest hashes of the distinct values**,
for ANY hash function and any number of distinct values: the sketch is ascending, together with some
list of discarded hashes it is a rearrangement of the hashes of all distinct values, and no discarded
hash is below a kept one.  (Two distinct values with the same hash count twice, as in the code.) -/
theorem kmv_k_smallest [DecidableEq α] (h : α → Nat) (vs : List α) :
    ∃ dropped : List Nat,
      SortedAsc (kmv h Gen.Profile.kvmSize vs) ∧
      (kmv h Gen.Profile.kvmSize vs ++ dropped).Perm ((distinct vs).map h) ∧
      (∀ x ∈ dropped, ∀ y ∈ kmv h Gen.Profile.kvmSize vs, y ≤ x) ∧
      (kmv h Gen.Profile.kvmSize vs).length = min Gen.Profile.kvmSize (distinct vs).length := by
  rw [kmv_eq]
  -- the ascending hashes, cut: what the cut leaves out is what was discarded
  have hs := sortAsc_sorted ((distinct vs).map h)
  rw [← List.take_append_drop Gen.Profile.kvmSize (sortAsc ((distinct vs).map h))] at hs
  refine ⟨(sortAsc ((distinct vs).map h)).drop Gen.Profile.kvmSize, (List.pairwise_append.mp hs).1, ?_,
    fun x hx y hy => (List.pairwise_append.mp hs).2.2 y hy x hx, ?_⟩
  · rw [List.take_append_drop]; exact sortAsc_perm _
  · rw [List.length_take, length_sortAsc, List.length_map]

/-- **The input of the estimate is the `KVM_SIZE`-th smallest hash**: with at least `KVM_SIZE` distinct
values the last entry of the sketch (`kth_min_value = self.kmv_hashes[-1]`) is the order statistic of
rank `KVM_SIZE` among the hashes of the distinct values — fewer than `KVM_SIZE` of them are smaller and at
least `KVM_SIZE` are not larger. -/
theorem estimate_input_is_kth [DecidableEq α] (h : α → Nat) (vs : List α)
    (hge : Gen.Profile.kvmSize ≤ (distinct vs).length) :
    ∃ kth, (kmv h Gen.Profile.kvmSize vs).getLast? = some kth ∧
      ((distinct vs).map h).countP (fun x => decide (x < kth)) < Gen.Profile.kvmSize ∧
      Gen.Profile.kvmSize ≤ ((distinct vs).map h).countP (fun x => decide (x ≤ kth)) := by
  obtain ⟨dropped, hs, hp, hb, hl⟩ := kmv_k_smallest h vs
  rw [Nat.min_eq_left hge] at hl
  generalize kmv h Gen.Profile.kvmSize vs = R at hs hp hb hl
  rcases List.eq_nil_or_concat R with rfl | ⟨pre, m, rfl⟩
  · exact absurd hl (by decide)
  · rw [List.concat_eq_append] at hs hp hb hl ⊢
    rw [List.length_append, List.length_singleton] at hl
    -- every kept hash is at most `m`, and `m` and every discarded hash are at least `m`
    have hkept : ∀ x ∈ pre ++ [m], x ≤ m := fun x hx => (List.mem_append.mp hx).elim
      (fun hx => (List.pairwise_append.mp hs).2.2 x hx m (List.mem_singleton_self m))
      (fun hx => Nat.le_of_eq (List.mem_singleton.mp hx))
    have hrest : ∀ x ∈ [m] ++ dropped, m ≤ x := List.forall_mem_cons.mpr
      ⟨Nat.le_refl m, fun x hx => hb x hx m (List.mem_append_right _ (List.mem_singleton_self m))⟩
    refine ⟨m, List.getLast?_concat, ?_, ?_⟩
    · rw [← hp.countP_eq, List.append_assoc, List.countP_append, ← hl,
        (List.countP_eq_zero (l := [m] ++ dropped)).mpr (fun x hx => by simpa using hrest x hx), Nat.add_zero]
      exact Nat.lt_succ_of_le List.countP_le_length
    · rw [← hp.countP_eq, List.countP_append, ← hl,
        List.countP_eq_length.mpr (fun x hx => decide_eq_true (hkept x hx)), List.length_append, List.length_singleton]
      exact Nat.le_add_right _ _

/-- **The estimation formula as it stands in the source** (`int((KVM_SIZE - 1) / (kth_min_value / 2**32))`,
translated into `Gen.ProfileExpr.estimateFormula`): on a full sketch whose last entry `kth` is not 0,
`estimate_cardinality` returns `⌊(KVM_SIZE - 1)·2³² / kth⌋`. -/
theorem estimate_expressions (hs : List Nat) (kth : Nat) (hfull : hs.length = Gen.Profile.kvmSize)
    (hlast : hs.getLast? = some kth) (hk : kth ≠ 0) :
    estimateCardinality Gen.Profile.kvmSize hs = some ((Gen.Profile.kvmSize - 1) * 2 ^ 32 / kth) := by
  have hne : hs.isEmpty = false := by
    cases hs with
    | nil => exact absurd hfull (by decide)
    | cons a as => rfl
  have hg : ¬ Gen.ProfileExpr.estimateExactGuard hs.length Gen.Profile.kvmSize := by
    rw [hfull]; exact Nat.lt_irrefl _
  have hform : Gen.ProfileExpr.estimateFormula (Gen.Profile.kvmSize : ℚ) (kth : ℚ)
      = (((Gen.Profile.kvmSize - 1) * 2 ^ 32 : ℕ) : ℚ) / (kth : ℚ) := by
    unfold Gen.ProfileExpr.estimateFormula
    rw [div_div_eq_mul_div]
    congr 1
    norm_num [Gen.Profile.kvmSize]
  unfold estimateCardinality
  rw [hne, if_neg Bool.false_ne_true, if_neg hg, hlast]
  cases kth with
  | zero => exact absurd rfl hk
  | succ k =>
    show some (truncRat _).toNat = _
    rw [hform, truncRat_of_nonneg (div_nonneg (Nat.cast_nonneg _) (Nat.cast_nonneg _)),
      Rat.floor_natCast_div_natCast]
    rfl

/-! ## order and transitions -/

/-- **The comparisons and updates of `get_ordered_and_transitions` as they stand in the source**: the
transition test is inequality, `transitions += 1` adds one, and on a transition the update of `ordered`
records an ascent (`last < value`) or a descent (`value < last`) — written with the encoding of `ordered`
as (ascent seen, descent seen). -/
theorem order_scan_expressions [DecidableEq α] (lt : α → α → Bool) (h : StrictTotal lt) :
    (∀ a b : α, decide (Gen.ProfileExpr.orderNe lt a b) = true ↔ a ≠ b) ∧
    (∀ t, Gen.ProfileExpr.transitionsNext t = t + 1) ∧
    (∀ u d v last, v ≠ last →
      otStep lt (encOrder u d) v last = encOrder (u || lt last v) (d || lt v last)) := by
  refine ⟨?_, ?_, ?_⟩
  · intro a b; unfold Gen.ProfileExpr.orderNe; exact decide_eq_true_iff
  · intro t; rfl
  · intro u d v last hv
    -- exactly one of `value < last`, `last < value` holds; with it put in, the update is a table over `u` and `d`
    rcases h.connected v last hv with hl | hl
    · have hl' : lt last v = false := h.asymm _ _ hl
      simp only [otStep, Gen.ProfileExpr.orderFirst, Gen.ProfileExpr.orderFlip, Gen.ProfileExpr.orderFlipValue, hl, hl']
      revert u d
      decide
    · have hl' : lt v last = false := h.asymm _ _ hl
      simp only [otStep, Gen.ProfileExpr.orderFirst, Gen.ProfileExpr.orderFlip, Gen.ProfileExpr.orderFlipValue, hl, hl']
      revert u d
      decide

theorem orderAndTransitions_cons [DecidableEq α] (lt : α → α → Bool) (h : StrictTotal lt) (x : α) (xs : List α) :
    orderAndTransitions lt (x :: xs)
      = some (encOrder ((adj (x :: xs)).any (fun p => lt p.1 p.2)) ((adj (x :: xs)).any (fun p => lt p.2 p.1)),
          (adj (x :: xs)).countP (fun p => decide (¬ p.1 = p.2))) := by
  obtain ⟨e1, e2, e3⟩ := order_scan_expressions lt h
  have hs := otLoopG_spec lt _ _ _ h.asymm e1 e2 e3 xs false false 0 x
  rw [Bool.false_or, Bool.false_or, Nat.zero_add] at hs
  exact congrArg some hs

/-- **transitions** = the number of neighbouring pairs that differ. -/
theorem transitions_spec [DecidableEq α] (lt : α → α → Bool) (h : StrictTotal lt) (vs : List α)
    (o : Option Int) (t : Nat) (hr : orderAndTransitions lt vs = some (o, t)) :
    t = (adj vs).countP (fun p => decide (¬ p.1 = p.2)) := by
  cases vs with
  | nil => cases hr
  | cons x xs =>
    rw [orderAndTransitions_cons lt h] at hr
    exact (Prod.mk.inj (Option.some.inj hr)).2.symm

/-- **order**: absent exactly for constant data, `1` exactly for non-constant data that never descends,
`-1` exactly for non-constant data that never ascends, `0` exactly when the data both ascends and
descends. -/
theorem order_spec [DecidableEq α] (lt : α → α → Bool) (h : StrictTotal lt) (vs : List α)
    (o : Option Int) (t : Nat) (hr : orderAndTransitions lt vs = some (o, t)) :
    (o = none ↔ ∀ p ∈ adj vs, p.1 = p.2) ∧
    (o = some 1 ↔ Ascends lt vs ∧ ¬ Descends lt vs) ∧
    (o = some (-1) ↔ Descends lt vs ∧ ¬ Ascends lt vs) ∧
    (o = some 0 ↔ Ascends lt vs ∧ Descends lt vs) := by
  cases vs with
  | nil => cases hr
  | cons x xs =>
    rw [orderAndTransitions_cons lt h] at hr
    obtain ⟨rfl, -⟩ := Prod.mk.inj (Option.some.inj hr)
    have hconst : (∀ p ∈ adj (x :: xs), p.1 = p.2) ↔ ¬ Ascends lt (x :: xs) ∧ ¬ Descends lt (x :: xs) := by
      constructor
      · intro hc
        constructor <;> rintro ⟨p, hp, hl⟩ <;> rw [hc p hp, irrefl_of_asymm h.asymm] at hl <;> cases hl
      · rintro ⟨hu, hd⟩ p hp
        apply Classical.byContradiction
        intro hne
        rcases h.connected p.1 p.2 hne with hl | hl
        · exact hu ⟨p, hp, hl⟩
        · exact hd ⟨p, hp, hl⟩
    rw [hconst]
    simp only [Ascends, Descends, ← List.any_eq_true]
    exact encOrder_cases _ _

/-! ## additivity -/

/-- **The updates of `ColumnProfile.__add__` as they stand in the source**: all four are executed (no
earlier `return`), `count +=` and `missing +=` add, and the minimum / maximum combination (`min([INFINITY if … is None else …, …])` with its
`== INFINITY → None` guard) is the smaller / larger of the extremes that are present — a present extreme
of 0 included. -/
theorem add_expressions :
    Gen.ProfileExpr.addUpdatesStraightLine = true ∧
    (∀ a b, Gen.ProfileExpr.addCount a b = a + b) ∧
    (∀ a b, Gen.ProfileExpr.addMissing a b = a + b) ∧
    (∀ a b, optMin a b = optMinSpec a b) ∧
    (∀ a b, optMax a b = optMaxSpec a b) := by
  refine ⟨rfl, fun _ _ => rfl, fun _ _ => rfl, ?_, ?_⟩
  -- with a side absent both are the other side; with both present, the same `if` up to its test
  · rintro (_ | a) (_ | b)
    · rfl
    · rfl
    · rfl
    · simp [optMin, optMinSpec, Gen.ProfileExpr.addMinimum, Gen.ProfileExpr.addMinimumAbsent, EInt.ofOption,
        EInt.toOption, Min.min, EInt.lt, ← apply_ite EInt.fin]
      by_cases h : a ≤ b
      · rw [if_pos h, if_neg (Int.not_lt.mpr h)]
      · rw [if_neg h, if_pos (Int.not_le.mp h)]
  · rintro (_ | a) (_ | b)
    · rfl
    · rfl
    · rfl
    · simp [optMax, optMaxSpec, Gen.ProfileExpr.addMaximum, Gen.ProfileExpr.addMaximumAbsent, EInt.ofOption,
        EInt.toOption, Max.max, EInt.lt, ← apply_ite EInt.fin]
      by_cases h : a < b
      · rw [if_pos h, if_pos (Int.le_of_lt h)]
      · rw [if_neg h]
        split <;> omega

theorem addCore_eq (a b : Core) :
    addCore a b = { count := a.count + b.count, missing := a.missing + b.missing,
                    minimum := optMinSpec a.minimum b.minimum, maximum := optMaxSpec a.maximum b.maximum } := by
  obtain ⟨e0, e1, e2, e3, e4⟩ := add_expressions
  simp only [addCore, e0, if_true, e1, e2, e3, e4]

/-- **Profiles are additive** in count, missing, minimum and maximum: profiling a concatenation gives
the sum (`ColumnProfile.__add__`) of the profiles of the two batches — for batches of any length,
all-null ones included. -/
theorem add_core (le : α → α → Bool) (key : α → Int) (h : TotalPreorder le) (hm : Monotone le key)
    (a b : List (Option α)) :
    core le key (a ++ b) = addCore (core le key a) (core le key b) := by
  simp only [core, coreFrom, pickExtreme, addCore_eq, Core.mk.injEq]
  exact ⟨List.length_append, missing_append a b,
    by rw [present_append]; exact minBy_append_key le key h.total hm _ _,
    by rw [present_append]; exact maxBy_append_key le key h.total hm _ _⟩

/-- Additivity for the profilers without extremes (BOOLEAN, ARRAY/STRUCT, untyped). -/
theorem add_core_counts (a b : List (Option α)) :
    coreCounts (a ++ b) = addCore (coreCounts a) (coreCounts b) := by
  simp only [coreCounts, addCore_eq, Core.mk.injEq]
  exact ⟨List.length_append, missing_append a b, rfl, rfl⟩

/-- **Batching in `from_dataframe`**: for any additive per-batch profile, cutting a non-empty frame into
batches of `batchSize` rows (the extracted 25000) and adding the batch profiles left to right gives the
profile of the whole frame. -/
theorem batched_eq_whole (prof : List (Option α) → Core)
    (hadd : ∀ a b, prof (a ++ b) = addCore (prof a) (prof b))
    (xs : List (Option α)) (hne : xs ≠ []) :
    batched prof Gen.Profile.batchSize xs = some (prof xs) := by
  obtain ⟨b, bs, hb, hfold⟩ := foldl_cuts (fun q zs => q = prof zs) (fun acc c => addCore acc (prof c))
    (fun q zs m hq => by rw [hq, hadd]) prof (fun _ => rfl)
    (to_batches_expressions Gen.Profile.batchSize (by decide) xs).2.1 hne
  unfold batched
  rw [hb]
  exact congrArg some hfold

/-! ## sums beyond count / missing / minimum / maximum (the open finding K06, in the model)

The property's additivity clause covers count, missing, minimum and maximum (above).  `ColumnProfile.__add__`
also combines the most-frequent lists, the sketches and the order indicators; `from_dataframe` uses those sums for
every frame above the batch size, and there the per-column clauses do NOT all survive.  What holds and what
fails, of the model that follows the code: -/

/-- **The updates of `transitions` and `order` in `__add__` as they stand in the source.** -/
theorem sum_expressions (t u : Nat) (o q : Option Int) :
    Gen.ProfileExpr.addTransitions t u = t + u + 1 ∧
    Gen.ProfileExpr.addOrder o q = (if o = q then some 0 else o) := by
  constructor
  · unfold Gen.ProfileExpr.addTransitions; omega
  · rfl

/-- **A frame above the batch size still reports exact count, missing, minimum and maximum**: the core of
`from_dataframe`'s fold over whole batch profiles (`batchedProf`, the model the harness compares frames above the
batch size with, field by field) keeps, batch after batch, the core of the rows read so far, hence ends with the core of
the whole column. -/
theorem batched_prof_core [DecidableEq α] (prof : List (Option α) → Prof α)
    (hadd : ∀ a b, (prof (a ++ b)).core = addCore (prof a).core (prof b).core)
    (xs : List (Option α)) (hne : xs ≠ []) :
    (batchedProf prof Gen.Profile.batchSize xs).map (·.core) = some (prof xs).core := by
  obtain ⟨b, bs, hb, hfold⟩ := foldl_cuts (fun (q : Prof α) zs => q.core = (prof zs).core)
    (fun acc c => addProf acc (prof c)) (fun q zs m hq => by rw [hadd, ← hq]; rfl) prof (fun _ => rfl)
    (to_batches_expressions Gen.Profile.batchSize (by decide) xs).2.1 hne
  unfold batchedProf
  rw [hb]
  exact congrArg some hfold

/-- **The `elif` chain of `__add__`'s most-frequent merge as it stands in the source** (generated from the branches under
`if self.most_frequent_values and profile.most_frequent_values:`): when not both sides list values the sum keeps the
left side's list if the other side holds no value, takes the other side's list if the left side holds no value, and
lists nothing when both hold values — whether or not one of them lists something.  (A side can hold values and
list none: the sum of two batches that share no listed value.) -/
theorem sum_mfv_one_sided_expressions (mineEmpty theirsEmpty mineLists theirsLists : Bool) :
    Gen.ProfileExpr.addMfvOneSided mineEmpty theirsEmpty mineLists theirsLists
      = (if theirsEmpty = true then MfvPick.mine else if mineEmpty = true then MfvPick.theirs else MfvPick.nothing) := by
  cases mineEmpty <;> cases theirsEmpty <;> cases mineLists <;> cases theirsLists <;> rfl

/-- `addMfv` with the generated chain spelled out. -/
theorem addMfv_cases [DecidableEq α] (a b : Prof α) :
    addMfv a b =
      if (!a.mfv.isEmpty && !b.mfv.isEmpty) = true then
        a.mfv.filterMap (fun vc => (b.mfv.find? (fun q => q.1 = vc.1)).map (fun q => (vc.1, vc.2 + q.2)))
      else if b.core.count = b.core.missing then a.mfv
      else if a.core.count = a.core.missing then b.mfv
      else [] := by
  unfold addMfv addMfvWith
  rw [sum_mfv_one_sided_expressions]
  by_cases h1 : (!a.mfv.isEmpty && !b.mfv.isEmpty) = true
  · simp only [h1, if_true]
  · by_cases hb : b.core.count = b.core.missing
    · simp [h1, hb]
    · by_cases ha : a.core.count = a.core.missing <;> simp [h1, hb, ha]

/-- A profile that counts the rows and nulls of `xs` and whose listed counts are exact occurrence counts in `xs`
(it may list few values, or none). -/
def ListsExact [DecidableEq α] (q : Prof α) (xs : List (Option α)) : Prop :=
  q.core.count = xs.length ∧ q.core.missing = xs.countP (fun x => x.isNone) ∧
  ∀ w d, (w, d) ∈ q.mfv → d = (present xs).count w

/-- **Adding keeps listed counts exact** (the inductive step for any number of batches in any grouping): if each of two
profiles counts its rows and nulls and lists only exact counts, so does their sum for the concatenation. -/
theorem sum_keeps_listed_counts_exact [DecidableEq α] (a b : Prof α) (xs ys : List (Option α))
    (ha : ListsExact a xs) (hb : ListsExact b ys) : ListsExact (addProf a b) (xs ++ ys) := by
  obtain ⟨ha1, ha2, ha3⟩ := ha
  obtain ⟨hb1, hb2, hb3⟩ := hb
  have hnil : ∀ (q : Prof α) (zs : List (Option α)), q.core.count = zs.length →
      q.core.missing = zs.countP (fun x => x.isNone) → q.core.count = q.core.missing → present zs = [] := by
    intro q zs h1 h2 h
    have := length_present_add_nulls zs
    rw [← h2, ← h, h1] at this
    exact List.eq_nil_of_length_eq_zero (Nat.add_eq_right.mp this)
  refine ⟨?_, ?_, ?_⟩
  · rw [List.length_append, ← ha1, ← hb1]
    exact congrArg Core.count (addCore_eq _ _)
  · rw [List.countP_append, ← ha2, ← hb2]
    exact congrArg Core.missing (addCore_eq _ _)
  · intro v c hl
    rw [present_append, List.count_append]
    change (v, c) ∈ addMfv a b at hl
    rw [addMfv_cases] at hl
    by_cases hboth : (!a.mfv.isEmpty && !b.mfv.isEmpty) = true
    · rw [if_pos hboth] at hl
      obtain ⟨⟨w, d⟩, hw, hq⟩ := List.mem_filterMap.mp hl
      obtain ⟨q, hf, hq⟩ := Option.map_eq_some_iff.mp hq
      obtain ⟨rfl, rfl⟩ := Prod.mk.inj hq
      have hqw : q.1 = w := by simpa using List.find?_some hf
      rw [ha3 _ _ hw, hb3 q.1 q.2 (List.mem_of_find?_eq_some hf), hqw]
    · rw [if_neg hboth] at hl
      by_cases hbe : b.core.count = b.core.missing
      · rw [if_pos hbe] at hl
        rw [hnil b ys hb1 hb2 hbe, List.count_nil, Nat.add_zero]
        exact ha3 v c hl
      · rw [if_neg hbe] at hl
        by_cases hae : a.core.count = a.core.missing
        · rw [if_pos hae] at hl
          rw [hnil a xs ha1 ha2 hae, List.count_nil, Nat.zero_add]
          exact hb3 v c hl
        · rw [if_neg hae] at hl
          cases hl

/-- The numeric and the text profiler list exact counts (of the values as profiled: text through its window). -/
theorem profilers_lists_exact [DecidableEq α] (p : Ops α) (cut : α → α) (xs : List (Option α)) :
    ListsExact (profileNumeric p xs) xs ∧ ListsExact (profileText p cut xs) (xs.map (Option.map cut)) := by
  constructor
  · refine ⟨(count_eq_length p id xs []).1, (missing_eq_nulls p id xs []).1, ?_⟩
    intro w d hm
    by_cases hp : present xs = []
    · simp [profileNumeric, orderAndTransitions, hp] at hm
    · rw [((profilers_wiring p id xs).2.2.2 hp).1] at hm
      exact ((mfv_counts_exact (present xs)).1 w d hm).2
  · refine ⟨by rw [(count_eq_length p cut xs []).2.2.1, List.length_map],
            by rw [(missing_eq_nulls p cut xs []).2.2.1, countP_isNone_map], ?_⟩
    intro w d hm
    rw [present_map]
    by_cases hp : present xs = []
    · simp [profileText, orderAndTransitions, hp] at hm
    · obtain ⟨-, -, -, -, -, hmfv, -⟩ := (profilers_wiring p cut xs).2.2.2 hp
      rw [hmfv] at hm
      exact ((mfv_counts_exact ((present xs).map cut)).1 w d hm).2

/-- **Listed counts of a sum are exact** (`_partial`: what survives of the most-frequent clause): every value the
sum of two numeric batch profiles lists carries its exact number of occurrences in the concatenation. -/
theorem sum_mfv_counts_exact_partial [DecidableEq α] (p : Ops α) (xs ys : List (Option α)) (v : α) (c : Nat)
    (hl : (v, c) ∈ (addProf (profileNumeric p xs) (profileNumeric p ys)).mfv) :
    c = (present (xs ++ ys)).count v :=
  (sum_keeps_listed_counts_exact _ _ xs ys (profilers_lists_exact p id xs).1 (profilers_lists_exact p id ys).1).2.2 v c hl

/-- **…for any number of batches, in either grouping, and for `from_dataframe`'s fold over any number of morsels**: the
sum `(a + b) + c`, the sum `a + (b + c)` and the left fold over a list of morsels all count the rows and nulls of the
concatenation and list only exact occurrence counts — for every profiler that does so on a single batch, of the rows
it is given (the numeric profiler: `profilers_lists_exact`; the text profiler lists the counts of the *cut* values, so
it meets `hp` only for a cut that changes nothing).  In particular a sum that holds values and lists none (two batches
without a listed value in common) never adopts a later batch's list with that batch's counts. -/
theorem sum_tree_listed_counts_exact [DecidableEq α] (prof : List (Option α) → Prof α)
    (hp : ∀ zs, ListsExact (prof zs) zs) (a b c : List (Option α)) (ms : List (List (Option α))) :
    ListsExact (addProf (addProf (prof a) (prof b)) (prof c)) (a ++ b ++ c) ∧
    ListsExact (addProf (prof a) (addProf (prof b) (prof c))) (a ++ (b ++ c)) ∧
    ListsExact (ms.foldl (fun acc m => addProf acc (prof m)) (prof a)) (a ++ ms.flatten) := by
  refine ⟨?_, ?_, ?_⟩
  · exact sum_keeps_listed_counts_exact _ _ _ _ (sum_keeps_listed_counts_exact _ _ _ _ (hp a) (hp b)) (hp c)
  · exact sum_keeps_listed_counts_exact _ _ _ _ (hp a) (sum_keeps_listed_counts_exact _ _ _ _ (hp b) (hp c))
  · exact foldl_batches ListsExact (fun acc m => addProf acc (prof m))
      (fun q zs m hq => sum_keeps_listed_counts_exact _ _ _ _ hq (hp m)) ms (prof a) a (hp a)

/-- **Counterexample: "keep whichever list there is"** (the chain collapsed to: the other side's list when it has one,
else ours): batches `[1,1]`, `[2,2]`, `[1]` — the first two share no value, their sum holds four values and lists none;
adding the third batch then lists `1` once, although `1` occurs three times.  With the chain of the source the sum
lists nothing. -/
theorem one_sided_adoption_undercounts :
    let ops : Ops Int := { le := intLe, lt := intLt, key := id, hash := fun _ => 1 }
    let pa := profileNumeric ops [some 1, some 1]
    let pb := profileNumeric ops [some 2, some 2]
    let pc := profileNumeric ops [some 1]
    let keepAny : Bool → Bool → Bool → Bool → MfvPick := fun _ _ _ tl => if tl then .theirs else .mine
    let ab : Prof Int := { addProf pa pb with mfv := addMfvWith keepAny pa pb }
    ab.mfv = [] ∧ ab.core.count = 4 ∧ ab.core.missing = 0 ∧
    addMfvWith keepAny ab pc = [(1, 1)] ∧
    (addProf (addProf pa pb) pc).mfv = [] := by
  decide

/-- **…but the most frequent value can be missing from a sum** (counterexample; finding K06): batches `[1,1,1,2]`
and `[2]` — the sum lists only `2` (twice), the column's most frequent value `1` (three times) is not listed. -/
theorem sum_mfv_misses_most_frequent :
    (addProf (profileNumeric { le := intLe, lt := intLt, key := id, hash := fun _ => 1 } [some 1, some 1, some 1, some 2])
        (profileNumeric { le := intLe, lt := intLt, key := id, hash := fun _ => 1 } [some 2])).mfv = [(2, 2)] ∧
    (profileNumeric { le := intLe, lt := intLt, key := id, hash := fun _ => 1 }
        [some 1, some 1, some 1, some 2, some 2]).mfv = [(1, 3), (2, 2)] := by
  decide

/-- **Transitions of a sum** (`_partial` + counterexample): the sum adds one for the boundary between the batches
whether or not the values there differ — it is exact iff the last value of the left batch differs from the first of
the right one, and one too many otherwise (a constant column cut in two reports 1 transition). -/
theorem sum_transitions_partial [DecidableEq α] (a : α) (as : List α) (b : α) (bs : List α) :
    (adj ((a :: as) ++ b :: bs)).countP (fun p => decide (¬ p.1 = p.2))
        + (if (a :: as).getLast (by simp) = b then 1 else 0)
      = Gen.ProfileExpr.addTransitions ((adj (a :: as)).countP (fun p => decide (¬ p.1 = p.2)))
          ((adj (b :: bs)).countP (fun p => decide (¬ p.1 = p.2))) := by
  rw [(sum_expressions _ _ none none).1, adj_append_cons, List.countP_append, List.countP_cons]
  by_cases h : (a :: as).getLast (by simp) = b
  · simp only [h, not_true_eq_false, decide_false, Bool.false_eq_true, if_true, if_false]; omega
  · simp only [h, not_false_eq_true, decide_true, if_true, if_false]; omega

/-- **Order of a sum** (counterexamples; finding K06): two ascending batches give `0` (unsorted) though their
concatenation `[1,2,3,4]` is ascending, and an all-null batch followed by a constant one gives `0` though the
column is constant. -/
theorem sum_order_wrong :
    Gen.ProfileExpr.addOrder (some 1) (some 1) = some 0 ∧
    orderAndTransitions intLt [1, 2, 3, 4] = some (some 1, 3) ∧
    Gen.ProfileExpr.addOrder none none = some 0 := by
  decide

/-- **The sketch of a sum is the `KVM_SIZE` smallest *distinct* hashes of both sides: duplicates go first, the cut
second** (`new_profile.kmv_hashes = sorted(set(self.kmv_hashes + profile.kmv_hashes))[:KVM_SIZE]`; the order of the two
steps is extracted: `Gen.ProfileExpr.sumSketchOrder`).  For any two non-empty sketches: the sum is the ascending list
of the distinct hashes of `a ++ b` cut to `KVM_SIZE`; it holds `min KVM_SIZE (number of distinct hashes)` entries, no
hash twice, ascending, and every hash of either side that it leaves out is at least as large as every hash it keeps.
(Cutting first — `sorted(set(heapq.nsmallest(KVM_SIZE, a + b)))` — makes `sumSketchOrder = .cutThenDedup`
and this theorem fail: see `cut_then_dedup_undercounts`.) -/
theorem sum_sketch_is_k_smallest_distinct (a b : List Nat) (ha : a ≠ []) (hb : b ≠ []) :
    Gen.ProfileExpr.sumSketchOrder = .dedupThenCut ∧
    addKmv Gen.Profile.kvmSize a b = (sortAsc (distinct (a ++ b))).take Gen.Profile.kvmSize ∧
    (addKmv Gen.Profile.kvmSize a b).length = min Gen.Profile.kvmSize (distinct (a ++ b)).length ∧
    (addKmv Gen.Profile.kvmSize a b).Nodup ∧ SortedAsc (addKmv Gen.Profile.kvmSize a b) ∧
    (∀ x ∈ a ++ b, x ∉ addKmv Gen.Profile.kvmSize a b → ∀ y ∈ addKmv Gen.Profile.kvmSize a b, y ≤ x) := by
  have heq : addKmv Gen.Profile.kvmSize a b = (sortAsc (distinct (a ++ b))).take Gen.Profile.kvmSize := by
    unfold addKmv addKmvWith
    simp only [List.isEmpty_eq_false_iff.mpr ha, List.isEmpty_eq_false_iff.mpr hb, Bool.not_false, Bool.and_self,
      if_true, Gen.ProfileExpr.sumSketchOrder]
  have hs := sortAsc_sorted (distinct (a ++ b))
  refine ⟨rfl, heq, ?_, ?_, ?_, ?_⟩ <;> rw [heq]
  · rw [List.length_take, length_sortAsc]
  · exact ((sortAsc_perm _).nodup_iff.mpr (nodup_distinct _)).sublist (List.take_sublist _ _)
  · exact hs.sublist (List.take_sublist _ _)
  · intro x hx hnot y hy
    exact rel_of_mem_take_of_not_mem_take hs _ hy ((sortAsc_perm _).mem_iff.mpr ((mem_distinct x _).mpr hx)) hnot

/-- **Why the duplicates must go before the cut** (counterexample for the other order, at sketch size 4): two
sketches `[1, 2, 3]` of batches that hold the same three values — cutting the concatenation to its 4 smallest
entries `[1, 1, 2, 2]` and then removing duplicates leaves `[1, 2]`: the estimate is 2 for 3 distinct values, below
the sketch size.  De-duplicating first keeps `[1, 2, 3]`. -/
theorem cut_then_dedup_undercounts :
    addKmvWith .cutThenDedup 4 [1, 2, 3] [1, 2, 3] = [1, 2] ∧
    estimateCardinality 4 (addKmvWith .cutThenDedup 4 [1, 2, 3] [1, 2, 3]) = some 2 ∧
    addKmvWith .dedupThenCut 4 [1, 2, 3] [1, 2, 3] = [1, 2, 3] ∧
    estimateCardinality 4 (addKmvWith .dedupThenCut 4 [1, 2, 3] [1, 2, 3]) = some 3 := by
  decide

/-- **The sketch of a sum is exact below the sketch size when no two values collide** (`_partial`): for non-empty
batches with fewer than `KVM_SIZE` distinct values overall and a hash that is injective on them, the estimate of
the summed sketch is the number of distinct values of the concatenation.  (That a collision makes it too small is
shown on one instance only: `sum_sketch_collision`.) -/
theorem sum_sketch_exact_of_injective_partial [DecidableEq α] (h : α → Nat) (as bs : List α)
    (ha : as ≠ []) (hb : bs ≠ [])
    (hinj : ∀ x ∈ as ++ bs, ∀ y ∈ as ++ bs, h x = h y → x = y)
    (hlt : (distinct (as ++ bs)).length < Gen.Profile.kvmSize) :
    estimateCardinality Gen.Profile.kvmSize
        (addKmv Gen.Profile.kvmSize (kmv h Gen.Profile.kvmSize as) (kmv h Gen.Profile.kvmSize bs))
      = some (distinct (as ++ bs)).length := by
  have hside : ∀ cs : List α, (∀ x ∈ cs, x ∈ as ++ bs) → cs ≠ [] →
      (kmv h Gen.Profile.kvmSize cs).Perm ((distinct cs).map h) ∧ kmv h Gen.Profile.kvmSize cs ≠ [] := by
    intro cs hcs hne
    have hle : (distinct cs).length ≤ (distinct (as ++ bs)).length :=
      (nodup_distinct cs).length_le_of_subset
        (fun x hx => (mem_distinct x _).mpr (hcs x ((mem_distinct x cs).mp hx)))
    have hp := (cardinality_exact_below_k h cs (Nat.lt_of_le_of_lt hle hlt)).2
    refine ⟨hp, fun e => hne ?_⟩
    rw [e] at hp
    exact (distinct_eq_nil_iff cs).mp (List.map_eq_nil_iff.mp hp.symm.eq_nil)
  obtain ⟨pA, hA⟩ := hside as (fun x hx => List.mem_append_left _ hx) ha
  obtain ⟨pB, hB⟩ := hside bs (fun x hx => List.mem_append_right _ hx) hb
  -- both sketches together hold the hashes of the values of both sides, so their sum is the sketch of the concatenation
  -- that de-duplicates hashes, which is exact when the hash is injective
  have hsame : sortAsc (distinct (kmv h Gen.Profile.kvmSize as ++ kmv h Gen.Profile.kvmSize bs))
      = sortAsc (distinct ((distinct (as ++ bs)).map h)) :=
    eq_sortAsc_of_perm (sortAsc_sorted _) ((sortAsc_perm _).trans
      ((List.perm_ext_iff_of_nodup (nodup_distinct _) (nodup_distinct _)).mpr fun x => by
        simp only [mem_distinct, List.mem_append, pA.mem_iff, pB.mem_iff, List.mem_map, or_and_right, exists_or]))
  rw [(sum_sketch_is_k_smallest_distinct _ _ hA hB).2.1, hsame]
  exact (hash_set_sketch_exact_iff_injective h (as ++ bs) hlt).1 hinj

/-- **…and too small when two different values collide** (counterexample; finding K06): the sum keeps a *set* of
hashes. -/
theorem sum_sketch_collision :
    estimateCardinality Gen.Profile.kvmSize
        (addKmv Gen.Profile.kvmSize (kmv (fun _ : Nat => 7) Gen.Profile.kvmSize [1]) (kmv (fun _ : Nat => 7) Gen.Profile.kvmSize [2]))
      = some 1 ∧ (distinct ([1] ++ [2])).length = 2 := by
  decide

/-! ## the concrete orders and keys of the driver satisfy the hypotheses -/

/-- **Numbers**: `<=`/`<` on exact numbers are a total preorder / strict total order and `int(x)`
(`truncRat`) is monotone, so `minmax_true`, `order_spec`, `transitions_spec` and `add_core` apply to
INTEGER, DOUBLE and DECIMAL columns as instantiated by the driver. -/
theorem numbers_ordered :
    TotalPreorder ratLe ∧ StrictTotal ratLt ∧ Monotone ratLe truncRat := by
  unfold ratLe ratLt
  refine ⟨⟨?_, ?_⟩, ⟨?_, ?_⟩, ?_⟩
  · intro a b; simpa using le_total a b
  · intro a b c h1 h2; simp only [decide_eq_true_eq] at *; exact le_trans h1 h2
  · intro a b h; simp only [decide_eq_true_eq, decide_eq_false_iff_not, not_lt] at *; exact le_of_lt h
  · intro a b h; simpa using lt_or_gt_of_ne h
  · intro a b h; exact truncRat_mono (by simpa using h)

/-- **Truncation toward zero**: the integer reported for a number lies between zero and the number and
is less than one away from it. -/
theorem trunc_toward_zero (q : Rat) :
    (0 ≤ q → 0 ≤ truncRat q ∧ (truncRat q : Rat) ≤ q ∧ q < truncRat q + 1) ∧
    (q ≤ 0 → truncRat q ≤ 0 ∧ q ≤ (truncRat q : Rat) ∧ (truncRat q : Rat) - 1 < q) := by
  constructor
  · intro h
    rw [truncRat_of_nonneg h]
    exact ⟨Int.floor_nonneg.mpr h, Int.floor_le q, Int.lt_floor_add_one q⟩
  · intro h
    rw [truncRat_of_nonpos h]
    exact ⟨Int.ceil_le.mpr (by simpa using h), Int.le_ceil q, sub_lt_iff_lt_add.mpr (Int.ceil_lt_add_one q)⟩

/-- **Instants** (epoch seconds, reported as they are) and **text** (byte-lexicographic order of the
UTF-8 encodings, which is Python's code-point order) are ordered as required. -/
theorem instants_and_text_ordered :
    TotalPreorder intLe ∧ StrictTotal intLt ∧ Monotone intLe id ∧
    TotalPreorder strLe ∧ StrictTotal strLt := by
  unfold intLe intLt strLe strLt
  refine ⟨⟨?_, ?_⟩, ⟨?_, ?_⟩, ?_, ⟨?_, ?_⟩, ⟨?_, ?_⟩⟩
  · intro a b; simp only [decide_eq_true_eq]; exact Int.le_total a b
  · intro a b c; simp only [decide_eq_true_eq]; exact Int.le_trans
  · intro a b; simp only [decide_eq_true_eq, decide_eq_false_iff_not]; exact Int.lt_asymm
  · intro a b; simp only [decide_eq_true_eq]; exact Int.lt_or_gt_of_ne
  · intro a b; exact of_decide_eq_true
  · intro a b; simp only [bytesLe_iff]; exact List.le_total _ _
  · intro a b c; simp only [bytesLe_iff]; exact List.le_trans
  · intro a b h
    exact Bool.eq_false_iff.mpr (fun h' => List.lt_asymm ((bytesLt_iff _ _).mp h) ((bytesLt_iff _ _).mp h'))
  · intro a b h
    have hne : utf8Bytes a ≠ utf8Bytes b := fun e => h (utf8Bytes_inj e)
    simp only [bytesLt_iff]
    rcases List.le_total (utf8Bytes a) (utf8Bytes b) with h1 | h1
    · exact Or.inl ((List.le_iff_lt_or_eq.mp h1).resolve_right hne)
    · exact Or.inr ((List.le_iff_lt_or_eq.mp h1).resolve_right hne.symm)

/-- **The text key is monotone**: `string_to_int64` as it stands in the source — the first
`keySliceWidth` UTF-8 *bytes* (`keySliceOnBytes`), NUL padded to the same width, read big endian, through
the generated clamp — never decreases along the text order.  (On the pinned tree the window was cut from
characters and padded with four NULs; this theorem does not hold of that shape.) -/
theorem text_key_monotone : Monotone strLe stringToInt64 := by
  intro a b h
  have hw : ∀ s, keyWindow s = (utf8Bytes s).take 8 ++ List.replicate (8 - ((utf8Bytes s).take 8).length) 0 := by
    intro s; rfl
  have hbe : Gen.ProfileExpr.keyBigEndian = true := rfl
  unfold stringToInt64
  simp only [hw, hbe, if_true, beVal_window]
  have hk := keyVal_mono 8 _ _ (utf8Bytes_lt a) ((bytesLe_iff _ _).mp h)
  have hk' : (Int.ofNat (keyVal 8 (utf8Bytes a))) ≤ Int.ofNat (keyVal 8 (utf8Bytes b)) := Int.ofNat_le.mpr hk
  unfold Gen.ProfileExpr.keyClamp
  -- a clamp is monotone: below the bound the larger key decides, above it the bound does
  by_cases hb : Int.ofNat (keyVal 8 (utf8Bytes b)) ≤ Int.ofNat Gen.Profile.maxInt64
  · rw [if_pos hb, if_pos (Int.le_trans hk' hb)]
    exact hk'
  · rw [if_neg hb]
    split
    · assumption
    · exact Int.le_refl _

/-- Additivity and batching for number columns as the driver instantiates them, with no hypothesis left. -/
theorem numeric_additive (a b : List (Option Rat)) (xs : List (Option Rat)) (hne : xs ≠ []) :
    core ratLe truncRat (a ++ b) = addCore (core ratLe truncRat a) (core ratLe truncRat b) ∧
    batched (core ratLe truncRat) Gen.Profile.batchSize xs = some (core ratLe truncRat xs) :=
  ⟨add_core _ _ numbers_ordered.1 numbers_ordered.2.2 a b,
   batched_eq_whole _ (add_core _ _ numbers_ordered.1 numbers_ordered.2.2) xs hne⟩

/-- **Additivity and batching for text columns**, with no hypothesis left: the core `VarcharProfiler`
reports (extremes of the cut values through `string_to_int64`) of a concatenation is the sum of the cores
of the batches, and `from_dataframe`'s fold over batches of `batchSize` rows gives the core of the whole
column. -/
theorem text_additive (p : Ops String) (hle : p.le = strLe) (hkey : p.key = stringToInt64)
    (a b : List (Option String)) (xs : List (Option String)) (hne : xs ≠ []) :
    (profileText p cutText (a ++ b)).core
      = addCore (profileText p cutText a).core (profileText p cutText b).core ∧
    batched (fun c => (profileText p cutText c).core) Gen.Profile.batchSize xs
      = some (profileText p cutText xs).core := by
  have hadd : ∀ a b : List (Option String), (profileText p cutText (a ++ b)).core
      = addCore (profileText p cutText a).core (profileText p cutText b).core := by
    intro a b
    rw [(profilers_wiring p cutText (a ++ b)).2.2.1, (profilers_wiring p cutText a).2.2.1,
      (profilers_wiring p cutText b).2.2.1, List.map_append, hle, hkey]
    exact add_core _ _ instants_and_text_ordered.2.2.2.1 text_key_monotone _ _
  exact ⟨hadd a b, batched_eq_whole _ hadd xs hne⟩

/-! ## temporal cells: "instants as epoch seconds" (`DateProfiler`, `Model/ProfileTime.lean`) -/

/-- Non-vacuity: the last microsecond of year 9999, the first second of year 1 seen from UTC+05:30, a pandas
Timestamp of microsecond resolution beyond 64-bit nanoseconds are covered cells; and the conversion with the
chains of the repaired tree (written out here, so that this example never depends on the source) reports the
epoch seconds of a column holding them, a null, a `datetime64[D]` before the epoch and the microsecond after
1969-12-31T23:59:59. -/
example :
    (DateCell.civil ⟨9999, 12, 31, 23, 59, 59, 999999⟩ 0).inRange ∧
    (DateCell.civil ⟨1, 1, 1, 5, 30, 0, 0⟩ 330).inRange ∧
    (DateCell.stamp .us 253402300799999999).inRange ∧
    dateSecondsWith [.dt .s, .i64] [.i64, .dt .ns, .dt .s, .i64] ["AttributeError", "OverflowError"] (-9223372036854775808)
        [some (.civil ⟨9999, 12, 31, 23, 59, 59, 999999⟩ 0), none, some (.civil ⟨1, 1, 1, 5, 30, 0, 0⟩ 330),
        some (.stamp .us 253402300799999999), some (.ticks .D (-1)), some (.civil ⟨1969, 12, 31, 23, 59, 59, 1⟩ 0)]
      = .ok [some 253402300799, none, some (-62135596800), some 253402300799, some (-86400), some (-1)] := by
  refine ⟨⟨by decide, by decide, by decide⟩, ⟨by decide, by decide, by decide⟩, ⟨by decide, by decide⟩, by rfl⟩

set_option linter.unusedSimpArgs false in
/-- **The conversions of `DateProfiler` as they stand in the source.**  The general path
(`numpy.array(column_data, dtype=…)` and the `.astype(…)` calls that follow: `datePlainChain`) leaves the whole
seconds of every instant within a day of year 1..9999; the pandas path (`datePandasChain`) leaves the whole
seconds of every `.value` a Timestamp can have; both exceptions `.value` can raise lead to the general path
(`dateFallbackCaught`); the null sentinel is not a second of that range.  (A nanosecond intermediate on the
general path — `dtype="datetime64[ns]"` — wraps outside 1677..2262 and this theorem stops checking; so does a
minute or millisecond target, an uncaught `OverflowError`, a sentinel of 0.) -/
theorem date_conversion_expressions :
    (∀ t, instantLo ≤ t → t < instantHi → runChain Gen.ProfileTime.datePlainChain t = t / 1000000000) ∧
    (∀ v, -9223372036854775808 ≤ v → v ≤ 9223372036854775807 →
      runChain Gen.ProfileTime.datePandasChain v = v / 1000000000) ∧
    Gen.ProfileTime.dateFallbackCaught.contains "OverflowError" = true ∧
    Gen.ProfileTime.dateFallbackCaught.contains "AttributeError" = true ∧
    (Gen.ProfileTime.dateSentinel < -62135596800 - 86400 ∨ 253402300799 + 86400 ≤ Gen.ProfileTime.dateSentinel) := by
  refine ⟨?_, ?_, by decide, by decide, by decide⟩
  -- Both chains are unfolded, whatever they are, and the arithmetic left to `omega`: a chain that computes the same
  -- by other steps (`datetime64[us]`, then `[s]`) must still check.  Hence `recast` among the equations, which the
  -- general chain as it stands does not need.
  · -- seconds from the start: the only 64-bit value in flight is the seconds themselves
    intro t h1 h2
    unfold instantLo at h1
    unfold instantHi at h2
    simp only [Gen.ProfileTime.datePlainChain, runChain, List.foldl, castFirst, castStep, recast, TUnit.nanos, wrap64]
    omega
  · -- `.value` fits 64 bits as it is handed over; from nanoseconds to seconds is a floor
    intro v h1 h2
    simp only [Gen.ProfileTime.datePandasChain, runChain, List.foldl, castFirst, castStep, recast, TUnit.nanos,
      wrap64_id v h1 h2]
    omega

/-- **Instants as epoch seconds, for every date-time of year 1..9999.**  Whatever mixture of `date`,
`datetime` (naive or with a UTC offset), `numpy.datetime64` and `pandas.Timestamp` cells and nulls a DATE /
TIMESTAMP column holds, in any order and of any length: `DateProfiler` does not raise, a null stays a null,
and every other cell is handed to the numeric profiler as the whole seconds elapsed since 1970-01-01T00:00:00Z
(floor of the exact instant). -/
theorem temporal_epoch_seconds (cells : List (Option DateCell)) (h : ∀ c ∈ present cells, c.inRange) :
    dateSeconds cells = .ok (cells.map (Option.map DateCell.trueSeconds)) := by
  obtain ⟨h1, h2, h3, h4, h5⟩ := date_conversion_expressions
  exact dateSecondsWith_spec _ _ _ _ h1 h2 h3 h4 h5 cells h

/-- **What "epoch seconds" are**, in exact integer arithmetic (the calendar of C08): for a valid calendar
date-time of year 1..9999 at UTC offset `off` minutes, the days since 1970-01-01 by CPython's proleptic
Gregorian ordinal, times 86400, plus the time of day, minus the offset — microseconds floored away; naive
date-times lie within 0001-01-01T00:00:00 (−62135596800) .. 9999-12-31T23:59:59 (253402300799).  A
`datetime64` / Timestamp of `n` seconds is `n`, of `n` days `86400·n`, of `n` nanoseconds `⌊n/10⁹⌋`. -/
theorem calendar_epoch_seconds (dt : Iso.DateTime) (off : Int) (h : Iso.validDateTime dt = true) :
    (DateCell.civil dt off).trueSeconds
      = ((Iso.toOrdinal dt.year dt.month dt.day : Int) - 719163) * 86400
        + dt.hour * 3600 + dt.minute * 60 + dt.second - 60 * off ∧
    -62135596800 ≤ (DateCell.civil dt 0).trueSeconds ∧ (DateCell.civil dt 0).trueSeconds ≤ 253402300799 ∧
    (∀ n : Int, (DateCell.ticks .s n).trueSeconds = n ∧ (DateCell.ticks .D n).trueSeconds = 86400 * n ∧
      (DateCell.stamp .ns n).trueSeconds = n / 1000000000) := by
  have h0 : (DateCell.civil dt 0).trueSeconds = Iso.toEpoch dt := by
    rw [civil_trueSeconds dt 0 h, Int.mul_zero, Int.sub_zero]
  rw [h0]
  refine ⟨?_, (toEpoch_range dt h).1, (toEpoch_range dt h).2, ?_⟩
  · rw [civil_trueSeconds dt off h]; rfl
  · intro n
    simp only [DateCell.trueSeconds, DateCell.instant, TUnit.nanos]
    refine ⟨Int.mul_ediv_cancel n (by decide), ?_, by rw [Int.mul_one]⟩
    show n * (86400 * 1000000000) / 1000000000 = 86400 * n
    rw [← Int.mul_assoc, Int.mul_ediv_cancel _ (by decide), Int.mul_comm]

/-- **Temporal minimum and maximum are the true extremes, as epoch seconds** — the clause of the statement,
from the cells to the profile: for a column of covered cells `DateProfiler` reports count = rows, missing =
nulls, no extremes when every cell is null, and otherwise the epoch seconds of a cell no cell precedes and of
a cell no cell follows. -/
theorem temporal_extremes_epoch_seconds (p : Ops Int) (hle : p.le = intLe) (hkey : p.key = id)
    (cells : List (Option DateCell)) (h : ∀ c ∈ present cells, c.inRange) :
    ∃ prof, profileDateCells p cells = .ok prof ∧
      prof.core.count = cells.length ∧ prof.core.missing = cells.length - (present cells).length ∧
      (present cells = [] → prof.core.minimum = none ∧ prof.core.maximum = none) ∧
      (present cells ≠ [] → ∃ lo ∈ present cells, ∃ hi ∈ present cells,
        (∀ c ∈ present cells, lo.trueSeconds ≤ c.trueSeconds ∧ c.trueSeconds ≤ hi.trueSeconds) ∧
        prof.core.minimum = some lo.trueSeconds ∧ prof.core.maximum = some hi.trueSeconds) := by
  refine ⟨profileTemporal p (cells.map (Option.map DateCell.trueSeconds)), ?_, ?_, ?_, ?_, ?_⟩
  · simp only [profileDateCells, temporal_epoch_seconds cells h]; rfl
  all_goals rw [(profilers_wiring p id _).2.1, hle, hkey]
  · exact List.length_map _
  · simp only [core, coreFrom, present_map, List.length_map]
  · intro he
    exact (minmax_true intLe id instants_and_text_ordered.1 _).1 (by rw [present_map, he]; rfl)
  · intro hne
    obtain ⟨lo, hlo, hi, hhi, hall, hmin, hmax⟩ :=
      (minmax_true intLe id instants_and_text_ordered.1 (cells.map (Option.map DateCell.trueSeconds))).2
        (by rw [present_map]; exact fun e => hne (List.map_eq_nil_iff.mp e))
    rw [present_map] at hlo hhi hall
    obtain ⟨clo, hclo, rfl⟩ := List.mem_map.mp hlo
    obtain ⟨chi, hchi, rfl⟩ := List.mem_map.mp hhi
    refine ⟨clo, hclo, chi, hchi, fun c hc => ?_, hmin, hmax⟩
    obtain ⟨h1, h2⟩ := hall c.trueSeconds (List.mem_map_of_mem hc)
    exact ⟨of_decide_eq_true h1, of_decide_eq_true h2⟩

/-- **Why the intermediate unit matters**: a general path that builds `datetime64[ns]` first (both paths
through one nanosecond array) leaves the whole seconds of an instant *exactly when* the instant fits 64-bit
nanoseconds, 1677-09-21T00:12:43.145224192 .. 2262-04-11T23:47:16.854775807; the customary end-of-time date
9999-12-31 comes out as −4852202632 (1816-03-29), 1600-01-01 as a day of 2184. -/
theorem nanosecond_intermediate_exact_iff (t : Int) :
    runChain [.dt .ns, .dt .s, .i64] t = t / 1000000000
      ↔ (-9223372036854775808 ≤ t ∧ t ≤ 9223372036854775807) := by
  show wrap64 (t / 1) / (1000000000 / 1) = t / 1000000000 ↔ _
  rw [Int.ediv_one]
  constructor
  · intro h; unfold wrap64 at h; omega
  · intro h; rw [wrap64_id t h.1 h.2]; rfl

theorem nanosecond_intermediate_wraps :
    dateSecondsWith [.dt .ns, .dt .s, .i64] Gen.ProfileTime.datePandasChain Gen.ProfileTime.dateFallbackCaught
        Gen.ProfileTime.dateSentinel
        [some (.civil ⟨9999, 12, 31, 0, 0, 0, 0⟩ 0), some (.civil ⟨1600, 1, 1, 0, 0, 0, 0⟩ 0), some (.civil ⟨2021, 6, 1, 0, 0, 0, 0⟩ 0)]
      = .ok [some (-4852202632), some 6770648073, some 1622505600] ∧
    (DateCell.civil ⟨9999, 12, 31, 0, 0, 0, 0⟩ 0).trueSeconds = 253402214400 ∧
    (DateCell.civil ⟨1600, 1, 1, 0, 0, 0, 0⟩ 0).trueSeconds = -11676096000 := by
  refine ⟨by rfl, by rfl, by rfl⟩

/-! ## `TableProfile.__add__` around the column sums: a batch without rows -/

/-- **Adding the profile of a batch without rows** (a cut at 0 or at the end; the table profile of such a batch has
no columns, so `TableProfile.__add__` puts a stand-in `ColumnProfile(name, type, count, missing)` in its place — the
stand-in comes from the source, `Gen.ProfileTable`): with no rows on the right the sum of a column is the column's
own profile, with no rows on the left likewise (the columns only the right side has are kept), and with both
sides present it is `ColumnProfile.__add__` — in each case the profile of the concatenation.  (The pinned tree
used the rows of the *other* side for the stand-in and dropped the columns only the right side has:
`profile(rows) + profile(no rows)` doubled count and missing, `profile(no rows) + profile(rows)` had no columns.) -/
theorem table_add_expressions (le : α → α → Bool) (key : α → Int) (h : TotalPreorder le) (hm : Monotone le key)
    (a b : List (Option α)) :
    addColumnOpt a.length 0 (some (core le key a)) none = some (core le key (a ++ [])) ∧
    addColumnOpt 0 b.length none (some (core le key b)) = some (core le key ([] ++ b)) ∧
    addColumnOpt a.length b.length (some (core le key a)) (some (core le key b)) = some (core le key (a ++ b)) := by
  have hnil : core le key ([] : List (Option α)) = standIn (0, 0) := by
    simp [core, coreFrom, standIn, present, pickExtreme, minBy, maxBy]
  have ha := add_core le key h hm a []
  have hb := add_core le key h hm [] b
  rw [hnil] at ha hb
  have hk : Gen.ProfileTable.keepsRightOnly = true := rfl
  refine ⟨?_, ?_, ?_⟩
  · simp only [addColumnOpt, Gen.ProfileTable.rightMissing]
    rw [ha]
  · simp only [addColumnOpt, Gen.ProfileTable.leftMissing, hk, if_true]
    rw [hb]
  · simp only [addColumnOpt]; rw [add_core le key h hm a b]

/-! ## The glue: operands of a sum stay what they were; morsel profiles are matched up by column name -/

/-- **Morsel loop, generated key** (`Gen.ProfileGlue.accumulatorKey`, from `profiles[K]` in
`TableProfile.from_dataframe`): the accumulator of a column is found again in the next morsel whatever the identity of
the column object that morsel brings (same name ⇒ same key), two columns never share one (different names ⇒
different keys).  (Whether a column without cells is passed over — `Gen.ProfileGlue.skipsEmptyColumn` — does not matter
to the theorems below: `to_batches` yields no morsel without rows.) -/
theorem morsel_accumulator_expressions (c d : MCol α) :
    (c.name = d.name → keyOf Gen.ProfileGlue.accumulatorKey c = keyOf Gen.ProfileGlue.accumulatorKey d) ∧
    (c.name ≠ d.name → keyOf Gen.ProfileGlue.accumulatorKey c ≠ keyOf Gen.ProfileGlue.accumulatorKey d) := by
  refine ⟨fun h => ?_, fun h h' => ?_⟩
  · show Key.byName c.name = Key.byName d.name
    rw [h]
  · have h'' : Key.byName c.name = Key.byName d.name := h'
    exact h (Key.byName.inj h'')

/-- Non-vacuity of the morsel theorems: two morsels of a frame whose schema is a list of names — the loop makes new
column objects (identities 1, 2 then 3, 4) for each — end in one entry per column, the counts added up. -/
example :
    fromDataframe Gen.ProfileGlue.accumulatorKey Gen.ProfileGlue.skipsEmptyColumn (fun c : MCol Nat => c.data.length) (· + ·)
      [[⟨"a", 1, [some 0, none]⟩, ⟨"b", 2, [none, none]⟩], [⟨"a", 3, [some 5]⟩, ⟨"b", 4, [some 7]⟩]]
      = [(Key.byName "a", 3), (Key.byName "b", 3)] := by decide

/-- **Count = number of rows above the morsel size, for every way a frame is bound to its schema** (clause 1 through
`from_dataframe`'s loop).  For every number of morsels, every list of distinct column names and *any* identities of the
column objects the morsels bring (shared, as for a `RelationSchema`, or new in every morsel, as for a schema that is a
list of names): the loop ends with exactly one entry per column, in column order, and each entry holds the profiles of
that column's morsels added up in morsel order (`columnSums`). -/
theorem from_dataframe_one_entry_per_column (prof : MCol α → P) (add : P → P → P) (names : List String)
    (hn : names.Nodup) (m : List (MCol α)) (ms : List (List (MCol α)))
    (hshape : ∀ m' ∈ m :: ms, m'.map (·.name) = names)
    (hrows : ∀ m' ∈ m :: ms, ∀ c ∈ m', c.data ≠ []) :
    fromDataframe Gen.ProfileGlue.accumulatorKey Gen.ProfileGlue.skipsEmptyColumn prof add (m :: ms)
      = List.zipWith Prod.mk (names.map Key.byName) (columnSums prof add m ms) :=
  fromDataframe_by_name Gen.ProfileGlue.skipsEmptyColumn prof add names hn m ms hshape hrows

/-- … and the count of every entry is the number of rows of the frame: `rows m'` cells in every column of morsel
`m'`, no morsel without rows (`to_batches_expressions`). -/
theorem from_dataframe_counts_rows (rows : List (MCol α) → Nat) (names : List String)
    (hn : names.Nodup) (m : List (MCol α)) (ms : List (List (MCol α)))
    (hshape : ∀ m' ∈ m :: ms, m'.map (·.name) = names)
    (hcells : ∀ m' ∈ m :: ms, ∀ c ∈ m', c.data.length = rows m')
    (hpos : ∀ m' ∈ m :: ms, 0 < rows m') :
    fromDataframe Gen.ProfileGlue.accumulatorKey Gen.ProfileGlue.skipsEmptyColumn (fun c : MCol α => c.data.length) (· + ·) (m :: ms)
      = names.map (fun nm => (Key.byName nm, rows m + (ms.map rows).sum)) := by
  have hrows : ∀ m' ∈ m :: ms, ∀ c ∈ m', c.data ≠ [] := by
    intro m' hm' c hc hnil
    have h1 := hcells m' hm' c hc
    rw [hnil] at h1
    exact Nat.lt_irrefl _ (h1 ▸ hpos m' hm')
  rw [from_dataframe_one_entry_per_column _ _ names hn m ms hshape hrows]
  rw [columnSums_counts rows names.length m ms
    (fun m' hm' => by have := congrArg List.length (hshape m' hm'); simpa using this) hcells]
  apply List.ext_getElem (by simp)
  intro i h1 h2
  simp

/-- **What a key by identity does** (the seeded change C15-w6s3): the same two morsels of a frame whose schema is a
list of names, accumulators keyed by `column.identity` — no morsel profile is ever added to another: two entries per
column, each with the count of one morsel. -/
theorem identity_key_splits_morsels :
    fromDataframe KeyKind.identity true (fun c : MCol Nat => c.data.length) (· + ·)
      [[⟨"a", 1, [some 0, none]⟩], [⟨"a", 2, [some 5]⟩]] = [(Key.byIdent 1, 2), (Key.byIdent 2, 1)] ∧
    fromDataframe KeyKind.name true (fun c : MCol Nat => c.data.length) (· + ·)
      [[⟨"a", 1, [some 0, none]⟩], [⟨"a", 2, [some 5]⟩]] = [(Key.byName "a", 3)] := by decide

/-- **Operands of a sum are not changed** (additivity, the profiles being used again).  The histogram part of
`ColumnProfile.__add__` over a heap of list objects, with what the source copies **generated**
(`Gen.ProfileGlue.loadCopiesBins`: `distogram.load` makes its own list; `sumStartsFromCopy`: the sum starts from
`self.deep_copy()`; `sumCopiesOtherHistogram` may be either — a kept histogram that is shared but never written to is
harmless) and whatever `distogram.merge` writes into its first argument (`mrg`): no list that existed before the
addition — the operands' histograms among them — is changed, and the sum's histogram holds the merge into the longer
histogram, or the only histogram there is. -/
theorem sum_leaves_operands (mrg : β → β → β) (len : β → Nat) (h : Heap β) (self other : Nat)
    (hs : self < h.next) (ho : other < h.next) :
    let r := addHist Gen.ProfileGlue.loadCopiesBins Gen.ProfileGlue.sumStartsFromCopy
      Gen.ProfileGlue.sumCopiesOtherHistogram mrg len h self other
    (∀ q, q < h.next → r.2.get q = h.get q) ∧
    r.2.get r.1 = addHistSpec mrg len (h.get self) (h.get other) := by
  have := addHist_copies Gen.ProfileGlue.sumCopiesOtherHistogram mrg len h self other hs ho
  exact ⟨this.1.2, this.2.2⟩

/-- … so the same two profiles added a second time give the same histogram. -/
theorem sum_twice_same (mrg : β → β → β) (len : β → Nat) (h : Heap β) (self other : Nat)
    (hs : self < h.next) (ho : other < h.next) :
    let r1 := addHist Gen.ProfileGlue.loadCopiesBins Gen.ProfileGlue.sumStartsFromCopy
      Gen.ProfileGlue.sumCopiesOtherHistogram mrg len h self other
    let r2 := addHist Gen.ProfileGlue.loadCopiesBins Gen.ProfileGlue.sumStartsFromCopy
      Gen.ProfileGlue.sumCopiesOtherHistogram mrg len r1.2 self other
    r2.2.get r2.1 = r1.2.get r1.1 ∧ r2.2.get r1.1 = r1.2.get r1.1 := by
  obtain ⟨a, ar, av⟩ := addHist_copies Gen.ProfileGlue.sumCopiesOtherHistogram mrg len h self other hs ho
  obtain ⟨b, -, bv⟩ := addHist_copies Gen.ProfileGlue.sumCopiesOtherHistogram mrg len
    (addHist true true Gen.ProfileGlue.sumCopiesOtherHistogram mrg len h self other).2 self other
    (Nat.lt_of_lt_of_le hs a.1) (Nat.lt_of_lt_of_le ho a.1)
  rw [a.2 self hs, a.2 other ho, ← av] at bv
  exact ⟨bv, b.2 _ ar⟩

/-- **What a `load` that keeps the list does** (the seeded change C15-w6s1): two batches of one value each, merge =
"the bins of both"; after the addition the left operand's own histogram counts both batches, and the same two profiles
added again count one batch twice. -/
theorem aliased_load_changes_operand :
    let h : Heap (List (Int × Nat)) := { next := 2, get := fun r => if r = 0 then [(0, 1)] else if r = 1 then [(5, 1)] else [] }
    let r1 := addHist false true true (· ++ ·) List.length h 0 1
    let r2 := addHist false true true (· ++ ·) List.length r1.2 0 1
    r1.2.get r1.1 = [(0, 1), (5, 1)] ∧ r1.2.get 0 = [(0, 1), (5, 1)] ∧ h.get 0 = [(0, 1)] ∧
    r2.2.get r2.1 = [(0, 1), (5, 1), (5, 1)] := by decide

/-! ## The profiled window of a text value: characters, not bytes -/

/-- **The window of `VarcharProfiler` as it stands in the source** (generated: the unit of the cut — `col[:W]` slices
characters — and its width): the profiled part of a value is its first `textCutWidth` *characters*, whatever their
UTF-8 length.  So a value of at most that many characters is profiled whole, and two values that differ within their
first `textCutWidth` characters stay two values for the most-frequent list, the order and the transitions. -/
theorem text_window_expressions (s t : String) :
    Gen.ProfileExpr.textCutOnBytes = false ∧
    (cutText s).toList = s.toList.take Gen.ProfileExpr.textCutWidth ∧
    (s.toList.length ≤ Gen.ProfileExpr.textCutWidth → cutText s = s) ∧
    (s.toList.take Gen.ProfileExpr.textCutWidth ≠ t.toList.take Gen.ProfileExpr.textCutWidth → cutText s ≠ cutText t) := by
  have hu : Gen.ProfileExpr.textCutOnBytes = false := rfl
  have hc : ∀ u : String, (cutText u).toList = u.toList.take Gen.ProfileExpr.textCutWidth := by
    intro u
    simp [cutText, cutTextWith, hu]
  refine ⟨hu, hc s, ?_, ?_⟩
  · intro hl
    apply String.toList_injective
    rw [hc s, List.take_of_length_le hl]
  · intro hne heq
    exact hne (by rw [← hc s, ← hc t, heq])

/-- **Counterexample: a window of bytes folds different values** (`encode()[:W].decode(errors="ignore")` in place of
`[:W]`): with a window of 4, the three-letter Greek words `αβγ` and `αβδ` (6 bytes each) are both cut to `αβ`, although
they have no more than 4 characters and differ within them; the window of characters keeps them apart. -/
theorem byte_window_folds_values :
    takeBytes 4 ['α', 'β', 'γ'] = ['α', 'β'] ∧ takeBytes 4 ['α', 'β', 'δ'] = ['α', 'β'] ∧
    ['α', 'β', 'γ'].take 4 ≠ ['α', 'β', 'δ'].take 4 ∧ ['α', 'β', 'γ'].length ≤ 4 := by
  decide

/-! ## `column_names` through `single_item_cache`: every frame is answered with its own names -/

/-- **A single-item cache is transparent when equal arguments have equal results**: for any set `S` of arguments on which
`eq a b = true` implies `f a = f b`, every sequence of calls with arguments from `S`, from any entry that is itself a
computed result, is answered as if the function were called each time. -/
theorem single_item_cache_transparent {σ τ : Type} (eq : σ → σ → Bool) (f : σ → τ) (S : σ → Prop)
    (h : ∀ a b, S a → S b → eq a b = true → f a = f b) :
    ∀ (as : List σ) (e : Option (σ × τ)), (∀ a ∈ as, S a) → (∀ p, e = some p → S p.1 ∧ p.2 = f p.1) →
      cachedCalls eq f e as = as.map f := by
  intro as
  induction as with
  | nil => intro e _ _; rfl
  | cons a as ih =>
    intro e hS he
    obtain ⟨hSa, hrest⟩ := List.forall_mem_cons.mp hS
    have hnew : ∀ p, some (a, f a) = some p → S p.1 ∧ p.2 = f p.1 := fun p hp => by cases hp; exact ⟨hSa, rfl⟩
    cases e with
    | none => exact congrArg (f a :: ·) (ih _ hrest hnew)
    | some p =>
      obtain ⟨a0, r0⟩ := p
      obtain ⟨hS0, hr0⟩ := he (a0, r0) rfl
      by_cases hq : eq a0 a = true
      · simp only [cachedCalls, cachedCall, hq, if_true, List.map_cons]
        rw [ih _ hrest he, show r0 = f a from hr0.trans (h a0 a hS0 hSa hq)]
      · simp only [cachedCalls, cachedCall, hq, Bool.false_eq_true, if_false, List.map_cons]
        rw [ih _ hrest hnew]

/-- **`DataFrame.column_names` answers every frame with its own names** — with the cache and the equality of frames as
they stand in the source (generated: `column_names` is wrapped in `single_item_cache`; the class defines no `__eq__`,
so two frames are equal only when they are one object): for any sequence of frame objects, holding whatever rows (equal
rows included), in which one object has one list of names. -/
theorem column_names_of_own_frame {ρ ν : Type} [DecidableEq ρ] (fs : List (FrameObj ρ ν))
    (hobj : ∀ x ∈ fs, ∀ y ∈ fs, x.obj = y.obj → x.names = y.names) :
    columnNamesAnswers Gen.ProfileGlue.columnNamesCached Gen.ProfileGlue.frameEqIsIdentity fs = fs.map (·.names) := by
  have hid : Gen.ProfileGlue.frameEqIsIdentity = true := rfl
  unfold columnNamesAnswers
  split
  · refine single_item_cache_transparent _ _ (· ∈ fs) ?_ fs none (fun a ha => ha) (by intro p hp; cases hp)
    intro a b ha hb hq
    simp only [frameEq, hid, Bool.not_true, Bool.false_and, Bool.or_false, decide_eq_true_eq] at hq
    exact hobj a ha b hb hq
  · rfl

/-- **Counterexample: frames that compare equal by their rows** (a `DataFrame.__eq__` in step with `__hash__`): two frame
objects holding the same rows, their columns named `[0, 1]` and `[1, 0]` — the second is answered with the first one's
names (and so every column of its profile is computed from the cells of the other column); by identity each gets its
own. -/
theorem rows_equality_serves_another_frames_names :
    let a : FrameObj Nat Nat := ⟨1, [10, 20], [0, 1]⟩
    let b : FrameObj Nat Nat := ⟨2, [10, 20], [1, 0]⟩
    columnNamesAnswers true false [a, b, a] = [[0, 1], [0, 1], [0, 1]] ∧
    columnNamesAnswers true true [a, b, a] = [[0, 1], [1, 0], [0, 1]] := by
  decide

end C15
