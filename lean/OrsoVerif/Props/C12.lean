import OrsoVerif.Model.GroupBy
import OrsoVerif.Lemmas.GroupBy
import OrsoVerif.Generated.GroupBy
import OrsoVerif.Model.GroupByCode
import OrsoVerif.Lemmas.GroupByCode
import OrsoVerif.Model.GroupByX
import OrsoVerif.Lemmas.GroupByX
import OrsoVerif.Model.GroupByEq
import OrsoVerif.Lemmas.GroupByEq
import OrsoVerif.Lemmas.GroupBySession
import OrsoVerif.Lemmas.Basics
/-!
# C12 — GroupBy aggregates equal a reference partition-and-fold

`aggregate` is the model of the code's single pass over emitted `(group, column, value)` triples
(`Model/GroupBy.lean`); `reference`, `members`, `nonNull`, `groupKeys` are the partition-and-fold
specification.  The first part holds for every row type, every key type with decidable equality (no
hash anywhere), every frame, key function and non-empty request list, repeats of a column included.
Then: float value columns, the program read from the source (`GroupByCode.source`), keys that are
equal without being written alike, the containers `_map` keeps the column positions in.
-/
namespace C12
open GroupBy

variable {ρ κ : Type} [DecidableEq κ]

/-- **Source tie.**  Every aggregate function of the model is a key of `AGGREGATORS` (order and
additional keys are immaterial), and `_map` keys a group by the tuple of its key values, not by a
hash of it.  Stops compiling when one of the five keys disappears or that line goes back to `hash`. -/
theorem aggregator_table :
    (∀ f ∈ Func.all, f.name ∈ Gen.GroupBy.aggregatorKeys)
    ∧ Gen.GroupBy.groupKeyIsTuple = true := by decide +kernel

/-- **Partition.**  The groups are keyed by a duplicate-free list of keys; a key is listed iff some
row has it; every row lies in the group of its own key and in no other; the group sizes add up to
the number of rows. -/
theorem partition (keyOf : ρ → κ) (rows : List ρ) :
    (groupKeys keyOf rows).Nodup
    ∧ (∀ k, k ∈ groupKeys keyOf rows ↔ ∃ r ∈ rows, keyOf r = k)
    ∧ (∀ r ∈ rows, ∀ k, r ∈ members keyOf rows k ↔ k = keyOf r)
    ∧ ((groupKeys keyOf rows).map fun k => (members keyOf rows k).length).sum = rows.length := by
  refine ⟨nodup_firstSeen _, fun k => mem_groupKeys, ?_, ?_⟩
  · intro r hr k
    simp only [members, List.mem_filter, decide_eq_true_eq, hr, true_and]
    exact eq_comm
  · apply sum_members_length keyOf (nodup_firstSeen _)
    intro r hr
    exact mem_groupKeys.mpr ⟨r, hr, rfl⟩

/-- **The single pass is partition-and-fold.**  For every non-empty
request list the code's pass — collect each distinct column once, append non-null values per
(group, column), fold every request — yields exactly one entry per distinct key, in order of first
occurrence, holding each request folded over the non-null values of that key's rows. -/
theorem aggregate_spec (keyOf : ρ → κ) (cell : ρ → String → Option Int) (rows : List ρ)
    (reqs : List Req) (h : reqs ≠ []) :
    aggregate keyOf cell rows reqs = reference keyOf cell rows reqs :=
  pass_eq_reference fold keyOf cell rows h

/-- **The folds are the usual aggregates** (the `fold` of `aggregate_spec`): over the list `vs` of a
group's non-null values, COUNT is the length, SUM the sum, AVG the exact quotient sum/length, MIN a
member below all members, MAX a member above all members; on no values COUNT is 0 and the others
null. -/
theorem fold_spec (vs : List Int) :
    fold .count vs = .int vs.length
    ∧ fold .sum vs = (if vs = [] then .null else .int vs.sum)
    ∧ fold .avg vs = (if vs = [] then .null else .ratio vs.sum vs.length)
    ∧ (∀ m, fold .min vs = .int m ↔ m ∈ vs ∧ ∀ x ∈ vs, m ≤ x)
    ∧ (∀ m, fold .max vs = .int m ↔ m ∈ vs ∧ ∀ x ∈ vs, x ≤ m)
    ∧ (fold .min vs = .null ↔ vs = []) ∧ (fold .max vs = .null ↔ vs = []) := by
  refine ⟨rfl, fold_sum_eq vs, fold_avg_eq vs, ?_, ?_, ?_, ?_⟩
  · intro m
    rw [← least_eq_some_iff]
    cases h : least vs <;> simp [fold, h]
  · intro m
    rw [← greatest_eq_some_iff]
    cases h : greatest vs <;> simp [fold, h]
  · rw [← least_eq_none_iff]
    cases h : least vs <;> simp [fold, h]
  · rw [← greatest_eq_none_iff]
    cases h : greatest vs <;> simp [fold, h]

/-- **COUNT(\*) is the group size.**  A column that is non-null in every row (the `*` pseudo column
is) counts the rows of the group, and these counts add up to the size of the frame. -/
theorem count_star (keyOf : ρ → κ) (cell : ρ → String → Option Int) (rows : List ρ) (c : String)
    (hstar : ∀ r ∈ rows, (cell r c).isSome) :
    aggregate keyOf cell rows [(.count, c)] =
      (groupKeys keyOf rows).map (fun k => (k, [Agg.int (members keyOf rows k).length])) := by
  rw [aggregate_spec keyOf cell rows _ (by simp)]
  unfold reference
  apply List.map_congr_left
  intro k _
  show (k, [Agg.int (nonNull cell (members keyOf rows k) c).length]) = _
  rw [nonNull_length, List.filter_eq_self.mpr fun r (hr : r ∈ members keyOf rows k) =>
    hstar r (List.mem_filter.mp hr).1]

/-- **Distinct keys are never merged.**  The output has one entry per distinct key, and the entry of
key `k` is what the frame made of `k`'s rows alone would give: rows with any other key — whatever
their hashes — have no influence on it. -/
theorem distinct_keys_never_merged (keyOf : ρ → κ) (cell : ρ → String → Option Int) (rows : List ρ)
    (reqs : List Req) (h : reqs ≠ []) :
    ((aggregate keyOf cell rows reqs).map (·.1)).Nodup
    ∧ (∀ k, k ∈ (aggregate keyOf cell rows reqs).map (·.1) ↔ ∃ r ∈ rows, keyOf r = k)
    ∧ ∀ k, k ∈ groupKeys keyOf rows →
        (aggregate keyOf cell rows reqs).lookup k
          = (aggregate keyOf cell (members keyOf rows k) reqs).lookup k := by
  have hkeys : (aggregate keyOf cell rows reqs).map (·.1) = groupKeys keyOf rows := by
    rw [aggregate_spec keyOf cell rows reqs h, reference_keys]
  refine ⟨by rw [hkeys]; exact nodup_firstSeen _, fun k => by rw [hkeys]; exact mem_groupKeys, ?_⟩
  intro k hk
  rw [aggregate_spec keyOf cell rows reqs h, aggregate_spec keyOf cell _ reqs h]
  unfold reference
  have hk' : k ∈ groupKeys keyOf (members keyOf rows k) := by
    obtain ⟨r, hr, hrk⟩ := mem_groupKeys.mp hk
    exact mem_groupKeys.mpr ⟨r, List.mem_filter.mpr ⟨hr, by simp [hrk]⟩, hrk⟩
  rw [lookup_map_self _ _ hk, lookup_map_self _ _ hk', members_members]

/-- **Requests are independent.**  The row of a group under a request list is the concatenation of
what each request yields for that group when it is asked alone — so the value of `FUNC(col)` does
not depend on which other requests accompany it, repeats of the same column included. -/
theorem requests_independent (keyOf : ρ → κ) (cell : ρ → String → Option Int) (rows : List ρ)
    (reqs : List Req) (h : reqs ≠ []) :
    aggregate keyOf cell rows reqs =
      (groupKeys keyOf rows).map fun k =>
        (k, reqs.flatMap fun q => ((aggregate keyOf cell rows [q]).lookup k).getD []) := by
  rw [aggregate_spec keyOf cell rows reqs h]
  unfold reference
  apply List.map_congr_left
  intro k hk
  congr 1
  have : ∀ q : Req, ((aggregate keyOf cell rows [q]).lookup k).getD []
      = [fold q.1 (nonNull cell (members keyOf rows k) q.2)] := by
    intro q
    rw [aggregate_spec keyOf cell rows [q] (by simp)]
    unfold reference
    rw [lookup_map_self _ _ hk]
    rfl
  simp only [this]
  exact List.map_eq_flatMap

/-- **Row order does not matter** (beyond output order): permuting the rows permutes the output
entries and changes no key and no value. -/
theorem perm_invariant (keyOf : ρ → κ) (cell : ρ → String → Option Int) (rows rows' : List ρ)
    (reqs : List Req) (h : reqs ≠ []) (hp : rows.Perm rows') :
    (aggregate keyOf cell rows reqs).Perm (aggregate keyOf cell rows' reqs) := by
  rw [aggregate_spec keyOf cell rows reqs h, aggregate_spec keyOf cell rows' reqs h]
  exact reference_perm fold keyOf cell reqs hp fun q _ k =>
    fold_perm q.1 (nonNull_members_perm keyOf cell hp k q.2)

/-- **`groups()`** lists the distinct keys, once each, in order of first occurrence. -/
theorem groups_spec (keyOf : ρ → κ) (rows : List ρ) :
    groupsOf keyOf rows = groupKeys keyOf rows := by
  unfold groupsOf
  exact firstSeen_emit_keys keyOf _ (by simp) rows

/-- **Requests one at a time on one object.**  `_group_keys` persists on a
`GroupBy` object and is never reset; the value map is a local of each call.  For every frame and
every finite sequence of calls (`aggregate` with any request lists — the wrappers included —, and
`groups()`, in any order, repeats included) on one object, every result equals the result of that
call alone on a fresh object.  (The state behind it is `GroupBy.stepS_eq`: after every call
`_group_keys` holds exactly the distinct keys of the frame.) -/
theorem sequence_independent (keyOf : ρ → κ) (cell : ρ → String → Option Int) (rows : List ρ)
    (ops : List Op) :
    runS keyOf cell rows [] ops = ops.map fun op => (stepS keyOf cell rows [] op).2 :=
  runS_eq keyOf cell rows ops rfl

/-- The result of an `aggregate` call in a sequence is the partition-and-fold reference, and
`groups()` at any point lists the distinct keys. -/
theorem sequence_spec (keyOf : ρ → κ) (cell : ρ → String → Option Int) (rows : List ρ) (op : Op) :
    (stepS keyOf cell rows [] op).2 =
      match op with
      | .aggregate reqs => .table (aggregate keyOf cell rows reqs)
      | .groups => .keys (groupKeys keyOf rows) := by
  cases op with
  | aggregate reqs => rfl
  | groups => exact congrArg Out.keys (groups_spec keyOf rows)

/-- **Use, mutate, use again.**  A `GroupBy` object holds a reference to its frame, and
`_group_keys` is never reset.  For every history of calls on one object (`aggregate` with any request
lists, the wrappers, `groups()`) with rows appended to the frame in between (`DataFrame.append`),
every call returns what it returns alone on a fresh object of the frame as it is at the time of the
call: the keys registered when the frame was shorter are a prefix of the keys of the longer frame,
in the same order, so nothing stale survives. -/
theorem sequence_with_appends (keyOf : ρ → κ) (cell : ρ → String → Option Int) (rows : List ρ)
    (ops : List (OpA ρ)) :
    runSA keyOf cell rows [] ops = aloneA keyOf cell rows ops :=
  runSA_eq_aloneA keyOf cell ops rows [] rfl

/-- **Layout of a result row**: when the labels and the key column names are pairwise distinct, the
header is the `FUNC(column)` labels in request order followed by the key columns, and every row is
the aggregates followed by the key values. -/
theorem layout (keyCols : List String) (reqs : List Req) (k : List PyVal) (aggs : List Agg)
    (hnd : (reqs.map label ++ keyCols).Nodup) (hk : k.length = keyCols.length)
    (ha : aggs.length = reqs.length) :
    header keyCols reqs = reqs.map label ++ keyCols
    ∧ resultRow keyCols reqs k aggs = aggs.map Agg.toPyVal ++ k := by
  constructor
  · unfold header
    rw [dictOf_nodup]
    · simp [List.map_append, List.map_map, Function.comp_def]
    · simpa [List.map_append, List.map_map, Function.comp_def] using hnd
  · unfold resultRow
    have hz : ((reqs.zip aggs).map fun qa => (label qa.1, qa.2.toPyVal))
        = (reqs.map label).zip (aggs.map Agg.toPyVal) := (List.zip_map ..).symm
    have hl : (reqs.map label).length = (aggs.map Agg.toPyVal).length := by
      rw [List.length_map, List.length_map, ha]
    rw [hz, dictOf_nodup _ (by
      rw [List.map_append, List.map_fst_zip (Nat.le_of_eq hl), List.map_fst_zip (Nat.le_of_eq hk.symm)]
      exact hnd)]
    rw [List.map_append, List.map_snd_zip (Nat.le_of_eq hl.symm), List.map_snd_zip (Nat.le_of_eq hk)]

/-- **Frames.**  On a frame whose key columns all exist, with labels and key column names pairwise
distinct, `group_by(keyCols).aggregate(reqs)` returns the header `FUNC(column)… , key columns…` and,
for every distinct key tuple in first-occurrence order, the reference aggregates followed by the key
values.  (Total: the empty frame gives the header and no rows.) -/
theorem run_spec (fr : Frame) (keyCols : List String) (reqs : List Req) (idx : List Nat)
    (h : reqs ≠ []) (hidx : keyCols.mapM (fun c => index c fr.columns) = some idx)
    (hnd : (reqs.map label ++ keyCols).Nodup) :
    run fr keyCols reqs = .ok (reqs.map label ++ keyCols,
      (reference (keyAt idx) (cellOf fr.columns) fr.rows reqs).map fun ka =>
        ka.2.map Agg.toPyVal ++ ka.1) := by
  unfold run
  rw [hidx]
  simp only
  have hlen := List.length_of_mapM_eq_some hidx
  rw [aggregate_spec _ _ _ _ h]
  congr 2
  · exact (layout keyCols reqs (idx.map fun _ => PyVal.none) (reqs.map fun _ => Agg.null) hnd
      (by simp [hlen]) (by simp)).1
  · apply List.map_congr_left
    intro ka hka
    unfold reference at hka
    obtain ⟨k, hk, rfl⟩ := List.mem_map.mp hka
    obtain ⟨r, _, hr⟩ := mem_groupKeys.mp hk
    exact (layout keyCols reqs _ _ hnd (by rw [← hr]; simp [keyAt, hlen]) (by simp)).2

/-- A key column that is not in the frame is refused, whatever the rows and requests. -/
theorem run_missing_key (fr : Frame) (keyCols : List String) (reqs : List Req)
    (hidx : keyCols.mapM (fun c => index c fr.columns) = none) :
    run fr keyCols reqs = .error .valueError := by
  unfold run
  rw [hidx]

/-- **Dict collapse.**  A Python dict built by successive assignments — the result row of
group_by.py:149-153 is one — has every assigned name once, in order of first assignment, and holds
under each name the value assigned last.  No distinctness assumption. -/
theorem dict_collapse {β : Type} (kvs : List (String × β)) :
    (dictOf kvs).map (·.1) = firstSeen (kvs.map (·.1))
    ∧ ((dictOf kvs).map (·.1)).Nodup
    ∧ ∀ k, dictGet (dictOf kvs) k = lastAssigned kvs k := by
  refine ⟨dictOf_keys kvs, ?_, dictGet_dictOf kvs⟩
  rw [dictOf_keys]
  exact nodup_firstSeen _

/-- **Layout with repeated names.**  For any request list and key columns — repeated identical
requests, a key column named twice, a key column named like a label — the header is the labels
followed by the key columns with every name kept at its first position only, and every cell of a
result row is the value most recently assigned under its column's name (labels in request order,
then key columns). -/
theorem layout_general (keyCols : List String) (reqs : List Req) (k : List PyVal) (aggs : List Agg) :
    header keyCols reqs = firstSeen (reqs.map label ++ keyCols)
    ∧ resultRow keyCols reqs k aggs =
        (firstSeen (((reqs.zip aggs).map fun qa => label qa.1) ++ (keyCols.zip k).map (·.1))).map fun name =>
          (lastAssigned (((reqs.zip aggs).map fun qa => (label qa.1, qa.2.toPyVal)) ++ keyCols.zip k) name).getD .none := by
  constructor
  · unfold header
    rw [dictOf_keys]
    simp [List.map_append, List.map_map, Function.comp_def]
  · unfold resultRow
    have hk := dictOf_keys (((reqs.zip aggs).map fun qa => (label qa.1, qa.2.toPyVal)) ++ keyCols.zip k)
    rw [map_snd_eq_map_get _ (by rw [hk]; exact nodup_firstSeen _) PyVal.none, hk]
    simp only [List.map_append, List.map_map, Function.comp_def]
    apply List.map_congr_left
    intro name _
    rw [dictGet_dictOf]

/-- Non-vacuity: colliding keys -1 / -2 stay apart, a column requested twice is counted once, an
all-null group keeps its row, and the reverse frame gives the same entries. -/
example :
    let rows : List (Int × Option Int) := [(-1, some 1), (-2, some 10), (-1, none), (7, none)]
    let reqs : List Req := [(.sum, "v"), (.max, "v"), (.count, "v"), (.count, "*"), (.avg, "v")]
    let cell := fun (r : Int × Option Int) (c : String) => if c = "v" then r.2 else some 0
    aggregate (·.1) cell rows reqs =
      [(-1, [.int 1, .int 1, .int 1, .int 2, .ratio 1 1]),
       (-2, [.int 10, .int 10, .int 1, .int 1, .ratio 10 1]),
       (7, [.null, .null, .int 0, .int 1, .null])] := by decide +kernel

/-- Non-vacuity on a frame of `PyVal` rows: a two-column key whose tuples collide in CPython. -/
example :
    (run { columns := ["k", "j", "v"],
           rows := [[.int 0, .str "a", .int 4], [.int 2305843009213693951, .str "a", .none],
                    [.int 0, .str "a", .int 6]] }
        ["k", "j"] [(.avg, "v"), (.count, "*")]).toOption
      = some (["AVG(v)", "COUNT(*)", "k", "j"],
             [[.list [.str "avg", .int 10, .int 2], .int 2, .int 0, .str "a"],
              [.none, .int 1, .int 2305843009213693951, .str "a"]]) := by decide +kernel

/-- Non-vacuity of the collapse: a request repeated verbatim and a key column named twice. -/
example :
    (run { columns := ["k", "v"], rows := [[.int (-1), .int 4], [.int (-2), .int 1], [.int (-1), .int 6]] }
        ["k", "k"] [(.sum, "v"), (.max, "v"), (.sum, "v")]).toOption
      = some (["SUM(v)", "MAX(v)", "k"], [[.int 10, .int 6, .int (-1)], [.int 1, .int 1, .int (-2)]]) := by decide +kernel

/-! ## What "beyond output order" and "as usually defined" mean, made precise -/

/-- **Output order.**  The output rows come in the order in which their keys first occur in the
frame; this is the only thing about the result that depends on the order of the input rows
(`perm_invariant`, `run_perm_invariant`). -/
theorem output_order (keyOf : ρ → κ) (cell : ρ → String → Option Int) (rows : List ρ)
    (reqs : List Req) (h : reqs ≠ []) :
    (aggregate keyOf cell rows reqs).map (·.1) = groupKeys keyOf rows := by
  rw [aggregate_spec keyOf cell rows reqs h, reference_keys]

/-- **Row order, at the level of frames**: for two frames with the same columns whose rows are a
permutation of each other, `group_by(keys).aggregate(reqs)` has the same header, the output rows of
one are a permutation of the output rows of the other (same keys, same aggregate values), and a
refused key column is refused for both. -/
theorem run_perm_invariant (fr fr' : Frame) (hc : fr.columns = fr'.columns) (hp : fr.rows.Perm fr'.rows)
    (keyCols : List String) (reqs : List Req) (h : reqs ≠ []) :
    match run fr keyCols reqs, run fr' keyCols reqs with
    | .ok r1, .ok r2 => r1.1 = r2.1 ∧ r1.2.Perm r2.2
    | .error e1, .error e2 => e1 = e2
    | _, _ => False := by
  unfold run
  rw [← hc]
  cases hidx : keyCols.mapM (fun c => index c fr.columns) with
  | none => simp
  | some idx =>
    simp only
    exact ⟨trivial, (perm_invariant (keyAt idx) (cellOf fr.columns) fr.rows fr'.rows reqs h hp).map _⟩

/-- **MIN and MAX are Python's `min` and `max`**: the model's `least` / `greatest` on integers are
the walk `min(values)` / `max(values)` does with the comparison `<` of the values. -/
theorem min_max_are_python_walks (vs : List Int) :
    least vs = leastBy (fun a b => decide (a < b)) vs
    ∧ greatest vs = leastBy (fun a b => decide (b < a)) vs :=
  ⟨least_eq_leastBy vs, greatest_eq_leastBy vs⟩

section
variable {α : Type} (lt : α → α → Bool)

/-- **What MIN / MAX demand of the values, 1.**  Over any strict partial order — whatever kind of
value the column holds — Python's walk returns a member of the group with no member below it. -/
theorem min_of_partial_order_is_minimal (hirr : ∀ a, lt a a = false)
    (htr : ∀ a b c, lt a b = true → lt b c = true → lt a c = true) (vs : List α) (m : α)
    (h : leastBy lt vs = some m) : m ∈ vs ∧ ∀ x ∈ vs, lt x m = false :=
  leastBy_minimal lt hirr htr h

/-- **What MIN / MAX demand of the values, 2.**  When the comparison is moreover total on the values
of the group (numbers without NaN, texts, booleans, Decimals — not NaN, not values of different
kinds; only the values that occur need to be comparable) that member is unique and the result does
not depend on the order of the rows.  Totality is needed: the example below is a float column with
a NaN. -/
theorem min_of_total_order_ignores_row_order (hirr : ∀ a, lt a a = false)
    (htr : ∀ a b c, lt a b = true → lt b c = true → lt a c = true) {vs ws : List α}
    (htot : ∀ a ∈ vs, ∀ b ∈ vs, a ≠ b → lt a b = true ∨ lt b a = true) (hp : vs.Perm ws) :
    leastBy lt vs = leastBy lt ws :=
  leastBy_perm lt hirr htr htot hp
end

/-- A float column with a NaN (`none`; every comparison with it is false — a strict partial order
that is not total): `min` depends on the order of the rows.  The property's "MIN, MAX as usually
defined" and "does not depend on the order of the input rows" can therefore only be asked of value
columns on which `<` is total; the harness keeps NaN out of the judged value columns and records
what orso does with them (`outside-domain:…` in the evidence). -/
example :
    let lt : Option Nat → Option Nat → Bool := fun a b => match a, b with | some x, some y => x < y | _, _ => false
    leastBy lt [none, some 1] = some none ∧ leastBy lt [some 1, none] = some (some 1) := by decide +kernel

/-! ## Float value columns: the infinities, NaN, the negative zero

The statement folds "that group's non-null values".  A NaN is a value, not a null: `COUNT` counts it,
`SUM` and `AVG` of a group that holds one are NaN (`Model/GroupByX.lean`).  The theorems of this
section are the property on frames whose value cells are floats `XVal` = a finite number | `inf` |
`-inf` | `nan` (the negative zero is the number zero). -/
section Floats

/-- **The single pass is partition-and-fold on float columns too**: for every frame whose value
cells are floats (NaN and the infinities among them) and every non-empty request list, `aggregate`
yields one entry per distinct key in first-occurrence order, each request folded over *all* the
non-null values of that key's rows — a NaN is one of them. -/
theorem float_aggregate_spec (keyOf : ρ → κ) (cell : ρ → String → Option XVal) (rows : List ρ)
    (reqs : List Req) (h : reqs ≠ []) :
    aggregateX keyOf cell rows reqs = referenceX keyOf cell rows reqs :=
  pass_eq_reference xfold keyOf cell rows h

/-- **The folds on floats are the usual aggregates.**  Over the list `vs` of a group's non-null float
values: COUNT is the length (a NaN counts); SUM is `sumOfFloats` — NaN as soon as a NaN or both
infinities are among the values, otherwise the infinity among them, otherwise the exact sum — and AVG
is that sum over the length (NaN / ±inf when the sum is); on no values COUNT is 0 and the others
null; when no NaN is among the values MIN / MAX are the member with no member below / above it. -/
theorem float_fold_spec (vs : List XVal) :
    xfold .count vs = .val (.fin vs.length)
    ∧ xfold .sum vs = (if vs = [] then .null else .val (sumOfFloats vs))
    ∧ xfold .avg vs = (if vs = [] then .null else
        match sumOfFloats vs with | .fin s => .ratio s vs.length | x => .val x)
    ∧ (XVal.nan ∉ vs → ∀ m, xfold .min vs = .val m ↔ m ∈ vs ∧ ∀ x ∈ vs, x.lt m = false)
    ∧ (XVal.nan ∉ vs → ∀ m, xfold .max vs = .val m ↔ m ∈ vs ∧ ∀ x ∈ vs, m.lt x = false)
    ∧ (xfold .min vs = .null ↔ vs = []) ∧ (xfold .max vs = .null ↔ vs = []) := by
  refine ⟨rfl, ?_, ?_, ?_, ?_, ?_, ?_⟩
  · rw [xfold_sum_eq, xtotal_eq]
  · rw [xfold_avg_eq, xtotal_eq]
    rfl
  · intro hn m
    rw [← leastBy_eq_some_iff XVal.lt XVal.lt_irrefl XVal.lt_trans vs (XVal.lt_total_on hn) m, ← xleast_eq_leastBy]
    cases h : xleast vs <;> simp [xfold, h]
  · intro hn m
    rw [← leastBy_flip_eq_some_iff XVal.lt XVal.lt_irrefl XVal.lt_trans vs (XVal.lt_total_on hn) m, ← xgreatest_eq_leastBy]
    cases h : xgreatest vs <;> simp [xfold, h]
  · cases vs <;> simp [xfold, xleast]
  · cases vs <;> simp [xfold, xgreatest]

/-- **Row order and float values.**  COUNT, SUM and AVG of any float values — NaN and the infinities
included — do not depend on their order; MIN and MAX do not as long as no NaN is among them (with a
NaN they do: the example after `min_of_total_order_ignores_row_order`). -/
theorem float_fold_ignores_row_order (f : Func) {vs ws : List XVal} (hp : vs.Perm ws)
    (hn : (f = .min ∨ f = .max) → XVal.nan ∉ vs) : xfold f vs = xfold f ws :=
  xfold_perm f hp hn

/-- **Row order, frames with float columns**: permuting the rows permutes the output entries and
changes no key and no value — for COUNT, SUM, AVG and COUNT(\*) whatever the floats, for MIN / MAX of
the columns that hold no NaN. -/
theorem float_perm_invariant (keyOf : ρ → κ) (cell : ρ → String → Option XVal) (rows rows' : List ρ)
    (reqs : List Req) (h : reqs ≠ []) (hp : rows.Perm rows')
    (hn : ∀ q ∈ reqs, (q.1 = .min ∨ q.1 = .max) → ∀ r ∈ rows, cell r q.2 ≠ some .nan) :
    (aggregateX keyOf cell rows reqs).Perm (aggregateX keyOf cell rows' reqs) := by
  rw [float_aggregate_spec keyOf cell rows reqs h, float_aggregate_spec keyOf cell rows' reqs h]
  refine reference_perm xfold keyOf cell reqs hp fun q hq k =>
    float_fold_ignores_row_order q.1 (nonNull_members_perm keyOf cell hp k q.2) fun hmm hmem => ?_
  obtain ⟨r, hr, hc⟩ := List.mem_filterMap.mp hmem
  exact hn q hq hmm r (List.mem_filter.mp hr).1 hc

/-- **On finite columns the float model is the integer model**: a frame whose value cells are all
finite gives, through `aggregateX`, exactly the entries of `aggregate` — so every theorem above about
`aggregate` speaks about float columns without NaN and infinities as well. -/
theorem float_finite_is_integer_model (keyOf : ρ → κ) (cell : ρ → String → Option Int) (rows : List ρ)
    (reqs : List Req) (h : reqs ≠ []) :
    aggregateX keyOf (fun r c => (cell r c).map .fin) rows reqs
      = (aggregate keyOf cell rows reqs).map fun ka => (ka.1, ka.2.map XAgg.ofAgg) := by
  rw [float_aggregate_spec _ _ _ _ h, aggregate_spec _ _ _ _ h]
  unfold referenceX reference
  rw [List.map_map]
  refine List.map_congr_left fun k _ => congrArg (Prod.mk k) ?_
  rw [List.map_map]
  refine List.map_congr_left fun q _ => ?_
  rw [nonNull_map_fin, xfold_map_fin]
  rfl

/-- **A NaN is a value, not a null.**  `COUNT(c)` of a group is the number of its rows whose cell `c`
is not null — the rows holding a NaN (or an infinity, or a zero) are among them — and `SUM(c)` and
`AVG(c)` of a group one of whose rows holds a NaN are NaN. -/
theorem float_nan_is_a_value (keyOf : ρ → κ) (cell : ρ → String → Option XVal) (rows : List ρ) (c : String) :
    aggregateX keyOf cell rows [(.count, c)] =
      (groupKeys keyOf rows).map (fun k =>
        (k, [XAgg.val (.fin ((members keyOf rows k).filter fun r => (cell r c).isSome).length)]))
    ∧ ∀ r ∈ rows, cell r c = some .nan →
        (aggregateX keyOf cell rows [(.sum, c), (.avg, c)]).lookup (keyOf r) = some [.val .nan, .val .nan] := by
  constructor
  · rw [float_aggregate_spec keyOf cell rows _ (by simp)]
    unfold referenceX
    apply List.map_congr_left
    intro k _
    show (k, [XAgg.val (.fin (nonNull cell (members keyOf rows k) c).length)]) = _
    rw [nonNull_length]
  · intro r hr hc
    rw [float_aggregate_spec keyOf cell rows _ (by simp)]
    unfold referenceX
    rw [lookup_map_self _ _ (mem_groupKeys.mpr ⟨r, hr, rfl⟩)]
    have hmem : XVal.nan ∈ nonNull cell (members keyOf rows (keyOf r)) c := by
      unfold nonNull members
      exact List.mem_filterMap.mpr ⟨r, List.mem_filter.mpr ⟨hr, by simp⟩, hc⟩
    have hne : nonNull cell (members keyOf rows (keyOf r)) c ≠ [] := List.ne_nil_of_mem hmem
    have hs : sumOfFloats (nonNull cell (members keyOf rows (keyOf r)) c) = .nan := by
      unfold sumOfFloats
      rw [if_pos (Or.inl hmem)]
    obtain ⟨_, h2, h3, _⟩ := float_fold_spec (nonNull cell (members keyOf rows (keyOf r)) c)
    simp only [List.map_cons, List.map_nil, h2, h3, if_neg hne, hs]

/-- Non-vacuity: a float column with a NaN, both infinities and nulls; the NaN is counted, the sums
with a NaN or with both infinities are NaN, the all-null group keeps its row. -/
example :
    let rows : List (Int × Option XVal) :=
      [(-1, some (.fin 3)), (-2, some .nan), (-1, none), (-1, some .nan), (-2, some (.fin 1)),
       (7, none), (5, some .pinf), (5, some .ninf), (6, some .pinf), (6, some (.fin 2))]
    let reqs : List Req := [(.count, "v"), (.sum, "v"), (.avg, "v"), (.count, "*")]
    let cell := fun (r : Int × Option XVal) (c : String) => if c = "v" then r.2 else some (.fin 1)
    aggregateX (·.1) cell rows reqs =
      [(-1, [.val (.fin 2), .val .nan, .val .nan, .val (.fin 3)]),
       (-2, [.val (.fin 2), .val .nan, .val .nan, .val (.fin 2)]),
       (7, [.val (.fin 0), .null, .null, .val (.fin 1)]),
       (5, [.val (.fin 2), .val .nan, .val .nan, .val (.fin 2)]),
       (6, [.val (.fin 2), .val .pinf, .val .pinf, .val (.fin 2)])] := by decide +kernel

end Floats

/-! ## The source, statement by statement

`GroupByCode.source` is the program `harness/extractors/c12_code.py` reads from the AST of
`orso/group_by.py` and `orso/dataframe.py` on every run (`Generated/GroupByCode.lean`);
`GroupByCode.aggregateC`, `stepC`, `runCallsC`, `runCallsF` interpret it.  The theorems below are
about *that* program: when a statement of the source changes in a way that breaks the property,
the theorem that names the statement's job stops checking. -/
section Source
open GroupByCode GroupByIR

/-- **The aggregator table of the source** (`AGGREGATORS` and the bodies of the five functions it
names, group_by.py:24-51) computes the five folds of `fold_spec` on every list of non-null values:
in particular COUNT of no values is 0, MIN / MAX / AVG / SUM of no values are null (not 0, no
exception), and a sum that happens to be zero stays the number zero. -/
theorem source_aggregators (f : Func) (vs : List Int) :
    evalA (aggOf source f) (vs.map some) = AVal.ofAgg (fold f vs) := by
  have h : aggOk f (aggOf source f) = true := by cases f <;> decide
  exact aggOk_sound h vs

/-- **Every requested column is collected once** (`collect_columns = …` in `aggregate`,
group_by.py:132): the argument handed to `_map` is duplicate-free and names exactly the requested
columns, however often a column is requested.  (Repair C12-F02; with `[col for _, col in
aggregations]` this is false: the example "C12-F02 undone" below.) -/
theorem source_collects_each_column_once (reqs : List Req) :
    (collectCols source.collect reqs).Nodup
    ∧ ∀ c, c ∈ collectCols source.collect reqs ↔ c ∈ reqs.map (·.2) := by
  have h : source.collect = .dedup := by decide
  rw [h]
  exact ⟨nodup_firstSeen _, fun c => mem_firstSeen⟩

/-- **The collection loop registers the group before the null test** (group_by.py:133-137): on a
null value the body of the loop touches `column_value_map[group_key]` and appends nothing; on any
other value (zero included) it appends the value exactly once; `_map` yields a triple for every
row and requested column whatever the value, and registers the group's key values in
`_group_keys`.  (Repair C12-F03; decided by running the extracted body on the three kinds of value
its tests can tell apart — `stepBody_ok` shows that this determines the body on every value.) -/
theorem source_registers_before_null_test :
    bodyOk source.body = true ∧ yieldOk source.yieldGuards = true ∧ source.registers = true := by
  decide

/-- **The collection loop appends every float value, NaN included** (group_by.py:133-137).  On the
values of a float column the tests of the loop can tell more kinds apart (`value != value` is true
of a NaN only): for every float value — zero, a finite number, an infinity, NaN — the body of the
loop in the working tree appends the value exactly once and `_map` yields its triple; on a null it
registers the group and appends nothing.  A NaN is a non-null value (`float_nan_is_a_value`); a loop
that treats it as a null (`if value is None or value != value: continue`) fails this theorem while
it passes `source_registers_before_null_test`, which only speaks about integers. -/
theorem source_appends_every_float_value :
    (∀ v : XVal, ((effectX source.body (some v)).filter isAppend).length = 1
      ∧ guardsHoldX source.yieldGuards (some v) = true)
    ∧ effectX source.body none ≠ [] ∧ ∀ a ∈ effectX source.body none, a = Action.touch := by
  have hb : bodyOkX source.body = true := by decide
  have hy : yieldOkX source.yieldGuards = true := by decide
  obtain ⟨⟨h1, h2⟩, h3⟩ := bodyOkX_sound hb
  exact ⟨fun v => ⟨h3 v, yieldOkX_sound hy (some v)⟩, h1, h2⟩

/-- **A group is identified by its key values** (`group_key = …` in `_map`, group_by.py:101):
whatever the hash function, the identity `_map` computes is injective in the key.  (Repair C12-F01;
false for `hash(tuple(…))`: the example "C12-F01 undone" below.) -/
theorem source_group_identity_injective {κ : Type} (h : κ → κ) :
    Function.Injective (identOf h source.key) := by
  have hk : source.key = .tuple ∨ source.key = .typedTuple := by decide
  rcases hk with hk | hk <;> rw [hk] <;> intro a b hab <;> exact hab

/-- **A lazily backed frame is materialised before it is walked** (`for record in self._dictset` in
`_map`; `DataFrame.__iter__` calls `materialize`, which replaces a generator by a list). -/
theorem source_iterates_materialised :
    source.via = .frame ∧ source.iterMaterialises = true ∧ source.materializeMakesList = true := by
  decide

/-- **A result without groups still has its header** (`if not result_set:` in `aggregate`,
`if not self._group_keys:` in `groups`, repair C12-F04): both branches are there and return a frame
with the columns and no rows, instead of handing an empty list of dictionaries to `DataFrame`. -/
theorem source_empty_frame_header :
    source.aggEmptyHeader = true ∧ source.groupsEmptyHeader = true := by
  decide

/-- **A result row holds the aggregates themselves** (`results = {label: values.get(label) …}`,
group_by.py:149): the cell written under a label is the value the aggregator returned — a COUNT of 0,
a SUM or AVG of 0 stay the number zero (with `values.get(label) or None` they would turn into null:
the example with `cell := .getOrNone` below). -/
theorem source_result_cells : source.cell = .get := by decide

/-- **The convenience wrappers ask for their own function**: `max` → `MAX`, `min` → `MIN`,
`sum` → `SUM`, `avg` → `AVG` over the columns given, `count` → `COUNT(*)`. -/
theorem source_wrappers :
    ∀ w ∈ [("max", "MAX", ""), ("min", "MIN", ""), ("sum", "SUM", ""), ("count", "COUNT", "*"),
           ("avg", "AVG", "")], w ∈ Gen.GroupByCode.wrappers := by
  decide +kernel

/-- **Nothing but `_group_keys` survives a call, and `_group_keys` belongs to the object**:
`column_value_map` is created inside `aggregate` (a value map kept on the object would hand the
values collected by one call to the next: the example with `freshValueMap := false` below), and `_group_keys` is
created in `__init__`, one per `GroupBy` object. -/
theorem source_state_between_calls :
    source.freshValueMap = true ∧ source.registryPerObject = true := by
  decide

/-- The conditions of the refinement lemmas, for the program in the working tree. -/
theorem source_good : Good source :=
  { body := source_registers_before_null_test.1
    yields := source_registers_before_null_test.2.1
    registers := source_registers_before_null_test.2.2
    cols := source_collects_each_column_once
    aggs := source_aggregators
    lazy := source_iterates_materialised
    fresh := source_state_between_calls.1
    perObject := source_state_between_calls.2 }

/-- **`aggregate` as written is partition-and-fold.**  For every frame, key function, hash function,
non-empty request list (repeats included) and every state of `_group_keys` left by earlier calls on
the object: the statements of `_map` and `aggregate` in the working tree — key computation,
registration, emission, de-duplicated collection, the loop body with its null test, the aggregator
functions — return one entry per distinct key in first-occurrence order, each request folded over
the non-null values of that key's rows. -/
theorem source_aggregate_spec {ρ κ : Type} [DecidableEq κ] (h : κ → κ) (keyOf : ρ → κ)
    (cell : ρ → String → Option Int) (st : ObjState κ κ)
    (hst : Consistent (identOf h source.key) st.keys) (rows : List ρ) (reqs : List Req) (hne : reqs ≠ []) :
    (aggregateC source (identOf h source.key) keyOf cell st rows reqs).2
      = some ((reference keyOf cell rows reqs).map fun ka => (ka.1, ka.2.map AVal.ofAgg)) := by
  rw [← aggregate_spec keyOf cell rows reqs hne]
  simpa using aggregateC_by_canon source source_good.body source_good.yields source_good.registers
    source_good.fresh reqs (source_good.cols reqs) source_good.aggs (fun k => k)
    (source_group_identity_injective h) (fun _ => rfl) keyOf cell st hst rows

/-- **The `*` pseudo column is never null, and every column of the frame is itself**
(`collect_column_indicies = [source_columns.index(target) if target in source_columns else -1 …]` and
`"*" if column == -1 else record[column]`, group_by.py:89-109): the value `_map` yields for a requested
column is the row's cell — for the column at position 0 as for any other (`positions.get(target) or -1`
would turn the first column into `*`: the example with `colIndex := .getOrMinusOne` below) — and a non-null marker
when the column is not in the frame — so `COUNT(*)` is the group size (`count_star`). -/
theorem source_star_never_null (columns : List String) (r : List PyVal) (c : String) :
    cellOfC source.value source.colIndex columns r c = cellOf columns r c
    ∧ (index c columns = none → (cellOfC source.value source.colIndex columns r c).isSome) := by
  have hv : source.value = .starIfMissing := by decide
  have hp : posOf source.colIndex c columns = index c columns := by
    have hi : source.colIndex = .indexIfPresent ∨ source.colIndex = .getDefault := by decide
    rcases hi with hi | hi <;> rw [hi] <;> rfl
  rw [hv]
  constructor
  · unfold cellOfC cellOf
    rw [hp]
    cases index c columns <;> rfl
  · intro hc
    unfold cellOfC
    rw [hp, hc]
    rfl

/-- **Labels.**  Every f-string of `aggregate` that names an aggregate column produces
`FUNC(column)`. -/
theorem source_label_format (q : Req) : ∀ fmt ∈ source.labels, labelC fmt q = label q := by
  have hl : source.labels.all (· == stdLabel) = true := by decide
  intro fmt hfmt
  have : fmt = stdLabel := by simpa using List.all_eq_true.mp hl fmt hfmt
  subst this
  simp [labelC, stdLabel, label, String.join]

/-- **Any sequence of calls on any number of `GroupBy` objects of one frame, lazily backed or
materialised.**  `objs` are the key column lists of the objects `df.group_by(objs[g])` (all key
columns in the frame, at positions `idxs[g]`), `calls` any list of (object, call) — `aggregate` with
any request lists, `groups()`, in any order, repeats included.  Read from the source, every call
returns exactly what `run` / `runGroups` return for that call alone on a fresh object of the
materialised frame (`run_spec`: the partition-and-fold table laid out as labels then keys), and a
frame without rows gives the header and no rows (repair C12-F04). -/
theorem source_calls_spec (fr : Frame) (lazy : Bool) (objs : List (List String))
    (idxs : List (List Nat)) (calls : List (Nat × Op))
    (hidx : ∀ c ∈ calls, (objs.getD c.1 []).mapM (fun n => index n fr.columns) = some (idxs.getD c.1 [])) :
    runCallsF source fr lazy objs idxs calls =
      calls.map fun c =>
        match c.2 with
        | .aggregate reqs => toExcept (run fr (objs.getD c.1 []) reqs)
        | .groups => toExcept (runGroups fr (objs.getD c.1 [])) := by
  unfold runCallsF
  rw [runCallsC_ok source_good (source_group_identity_injective pyHashKey) _ _ fr.rows calls _
    (lazy_source lazy fr.rows), ← List.map_prod_left_eq_zip, List.map_map]
  apply List.map_congr_left
  intro c hc
  have hcell : cellOfC source.value source.colIndex fr.columns = cellOf fr.columns := by
    funext r col
    exact (source_star_never_null fr.columns r col).1
  simp only [Function.comp, hcell]
  have hi := hidx c hc
  obtain ⟨g, op⟩ := c
  cases op with
  | aggregate reqs =>
    simp only [stepS]
    rw [render_aggregate source_empty_frame_header.1 source_result_cells]
    simp only [run, hi, toExcept]
  | groups =>
    have hg := sequence_spec (keyAt (idxs.getD g [])) (cellOf fr.columns) fr.rows .groups
    simp only at hg
    rw [hg, render_groups source_empty_frame_header.2]
    simp only [runGroups, hi, toExcept, groups_spec]

/-- **Lazily backed or materialised makes no difference**, for any sequence of calls on any number
of objects of the frame. -/
theorem source_lazy_as_materialised (fr : Frame) (objs : List (List String)) (idxs : List (List Nat))
    (calls : List (Nat × Op))
    (hidx : ∀ c ∈ calls, (objs.getD c.1 []).mapM (fun n => index n fr.columns) = some (idxs.getD c.1 [])) :
    runCallsF source fr true objs idxs calls = runCallsF source fr false objs idxs calls := by
  rw [source_calls_spec fr true objs idxs calls hidx, source_calls_spec fr false objs idxs calls hidx]

/-! ### Tightness: undoing one repair at a time in the repaired program (`GroupByCode.repaired`,
written out in `Lemmas/GroupByCode.lean`, not read from the tree) makes the interpreter reproduce the
defect — so each condition above is needed, and the interpreter means what the code means. -/

/-- C12-F01 undone (`hash(tuple(…))`): the keys `-1` and `-2` share one group; the condition
`source_group_identity_injective` fails for it. -/
example :
    runCallsF { repaired with key := .hashTuple } { columns := ["k", "v"], rows := [[.int (-1), .int 1], [.int (-2), .int 10]] }
        false [["k"]] [[0]] [(0, .aggregate [(.sum, "v")])]
      = [.ok (["SUM(v)", "k"], [[.int 11, .int (-1)]])]
    ∧ ¬ Function.Injective (identOf pyHashKey (KeyExpr.hashTuple) : List PyVal → List PyVal) := by
  refine ⟨by decide +kernel, fun h => ?_⟩
  have := @h [.int (-1)] [.int (-2)] (by decide +kernel)
  exact absurd this (by decide +kernel)

/-- C12-F02 undone (`[col for _, col in aggregations]`): a column requested twice is collected
twice, SUM doubles; `source_collects_each_column_once` fails for it. -/
example :
    runCallsF { repaired with collect := .all } { columns := ["k", "v"], rows := [[.str "a", .int 1], [.str "a", .int 10]] }
        false [["k"]] [[0]] [(0, .aggregate [(.sum, "v"), (.max, "v")])]
      = [.ok (["SUM(v)", "MAX(v)", "k"], [[.int 22, .int 10, .str "a"]])]
    ∧ ¬ (collectCols .all [(.sum, "v"), (.max, "v")]).Nodup := by
  decide +kernel

/-- C12-F03 undone, first half (append — and thereby register — only non-null values): a group whose
requested values are all null has no row; `bodyOk` is false. -/
example :
    runCallsF { repaired with body := [([.notNone], .append)] }
        { columns := ["k", "v"], rows := [[.str "a", .none], [.str "b", .int 10]] }
        false [["k"]] [[0]] [(0, .aggregate [(.sum, "v")])]
      = [.ok (["SUM(v)", "k"], [[.int 10, .str "b"]])]
    ∧ bodyOk [([.notNone], .append)] = false := by
  decide +kernel

/-- C12-F03 undone, second half (`min(values)`, `sum(values)` without the empty case): an all-null
column next to a non-null one raises `ValueError`, and `SUM` of no values is 0; `aggOk` refuses both. -/
example :
    runCallsF { repaired with aggs := [("MAX", .maxE), ("SUM", .sum)] }
        { columns := ["k", "v", "w"], rows := [[.str "a", .none, .int 1]] }
        false [["k"]] [[0]] [(0, .aggregate [(.max, "v"), (.sum, "w")]), (0, .aggregate [(.sum, "v")])]
      = [.error "ValueError", .ok (["SUM(v)", "k"], [[.int 0, .str "a"]])]
    ∧ aggOk .max .maxE = false ∧ aggOk .sum .sum = false
    ∧ aggOk .sum (.orElse .sum .none) = false ∧ aggOk .max (.maxD (.lit 0)) = false := by
  decide +kernel

/-- C12-F04 undone (no branch for a result without groups): `StopIteration` from `DataFrame`. -/
example :
    runCallsF { repaired with aggEmptyHeader := false, groupsEmptyHeader := false }
        { columns := ["k", "v"], rows := [] } false [["k"]] [[0]] [(0, .aggregate [(.sum, "v")]), (0, .groups)]
      = [.error "StopIteration", .error "StopIteration"] := by
  decide +kernel

/-- `_map` walking the backing store itself (or `__iter__` not materialising): on a lazily backed
frame the second call — on any object — sees no rows. -/
example :
    runCallsF { repaired with via := .backing } { columns := ["k", "v"], rows := [[.str "a", .int 1]] }
        true [["k"], ["k"]] [[0], [0]] [(0, .aggregate [(.sum, "v")]), (1, .aggregate [(.sum, "v")])]
      = [.ok (["SUM(v)", "k"], [[.int 1, .str "a"]]), .ok (["SUM(v)", "k"], [])] := by
  decide +kernel

/-- The value map kept on the object (`column_value_map = self._group_values`): the second `SUM` on
the same object counts the values twice. -/
example :
    runCallsF { repaired with freshValueMap := false } { columns := ["k", "v"], rows := [[.str "a", .int 3]] }
        false [["k"]] [[0]] [(0, .aggregate [(.sum, "v")]), (0, .aggregate [(.sum, "v")])]
      = [.ok (["SUM(v)", "k"], [[.int 3, .str "a"]]), .ok (["SUM(v)", "k"], [[.int 6, .str "a"]])] := by
  decide +kernel

/-- `_group_keys` shared by all objects of the class: `groups()` of an object that groups by `j`
also returns the keys registered by the object that groups by `k`. -/
example :
    runCallsF { repaired with registryPerObject := false }
        { columns := ["k", "j"], rows := [[.int 1, .str "a"]] }
        false [["k"], ["j"]] [[0], [1]] [(0, .groups), (1, .groups)]
      = [.ok (["k"], [[.int 1]]), .ok (["j"], [[.int 1], [.str "a"]])] := by
  decide +kernel

/-- `results = {label: values.get(label) or None …}`: a group whose values are all null has COUNT
null instead of 0, and a sum that is zero turns into null. -/
example :
    runCallsF { repaired with cell := .getOrNone }
        { columns := ["k", "v"], rows := [[.str "a", .none], [.str "b", .int 0], [.str "c", .int 2]] }
        false [["k"]] [[0]] [(0, .aggregate [(.count, "v"), (.sum, "v")])]
      = [.ok (["COUNT(v)", "SUM(v)", "k"],
             [[.none, .none, .str "a"], [.int 1, .none, .str "b"], [.int 1, .int 2, .str "c"]])] := by
  decide +kernel

/-- NaN treated as a null in the collection loop (`if value is not None and value == value:`, or a
helper `is_null(value) = value is None or value != value`): on integers nothing changes (`bodyOk`
holds), on a float column the NaN is never appended — `bodyOkX` is false, so
`source_appends_every_float_value` fails for it. -/
example :
    bodyOk [([], .touch), ([.notNone, .notNaN], .append)] = true
    ∧ bodyOkX [([], .touch), ([.notNone, .notNaN], .append)] = false
    ∧ effectX [([], .touch), ([.notNone, .notNaN], .append)] (some .nan) = [.touch]
    ∧ bodyOkX repaired.body = true := by
  decide +kernel

/-- `avg_agg` in float arithmetic (`return sum(values) / len(values)`, no `Decimal` operand; the seeded
change C12-w5s2): the result is the double nearest to the mean, not the mean — `aggOk` refuses it, so
`source_aggregators` fails for it; with one `Decimal` operand the division is exact again. -/
example :
    aggOk .avg (.ifEmpty .none (.div .sum .len)) = false
    ∧ evalA (.ifEmpty .none (.div .sum .len)) [some (2 ^ 53), some (2 ^ 53 + 2), some 1] = .fratio (2 ^ 54 + 3) 3
    ∧ aggOk .avg (.ifEmpty .none (.div (.decimal .sum) .len)) = true
    ∧ aggOk .avg (.ifEmpty .none (.div .sum (.decimal .len))) = true := by
  decide +kernel

/-- `positions.get(target) or -1` for the position of a requested column (the seeded change C12-w5s3):
position 0 is falsy, the first column of the frame is read as the `*` pseudo column — every row counts,
nulls included, and `SUM` meets the text `"*"`. -/
example :
    cellOfC .starIfMissing .getOrMinusOne ["v", "k"] [.none, .str "a"] "v" = some 1
    ∧ cellOfC .starIfMissing .indexIfPresent ["v", "k"] [.none, .str "a"] "v" = none
    ∧ cellOfC .starIfMissing .getOrMinusOne ["k", "v"] [.str "a", .none] "v" = none
    ∧ runCallsF { repaired with colIndex := .getOrMinusOne }
        { columns := ["v", "k"], rows := [[.none, .str "a"], [.int 5, .str "a"]] }
        false [["k"]] [[1]] [(0, .aggregate [(.count, "v")])]
      = [.ok (["COUNT(v)", "k"], [[.int 2, .str "a"]])] := by
  decide +kernel

/-- **The key columns of a `GroupBy` are fixed when it is created** (`GroupBy.__init__`,
group_by.py:66-72: `self._columns = tuple(columns)` / `[columns]` — a new object in every branch, the
flag `Gen.GroupByCode.columnsCopied` read from the working tree).  A `GroupBy` is evaluated lazily: `_map`
resolves the positions of `self._columns` when a call is made.  For every frame (lazily backed or
materialised), any number of objects `df.group_by(objs[g])` and every session — calls (`aggregate` with
any request lists, `groups()`) interleaved in any way with the caller editing, in place, the very lists it
handed to `group_by` (append, clear, sort, replace an element, reuse for the next grouping) — every call
returns the partition-and-fold table of the frame over the key columns AS GIVEN AT CREATION, laid out as
labels then those key columns.  ("all one- and multi-column keys"; with `self._columns = columns` the
flag is false and the statement is false: the example below; the seeded change C12-w8s2.) -/
theorem keys_fixed_at_creation :
    Gen.GroupByCode.columnsCopied = true
    ∧ ∀ (fr : Frame) (lazy : Bool) (objs : List (List String)) (idxs : List (List Nat)) (evs : List Ev),
      (∀ c ∈ callsOf evs, (objs.getD c.1 []).mapM (fun n => index n fr.columns) = some (idxs.getD c.1 [])) →
      runSessionF source Gen.GroupByCode.columnsCopied fr lazy objs evs =
        (callsOf evs).map fun c =>
          match c.2 with
          | .aggregate reqs => toExcept (run fr (objs.getD c.1 []) reqs)
          | .groups => toExcept (runGroups fr (objs.getD c.1 [])) := by
  have hflag : Gen.GroupByCode.columnsCopied = true := by decide
  refine ⟨hflag, fun fr lazy objs idxs evs hidx => ?_⟩
  rw [hflag, runSessionF_copied source fr lazy objs idxs evs hidx]
  exact source_calls_spec fr lazy objs idxs (callsOf evs) hidx

/-- `self._columns = columns` (the caller's own list kept, the seeded change C12-w8s2): the caller creates
`g = df.group_by(keys)` with `keys = ["k"]`, appends `"j"` to `keys` for the next level, and `g.count()`
groups by both columns — two rows where the keys given at creation make one; with the copy the same
session gives the one row. -/
example :
    runSessionF repaired false { columns := ["k", "j"], rows := [[.int 1, .str "a"], [.int 1, .str "b"]] } false [["k"]]
        [.edit 0 ["k", "j"], .call 0 (.aggregate [(.count, "*")])]
      = [.ok (["COUNT(*)", "k", "j"], [[.int 1, .int 1, .str "a"], [.int 1, .int 1, .str "b"]])]
    ∧ runSessionF repaired true { columns := ["k", "j"], rows := [[.int 1, .str "a"], [.int 1, .str "b"]] } false [["k"]]
        [.edit 0 ["k", "j"], .call 0 (.aggregate [(.count, "*")])]
      = [.ok (["COUNT(*)", "k"], [[.int 2, .int 1]])]
    ∧ runSessionF repaired false { columns := ["k", "j"], rows := [[.int 1, .str "a"]] } false [["k"]]
        [.call 0 .groups, .edit 0 ["nope"], .call 0 .groups]
      = [.ok (["k"], [[.int 1]]), .error "ValueError"] := by
  decide +kernel

/-- The repaired program passes every condition (the conditions are satisfiable). -/
example :
    bodyOk repaired.body = true ∧ yieldOk repaired.yieldGuards = true
    ∧ (∀ f ∈ Func.all, aggOk f (aggOf repaired f) = true) := by
  decide +kernel

end Source

/-! ## Equal keys that are written differently

"Grouping partitions the rows by *equality* of their key values": `1`, `1.0` and `True` are one key,
`0`, `0.0`, `-0.0` and `False` are one key, `(1, "a")` and `(1.0, "a")` are one key.  The theorems
above compare keys with Lean's `=`; the ones below are about the pass whose dictionaries find a key
by an equivalence `eqv` (`Model/GroupByEq.lean`: `aggregateBy`), for *every* equivalence that is the
kernel of some canonical form (`Kernel eqv canon`), and about Python's `==` on the key values of the
property (`pyEqVal`, `keyEq`), which is such an equivalence. -/
section EqualKeys
variable {γ : Type} [DecidableEq γ]

omit [DecidableEq κ] in
/-- **The pass over keys compared by an equivalence is the pass over their canonical forms**: every
theorem of this file about `aggregate` / `reference` (partition, fold, independence of the requests,
of the row order, of the calls before) holds of it, read through `canon`. -/
theorem equivalence_simulation (eqv : κ → κ → Bool) (canon : κ → γ) (hk : Kernel eqv canon)
    (keyOf : ρ → κ) (cell : ρ → String → Option Int) (rows : List ρ) (reqs : List Req) (h : reqs ≠ []) :
    (aggregateBy eqv keyOf cell rows reqs).map (fun ka => (canon ka.1, ka.2))
      = reference (fun r => canon (keyOf r)) cell rows reqs
    ∧ (groupsOfBy eqv keyOf rows).map canon = groupKeys (fun r => canon (keyOf r)) rows := by
  refine ⟨by rw [aggregateBy_map_canon hk, aggregate_spec _ cell rows reqs h], ?_⟩
  unfold groupsOfBy
  rw [firstSeenBy_emit_keys (Kernel.refl hk) keyOf _ (by simp) rows, firstSeenBy_map hk, List.map_map]
  rfl

omit [DecidableEq κ] in
/-- **Equal keys are one group, however they are written** (clauses "partitions the rows by equality
of their key values" and "one output row per distinct key").  No two output rows have equivalent
keys; every row of the frame belongs to an output row (the one whose key is equivalent to its own);
and the aggregates of an output row are the folds over the non-null values of *all* rows whose key
is equivalent to the row's key — not only of those that are written the same way. -/
theorem equal_keys_one_group (eqv : κ → κ → Bool) (canon : κ → γ) (hk : Kernel eqv canon)
    (keyOf : ρ → κ) (cell : ρ → String → Option Int) (rows : List ρ) (reqs : List Req) (h : reqs ≠ []) :
    ((aggregateBy eqv keyOf cell rows reqs).map (·.1)).Pairwise (fun a b => eqv a b = false)
    ∧ (∀ r ∈ rows, ∃ ka ∈ aggregateBy eqv keyOf cell rows reqs, eqv (keyOf r) ka.1 = true)
    ∧ (∀ ka ∈ aggregateBy eqv keyOf cell rows reqs,
        ka.2 = reqs.map fun q => fold q.1 (nonNull cell (membersBy eqv keyOf rows ka.1) q.2)) := by
  have hsim := (equivalence_simulation eqv canon hk keyOf cell rows reqs h).1
  have hkeys : ((aggregateBy eqv keyOf cell rows reqs).map (·.1)).map canon
      = groupKeys (fun r => canon (keyOf r)) rows := by
    rw [← reference_keys _ cell rows reqs, ← hsim, List.map_map, List.map_map]
    rfl
  refine ⟨?_, ?_, ?_⟩
  · have hnd : (((aggregateBy eqv keyOf cell rows reqs).map (·.1)).map canon).Nodup := by
      rw [hkeys]; exact nodup_firstSeen _
    rw [List.Nodup, List.pairwise_map] at hnd
    exact hnd.imp fun hab => Bool.eq_false_iff.mpr fun he => hab ((hk _ _).mp he)
  · intro r hr
    have hmem : canon (keyOf r) ∈ groupKeys (fun r => canon (keyOf r)) rows := mem_groupKeys.mpr ⟨r, hr, rfl⟩
    rw [← hkeys, List.mem_map] at hmem
    obtain ⟨k, hkm, hkc⟩ := hmem
    obtain ⟨ka, hka, rfl⟩ := List.mem_map.mp hkm
    exact ⟨ka, hka, (hk _ _).mpr hkc.symm⟩
  · intro ka hka
    have hm : (canon ka.1, ka.2) ∈ reference (fun r => canon (keyOf r)) cell rows reqs := by
      rw [← hsim]; exact List.mem_map.mpr ⟨ka, hka, rfl⟩
    simp only [membersBy_eq hk]
    exact mem_reference hm

omit [DecidableEq κ] [DecidableEq γ] in
/-- **The key an output row shows** is the key of the first row of its class, as that row writes it
(`self._group_keys[group_key] = [(name, record[column]) …]` is executed by the first row of a group
only): no earlier row has an equivalent key.  (Which member of the class is shown is not part of the
property; this is what the code does.) -/
theorem representative_is_first_occurrence (eqv : κ → κ → Bool) (canon : κ → γ) (hk : Kernel eqv canon)
    (keyOf : ρ → κ) (cell : ρ → String → Option Int) (rows : List ρ) (reqs : List Req) (h : reqs ≠ []) :
    ∀ ka ∈ aggregateBy eqv keyOf cell rows reqs, ∃ pre r suf, rows = pre ++ r :: suf ∧ keyOf r = ka.1
      ∧ ∀ r' ∈ pre, eqv (keyOf r') ka.1 = false := by
  intro ka hka
  have hcols : firstSeen (reqs.map (·.2)) ≠ [] := firstSeen_ne_nil (by simpa using h)
  have hmem : ka.1 ∈ firstSeenBy eqv (rows.map keyOf) := by
    rw [← firstSeenBy_emit_keys (Kernel.refl hk) keyOf cell hcols rows]
    unfold aggregateBy at hka
    obtain ⟨g, hg, rfl⟩ := List.mem_map.mp hka
    exact hg
  rcases foldl_insBy_first hk (rows.map keyOf) [] ka.1 hmem with hnil | ⟨pre, suf, hxs, hpre⟩
  · cases hnil
  · obtain ⟨l1, l2, hrows, hl1, hl2⟩ := List.map_eq_append_iff.mp hxs
    obtain ⟨r, l2', rfl, hr, _⟩ := List.map_eq_cons_iff.mp hl2
    refine ⟨l1, r, l2', hrows, hr, fun r' hr' => Bool.eq_false_iff.mpr fun he => hpre ?_⟩
    rw [List.nil_append, ← hl1]
    exact List.mem_map.mpr ⟨keyOf r', List.mem_map_of_mem hr', (hk _ _).mp he⟩

/-- **Python's `==` on the key values of the property** (`pyEqVal`; on key tuples `keyEq`) is an
equivalence — the kernel of the canonical form `keyCanon` — under which distinct integers stay
distinct however their hashes fall (`-1` / `-2`, `0` / `2**61 - 1`), a boolean equals the integer
`0` or `1` it counts as, and a text or a null equals nothing but itself. -/
theorem python_key_equality :
    Kernel keyEq keyCanon
    ∧ (∀ a, pyEqVal a a = true)
    ∧ (∀ a b, pyEqVal a b = true → pyEqVal b a = true)
    ∧ (∀ a b c, pyEqVal a b = true → pyEqVal b c = true → pyEqVal a c = true)
    ∧ (∀ i j : Int, pyEqVal (.int i) (.int j) = true ↔ i = j)
    ∧ (∀ (b : Bool) (i : Int), pyEqVal (.bool b) (.int i) = true ↔ i = if b then 1 else 0)
    ∧ (∀ (s : String) (v : PyVal), pyEqVal (.str s) v = true ↔ v = .str s)
    ∧ (∀ v : PyVal, pyEqVal .none v = true ↔ v = .none) := by
  have hint : ∀ i j : Int, pyEqVal (.int i) (.int j) = true ↔ i = j := fun i j =>
    ⟨fun h => dyadic_int_inj (of_decide_eq_true h), fun h => h ▸ decide_eq_true rfl⟩
  refine ⟨Kernel.of_canon keyCanon, fun a => by simp [pyEqVal], ?_, ?_, hint, ?_, ?_, ?_⟩
  · intro a b hab
    exact decide_eq_true (of_decide_eq_true hab).symm
  · intro a b c hab hbc
    exact decide_eq_true ((of_decide_eq_true hab).trans (of_decide_eq_true hbc))
  · intro b i
    have hb : canonVal (.bool b) = canonVal (.int (if b then 1 else 0)) := by cases b <;> decide
    rw [pyEqVal, hb]
    exact (hint _ i).trans eq_comm
  · intro s v
    exact decide_eq_true_iff.trans (eq_comm.trans canonVal_eq_str)
  · intro v
    exact decide_eq_true_iff.trans (eq_comm.trans canonVal_eq_none)

/-- `1 == 1.0 == True`, `0 == 0.0 == -0.0 == False`, `2**53 == 2.0**53` but `2**53 + 1 != 2.0**53`
(no rounding of the integer), `10**20 == 1e20`, `2 != 2.5`, `"1" != 1`, `None != 0`; composite keys
differ or agree component by component. -/
example :
    pyEqVal (.int 1) (.float 0x3ff0000000000000) = true ∧ pyEqVal (.bool true) (.float 0x3ff0000000000000) = true
    ∧ pyEqVal (.int 0) (.float 0x8000000000000000) = true ∧ pyEqVal (.bool false) (.float 0) = true
    ∧ pyEqVal (.float 0) (.float 0x8000000000000000) = true
    ∧ pyEqVal (.int (2 ^ 53)) (.float 0x4340000000000000) = true
    ∧ pyEqVal (.int (2 ^ 53 + 1)) (.float 0x4340000000000000) = false
    ∧ pyEqVal (.int (10 ^ 20)) (.float 0x4415af1d78b58c40) = true
    ∧ pyEqVal (.int 2) (.float 0x4004000000000000) = false
    ∧ pyEqVal (.str "1") (.int 1) = false ∧ pyEqVal .none (.int 0) = false
    ∧ keyEq [.int 1, .str "a"] [.float 0x3ff0000000000000, .str "a"] = true
    ∧ keyEq [.int 1, .str "a"] [.bool true, .str "b"] = false := by
  decide +kernel

/-- Non-vacuity, and what the seeded change "a group is identified by (type, value) pairs" breaks:
over the key column `1, 1.0, True, 2` there are two groups, the first shown as the `1` of the first
row with all three rows in it. -/
example :
    aggregateBy keyEq (fun r : PyVal × Int => [r.1]) (fun r _ => some r.2)
        [(.int 1, 10), (.float 0x3ff0000000000000, 20), (.bool true, 5), (.int 2, 1)] [(.sum, "v"), (.count, "*")]
      = [([.int 1], [.int 35, .int 3]), ([.int 2], [.int 1, .int 1])] := by
  decide +kernel

end EqualKeys

section SourceIdentity
open GroupByCode GroupByIR

/-- **The identity `_map` gives a group is equal exactly when the keys are** (`group_key = tuple(record[col]
for col in group_column_indicies)`, group_by.py:101): whatever `==` on key tuples is, whatever the types
of the key values and whatever the hash, two rows are put into one group iff their keys are equal —
neither fewer (`hash(…)`: unequal keys merged, `source_group_identity_injective`) nor more (`(type(x), x)`
pairs, `repr`: equal keys of different types split; example below). -/
theorem source_group_identity_is_key_equality {κ τ : Type} [DecidableEq κ] [DecidableEq τ]
    (eqv : κ → κ → Bool) (ty : κ → τ) (h : κ → κ) (a b : κ) :
    identEq eqv ty h source.key a b = eqv a b := by
  have hk : source.key = .tuple := by decide
  rw [hk]
  rfl

/-- Tightness: with `(type(value), value)` pairs as the identity, `1` and `True` (and `1.0`) are equal
keys with different identities. -/
example :
    identEq keyEq (fun k => k.map pyType) pyHashKey .typedTuple [.int 1] [.bool true] = false
    ∧ keyEq [.int 1] [.bool true] = true
    ∧ identEq keyEq (fun k => k.map pyType) pyHashKey .typedTuple [.int 1] [.int 1] = true := by
  decide +kernel

/-- **The dictionaries of the source find a group by Python's `==` of the keys**: the identity read
from the source (as `hash` and `==` see it) is the same for two keys iff the keys are equal —
`1`, `1.0` and `True` share it, `1` and `2`, `-1` and `-2` do not. -/
theorem source_identity_is_python_equality (a b : List PyVal) :
    identKeyOf source.key a = identKeyOf source.key b ↔ keyEq a b = true := by
  have hk : source.key = .tuple := by decide
  rw [hk, identKeyOf_tuple, identKeyOf_tuple]
  simp only [keyEq, decide_eq_true_eq]
  exact ⟨fun h => tag_injective h, fun h => by rw [h]⟩

/-- **`aggregate` as written partitions by equality of the key values, however they are written.**
For every frame whose keys are tuples of Python scalars, every non-empty request list and every state
of `_group_keys` left by earlier calls: the statements of `_map` and `aggregate` in the working tree
return a table which, with the key of every row read as `==` sees it (`keyCanon`: `1`, `1.0`, `True`
alike), is the partition-and-fold table of the frame keyed by those readings — one row per class of
equal keys, each request folded over the non-null values of all rows of the class. -/
theorem source_aggregate_equal_keys {ρ : Type} (keyOf : ρ → List PyVal) (cell : ρ → String → Option Int)
    (st : ObjState (List (Nat × CKey)) (List PyVal)) (hst : Consistent (identKeyOf source.key) st.keys)
    (rows : List ρ) (reqs : List Req) (hne : reqs ≠ []) :
    ((aggregateC source (identKeyOf source.key) keyOf cell st rows reqs).2.map
        fun t => t.map fun ka => (keyCanon ka.1, ka.2))
      = some ((reference (fun r => keyCanon (keyOf r)) cell rows reqs).map fun ka => (ka.1, ka.2.map AVal.ofAgg)) := by
  have hk : source.key = .tuple := by decide
  rw [← aggregate_spec _ cell rows reqs hne]
  exact aggregateC_by_canon source source_good.body source_good.yields source_good.registers
    source_good.fresh reqs (source_good.cols reqs) source_good.aggs keyCanon tag_injective
    (fun k => by rw [hk, identKeyOf_tuple]) keyOf cell st hst rows

/-- **Any sequence of calls on any number of `GroupBy` objects of one frame whose keys may be equal
without being written alike, lazily backed or materialised.**  Read from the source and run with the
identity the dictionaries see (`identKeyOf`: equal for two keys iff the keys are equal,
`source_identity_is_python_equality`), every call — `aggregate` with any request list, `groups()`, any
order, any object — returns, with each shown key read through its identity, exactly what the functional
model returns for that call alone on a fresh object of the materialised frame keyed by identity
(`sequence_spec`: the partition-and-fold table, the distinct keys). -/
theorem source_calls_equal_keys {ρ : Type} (keyOfs : Nat → ρ → List PyVal) (cell : ρ → String → Option Int)
    (rows : List ρ) (lazy : Bool) (calls : List (Nat × Op)) :
    (runCallsC source (identKeyOf source.key) keyOfs cell
        (if lazy then Source.gen rows false else Source.list rows) (fun _ => ObjState.empty) calls).map
        (mapOutC (identKeyOf source.key))
      = calls.map fun c =>
          liftOut (stepS (fun r => identKeyOf source.key (keyOfs c.1 r)) cell rows [] c.2).2 := by
  exact runCallsC_by_identity source_good _ keyOfs cell rows calls _ (lazy_source lazy rows)

/-- Tightness: with `(type(value), value)` pairs the interpreter splits `1`, `1.0` and `True` into three
groups with partial sums (the seeded change C12-w5s1), as the implementation then does. -/
example :
    runCallsEqF { repaired with key := .typedTuple }
        { columns := ["k", "v"], rows := [[.int 1, .int 10], [.float 0x3ff0000000000000, .int 20], [.bool true, .int 5]] }
        false [["k"]] [[0]] [(0, .aggregate [(.sum, "v")])]
      = [.ok (["SUM(v)", "k"], [[.int 10, .int 1], [.int 20, .float 0x3ff0000000000000], [.int 5, .bool true]])]
    ∧ runCallsEqF repaired
        { columns := ["k", "v"], rows := [[.int 1, .int 10], [.float 0x3ff0000000000000, .int 20], [.bool true, .int 5]] }
        false [["k"]] [[0]] [(0, .aggregate [(.sum, "v")])]
      = [.ok (["SUM(v)", "k"], [[.int 35, .int 1]])] := by
  decide +kernel

end SourceIdentity

section Positions
open GroupByIR

/-- No frame has this many columns (a row of `2 ^ 31` cells is a 16 GiB tuple).  The bound stands OUTSIDE the
quantifier of `key_positions_fit`: `array.array("i", …)`, which `_map` of the working tree uses, is a C `int` (32 bits on every
platform CPython supports), so the statement "for every position" is true of the source only below it. -/
def positionLimit : Nat := 2 ^ 31

/-- Clause "for all frames … all one- and multi-column keys" — the WIDTH of the frame: whatever the positions of the
key columns in the frame (below `positionLimit`), the container `_map` of the working tree builds for them
(`Gen.GroupByCode.keyPositions`, read from `group_column_indicies = …` on every run) takes them all and hands them
back unchanged: building it raises nothing, and every row is keyed by the cells at exactly those positions.  With
`bytes(…)` (the seeded change C12-w9s2) the statement is false at position 256, with `array.array("h", …)` at 32768. -/
theorem key_positions_fit (ps : List Nat) (h : ∀ p ∈ ps, p < positionLimit) :
    Gen.GroupByCode.keyPositions.store (ps.map Int.ofNat) = .ok (ps.map Int.ofNat) := by
  apply PosContainer.store_ok
  intro p hp
  obtain ⟨n, hn, rfl⟩ := List.mem_map.mp hp
  have hlt := h n hn
  simp only [positionLimit] at hlt
  simp [Gen.GroupByCode.keyPositions, PosContainer.holds] <;> omega

/-- The same for the positions of the requested (value) columns, `collect_column_indicies`; `-1` stands there for
"not a column of the frame" (the `*` of `COUNT(*)`), so the container has to hold it too. -/
theorem value_positions_fit (ps : List Int) (h : ∀ p ∈ ps, -1 ≤ p ∧ p < positionLimit) :
    Gen.GroupByCode.valuePositions.store ps = .ok ps := by
  apply PosContainer.store_ok
  intro p hp
  have hlt := h p hp
  simp only [positionLimit] at hlt
  simp [Gen.GroupByCode.valuePositions, PosContainer.holds] <;> omega

/-- Tightness: a `bytes` object refuses position 256 (and takes 255), a signed 16-bit array refuses 32768, an
unsigned container refuses the `-1` of `COUNT(*)`. -/
example :
    PosContainer.bytes.store [3, 256] = .error "ValueError"
    ∧ PosContainer.bytes.store [3, 255] = .ok [3, 255]
    ∧ (PosContainer.array 16 true).store [32768] = .error "OverflowError"
    ∧ (PosContainer.array 16 false).store [-1] = .error "OverflowError"
    ∧ (PosContainer.array 32 true).store [65536, -1] = .ok [65536, -1] := by
  decide +kernel

end Positions

end C12
