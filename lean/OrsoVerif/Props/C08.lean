import OrsoVerif.Lemmas.IsoText
import OrsoVerif.Lemmas.IsoSafe
import OrsoVerif.Lemmas.IsoEpoch
import OrsoVerif.Lemmas.IsoFloat
import OrsoVerif.Lemmas.IsoEpochTotal
import OrsoVerif.Lemmas.IsoRefine
import OrsoVerif.Lemmas.IsoTimeOfDay
import OrsoVerif.Lemmas.IsoGrammar
import OrsoVerif.Generated.IsoDispatch
/-!
# C08 — Timestamp parsing round-trips ISO-8601 and epoch forms and is total

Property theorems only (helpers are in `Lemmas/Iso*.lean`).  The model is `Model/Iso.lean`; the
offsets, windows and the `except` tuple it uses are `Gen.Iso.*`, regenerated from
`orso/tools.py` on every run, so every theorem below is re-checked against the current source.
-/
namespace C08
open Iso

/-! ## Non-vacuity and documented boundaries (concrete inputs; placed first so that a failing example is not
attributed to a theorem)

Before the kernel evaluates a statement about sample texts, each `"…".toList` is rewritten to the list of the literal's
characters (`String.toList_ofList`: a literal *is* `String.ofList` of that list, whereas evaluating `String.toList` on it
decodes its UTF-8 bytes one by one, which costs more than the parse). -/

/-- Named tails of `seconds_form_any_tail`: read … -/
example : tailRead ".123456789Z".toList = true ∧ tailRead ".1".toList = true ∧ tailRead "+0530".toList = true ∧
    tailRead "-0530".toList = true ∧ tailRead "+05".toList = true ∧ tailRead "-05".toList = true ∧
    tailRead ".123456+05:30".toList = true ∧ tailRead ".1234567+05:30".toList = true ∧
    tailRead ".123456-05:30".toList = true ∧ tailRead "Z".toList = true ∧ tailRead "+05:30Z".toList = true ∧
    tailRead " UTC".toList = true := by
  iterate 12 rw [String.toList_ofList]
  decide +kernel
/-- … and not read: 34 characters and more, or more than 28 characters before the `+`. -/
example : tailRead ".123456789+05:00".toList = false ∧ tailRead ".1234567890+1".toList = false ∧
    tailRead ".12345678901234".toList = false := by
  iterate 3 rw [String.toList_ofList]
  decide +kernel
example : parseIso (.str "2024-02-29 23:59:58.123456789Z".toList) = .value ⟨2024, 2, 29, 23, 59, 58, 0⟩ := by
  rw [String.toList_ofList]
  decide +kernel
example : parseIso (.str "9999-12-31T23:59:59-1200".toList) = .value ⟨9999, 12, 31, 23, 59, 59, 0⟩ := by
  rw [String.toList_ofList]
  decide +kernel
example : parseIso (.str "2024-02-29T23:59:58.123456789+05:00".toList) = .none := by
  rw [String.toList_ofList]
  decide +kernel
example : cutTail "+05:30Z".toList = [] ∧ cutTail "Z".toList = [] ∧ cutTail "-05:00".toList = "-05:00".toList ∧
    cutTail ":5".toList = ":5".toList := by
  iterate 4 rw [String.toList_ofList]
  decide +kernel
example : parseIso (.str "2023-04-18".toList) = .value ⟨2023, 4, 18, 0, 0, 0, 0⟩ ∧
    slice "2023-04-18".toList (0, 4) = "2023".toList := by
  rw [String.toList_ofList, String.toList_ofList]
  decide +kernel
example : parseIso (.str "12:34:56".toList) = .none ∧ parseIso (.str "2023/04/18 12:34:56".toList) = .none := by
  rw [String.toList_ofList, String.toList_ofList]
  decide +kernel

example : validDateTime ⟨2024, 2, 29, 23, 59, 58, 123456⟩ = true := by decide
example : String.ofList (render ⟨2024, 2, 29, 23, 59, 58, 123456⟩ 'T' 3 (.plus 5 30))
    = "2024-02-29T23:59:58.123+05:30" := congrArg String.ofList (by decide)
example : parseIso (.str "2024-02-29T23:59:58.123+05:30".toList) = .value ⟨2024, 2, 29, 23, 59, 58, 0⟩ := by
  rw [String.toList_ofList]
  decide +kernel
example : parseIso (.str "0001-01-01 00:00:00.000000-11:59".toList) = .value ⟨1, 1, 1, 0, 0, 0, 0⟩ := by
  rw [String.toList_ofList]
  decide +kernel
example : toEpoch ⟨2024, 2, 29, 23, 59, 58, 0⟩ = 1709251198 := by decide
example : parseIso (.int 1709251198) = .value ⟨2024, 2, 29, 23, 59, 58, 0⟩ := by decide +kernel
example : parseIso (.int (-62135596800)) = .value ⟨1, 1, 1, 0, 0, 0, 0⟩ := by decide +kernel
example : parseIso (.npInt 0) = .value ⟨1970, 1, 1, 0, 0, 0, 0⟩ ∧ parseIso (.num "bool" 1) = .none ∧
    parseIso (.num "numpy.int32" 1718530754) = .none ∧ parseIso (.npInt 1718530754) = .value ⟨2024, 6, 16, 9, 39, 14, 0⟩ := by decide +kernel
/-- Boundary by the code's own design: the minute form with a `-HH:MM` suffix is not read. -/
example : parseIso (.str "2023-04-18T12:34-05:00".toList) = .none := by
  rw [String.toList_ofList]
  decide +kernel
example : parseIso (.str "2023-02-29".toList) = .none := by
  rw [String.toList_ofList]
  decide +kernel

/-- The time-of-day reading (`datetime.time.fromisoformat`), including two things the C code does beyond its
documentation, and the TIME cast built on it. -/
example : timeOfDay "12:34:56.7891234".toList = .time 12 34 56 789123 ∧ timeOfDay "T0930".toList = .time 9 30 0 0 ∧
    timeOfDay "24:00".toList = .raises .valueError ∧ timeOfDay "12:34:56+24:00".toList = .raises .valueError ∧
    timeOfDay "12x+01:00".toList = .time 12 0 0 0 ∧ timeOfDay "12:30:45:5".toList = .time 12 30 45 500000 ∧
    timeOfDay " 12:34".toList = .raises .valueError ∧ timeOfDay "12é+01:00".toList = .raises .valueError := by
  iterate 8 rw [String.toList_ofList]
  decide +kernel
example : Iso.cast .time (.str "12:34:56".toList) = .time 12 34 56 0 ∧
    Iso.cast .time (.str "2023-04-18T12:34:56".toList) = .time 12 34 56 0 ∧
    Iso.cast .time (.str "25:00".toList) = .raises .valueError ∧
    Iso.cast .timestamp (.str "12:34:56".toList) = .raises .valueError ∧
    castRun .time (.bytes "07:08".toUTF8.data.toList) = some (.time 7 8 0 0) := by
  iterate 3 rw [String.toList_ofList]
  decide +kernel
example : fracMicro "5".toList = 500000 ∧ fracMicro "1234567".toList = 123456 ∧ truncMicro 123456 2 = 120000 := by
  rw [String.toList_ofList, String.toList_ofList]
  decide +kernel

/-! ## Theorems -/

/-- **The generated guards accept the canonical renderings.**  Every expression lifted from
`parse_iso` on this run (`Gen.Iso`: the two length windows, the dash / separator / seconds tests
with their subscripts and joining operators, the three `val_len` tests, the slice offsets, the `Z`
and `+` characters) accepts the renderings the round-trip theorems below are about: lengths 10..33 pass the window,
10..28 pass the window after the `+` split, `-`, `T`/space and `:` at offsets 4/7, 10, 13, 16 are
not rejected, length 10 selects the date form, ≥ 19 the seconds form, 16 the minute form. -/
theorem guards_accept_canonical_renderings : Iso.Accepts where
  idx := by decide
  slices := by decide
  chars := by decide
  window := by intro n h1 h2; unfold Gen.Iso.lenWindow; omega
  plus := by intro n h1 h2; unfold Gen.Iso.plusReject; omega
  dash := by decide
  sep := by intro c hc; rcases hc with rfl | rfl <;> decide
  dateLen := by decide
  timeLen := by intro n h; unfold Gen.Iso.dateLenTest Gen.Iso.timeLenTest; omega
  minLen := by decide
  secLen := by intro n h; unfold Gen.Iso.secLenTest; omega
  secChar := by decide

/-- **The generated guards cover every subscript, and the `except` tuple every exception.**  The
four classes the primitives raise (`ValueError`, `UnicodeDecodeError`, `OverflowError`, `OSError`)
are caught by the extracted tuple; the length window guarantees the 9 characters the dash test
reads (also after the `+` split); `value[10]`/`value[13]` are read only under a `val_len` test that
covers them, `value[16]` only under one that covers it; `datetime(...)` gets 3, 5 or 6 arguments. -/
theorem guards_cover_subscripts_and_exceptions : Iso.Covers where
  catches := by decide
  window := by intro n h; unfold Gen.Iso.lenWindow at h; omega
  plus := by intro n h; unfold Gen.Iso.plusReject at h; omega
  dashIdx := by decide
  time := by intro n h; unfold Gen.Iso.timeLenTest at h; simp only [Gen.Iso.sepIdx, Gen.Iso.colonA]; omega
  sec := by intro n h; unfold Gen.Iso.secLenTest at h; simp only [Gen.Iso.colonB]; omega
  arity := by decide

/-- **The generated guards reject everything else.**  The converse side of the guards lifted from
`parse_iso` on this run: lengths above 33 fail the window, more than 28 characters before the `+`
fail the second window, a character other than `-` at offset 4 or 7 makes the dash test reject,
lengths 11..15 select no form, the date form needs at least 10 characters, the minute form is not
selected by more than 16, the seconds form needs 19 characters and `:` at offset 16. -/
theorem guards_reject_everything_else : Iso.Rejects where
  windowHi := by intro n h; unfold Gen.Iso.lenWindow; omega
  plusHi := by intro n h; unfold Gen.Iso.plusReject; omega
  dash := by
    intro a b h
    simp only [scb, Gen.Iso.dashJoinAnd, Bool.false_eq_true, if_false, Bool.or_eq_true, decide_eq_true_eq]
    exact h
  midLen := by intro n h1 h2; unfold Gen.Iso.dateLenTest Gen.Iso.timeLenTest; omega
  dateLo := by intro n h; unfold Gen.Iso.dateLenTest at h; omega
  minHi := by intro n h; unfold Gen.Iso.minLenTest; omega
  secLo := by intro n h; unfold Gen.Iso.secLenTest; omega
  secChar := by intro c h; unfold Gen.Iso.secCharTest; exact h

/-- **The generated guards are exactly the stated tests.**  Each expression lifted from `parse_iso` on this
run is *equivalent* to the test the grammar of `text_grammar` is written with: the window is `10 ≤ n ≤ 33`,
the second window rejects exactly outside `10..28`, the dash operands are `≠ '-'` joined by `or`, the length
tests are `= 10`, `≥ 16`, `= 16`, `≥ 19`, the separator operands are `∉ {T, space}` and `≠ ':'` joined by
`and`, the seconds character test is `= ':'`; subscripts 4, 7, 10, 13, 16; the three slice lists; `Z` and `+`;
`int` is among the epoch types.  (The lemma files unfold nothing generated: they work with the normal forms of
`Lemmas/IsoExact.lean`, which rest on this record, and a changed guard fails here, at the field concerned.) -/
theorem guards_are_exactly_the_stated_ones : Iso.Exact where
  idx := by decide
  slices := by decide
  chars := by decide
  epochInt := by decide
  window := fun _ => Iff.rfl
  plus := fun _ => Iff.rfl
  dashA := fun _ => Iff.rfl
  dashB := fun _ => Iff.rfl
  dashJoin := rfl
  dateLen := fun _ => Iff.rfl
  timeLen := fun _ => Iff.rfl
  minLen := fun _ => Iff.rfl
  sepA := fun _ => Iff.rfl
  sepB := fun _ => Iff.rfl
  sepJoin := rfl
  secLen := fun _ => Iff.rfl
  secChar := fun _ => Iff.rfl

/-- **The generated string branch refines the skeleton (join point).**  `Gen.IsoText.textBranch_j1`
— the statements of `parse_iso` after the `+` split (`val_len = len(value)`, the dash test, the three
`val_len` cases with their subscripts, short-circuit order, slices and fall-through `return None`),
translated statement by statement from the AST on this run — computes, on every text, what the
hand skeleton `Iso.shaped` computes (the same result, the same exception). -/
theorem text_branch_join_refines_shaped (v : List Char) : Gen.IsoText.textBranch_j1 v = shaped v := by
  -- the three tests one by one, then the control flow around them; `fields` is written back as the constructor call on
  -- Python slices, which `rfl` compares with the generated calls slice by slice
  have hdash : pyOr ((pyIdx v 4).bind fun t3 => .ok (decide (t3 ≠ '-'))) ((pyIdx v 7).bind fun t4 => .ok (decide (t4 ≠ '-')))
      = dashReject v := by
    simp (disch := decide) only [pyIdx_nonneg, Int.reduceToNat, pyOr_idx]; rfl
  have hsep : pyAnd ((pyIdx v 10).bind fun t6 => .ok (decide (t6 ≠ 'T' ∧ t6 ≠ ' ')))
      ((pyIdx v 13).bind fun t7 => .ok (decide (t7 ≠ ':'))) = sepReject v := by
    simp (disch := decide) only [pyIdx_nonneg, Int.reduceToNat, pyAnd_idx]; rfl
  have hsec : pyAnd (.ok (decide ((v.length : Int) ≥ 19))) ((pyIdx v 16).bind fun t9 => .ok (decide (t9 = ':')))
      = hasSeconds v := by
    simp (disch := decide) only [pyIdx_nonneg, Int.reduceToNat, pyAnd_ok]; rfl
  unfold Gen.IsoText.textBranch_j1 shaped
  simp only [hdash, hsep, hsec, decide_eq_true_eq, Gen.Iso.dateLenTest, Gen.Iso.timeLenTest, Gen.Iso.minLenTest,
    ← datetimeOfStrs_pySlices]
  rfl

/-- **The generated string branch is the skeleton.**  `Gen.IsoText.textBranch` — the whole string
branch of `parse_iso` (`if input_type == str and 10 <= len(value) <= 33:` … `return None`: the length
window, `value[-1] == "Z"` and `value[:-1]`, `"+" in value`, `value.split("+")[0]`, the second
window, then the join point above), regenerated from the source on this run and *run by*
`Iso.parseIso` — equals the hand-written `Iso.textPath` on every text.  All theorems below are
therefore statements about the program the source contains now; a change of the order of the
tests, of a strip or a slice, or a new statement, breaks this theorem. -/
theorem text_branch_refines_skeleton : Iso.Refines where
  text := by
    intro v
    unfold Gen.IsoText.textBranch textPath
    -- `value[-1]`, `value[:-1]`, `value.split("+")[0]` and the join point in the skeleton's terms; the generated windows unfolded
    simp only [pyIdx_neg_one, pySlice_dropLast, pySplitHead, text_branch_join_refines_shaped, decide_eq_true_eq, Bool.not_eq_true',
      decide_eq_false_iff_not, Gen.Iso.lenWindow, Gen.Iso.plusReject, Gen.Iso.zChar, Gen.Iso.plusChar]
    cases hl : v.getLast? with
    | none =>
      rw [List.getLast?_eq_none_iff.mp hl]
      rfl
    | some c => simp only [bind_ok, Option.some.injEq, decide_eq_true_eq]

/-- **Seconds form followed by any tail — the exact set of accepted tails.**  For every valid
date-time, separator `T` or space and *every* text `t` after `YYYY-MM-DD<sep>HH:MM:SS`: the parser
returns the wall-clock time in whole seconds when `tailRead t` — at most 14 more characters and,
if a `+` remains after dropping a final `Z`, at most 9 characters before the first `+` — and `None`
otherwise.  This covers fractions of any length (`.1` … `.123456789`), `Z`, `+HH:MM`, `+HHMM`,
`+HH`, `-HH:MM`, `-HHMM`, `-HH`, a fraction followed by any of them, and also says exactly where
the reading stops (e.g. nine fraction digits plus `+05:00` is 35 characters: `None`). -/
theorem seconds_form_any_tail (dt : DateTime) (h : validDateTime dt = true) (sep : Char)
    (hsep : sep = 'T' ∨ sep = ' ') (t : List Char) :
    parseIso (.str (renderSecond dt sep ++ t))
      = if tailRead t then .value (truncSeconds dt) else .none := by
  have hnd : isDigitStr (renderSecond dt sep ++ t) = false :=
    notDigit_of_dash (by rw [renderSecond_cons, renderMinute_cons, renderDate_cons]; rfl)
  rw [parseIso_str text_branch_refines_skeleton _ hnd,
    textPath_secondTail guards_are_exactly_the_stated_ones dt h sep hsep t]
  cases tailRead t <;> rfl

/-- **ISO round trip, seconds form.**  For every valid date-time of years 1..9999, separator `T`
or space, any number `k` of fraction digits (the first `k` of the six microsecond digits; `k = 0`
means no fraction), and suffix none / `Z` / `+HH:MM` / `-HH:MM` / `+HHMM` / `-HHMM` / `+HH` / `-HH`,
parsing the rendering returns the wall-clock time truncated to whole seconds. -/
theorem iso_roundtrip (dt : DateTime) (h : validDateTime dt = true) (sep : Char)
    (hsep : sep = 'T' ∨ sep = ' ') (k : Nat) (suf : Suffix) :
    parseIso (.str (render dt sep k suf)) = .value (truncSeconds dt) := by
  rw [render, List.append_assoc, seconds_form_any_tail dt h sep hsep, tailRead_fraction_suffix]
  rfl

/-- **Minute form followed by any tail** of at most 17 characters (33 in all, the length window).  Write `cutTail t` for what
is left of the tail `t` after the parser's `Z` strip and `+` split.  The minute is returned when nothing is left (`t` is empty,
`Z`, `+…`, `+…Z`); when something is left that cannot be a seconds field — fewer than three
characters, or not starting with `:` — the answer is `None` (so `-HH:MM`, `-HHMM`, `-HH`, `.5`, a
second `Z` after the minute form are all unread).  (A rest `:SS…` is the seconds form.) -/
theorem minute_form_tails (dt : DateTime) (h : validDateTime dt = true) (sep : Char)
    (hsep : sep = 'T' ∨ sep = ' ') (t : List Char) (hl : t.length ≤ 17) :
    (cutTail t = [] →
      parseIso (.str (renderMinute dt sep ++ t)) = .value { dt with second := 0, micro := 0 }) ∧
    (cutTail t ≠ [] → ((cutTail t).length < 3 ∨ (cutTail t).head? ≠ some ':') →
      parseIso (.str (renderMinute dt sep ++ t)) = .none) := by
  have hv : validDateTime { dt with second := 0 } = true := by
    simp only [validDateTime, validDate, Bool.and_eq_true, decide_eq_true_eq] at h ⊢
    omega
  obtain ⟨p1, l1⟩ := plain_renderMinute dt sep hsep
  obtain ⟨hval, hnone⟩ := parseIso_layout_tail guards_are_exactly_the_stated_ones text_branch_refines_skeleton p1
    (layout_minute { dt with second := 0 } hv rfl sep hsep) (by omega) t (by omega)
  exact ⟨hval, fun hne hu => hnone (shaped_minute_rest guards_are_exactly_the_stated_ones dt sep _ hne hu)⟩

/-- **Date-only form followed by any tail** of at most 23 characters (33 in all): midnight when nothing is left after the
`Z` strip and the `+` split; `None` when one to five characters are left (11..15 characters select no form). -/
theorem date_form_tails (y m d : Nat) (h : validDate y m d = true) (t : List Char) (hl : t.length ≤ 23) :
    (cutTail t = [] → parseIso (.str (renderDate y m d ++ t)) = .value ⟨y, m, d, 0, 0, 0, 0⟩) ∧
    (1 ≤ (cutTail t).length → (cutTail t).length ≤ 5 → parseIso (.str (renderDate y m d ++ t)) = .none) := by
  obtain ⟨p1, l1⟩ := plain_renderDate y m d
  obtain ⟨hval, hnone⟩ := parseIso_layout_tail guards_are_exactly_the_stated_ones text_branch_refines_skeleton p1
    (layout_date y m d h) (by omega) t (by omega)
  exact ⟨hval, fun h1 h5 => hnone (shaped_date_rest guards_are_exactly_the_stated_ones y m d _ h1 h5)⟩

/-- **Minute-precision form** `YYYY-MM-DD<sep>HH:MM` (optionally followed by `Z` or `+HH:MM`)
returns the corresponding minute. -/
theorem minute_form (dt : DateTime) (h : validDateTime dt = true) (sep : Char)
    (hsep : sep = 'T' ∨ sep = ' ') (suf : Suffix) (hs : suf.dropped = true) :
    parseIso (.str (renderMinute dt sep ++ suf.text)) = .value { dt with second := 0, micro := 0 } :=
  (minute_form_tails dt h sep hsep suf.text (Nat.le_trans suf.cut.1 (by decide))).1 (suf.cut.2.2 hs)

/-- **Date-only form** `YYYY-MM-DD` (optionally followed by `Z` or `+HH:MM`) returns midnight. -/
theorem date_form (y m d : Nat) (h : validDate y m d = true) (suf : Suffix)
    (hs : suf.dropped = true) :
    parseIso (.str (renderDate y m d ++ suf.text)) = .value ⟨y, m, d, 0, 0, 0, 0⟩ :=
  (date_form_tails y m d h suf.text (Nat.le_trans suf.cut.1 (by decide))).1 (suf.cut.2.2 hs)

/-- **UTF-8 bytes are read as the text they encode** (every `String`, hence every rendering). -/
theorem utf8_bytes_as_text (s : String) :
    parseIso (.bytes s.toUTF8.data.toList) = parseIso (.str s.toList) :=
  parseIso_bytes (decodeUtf8_toUTF8 s)

/-- Bytes that are not valid UTF-8 give `None` (`UnicodeDecodeError` is a `ValueError`). -/
theorem invalid_utf8_none (b : List UInt8) (h : decodeUtf8 b = none) : parseIso (.bytes b) = .none := by
  simp only [parseIso, parseIsoWith, body, h, guards_cover_subscripts_and_exceptions.catches.2.1, if_true]

/-- **Native inputs**: a `date` maps to its midnight, a `datetime` to itself truncated to seconds. -/
theorem native_inputs (y m d : Nat) (dt : DateTime) :
    parseIso (.date y m d) = .value ⟨y, m, d, 0, 0, 0, 0⟩ ∧
    parseIso (.datetime dt) = .value (truncSeconds dt) := ⟨rfl, rfl⟩

/-- **Which numeric classes are read as Unix seconds** (the class table in front of the epoch branch, and the way it is
consulted, both read from the source on this run — `Gen.Iso.epochTypes`, `Gen.Iso.epochBySubclass`).
For *every* class name `ty`: the branch is entered **iff** `ty` is exactly `int`, `numpy.int64`, `float` or `numpy.float64`
— identity of the class, not `isinstance`: `bool` (an `int`), a subclass of `int` / `float`, every other numpy scalar type
(`numpy.int32`, `numpy.uint64`, `numpy.float32`, `numpy.bool_`), `Decimal`, `Fraction` are *not* admitted.  Consequently an
instance of an admitted class whose `int(value)` is `n` is read exactly as the `int` `n` (a value inside the range of
`epoch_total`, None outside), and an instance of any other numeric class yields `None`.
A table that loses a class (`numpy.int64` when the test becomes `isinstance(value, (int, float))`) or gains one (`bool`)
fails here, and the correspondence shows the instance. -/
theorem epoch_classes_are_the_stated_ones :
    (∀ ty : String, Iso.epochAdmits ty = true ↔ (ty = "int" ∨ ty = "numpy.int64" ∨ ty = "float" ∨ ty = "numpy.float64")) ∧
    (∀ (ty : String) (n : Int), Iso.epochAdmits ty = true → parseIso (.num ty n) = parseIso (.int n)) ∧
    (∀ (ty : String) (n : Int), Iso.epochAdmits ty = false → parseIso (.num ty n) = .none) ∧
    (∀ n : Int, parseIso (.npInt n) = parseIso (.int n)) ∧
    (∀ b : UInt64, parseIso (.npFloat b) = parseIso (.float b)) ∧
    (∀ n : Int, parseIso (.num "bool" n) = .none ∧ parseIso (.num "numpy.int32" n) = .none ∧
      parseIso (.num "numpy.int16" n) = .none ∧ parseIso (.num "numpy.uint64" n) = .none ∧
      parseIso (.num "numpy.float32" n) = .none ∧ parseIso (.num "numpy.bool" n) = .none ∧
      parseIso (.num "decimal.Decimal" n) = .none ∧ parseIso (.num "fractions.Fraction" n) = .none ∧
      parseIso (.num "int subclass" n) = .none ∧ parseIso (.num "float subclass" n) = .none) := by
  have A : ∀ ty : String, Iso.epochAdmits ty = true ↔ (ty = "int" ∨ ty = "numpy.int64" ∨ ty = "float" ∨ ty = "numpy.float64") := by
    intro ty
    have hs : Gen.Iso.epochBySubclass = false := rfl
    simp only [Iso.epochAdmits, hs, Bool.false_eq_true, if_false, Gen.Iso.epochTypes, List.contains_cons,
      List.contains_nil, Bool.or_false, Bool.or_eq_true, beq_iff_eq]
    -- closed already when the source lists the four classes in this order; in any other order `grind` reorders the disjunction
    all_goals grind
  have hnone : ∀ (ty : String) (n : Int), Iso.epochAdmits ty = false → parseIso (.num ty n) = .none := by
    intro ty n h
    simp only [parseIso, parseIsoWith, body, epoch, h, Bool.false_eq_true, if_false]
  refine ⟨A, ?_, hnone, fun n => (read_as_int A n _ rfl).1, ?_, ?_⟩
  · intro ty n h
    simp only [parseIso, parseIsoWith, body, epoch, h, (A "int").2 (.inl rfl), if_true]
  · intro b
    simp only [parseIso, parseIsoWith, body, epoch, (A "float").2 (.inr (.inr (.inl rfl))),
      (A "numpy.float64").2 (.inr (.inr (.inr rfl))), if_true]
  · -- none of the ten names is one of the four
    intro n
    and_intros
    all_goals exact hnone _ n (Bool.eq_false_iff.mpr (mt (A _).1 (by simp only [String.reduceEq, or_self, not_false_eq_true])))

/-- **Floats are truncated toward zero, not floored**: a finite float is read as the integer
`int(x)` (so `-0.5` is second 0 and `-1.5` is second −1 — one second later than flooring would
give), NaN and the infinities give `None`; the same for `numpy.float64`. -/
theorem float_epoch_truncates (b : UInt64) :
    (∀ z, floatTrunc b = .fin z → parseIso (.float b) = parseIso (.int z) ∧ parseIso (.npFloat b) = parseIso (.int z)) ∧
    (floatTrunc b = .nan ∨ floatTrunc b = .inf → parseIso (.float b) = .none ∧ parseIso (.npFloat b) = .none) ∧
    floatTrunc 0xBFE0000000000000 = .fin 0 ∧ floatTrunc 0xBFF8000000000000 = .fin (-1) ∧
    parseIso (.float 0xBFE0000000000000) = .value ⟨1970, 1, 1, 0, 0, 0, 0⟩ ∧
    parseIso (.float 0xBFF8000000000000) = .value ⟨1969, 12, 31, 23, 59, 59, 0⟩ := by
  have A := epoch_classes_are_the_stated_ones.1
  have hnp := epoch_classes_are_the_stated_ones.2.2.2.2.1 b
  have cv := guards_cover_subscripts_and_exceptions.catches
  refine ⟨fun z hz => (read_as_int A z _ rfl).2 b hz, ?_, by decide, by decide, by decide, by decide⟩
  intro hb
  have : parseIso (.float b) = .none := by
    rcases hb with hb | hb <;>
      simp only [parseIso, parseIsoWith, body, epoch, (A "float").2 (.inr (.inr (.inl rfl))), if_true, intOfFloat, hb, bind_error,
        cv.1, cv.2.2.1]
  exact ⟨this, hnp.trans this⟩

/-- **Unix seconds in UTC.**  For every valid date-time, its epoch second count — given as an
`int`, a `numpy.int64`, or a float (or `numpy.float64`) that truncates to it — parses back to the
date-time (whole seconds); all-digit text is read as the `int` it denotes (`digits_text`).  `toEpoch` is
days-from-civil (`datetime.date.toordinal`), the parser uses civil-from-days. -/
theorem epoch_utc (dt : DateTime) (h : validDateTime dt = true) :
    parseIso (.int (toEpoch dt)) = .value (truncSeconds dt) ∧
    parseIso (.npInt (toEpoch dt)) = .value (truncSeconds dt) ∧
    (∀ b, floatTrunc b = .fin (toEpoch dt) →
      parseIso (.float b) = .value (truncSeconds dt) ∧ parseIso (.npFloat b) = .value (truncSeconds dt)) := by
  have hi : parseIso (.int (toEpoch dt)) = .value (truncSeconds dt) := by
    rw [parseIso_int guards_are_exactly_the_stated_ones.epochInt, fromTimestamp_toEpoch dt h]
  exact ⟨hi, read_as_int epoch_classes_are_the_stated_ones.1 _ _ hi⟩

/-- **Every integer, read as Unix seconds: sound inside the representable range, None outside.**
For every `n`: if `minEpoch ≤ n ≤ maxEpoch` (0001-01-01T00:00:00 … 9999-12-31T23:59:59) the parser
returns a valid whole-second date-time `dt` with `toEpoch dt = n` (civil-from-days is sound, not
only an inverse on renderings); otherwise it returns `None` — whichever of `OverflowError`
(outside 64-bit `time_t`), `OSError` (year does not fit the C `tm`) or `ValueError` the platform
raises at that magnitude is covered by the extracted `except` tuple.  The same holds for
`numpy.int64` input and for every float whose truncation is `n`. -/
theorem epoch_total (n : Int) :
    (minEpoch ≤ n ∧ n ≤ maxEpoch →
      ∃ dt, validDateTime dt = true ∧ dt.micro = 0 ∧ toEpoch dt = n ∧
        parseIso (.int n) = .value dt ∧ parseIso (.npInt n) = .value dt ∧
        ∀ b, floatTrunc b = .fin n → parseIso (.float b) = .value dt ∧ parseIso (.npFloat b) = .value dt) ∧
    (n < minEpoch ∨ maxEpoch < n →
      parseIso (.int n) = .none ∧ parseIso (.npInt n) = .none ∧
        ∀ b, floatTrunc b = .fin n → parseIso (.float b) = .none ∧ parseIso (.npFloat b) = .none) ∧
    minEpoch = toEpoch ⟨1, 1, 1, 0, 0, 0, 0⟩ ∧ maxEpoch = toEpoch ⟨9999, 12, 31, 23, 59, 59, 0⟩ := by
  obtain ⟨hin, hout⟩ := fromTimestamp_spec n
  have hp := parseIso_int guards_are_exactly_the_stated_ones.epochInt n
  refine ⟨fun hr => ?_, fun hr => ?_, by decide, by decide⟩
  · obtain ⟨dt, hf, hv, hm, he⟩ := hin hr
    rw [hf] at hp
    exact ⟨dt, hv, hm, he, hp, read_as_int epoch_classes_are_the_stated_ones.1 n _ hp⟩
  · obtain ⟨e, hf⟩ := hout hr
    rw [hf] at hp
    have hi : parseIso (.int n) = .none := hp.trans (if_pos (fromTimestamp_safe guards_cover_subscripts_and_exceptions n e hf))
    exact ⟨hi, read_as_int epoch_classes_are_the_stated_ones.1 n _ hi⟩

/-- **All-digit text is read as the integer it denotes** (up to CPython's 4300-digit limit). -/
theorem digits_text (ds : List Char) (hne : ds ≠ []) (h : ∀ c ∈ ds, c.isDigit = true)
    (hlen : ds.length ≤ maxStrDigits) :
    parseIso (.str ds) = parseIso (.int (Nat.ofDigitChars 10 ds 0 : Nat)) := by
  have hd : isDigitStr ds = true := by
    cases ds with
    | nil => exact absurd rfl hne
    | cons c r =>
      simp only [isDigitStr, List.isEmpty_cons, Bool.not_false, Bool.true_and, List.all_eq_true]
      exact h
  rw [parseIso_digits ds hd, pyInt_digits ds hne h hlen]

/-- **Totality: the parser never raises**, whatever the input — any integer, any float bit
pattern (NaN, infinities), any text, any bytes, any native value, any other object.  The proof
shows that every exception class a primitive can raise is named (by itself or a base class) in
the `except` tuple extracted from the source, and that `IndexError` is unreachable. -/
theorem never_raises (i : Input) (e : Exc) : parseIso i ≠ .raises e := by
  unfold parseIso parseIsoWith
  have hs := body_safe guards_are_exactly_the_stated_ones guards_cover_subscripts_and_exceptions text_branch_refines_skeleton i
  cases hb : body i with
  | ok o => cases o <;> simp
  | error e' =>
    have := hs e' hb
    simp [this]

/-- **Every other input yields None**: objects of other types, and text that is not all digits and
shorter than 10 or longer than 33 characters. -/
theorem other_inputs_none :
    parseIso .other = .none ∧
    ∀ s : List Char, isDigitStr s = false → (s.length < 10 ∨ 33 < s.length) → parseIso (.str s) = .none := by
  refine ⟨rfl, ?_⟩
  intro s hd hl
  rw [parseIso_str text_branch_refines_skeleton s hd, textPath_closed guards_are_exactly_the_stated_ones,
    if_neg (fun hk : Kept s => by have := hk.1; have := hk.2.1; omega)]

/-- **Text that is not date-shaped yields None**: every text (and every UTF-8 byte string) that is
not all digits and does not carry `-` at offset 4 *and* at offset 7 — whatever its length and
whatever else it contains (`Z`, `+`, digits, white space, non-ASCII) — is answered with `None`. -/
theorem not_date_shaped_none (s : List Char) (hd : isDigitStr s = false)
    (h : s[4]? ≠ some '-' ∨ s[7]? ≠ some '-') :
    parseIso (.str s) = .none ∧ ∀ b, decodeUtf8 b = some s → parseIso (.bytes b) = .none := by
  have ht := textPath_not_dashes guards_are_exactly_the_stated_ones s h
  have hs : parseIso (.str s) = .none := by rw [parseIso_str text_branch_refines_skeleton s hd, ht]
  exact ⟨hs, fun b hb => (parseIso_bytes hb).trans hs⟩

/-- **The generated dash test lets only dashes through**: when `value[4] != "-" or value[7] != "-"`
(operands and operator as extracted on this run) does not reject, both characters are `-`. -/
theorem dash_test_keeps_only_dashes : Iso.DashSound where
  keep := by
    intro a x h
    simp only [shortCircuit, Gen.Iso.dashJoinAnd, Bool.false_eq_true, if_false, decide_eq_true_eq] at h
    by_cases ha : Gen.Iso.dashTestA a
    · rw [if_pos ha] at h; cases h
    · rw [if_neg ha] at h; exact ⟨Classical.not_not.mp ha, h⟩
  second := fun b h => Classical.not_not.mp h

/-- **Soundness of the text reading: the parser never invents a date.**  Whatever value the
parser returns for a text is a valid date-time of years 1..9999 in whole seconds; and when the text
is not all digits it is date-shaped — `-` at offsets 4 and 7 — and the returned year, month and day
are the Python `int()` readings of its columns 0-4, 5-7 and 8-10.  (All-digit text: the value is
the valid date-time of that Unix second, `epoch_total`.) -/
theorem text_value_sound (s : List Char) (dt : DateTime) (h : parseIso (.str s) = .value dt) :
    validDateTime dt = true ∧ dt.micro = 0 ∧
    (isDigitStr s = false →
      s[4]? = some '-' ∧ s[7]? = some '-' ∧ pyInt (slice s (0, 4)) = .ok (dt.year : Int) ∧
      pyInt (slice s (5, 7)) = .ok (dt.month : Int) ∧ pyInt (slice s (8, 10)) = .ok (dt.day : Int)) := by
  rw [parseIso_value_iff, body, strBody] at h
  by_cases hd : isDigitStr s = true
  · rw [if_pos hd, digits_iff s hd dt] at h
    exact ⟨h.2.2.1, h.2.2.2.1, fun hnd => by rw [hd] at hnd; cases hnd⟩
  · rw [if_neg hd, text_branch_refines_skeleton.text] at h
    obtain ⟨h4, h7, hv, hm, y, m, d⟩ := textPath_sound guards_are_exactly_the_stated_ones s _ h
    exact ⟨hv, hm, fun _ => ⟨h4, h7, y, m, d⟩⟩

/-- **The texts the parser reads are exactly an explicitly described language, with the value of each.**
`Iso.IsoText s dt` (`Model/IsoGrammar.lean`, defined inductively without reference to the parser or to
anything generated) holds when either `s` is all ASCII digits (at most 4300) and `dt` is the valid
date-time of years 1..9999, in whole seconds, whose Unix second count `s` denotes; or `s` is not all
digits, has 10..33 characters, and — after one trailing `Z` is dropped and everything from the first `+`
is cut (10..28 characters must then be left) — is in one of three layouts: exactly 10 characters
`YYYY-MM-DD`; exactly 16 `YYYY-MM-DD?HH?MM`; at least 19 `YYYY-MM-DD?HH?MM:SS…` — with `-` at offsets 4
and 7, for the time layouts `T` or space at offset 10 or `:` at 13, for the seconds layout `:` at 16,
and the columns 0-4, 5-7, 8-10 (11-13, 14-16, 17-19) read by `int()` as the year, month, day (hour,
minute, second) of a valid date-time: month 1..12, day within the month (29 February only in leap
years: every 4th year except centuries not divisible by 400), hour ≤ 23, minute ≤ 59, second ≤ 59.
For **every** text `s` and every `dt`: `parse_iso(s)` returns `dt` *iff* `IsoText s dt`; and for
every byte string: iff it is the UTF-8 encoding of such a text.  So nothing else is read — `24:00`,
second 60, year 0000, 29 February 1900, a 17/18-character text, `t` as separator *and* no `:` at 13 —
and whatever is read has the value of its columns: Unix seconds
`(toOrdinal year month day − 719163) · 86400 + hour · 3600 + minute · 60 + second` (`Iso.toEpoch`,
proleptic Gregorian). -/
theorem text_grammar (dt : DateTime) :
    (∀ s : List Char, parseIso (.str s) = .value dt ↔ IsoText s dt) ∧
    (∀ b : List UInt8, parseIso (.bytes b) = .value dt ↔ ∃ s, decodeUtf8 b = some s ∧ IsoText s dt) := by
  have str : ∀ s : List Char, parseIso (.str s) = .value dt ↔ IsoText s dt := by
    intro s
    rw [parseIso_value_iff, body, strBody]
    by_cases hd : isDigitStr s = true
    · rw [if_pos hd, digits_iff s hd dt]
      constructor
      · rintro ⟨_, hl, hv, hm, he⟩
        exact .epoch hd hl hv hm he
      · intro h
        cases h with
        | epoch _ hl hv hm he => exact ⟨guards_are_exactly_the_stated_ones.epochInt, hl, hv, hm, he⟩
        | shaped v hnd => rw [hd] at hnd; cases hnd
    · rw [if_neg hd, text_branch_refines_skeleton.text, textPath_iff guards_are_exactly_the_stated_ones]
      have hd' : isDigitStr s = false := by simpa using hd
      constructor
      · rintro ⟨h1, h2, v, ht, hl⟩
        exact .shaped v hd' h1 h2 ht hl
      · intro h
        cases h with
        | epoch hdd => rw [hdd] at hd'; cases hd'
        | shaped v _ h1 h2 ht hl => exact ⟨h1, h2, v, ht, hl⟩
  refine ⟨str, fun b => ?_⟩
  cases hb : decodeUtf8 b with
  | none =>
    rw [invalid_utf8_none b hb]
    exact ⟨nofun, fun ⟨_, h, _⟩ => nomatch h⟩
  | some t =>
    rw [parseIso_bytes hb, str]
    exact ⟨fun h => ⟨t, rfl, h⟩, fun ⟨s, h, hs⟩ => Option.some.inj h ▸ hs⟩

/-- Members and non-members of the language of `text_grammar`, through the parser (by the theorem, each
`.value` below is a derivation in `IsoText` and each `.none` the absence of one). -/
example : parseIso (.str "2000-02-29".toList) = .value ⟨2000, 2, 29, 0, 0, 0, 0⟩ ∧
    parseIso (.str "1900-02-29".toList) = .none ∧ parseIso (.str "2100-02-29".toList) = .none ∧
    parseIso (.str "0400-02-29".toList) = .value ⟨400, 2, 29, 0, 0, 0, 0⟩ ∧
    parseIso (.str "0000-01-01".toList) = .none ∧ parseIso (.str "0001-01-01".toList) = .value ⟨1, 1, 1, 0, 0, 0, 0⟩ ∧
    parseIso (.str "9999-12-31T23:59:59".toList) = .value ⟨9999, 12, 31, 23, 59, 59, 0⟩ ∧
    parseIso (.str "2023-04-18T24:00:00".toList) = .none ∧ parseIso (.str "2023-04-18T23:59:60".toList) = .none ∧
    parseIso (.str "2023-04-18t12:34:56".toList) = .value ⟨2023, 4, 18, 12, 34, 56, 0⟩ ∧
    parseIso (.str "2023-04-18t12-34:56".toList) = .none ∧
    parseIso (.str " 123-04-18".toList) = .value ⟨123, 4, 18, 0, 0, 0, 0⟩ ∧
    parseIso (.str "2023-04-18T12:34:5".toList) = .none := by
  iterate 13 rw [String.toList_ofList]
  decide +kernel

/-- **A float is read as the whole second it lies in — never carried into the next one** ("Integer,
float … inputs are read as Unix seconds", whole seconds).  The exact magnitude of a finite double with
bit pattern `b` is `fMant b * 2 ^ fEx b / 2 ^ 1075`; the second `z` the parser reads it as satisfies
`|z| ≤ |x| < |z| + 1` with the sign of `x`: however close `x` is to the next whole second
(`0.9999996`, `nextafter(1, 0)`, `1718530754.9999998` — values `datetime.fromtimestamp` would round
up to the next microsecond and so into the next second), the result is the second of `int(x)`, the
same as for the integer `z` itself.  A change that hands the float to `fromtimestamp` unconverted
(rounding to the nearest microsecond, flooring negative fractions) makes the code differ from
`parseIso` on exactly these inputs; the oracle demands `int(x)` (or `floor(x)` for a negative
fraction) of the code's own output. -/
theorem float_epoch_never_carries (b : UInt64) (z : Int) (h : floatTrunc b = .fin z) :
    z.natAbs * 2 ^ 1075 ≤ fMant b * 2 ^ fEx b ∧ fMant b * 2 ^ fEx b < (z.natAbs + 1) * 2 ^ 1075 ∧
    (z < 0 → b.toNat / 2 ^ 63 = 1) ∧
    parseIso (.float b) = parseIso (.int z) ∧ parseIso (.npFloat b) = parseIso (.int z) := by
  have hb := floatTrunc_brackets b z h
  have ht := (float_epoch_truncates b).1 z h
  exact ⟨hb.1, hb.2.1, hb.2.2, ht.1, ht.2⟩

/-- Non-vacuity and the boundary instances: 0.9999995, 0.9999996, nextafter(1, 0) are second 0,
1718530754.9999998 is second 1718530754 (09:39:14, not :15), 86399.9999999 is still 1970-01-01,
nextafter(-1, 0) is second 0. -/
example : floatTrunc 0x3FEFFFFEF39085F5 = .fin 0 ∧ floatTrunc 0x3FEFFFFF29406B2A = .fin 0 ∧
    floatTrunc 0x3FEFFFFFFFFFFFFF = .fin 0 ∧ floatTrunc 0x41D99BACB0BFFFFF = .fin 1718530754 ∧
    floatTrunc 0x40F517FFFFFFE528 = .fin 86399 ∧ floatTrunc 0xBFEFFFFFFFFFFFFF = .fin 0 ∧
    parseIso (.float 0x41D99BACB0BFFFFF) = .value ⟨2024, 6, 16, 9, 39, 14, 0⟩ ∧
    parseIso (.float 0x40F517FFFFFFE528) = .value ⟨1970, 1, 1, 23, 59, 59, 0⟩ := by decide +kernel

/-- **The cast programs translated from the source compute the specification.**  `Iso.castRun` runs
`Gen.IsoCast.parseDate / parseTime / parseTimestamp` — the three functions of `orso/types.py`,
translated statement by statement on this run (assignments, `if`, `isinstance`, `is None`, `raise`,
`try … except ValueError: pass`, the conditional expression, the calls of `parse_iso`,
`datetime.time.fromisoformat`, `.decode`, `.date()`, `.time()`), over dynamically typed Python
values.  On every input and for every cast they return exactly what the specification form
`Iso.cast` says — the same value, the same exception.  `casts_agree` and the TIME theorems below
are stated about `Iso.cast` and so hold of the code as it is now; a changed test, a new fast path, a
dropped `None` check or another `except` class breaks this theorem.  Second conjunct: the `DATE`,
`TIMESTAMP` and `TIME` entries of `ORSO_TO_PYTHON_PARSER` name these three functions and `OrsoTypes.parse`
only adds the `None` pass-through in front of the table lookup (source text extracted on this run). -/
theorem cast_programs_refine_spec (k : CastKind) (i : Input) :
    castRun k i = some (Iso.cast k i) ∧
    Gen.Iso.castTable = [("DATE", "parse_date"), ("TIMESTAMP", "parse_timestamp"), ("TIME", "parse_time"),
      ("parse", "if value is None: return None return ORSO_TO_PYTHON_PARSER[self.value](value, **kwargs)")] := by
  refine ⟨?_, rfl⟩
  cases k
  · simp only [castRun, Gen.IsoCast.parseDate, pyVal, bind_ok, callParseIso, Iso.cast, excOfName_ValueError]
    cases parseIso i <;> rfl
  · -- the class tests of `parse_time` are decided by the kind of input; what is left depends on what the parser answers
    simp only [castRun, Gen.IsoCast.parseTime, pyVal, bind_ok, excOfName_ValueError, pyIsInstance, List.any_cons, List.any_nil,
      Bool.or_false]
    cases i
    all_goals simp only [Val.classes, List.contains_cons, List.contains_nil, String.reduceBEq, Bool.or_false, Bool.or_self,
      Bool.or_true, Bool.false_eq_true, if_false, if_true, callParseIso, Iso.cast, bind_ok, callTimeFromIso, try_timeFromIso,
      timeOfDay]
    case time => rfl
    case str s => cases parseIso (.str s) <;> cases timeFromIso s <;> rfl
    case strSub s => cases parseIso (.strSub s) <;> cases timeFromIso s <;> rfl
    case bytes b =>
      simp only [methDecode]
      cases parseIso (.bytes b) <;> cases decodeUtf8 b <;> try rfl
      simp only [bind_ok, callTimeFromIso, try_timeFromIso]
      cases timeFromIso _ <;> rfl
    all_goals cases parseIso _ <;> rfl
  · simp only [castRun, Gen.IsoCast.parseTimestamp, pyVal, bind_ok, callParseIso, Iso.cast, excOfName_ValueError]
    cases parseIso i <;> rfl

/-- **The DATE, TIMESTAMP and TIME casts agree with the parser**, for every input (`Iso.cast` is what
the cast functions of the source compute, `cast_programs_refine_spec`):

* when the parser yields a value, TIMESTAMP returns it, DATE its date, TIME its time of day;
* when the parser yields `None`, DATE and TIMESTAMP raise `ValueError`; TIME raises `ValueError` for
  every object that is neither text nor a `datetime.time`, and for text (`str`, an instance of a `str`
  subclass, UTF-8 `bytes`) returns what `datetime.time.fromisoformat` reads in it — a time of day on
  its own — and raises `ValueError` when that does not read it either, or the bytes are not UTF-8;
* a `datetime.time` is returned unchanged by TIME (the parser answers `None` for it);
* no cast raises anything but `ValueError`. -/
theorem casts_agree (i : Input) :
    (∀ dt, parseIso i = .value dt →
      Iso.cast .timestamp i = .timestamp dt ∧ Iso.cast .date i = .date dt.year dt.month dt.day ∧
      ((∀ H M S us, i ≠ .time H M S us) → Iso.cast .time i = .time dt.hour dt.minute dt.second dt.micro)) ∧
    (parseIso i = .none →
      Iso.cast .timestamp i = .raises .valueError ∧ Iso.cast .date i = .raises .valueError ∧
      (∀ s, i = .str s ∨ i = .strSub s → Iso.cast .time i = timeOfDay s) ∧
      (∀ b, i = .bytes b → Iso.cast .time i =
        match decodeUtf8 b with | some s => timeOfDay s | none => .raises .valueError) ∧
      ((∀ H M S us, i ≠ .time H M S us) → (∀ s, i ≠ .str s) → (∀ s, i ≠ .strSub s) → (∀ b, i ≠ .bytes b) →
        Iso.cast .time i = .raises .valueError)) ∧
    (∀ H M S us, Iso.cast .time (.time H M S us) = .time H M S us ∧ parseIso (.time H M S us) = .none) ∧
    (∀ k e, Iso.cast k i = .raises e → e = .valueError) := by
  refine ⟨?_, ?_, fun _ _ _ _ => ⟨rfl, rfl⟩, ?_⟩
  · intro dt h
    refine ⟨by simp only [Iso.cast, h], by simp only [Iso.cast, h], ?_⟩
    intro hne
    cases i <;> first | (exact absurd rfl (hne _ _ _ _)) | (simp only [Iso.cast, h])
  · intro h
    refine ⟨by simp only [Iso.cast, h], by simp only [Iso.cast, h], ?_, ?_, ?_⟩
    · intro s hs
      rcases hs with rfl | rfl <;> simp only [Iso.cast, h]
    · intro b hb
      subst hb
      simp only [Iso.cast, h]
      cases decodeUtf8 b <;> rfl
    · intro hne h1 h2 h3
      cases i
      case time => exact absurd rfl (hne _ _ _ _)
      case str => exact absurd rfl (h1 _)
      case strSub => exact absurd rfl (h2 _)
      case bytes => exact absurd rfl (h3 _)
      all_goals simp only [Iso.cast, h]
  · intro k e he
    have hnr := never_raises i
    have htod : ∀ s, timeOfDay s = .raises e → e = .valueError := by
      intro s hs
      unfold timeOfDay at hs
      split at hs
      · cases hs
      · injection hs with hs; exact hs.symm
    unfold Iso.cast at he
    split at he
    · cases he
    · cases hp : parseIso i with
      | raises e' => exact absurd hp (hnr e')
      | value dt => rw [hp] at he; cases k <;> cases he
      | none =>
        rw [hp] at he
        dsimp only at he
        split at he
        · exact htod _ he
        · exact htod _ he
        · split at he
          · exact htod _ he
          · injection he with he; exact he.symm
        · injection he with he; exact he.symm

/-- **A time of day on its own — the layouts and their values.**  (`Iso.timeFromIso` is the model of
`datetime.time.fromisoformat`, to which `parse_time` hands text the parser does not read.)  For all ASCII
digits `a … f`: `ab`, `ab:cd`, `ab:cd:ef` and `ab:cd:ef.ds` / `ab:cd:ef,ds` with *any* positive number of
fraction digits `ds` are read as hour `ab`, minute `cd`, second `ef` and the microseconds `fracMicro ds`
(the first six fraction digits, right-padded with zeros; further digits are dropped, not rounded; never
more than 999999) — accepted exactly when hour ≤ 23, minute ≤ 59, second ≤ 59, `ValueError` otherwise
(`24:00`, `23:60`, `23:59:60` are rejected).  One leading `T` is allowed.  A text whose first character is
ASCII and not `T`, and that does not start with two ASCII digits — leading white space, a sign, a one-digit
hour, a non-ASCII digit in second place — is a `ValueError`. -/
theorem time_of_day_layouts (a b c d e f : Char) (ha : a.isDigit = true) (hb : b.isDigit = true)
    (hc : c.isDigit = true) (hd : d.isDigit = true) (he : e.isDigit = true) (hf : f.isDigit = true) :
    timeFromIso [a, b] = finishTime ⟨twoDigits a b, 0, 0, 0⟩ ∧
    timeFromIso [a, b, ':', c, d] = finishTime ⟨twoDigits a b, twoDigits c d, 0, 0⟩ ∧
    timeFromIso [a, b, ':', c, d, ':', e, f] = finishTime ⟨twoDigits a b, twoDigits c d, twoDigits e f, 0⟩ ∧
    (∀ sep ds, (sep = '.' ∨ sep = ',') → (∀ x ∈ ds, x.isDigit = true) → ds ≠ [] →
      timeFromIso (a :: b :: ':' :: c :: d :: ':' :: e :: f :: sep :: ds) =
        finishTime ⟨twoDigits a b, twoDigits c d, twoDigits e f, fracMicro ds⟩ ∧ fracMicro ds ≤ 999999) ∧
    (∀ t, finishTime t =
      if t.hour ≤ 23 ∧ t.minute ≤ 59 ∧ t.second ≤ 59 ∧ t.micro ≤ 999999 then .ok t else .error .valueError) ∧
    (∀ x y r, x ≠ 'T' → unitCount x = 1 → (x.isDigit = false ∨ y.isDigit = false) →
      timeFromIso (x :: y :: r) = .error .valueError) := by
  obtain ⟨h1, h2, h3⟩ := timeFromIso_plain a b c d e f ha hb hc hd he hf
  refine ⟨h1, h2, h3, ?_, fun _ => rfl, ?_⟩
  · intro sep ds hsep hds hne
    exact ⟨timeFromIso_fraction a b c d e f sep ha hb hc hd he hf hsep ds hds hne, fracMicro_le ds hds⟩
  · intro x y r hT hu h
    exact timeFromIso_needs_two_digits x y r hT h hu

/-- **The TIME cast reads back a time of day written on its own** (how JSON writes a TIME value):
for every time of day `H:M:S.us`, its rendering `HH:MM:SS` followed by the first `k` digits of the
microsecond field (`k = 0`: no fraction; `k ≥ 6`: all six), given as text, as an instance of a `str`
subclass or as UTF-8 bytes, is cast by TIME to that time of day, the microseconds cut to `k` digits, and
the rendering `HH:MM`, given as text, to `H:M:00`.  As text, neither is read by the parser (`None`), and
DATE and TIMESTAMP raise `ValueError` for the first. -/
theorem time_cast_roundtrip (H M S us : Nat) (hH : H ≤ 23) (hM : M ≤ 59) (hS : S ≤ 59) (hus : us ≤ 999999) (k : Nat) :
    let full := renderTime H M S ++ fraction us k
    let short := pad2 H ++ ':' :: pad2 M
    let usk := if k = 0 then 0 else truncMicro us k
    parseIso (.str full) = .none ∧ parseIso (.str short) = .none ∧
    Iso.cast .time (.str full) = .time H M S usk ∧ Iso.cast .time (.strSub full) = .time H M S usk ∧
    Iso.cast .time (.bytes (String.ofList full).toUTF8.data.toList) = .time H M S usk ∧
    Iso.cast .time (.str short) = .time H M 0 0 ∧
    Iso.cast .date (.str full) = .raises .valueError ∧ Iso.cast .timestamp (.str full) = .raises .valueError := by
  intro full short usk
  obtain ⟨htods, htod⟩ : timeOfDay short = .time H M 0 0 ∧ timeOfDay full = .time H M S usk := timeOfDay_render H M S us hH hM hS hus k
  have nd : ∀ r : List Char, isDigitStr (pad2 H ++ ':' :: r) = false := fun r => by simp [isDigitStr, pad2]
  have hshort : parseIso (.str short) = .none := other_inputs_none.2 short (nd _) (Or.inl (by simp [short, pad2]))
  -- the parser does not read `full`: it is not all digits, and the character at offset 4 is a digit, not a dash
  obtain ⟨hfull, hbytes⟩ := not_date_shaped_none full (by simp only [full, renderTime, List.append_assoc]; exact nd _)
    (Or.inl (by
      rw [show full[4]? = some (digit M) by simp [full, renderTime, pad2]]
      exact fun h => digit_ne (by decide) (Option.some.inj h)))
  have hdec : decodeUtf8 (String.ofList full).toUTF8.data.toList = some full := by
    simpa using decodeUtf8_toUTF8 (String.ofList full)
  have hsub : parseIso (.strSub full) = .none := rfl
  -- each cast, by its definition, from what the parser answers and what is read as a time of day
  simp only [Iso.cast, hfull, hsub, hbytes _ hdec, hdec, hshort, htod, htods, and_self]

/-- **Whatever the TIME cast returns for a text is a time of day**: hour ≤ 23, minute ≤ 59, second ≤ 59,
microsecond ≤ 999999 — whether it comes from the parser's value or from the time-of-day reading. -/
theorem time_cast_value_is_a_time (s : List Char) (H M S us : Nat)
    (h : Iso.cast .time (.str s) = .time H M S us) : H ≤ 23 ∧ M ≤ 59 ∧ S ≤ 59 ∧ us ≤ 999999 := by
  cases hp : parseIso (.str s) with
  | raises e => exact absurd hp (never_raises _ e)
  | value dt =>
    have hv := (text_value_sound s dt hp).1
    simp only [Iso.cast, hp, CastOut.time.injEq] at h
    obtain ⟨rfl, rfl, rfl, rfl⟩ := h
    simp only [validDateTime, Bool.and_eq_true, decide_eq_true_eq] at hv
    omega
  | none =>
    simp only [Iso.cast, hp, timeOfDay] at h
    split at h
    · next t ht =>
      obtain ⟨rfl, rfl, rfl, rfl⟩ := CastOut.time.inj h
      exact timeFromIso_ok s t ht
    · cases h

/-- **The dispatch in front of the string branch is the one `Iso.body` describes.**
`Gen.IsoDispatch.dispatch` is the body of `parse_iso`'s `try`, translated statement by statement from the source on this run
(`harness/pystmt_dispatch.py`: the re-assigned variables `value` / `input_type`, `if` without `else`, early `return`, the short
circuit of `and`, the class table of the Unix-seconds branch as it is written, the order of the tests).  On **every** input
(`Input.num ty n` with `ty` a numeric class) it computes `Iso.body` — the function all other theorems are about: bytes are
decoded first (an undecodable byte string raises `UnicodeDecodeError` there), all-digit text becomes an `int` *before* the table
is consulted, the classes of the table go to `fromtimestamp(int(value), utc)`, a `datetime` loses its microseconds, a `date` gets
midnight, exact `str` goes to the string branch, everything else falls through to `return None`.  `parse_iso` carries no
decorator (no cache between the caller and the `try`) and takes the one argument. -/
theorem dispatch_is_the_modelled_one :
    Gen.IsoDispatch.decorators = [] ∧ Gen.IsoDispatch.signature = "value" ∧
    ∀ i : Input, i.numericContract → Gen.IsoDispatch.dispatch (.inp i) = Iso.body i := by
  refine ⟨rfl, rfl, ?_⟩
  intro i hc
  cases i
  case num ty n =>
    obtain ⟨h1, h2, h3, h4, h5⟩ := hc
    simp [Gen.IsoDispatch.dispatch, pyType, pyIsInstanceD, DVal.classes, bytes_not_in_mro ty h1, pyTypeIn, pyHasAttr, body,
        epoch, epochAdmits, Gen.Iso.epochBySubclass, Gen.Iso.epochTypes, pyIntOf, pyFromTimestampUtc, bind, Except.bind, h2, h3, h4, h5, pure, Except.pure]
  case bytes b =>
    cases hb : decodeUtf8 b <;>
      simp [Gen.IsoDispatch.dispatch, pyType, pyIsInstanceD, DVal.classes, pyDecodeUtf8, hb, pyIsDigit, pyTypeIn, pyHasAttr, pyTextBranch, body, strBody,
        epoch, epochAdmits, Gen.Iso.epochBySubclass, Gen.Iso.epochTypes, pyIntOf, pyFromTimestampUtc, bind, Except.bind]
  all_goals
    simp [Gen.IsoDispatch.dispatch, pyType, pyIsInstanceD, DVal.classes, mro, pyIsDigit, pyTypeIn, pyHasAttr, pyTextBranch, body, strBody,
        epoch, epochAdmits, Gen.Iso.epochBySubclass, Gen.Iso.epochTypes, pyIntOf, pyFromTimestampUtc, pyReplaceMicro0, pyCombineMin, bind, Except.bind, pure, Except.pure]

/-- **Counterexamples on the pinned tree** (`except (ValueError, TypeError)`): the faithful model
raises — `OverflowError` for `10**30`, `float('inf')` and `'9'*30`, `OSError` for `10**17` — so
`never_raises` is false of the unrepaired code; replayed on the real code in `findings/C08.json`. -/
theorem pinned_tree_raises :
    parseIsoWith ["ValueError", "TypeError"] (.int (10 ^ 30)) = .raises .overflowError ∧
    parseIsoWith ["ValueError", "TypeError"] (.float 0x7FF0000000000000) = .raises .overflowError ∧
    parseIsoWith ["ValueError", "TypeError"] (.str (List.replicate 30 '9')) = .raises .overflowError ∧
    parseIsoWith ["ValueError", "TypeError"] (.int (10 ^ 17)) = .raises .osError := by decide

end C08
