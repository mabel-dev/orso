import OrsoVerif.Lemmas.Cast
import OrsoVerif.Lemmas.CastDecimal
import OrsoVerif.Lemmas.CastJson
import OrsoVerif.Lemmas.CastFns
import OrsoVerif.Lemmas.CastText
import OrsoVerif.Generated.CastFns
import OrsoVerif.Props.C08
/-!
# C07 — Casting to a column type is exact on canonical renderings

The model is `Model/Cast.lean` (tables from `Gen.Cast`, re-extracted on every run).  `float(text)` is a
*parameter* `fot` of the model: the DOUBLE theorem is stated under the hypothesis that it inverts the
float rendering (CPython's shortest-repr guarantee), which the harness samples on ≥ 10⁵ doubles per run.
-/
namespace C07
open Cast

/-- **The early `return None` of `OrsoTypes.parse`** (its test is lifted from the source on this run:
`value is None` today): it is taken for `None` and for no other value, whatever the value's
truthiness — `0`, `0.0`, `''`, `b''`, `False`, `Decimal(0)` reach their parser. -/
theorem null_guard : NullFacts where
  onNone := by unfold Gen.Cast.nullGuard; trivial
  onlyNone := by intro f; unfold Gen.Cast.nullGuard; exact not_false

/-- **Null gives null for every column type.**  The guard precedes the table dispatch, so it holds
around *any* parser `run` (the types outside the model included: ARRAY, TIME, INTERVAL, STRUCT,
JSONB, NULL), in particular for every modelled type and parameters; every member of the extracted
`OrsoTypes` enum has an entry in the extracted parser and class tables, and the method dispatches
through `ORSO_TO_PYTHON_PARSER`; a non-null value always reaches the parser. -/
theorem parse_null :
    (∀ run : Val → Except Exc Val, parseVia run none = .ok none) ∧
    (∀ (fot : List Char → Option UInt64) (t : Ty), parse fot t none = .ok none) ∧
    (∀ n ∈ Gen.Cast.typeNames, (Gen.Cast.parserOf.lookup n).isSome ∧ (Gen.Cast.pythonClass.lookup n).isSome) ∧
    Gen.Cast.dispatchTable = "ORSO_TO_PYTHON_PARSER" ∧
    (∀ (run : Val → Except Exc Val) (v : Val), parseVia run (some v) = (run v).bind fun r => .ok (some r)) :=
  ⟨parseVia_none null_guard, fun fot t => parseVia_none null_guard _, by decide +kernel, rfl, parseVia_some null_guard⟩

/-- **The dispatch table** `ORSO_TO_PYTHON_PARSER` (extracted on this run) sends each of the eight
value types to its own parser, with the keywords the type carries: a swapped or dropped entry
breaks this theorem. -/
theorem dispatch_table (fot : List Char → Option UInt64) (t : Ty) (v : Val) :
    parseWith fot t v =
      match t with
      | .boolean => parseBoolean v
      | .integer => parseInteger v
      | .double => parseDouble fot v
      | .decimal p s => parseDecimal p s v
      | .varchar n => parseVarchar n v
      | .blob n => parseBlob n v
      | .date => parseTemporal .date v
      | .timestamp => parseTemporal .timestamp v := by
  cases t <;> simp [parseWith, Ty.name, Gen.Cast.parserOf, List.lookup, parserByName, Ty.precision, Ty.scale, Ty.length]

/-- **Booleans per the documented truthy words**: the seven documented words (spelled out here) are
in the extracted table for text and for bytes; every text entry of the extracted
`BOOLEAN_STRINGS` table casts to `True` in upper and lower case, every bytes entry as the (ASCII) bytes
that spell it; the renderings of `True`/`False` and the typed values cast to themselves. -/
theorem bool_roundtrip :
    (∀ w ∈ ["TRUE", "ON", "YES", "1", "1.0", "T", "Y"], w ∈ Gen.Cast.boolStrings ∧ w ∈ Gen.Cast.boolBytes) ∧
    (∀ w ∈ Gen.Cast.boolStrings,
      parseBoolean (.str w.toList) = .ok (.bool true) ∧
      parseBoolean (.str (w.toList.map Char.toLower)) = .ok (.bool true)) ∧
    (∀ w ∈ Gen.Cast.boolBytes,
      parseBoolean (.bytes (w.toList.map fun c => UInt8.ofNat c.toNat)) = .ok (.bool true)) ∧
    (∀ b : Bool, parseBoolean (.bool b) = .ok (.bool b) ∧
      parseBoolean (.str (renderBool b)) = .ok (.bool b) ∧
      parseBoolean (.bytes ((renderBool b).map fun c => UInt8.ofNat c.toNat)) = .ok (.bool b)) := by
  decide +kernel

/-- **Integers of any size**: the decimal rendering of every integer (up to CPython's
4300-digit limit for `int`/`str` conversion) casts back to that integer — as text and as the
(ASCII) bytes that spell it — and an `int` casts to itself. -/
theorem int_roundtrip (n : Int) (h : (Nat.toDigits 10 n.natAbs).length ≤ Iso.maxStrDigits) :
    parseInteger (.str (renderInt n)) = .ok (.int n) ∧ parseInteger (.int n) = .ok (.int n) ∧
    parseInteger (.bytes (asciiBytes (renderInt n))) = .ok (.int n) := by
  have hs := parseInteger_str _ n (pyInt_renderInt n h)
  exact ⟨hs, rfl, (parseInteger_asciiBytes _ (renderInt_ascii n)).trans hs⟩

/-- **Floats via their repr.**  `parse_double` is `float(x)`; the text-to-float function `fot`
and the rendering `rep` (`repr`) are parameters.  ASSUMED, exactly: `∀ f, fot (rep f) = some f`
(CPython: `float(repr(f))` gives `f` back, bit for bit; NaN as the canonical NaN).  PROVED from
it: the text rendering casts to `f`; so does its ASCII bytes rendering (bytes are read as the text
they spell); a float casts to itself with every bit kept (NaN payloads, `-0.0`). -/
theorem double_roundtrip (fot : List Char → Option UInt64) (rep : UInt64 → List Char)
    (hparam : ∀ f, fot (rep f) = some f) (f : UInt64) :
    parseDouble fot (.str (rep f)) = .ok (.float f) ∧ parseDouble fot (.float f) = .ok (.float f) ∧
    ((∀ c ∈ rep f, c.toNat < 128) →
      parseDouble fot (.bytes (asciiBytes (rep f))) = .ok (.float f)) := by
  have hs := parseDouble_str fot _ f (hparam f)
  exact ⟨hs, rfl, fun hascii => (parseDouble_asciiBytes fot _ hascii).trans hs⟩

/-- **Padded renderings of integers**: ASCII white space (space, tab, LF, CR, VT, FF — what `int()` skips) before and
after the decimal rendering of any integer does not change the cast: text and the ASCII bytes that spell it. -/
theorem int_padded_roundtrip (n : Int) (h : (Nat.toDigits 10 n.natAbs).length ≤ Iso.maxStrDigits) (pre post : List Char)
    (hpre : ∀ c ∈ pre, Iso.isWs c = true) (hpost : ∀ c ∈ post, Iso.isWs c = true) :
    parseInteger (.str (pre ++ (renderInt n ++ post))) = .ok (.int n) ∧
    ((∀ c ∈ pre ++ (renderInt n ++ post), c.toNat < 128) →
      parseInteger (.bytes (asciiBytes (pre ++ (renderInt n ++ post)))) = .ok (.int n)) := by
  have hs := parseInteger_str _ n (pyInt_padded n h pre post hpre hpost)
  exact ⟨hs, fun hascii => (parseInteger_asciiBytes _ hascii).trans hs⟩

/-- **Floats from text at the boundaries, and padded.**  ASSUMED, exactly: `FloatTextParam fot rep` (`float(repr f) = f`;
white space around a text is skipped; the boundary table `Cast.floatSpecials` — NaN / infinity spellings, ±1e308, overflow
to infinity, subnormals and underflow to ±0, `-0.0`, underscores — each sampled or compared with the interpreter on
every run).  PROVED from it: the padded `repr` casts back to the double bit for bit; every boundary text casts to the
tabulated double, also padded, also as the ASCII bytes that spell it; the table is not vacuous and contains the limits. -/
theorem double_text_forms (fot : List Char → Option UInt64) (rep : UInt64 → List Char) (P : FloatTextParam fot rep) :
    (∀ (f : UInt64) (pre post : List Char), (∀ c ∈ pre, Iso.isWs c = true) → (∀ c ∈ post, Iso.isWs c = true) →
      parseDouble fot (.str (pre ++ (rep f ++ post))) = .ok (.float f)) ∧
    (∀ p ∈ floatSpecials, ∀ (pre post : List Char), (∀ c ∈ pre, Iso.isWs c = true) → (∀ c ∈ post, Iso.isWs c = true) →
      parseDouble fot (.str (pre ++ (p.1.toList ++ post))) = .ok (.float p.2) ∧
      parseDouble fot (.str p.1.toList) = .ok (.float p.2) ∧
      ((∀ c ∈ p.1.toList, c.toNat < 128) → parseDouble fot (.bytes (asciiBytes p.1.toList)) = .ok (.float p.2))) ∧
    (("1.7976931348623157e308", 0x7FEFFFFFFFFFFFFF) ∈ floatSpecials ∧ ("1e309", 0x7FF0000000000000) ∈ floatSpecials ∧
      ("5e-324", 0x1) ∈ floatSpecials ∧ ("-0.0", 0x8000000000000000) ∈ floatSpecials ∧
      ("nan", 0x7FF8000000000000) ∈ floatSpecials ∧ ("-inf", 0xFFF0000000000000) ∈ floatSpecials) := by
  -- by position in the table, so that no text is compared with another entry
  refine ⟨?_, ?_, List.mem_of_getElem? (i := 11) rfl, List.mem_of_getElem? (i := 14) rfl, List.mem_of_getElem? (i := 19) rfl,
    List.mem_of_getElem? (i := 27) rfl, List.mem_of_getElem? (i := 0) rfl, List.mem_of_getElem? (i := 5) rfl⟩
  · intro f pre post hpre hpost
    exact parseDouble_str fot _ f ((P.padding pre (rep f) post hpre hpost).trans (P.reprInverse f))
  · intro p hp pre post hpre hpost
    have hs := parseDouble_str fot _ p.2 (P.specials p hp)
    exact ⟨parseDouble_str fot _ p.2 ((P.padding pre p.1.toList post hpre hpost).trans (P.specials p hp)), hs,
      fun hascii => (parseDouble_asciiBytes fot _ hascii).trans hs⟩

/-- **The generated `if length:` tests and `[:length]` slices** of `parse_varchar` and
`parse_bytes` (expressions lifted from the source on this run): length 0 is "no limit", a positive
length `n` slices to exactly `[:n]`. -/
theorem limit_expressions :
    LimitFacts (fun k => decide (Gen.Cast.varcharLimitTest k)) Gen.Cast.varcharStop ∧
    LimitFacts (fun k => decide (Gen.Cast.blobLimitTest k)) Gen.Cast.blobStop := by
  refine ⟨⟨by decide, fun k => ⟨decide_eq_true ?_, ?_⟩⟩, ⟨by decide, fun k => ⟨decide_eq_true ?_, ?_⟩⟩⟩
  · unfold Gen.Cast.varcharLimitTest; omega
  · unfold Gen.Cast.varcharStop; rfl
  · unfold Gen.Cast.blobLimitTest; omega
  · unfold Gen.Cast.blobStop; rfl

/-- **Text with an optional maximum length**: the result is the longest prefix within `n` code
points (no limit for `None` and, by `if length:`, for 0); UTF-8 bytes are decoded first (`varchar_utf8`). -/
theorem varchar_prefix (s : List Char) (n : Option Nat) :
    ∃ r, parseVarchar n (.str s) = .ok (.str r) ∧ r <+: s ∧
      (match n with
       | none => r = s
       | some 0 => r = s
       | some (k + 1) => r.length ≤ k + 1 ∧ ∀ q, q <+: s → q.length ≤ k + 1 → q <+: r) := by
  exact ⟨limitVarchar n s, rfl, limitWith_prefix _ _ _ _, limitWith_longest limit_expressions.1 n s⟩

theorem varchar_utf8 (s : String) (n : Option Nat) :
    parseVarchar n (.bytes s.toUTF8.data.toList) = parseVarchar n (.str s.toList) := by
  simp only [parseVarchar, Iso.decodeUtf8_toUTF8, strOf]

/-- **Binary with an optional maximum length**: the longest prefix within `n` bytes; text is
encoded as UTF-8 first (`blob_utf8`). -/
theorem blob_prefix (b : List UInt8) (n : Option Nat) :
    ∃ r, parseBlob n (.bytes b) = .ok (.bytes r) ∧ r <+: b ∧
      (match n with
       | none => r = b
       | some 0 => r = b
       | some (k + 1) => r.length ≤ k + 1 ∧ ∀ q, q <+: b → q.length ≤ k + 1 → q <+: r) := by
  exact ⟨limitBlob n b, rfl, limitWith_prefix _ _ _ _, limitWith_longest limit_expressions.2 n b⟩

theorem blob_utf8 (s : List Char) (n : Option Nat) :
    parseBlob n (.str s) = parseBlob n (.bytes (utf8 s)) := rfl

/-- **Arrays element-wise with nulls kept** (`parseArray` is written from the comprehension
`[parser(v) for v in x]`, `parser = element_type.parse`, whose source text is extracted and spelled out here): the result has the same length, `null` stays `null`
at its position and every other element is the element type's cast of that element; if any
element's cast raises, the array cast raises. -/
theorem array_elementwise (fot : List Char → Option UInt64) (t : Ty) (xs : List (Option Val)) :
    (Gen.Cast.arrayComprehension = "[parser(v) for v in x]" ∧ Gen.Cast.arrayParser = "element_type.parse") ∧
    (∀ rs, parseArray fot (some t) xs = .ok rs →
      rs.length = xs.length ∧
      ∀ i (h : i < xs.length) (h' : i < rs.length), parse fot t xs[i] = .ok rs[i] ∧ (xs[i] = none → rs[i] = none)) ∧
    ((∃ x ∈ xs, ∃ e, parse fot t x = .error e) → ∃ e, parseArray fot (some t) xs = .error e) := by
  refine ⟨⟨rfl, rfl⟩, fun rs h => ?_, fun ⟨x, hx, e, he⟩ => ?_⟩
  · obtain ⟨hl, hi⟩ := parseArray_ok fot t xs rs h
    refine ⟨hl, fun i h1 h2 => ⟨hi i h1 h2, fun hn => ?_⟩⟩
    -- the cast of `None` is `None`
    have := hi i h1 h2
    rw [hn, parse, parseVia_none null_guard] at this
    exact (Except.ok.inj this).symm
  · -- had the comprehension returned, the raising element would have been cast
    cases hr : parseArray fot (some t) xs with
    | error e' => exact ⟨e', rfl⟩
    | ok rs =>
      obtain ⟨i, hi, rfl⟩ := List.getElem_of_mem hx
      obtain ⟨hl, hs⟩ := parseArray_ok fot t xs rs hr
      rw [hs i hi (hl ▸ hi)] at he
      cases he

/-- **Element `i` of the result is the cast of element `i` alone**: two arrays that hold the same
element at position `i` — whatever stands before or after it, equal-comparing elements of another class
(`1`, `1.0`, `True`), repetitions of it, or nothing — get the same result at position `i`, and that result is the
element type's cast of that one element.  A cast remembered under the element as a dictionary key would break
this (`1 == 1.0 == True` share a key); the comprehension the model is written from (`array_elementwise`) cannot. -/
theorem array_element_alone (fot : List Char → Option UInt64) (t : Ty) (xs ys rs rs' : List (Option Val))
    (hx : parseArray fot (some t) xs = .ok rs) (hy : parseArray fot (some t) ys = .ok rs')
    (i j : Nat) (hi : i < xs.length) (hj : j < ys.length) (same : xs[i] = ys[j]) :
    rs[i]? = rs'[j]? ∧ ∃ r, rs[i]? = some r ∧ parse fot t xs[i] = .ok r := by
  obtain ⟨hl, hs⟩ := (array_elementwise fot t xs).2.1 rs hx
  obtain ⟨hl', hs'⟩ := (array_elementwise fot t ys).2.1 rs' hy
  have hi' : i < rs.length := by omega
  have hj' : j < rs'.length := by omega
  have h1 := (hs i hi hi').1
  have h2 := (hs' j hj hj').1
  rw [← same, h1] at h2
  have e : rs[i] = rs'[j] := by injection h2
  refine ⟨?_, rs[i], ?_, h1⟩
  · rw [List.getElem?_eq_getElem hi', List.getElem?_eq_getElem hj', e]
  · exact List.getElem?_eq_getElem hi'

/-- Equal numbers of different classes are different elements for the model: `[1, True, None, 1]` as `ARRAY<VARCHAR>`. -/
example :
    parseArray (fun _ => none) (some (.varchar none)) [some (.int 1), some (.bool true), none, some (.int 1)]
      = .ok [some (.str ['1']), some (.str ['T', 'r', 'u', 'e']), none, some (.str ['1'])] := by
  decide +kernel

/-- **DATE / TIMESTAMP reuse the C08 parser**: already-typed values are kept (timestamps to whole
seconds), a date casts to its midnight. -/
theorem temporal_identity (y m d : Nat) (dt : Iso.DateTime) :
    parseTemporal .date (.date y m d) = .ok (.date y m d) ∧
    parseTemporal .timestamp (.datetime dt) = .ok (.datetime (Iso.truncSeconds dt)) ∧
    parseTemporal .date (.datetime dt) = .ok (.date dt.year dt.month dt.day) ∧
    parseTemporal .timestamp (.date y m d) = .ok (.datetime ⟨y, m, d, 0, 0, 0, 0⟩) := ⟨rfl, rfl, rfl, rfl⟩

/-- **Never a value of another Python class**: whatever the input, a cast that returns a non-null
value returns one whose class is the one `ORSO_TO_PYTHON_MAP` (extracted) gives for the type. -/
theorem result_class (fot : List Char → Option UInt64) (t : Ty) (v : Val) (r : Val)
    (h : parseWith fot t v = .ok r) : r.cls = t.cls := by
  rw [dispatch_table] at h
  rw [Ty.cls_eq]
  cases t with
  | boolean => exact parseBoolean_cls v r h
  | integer => exact parseInteger_cls v r h
  | double => exact parseDouble_cls fot v r h
  | decimal p s => exact parseDecimal_cls p s v r h
  | varchar n => exact parseVarchar_cls n v r h
  | blob n => exact parseBlob_cls n v r h
  | date => exact parseTemporal_cls .date v r h (by decide)
  | timestamp => exact parseTemporal_cls .timestamp v r h (by decide)

/-- **Arrays of them**: every non-null element of the result of an array cast has the element
type's class; and an array whose elements each cast to themselves (already-typed values, nulls)
casts to itself. -/
theorem array_result_class (fot : List Char → Option UInt64) (t : Ty) (xs rs : List (Option Val))
    (h : parseArray fot (some t) xs = .ok rs) :
    (∀ r, some r ∈ rs → r.cls = t.cls) ∧
    ((∀ x ∈ xs, parse fot t x = .ok x) → rs = xs) := by
  obtain ⟨hl, hi⟩ := parseArray_ok fot t xs rs h
  refine ⟨?_, fun hid => ?_⟩
  · intro r hr
    obtain ⟨i, hi', e⟩ := List.getElem_of_mem hr
    have h1 := hi i (by omega) hi'
    rw [e] at h1
    obtain ⟨v, _, hv⟩ := parseVia_ok_some null_guard _ _ r h1
    exact result_class fot t v r hv
  · rw [parseArray_identity fot t xs hid] at h
    cases h; rfl

/-- **DATE / TIMESTAMP from their canonical renderings** (through C08's `iso_roundtrip` /
`date_form`): `isoformat()` of a valid date-time — separator `T` or space, any number of fraction
digits — casts back to it in whole seconds; `isoformat()` of a valid date casts back to the date;
the UTF-8 bytes of any text cast like the text. -/
theorem temporal_text_roundtrip (dt : Iso.DateTime) (hv : Iso.validDateTime dt = true) (sep : Char)
    (hsep : sep = 'T' ∨ sep = ' ') (k : Nat) (y m d : Nat) (hd : Iso.validDate y m d = true) :
    parseTemporal .timestamp (.str (Iso.render dt sep k .none)) = .ok (.datetime (Iso.truncSeconds dt)) ∧
    parseTemporal .date (.str (Iso.renderDate y m d)) = .ok (.date y m d) ∧
    (∀ (kind : Iso.CastKind) (s : String),
      parseTemporal kind (.bytes s.toUTF8.data.toList) = parseTemporal kind (.str s.toList)) := by
  refine ⟨?_, ?_, ?_⟩
  · have h := C08.iso_roundtrip dt hv sep hsep k .none
    simp only [parseTemporal, isoInput, Iso.cast, h]
  · have h := C08.date_form y m d hd .none rfl
    simp only [Iso.Suffix.text, List.append_nil] at h
    simp only [parseTemporal, isoInput, Iso.cast, h]
  · intro kind s
    have h := C08.utf8_bytes_as_text s
    cases kind <;> simp only [parseTemporal, isoInput, Iso.cast, h, Iso.decodeUtf8_toUTF8]

/-- **The generated factory expressions** (`decimal.Context(prec=…)`, `safe_scale = …`,
`Decimal(10) ** …`, lifted from `DecimalFactory.__call__` on this run) cover the statement: the
context precision is the declared precision, every scale up to 28 is quantised to exactly that
many places, rounding is half-even; and the context is built inside the call (`contextScope`): one
module-level context whose `prec` is assigned per call — state shared by every DECIMAL cast of the
process, so that a cast can round with the precision another thread's cast has just stored — is
recognised by the extractor and fails here. -/
theorem factory_expressions : FactoryFacts where
  prec := by intro p; rfl
  scale := by intro s hs; unfold Gen.Cast.quantExp Gen.Cast.quantScale; omega
  rounding := rfl
  pad := by intro s; unfold Gen.Cast.padCount; omega
  privateContext := rfl
  ambientFree := rfl

/-- **A cast reads nothing but its arguments.**  The statement gives the value of a cast from the value and the declared
type alone, so it must hold whatever the calling thread's decimal context is (`decimal.localcontext()` with a precision of 3
or 50, another rounding mode, a narrow exponent range, traps enabled), whatever the locale, the environment, the clock or the
`sys` settings are.  The extractor lists every read of such state in `DecimalFactory.__call__` / `new_factory` /
`parse_decimal` (`Gen.Cast.factoryAmbient`: `decimal.getcontext()`, Decimal operators such as `Decimal("10") ** -k`, which
compute in the *ambient* context, context-sensitive Decimal methods called without `context=`) and in the other parsers and
`OrsoTypes.parse` (`Gen.Cast.parserAmbient`); both lists are empty, which is why `Cast.parse` / `Cast.factory` take no
ambient argument and every theorem of this file holds under every ambient state.  A cap `min(self.scale,
decimal.getcontext().prec)` in place of the constant 28 fails here (and, through `FactoryFacts.ambientFree`, in
`factory_expressions`). -/
theorem cast_reads_no_ambient_state :
    Gen.Cast.factoryAmbient = [] ∧ Gen.Cast.parserAmbient = [] := by
  constructor <;> decide

/-- **Decimals are exact whenever they fit.**  A finite decimal `(-1)^neg · c · 10^e` with at most
`s ≤ 28` fractional digits (`-s ≤ e`) whose coefficient, rescaled to exponent `-s`, has at most `p`
digits is returned as exactly that value, quantised to `s` places: coefficient `c · 10^(e+s)` at
exponent `-s` (same sign, so `-0` stays `-0`).  It holds for an already-typed `Decimal` and for any
text (or, by `parseDecimal`, bytes / integer rendering) that `Decimal` reads as that number, except
all-digit text, which is zero-padded before it is read (`decimal_zero_padding`). -/
theorem decimal_exact (p s : Nat) (neg : Bool) (c : Nat) (e : Int) (hp : 1 ≤ p)
    (hs : s ≤ 28) (he : -(s : Int) ≤ e) (hc : numDigits c ≤ p)
    (hd : numDigits (c * 10 ^ (e + s).toNat) ≤ p) :
    parseDecimal (some p) (some s) (.dec (.fin neg c e))
      = .ok (.dec (.fin neg (c * 10 ^ (e + s).toNat) (-(s : Int)))) ∧
    ∀ t : List Char, (!(stripD t).isEmpty && allDigits (stripD t)) = false →
      decOfText (stripD (stripD t)) = some (.fin neg c e) →
      parseDecimal (some p) (some s) (.str t)
        = .ok (.dec (.fin neg (c * 10 ^ (e + s).toNat) (-(s : Int)))) := by
  have h1 := factory_fits factory_expressions p s neg c e hp hs he hc hd
  refine ⟨h1, ?_⟩
  intro t hnd ht
  exact (factory_text p s (stripD t) hnd _ ht).trans h1

/-- **Every declared scale, the boundaries 28 / 29 / 38 included.**  With `q = min s 28` (the cap
lifted from `safe_scale = …` on this run), a decimal whose exponent is at least `-q` and which
fits `p` digits at `q` places is returned exactly, quantised to `q` places — for `s ≤ 28` this is
`decimal_exact`, for `29 ≤ s ≤ 38` the cast keeps 28 places.  Holds for every `p ≥ 1`
(in particular 28, 29 and 38: the context precision is the declared precision, not CPython's
default 28). -/
theorem decimal_exact_scale_cap (p s : Nat) (neg : Bool) (c : Nat) (e : Int) (hp : 1 ≤ p)
    (he : -((min s 28 : Nat) : Int) ≤ e) (hc : numDigits c ≤ p)
    (hd : numDigits (c * 10 ^ (e + (min s 28 : Nat)).toNat) ≤ p) :
    (∀ s : Nat, Gen.Cast.quantExp (Gen.Cast.quantScale s) = -((min s 28 : Nat) : Int)) ∧
    parseDecimal (some p) (some s) (.dec (.fin neg c e))
      = .ok (.dec (.fin neg (c * 10 ^ (e + (min s 28 : Nat)).toNat) (-((min s 28 : Nat) : Int)))) := by
  have hcap : ∀ s : Nat, Gen.Cast.quantExp (Gen.Cast.quantScale s) = -((min s 28 : Nat) : Int) := by
    intro s; unfold Gen.Cast.quantExp Gen.Cast.quantScale; omega
  exact ⟨hcap, factory_quantized factory_expressions p s (min s 28) (hcap s) neg c e hp he hc hd⟩

/-- **Casting the result again changes nothing** (idempotence on already-typed decimals that are
quantised to the column's scale and fit its precision). -/
theorem decimal_idempotent (p s : Nat) (neg : Bool) (c : Nat) (hp : 1 ≤ p)
    (hs : s ≤ 28) (hc : numDigits c ≤ p) :
    parseDecimal (some p) (some s) (.dec (.fin neg c (-(s : Int)))) = .ok (.dec (.fin neg c (-(s : Int)))) := by
  have e0 : (-(s : Int) + s).toNat = 0 := by omega
  have h := factory_fits factory_expressions p s neg c (-(s : Int)) hp hs (Int.le_refl _) hc
    (by rw [e0]; simpa using hc)
  rw [e0] at h
  simpa [parseDecimal] using h

/-- **`Decimal(str(d)) = d`: the canonical rendering reads back exactly** — sign, coefficient and
exponent of every finite decimal (plain and scientific notation, leading fractional zeros), the
sign of an infinity, NaN — and has no white space for `strip()` to remove; hence casting the rendering (when it is
not all digits) is casting the decimal itself.  `renderDec` is CPython's `Decimal.__str__`,
compared with `str(d)` on every generated decimal. -/
theorem decimal_text_roundtrip (d : Dec) :
    decOfText (renderDec d) = some d ∧ stripD (renderDec d) = renderDec d ∧
    ∀ p s : Nat, 1 ≤ p → (!(renderDec d).isEmpty && allDigits (renderDec d)) = false →
      parseDecimal (some p) (some s) (.str (renderDec d)) = parseDecimal (some p) (some s) (.dec d) := by
  obtain ⟨hread, hstrip⟩ := renderDec_reads d
  refine ⟨hread, hstrip, fun p s _ hnd => ?_⟩
  show factory p s (.inl (stripD (renderDec d))) = factory p s (.inr d)
  rw [hstrip]
  exact factory_text p s (renderDec d) hnd d (hstrip.symm ▸ hread)

/-- **The all-digit zero-padding path preserves the value**: for non-empty all-digit text `t`
(`value += "." + "0" * min(scale, 3)`, count from the generated expression) the cast is the cast of
the decimal `natOf t · 10^k` at exponent `-k` — the same number — and when that number fits
`(p, s)`, `s ≤ 28`, the result is exactly `natOf t` quantised to `s` places. -/
theorem decimal_zero_padding (p s : Nat) (t : List Char) (hne : t ≠ []) (ht : ∀ c ∈ t, c.isDigit = true) :
    parseDecimal (some p) (some s) (.str t)
      = parseDecimal (some p) (some s)
          (.dec (.fin false (natOf t * 10 ^ (Gen.Cast.padCount s).toNat) (-((Gen.Cast.padCount s).toNat : Int)))) ∧
    (1 ≤ p → s ≤ 28 → numDigits (natOf t * 10 ^ s) ≤ p →
      parseDecimal (some p) (some s) (.str t) = .ok (.dec (.fin false (natOf t * 10 ^ s) (-(s : Int))))) := by
  have h1 : parseDecimal (some p) (some s) (.str t)
      = parseDecimal (some p) (some s)
          (.dec (.fin false (natOf t * 10 ^ (Gen.Cast.padCount s).toNat) (-((Gen.Cast.padCount s).toNat : Int)))) := by
    show factory p s (.inl (stripD t)) = factory p s (.inr _)
    rw [stripD_id t (fun c hc => isWsD_of_isDigit (ht c hc))]
    exact factory_congr p s fun prec => created_text prec s t _ (decOfText_padText s t hne ht)
  refine ⟨h1, ?_⟩
  intro hp hs hd
  rw [h1]
  have hks : (Gen.Cast.padCount s).toNat ≤ s := by have := factory_expressions.pad s; omega
  generalize (Gen.Cast.padCount s).toNat = k at hks ⊢
  have e1 : (-(k : Int) + s).toNat = s - k := by omega
  have e2 : natOf t * 10 ^ k * 10 ^ (s - k) = natOf t * 10 ^ s := by
    rw [Nat.mul_assoc, ← Nat.pow_add, Nat.add_sub_cancel' hks]
  have hle : natOf t * 10 ^ k ≤ natOf t * 10 ^ s :=
    Nat.mul_le_mul_left _ (Nat.pow_le_pow_right (by decide) hks)
  have := factory_fits factory_expressions p s false (natOf t * 10 ^ k) (-(k : Int)) hp hs
    (Int.neg_le_neg (Int.ofNat_le.mpr hks)) (numDigits_mono hp hle hd) (by rw [e1, e2]; exact hd)
  rw [e1, e2] at this
  exact this

/-- **Rounding half to even to `prec` digits** (`create_decimal` under the factory's context): a
coefficient of at most `p` digits is kept; otherwise, with `k` surplus digits, the new coefficient
denotes `q' · 10^k` where `q' = roundQuot c k` is a nearest multiple (`|c − q'·10^k| ≤ 10^k / 2`),
the even one on a tie, the floor quotient or one more; after a carry to `10^p` one more digit is
dropped; the result never has more than `p` digits. -/
theorem decimal_rounds_half_even (p : Nat) (hp : 0 < p) (neg : Bool) (c : Nat) (e : Int) :
    (numDigits c ≤ p → roundTo p (.fin neg c e) = .fin neg c e) ∧
    (p < numDigits c →
      ∃ c' j, roundTo p (.fin neg c e) = .fin neg c' (e + (numDigits c - p : Nat) + (j : Nat)) ∧
        c' * 10 ^ j = roundQuot c (numDigits c - p) ∧ numDigits c' ≤ p) ∧
    (∀ k, 2 * (roundQuot c k * 10 ^ k) ≤ 2 * c + 10 ^ k ∧ 2 * c ≤ 2 * (roundQuot c k * 10 ^ k) + 10 ^ k ∧
      ((2 * (roundQuot c k * 10 ^ k) = 2 * c + 10 ^ k ∨ 2 * c = 2 * (roundQuot c k * 10 ^ k) + 10 ^ k) →
        roundQuot c k % 2 = 0) ∧
      (roundQuot c k = c / 10 ^ k ∨ roundQuot c k = c / 10 ^ k + 1)) := by
  refine ⟨roundTo_id p neg c e, fun h => ?_, roundQuot_spec c⟩
  generalize hkk : numDigits c - p = k
  -- `c` has `p + k` digits, so its quotient by `10^k` is below `10^p` and rounds to at most `10^p`
  have hle : roundQuot c k ≤ 10 ^ p := by
    have hc : c < 10 ^ p * 10 ^ k := by
      rw [← Nat.pow_add, ← numDigits_le_iff c _ (by omega)]; omega
    have := (Nat.div_lt_iff_lt_mul (Nat.pow_pos (by decide))).mpr hc
    rcases (roundQuot_spec c k).2.2.2 with h | h <;> omega
  simp only [roundTo, if_neg (Nat.not_le.mpr h), hkk]
  by_cases hd : numDigits (roundQuot c k) > p
  · -- the carry: the quotient is `10^p` and loses its last zero
    have heq : roundQuot c k = 10 ^ p := Nat.le_antisymm hle ((lt_numDigits_iff _ p hp).mp hd)
    obtain ⟨p', rfl⟩ : ∃ p', p = p' + 1 := ⟨p - 1, by omega⟩
    rw [if_pos hd, heq, Nat.pow_succ, Nat.mul_div_cancel _ (by decide)]
    refine ⟨10 ^ p', 1, rfl, rfl, ?_⟩
    rw [numDigits_le_iff _ _ (by omega)]
    exact Nat.pow_lt_pow_right (by decide) (Nat.lt_succ_self _)
  · rw [if_neg hd]
    exact ⟨roundQuot c k, 0, by simp, by simp, by omega⟩

/-- **Quantisation and the `InvalidOperation` fallback — decimals that do NOT fit are covered too.**
For every decimal `d` (any digits, any exponent, infinities, NaN) and `p ≥ 1`, with `T` the generated
quantisation exponent (`-min(scale, 28)`): the cast returns the value rounded to `p` digits and
rescaled to exponent `T` — exact scaling upward, half-even rounding of dropped digits — when the
rescaled coefficient has at most `p` digits; otherwise (what CPython signals as `InvalidOperation`)
it returns the rounded, unquantised value; infinities come back unchanged, NaN stays NaN.  In every
case the result is a decimal: the cast of a decimal never raises. -/
theorem decimal_fallback_spec (p s : Nat) (hp : 1 ≤ p) (d : Dec) :
    parseDecimal (some p) (some s) (.dec d) = .ok (.dec (
      match roundTo p d with
      | .fin neg c e =>
        if numDigits (rescale c e (Gen.Cast.quantExp (Gen.Cast.quantScale s))) ≤ p
        then .fin neg (rescale c e (Gen.Cast.quantExp (Gen.Cast.quantScale s))) (Gen.Cast.quantExp (Gen.Cast.quantScale s))
        else .fin neg c e
      | .inf n => .inf n
      | .nan => .nan)) ∧
    (∀ (c : Nat) (e target : Int),
      (target ≤ e → rescale c e target = c * 10 ^ (e - target).toNat) ∧
      (e < target → rescale c e target = roundQuot c (target - e).toNat)) := by
  refine ⟨?_, fun c e target => ?_⟩
  · show factory p s (.inr d) = _
    rw [factory_eq factory_expressions p s hp]
    simp only [created]
    cases hr : roundTo p d with
    | nan => simp [quantize]
    | inf n => simp [quantize]
    | fin neg c e =>
      simp only [quantize]
      by_cases h : numDigits (rescale c e (Gen.Cast.quantExp (Gen.Cast.quantScale s))) ≤ p
      · rw [if_neg (by omega), if_pos h]
      · rw [if_pos (by omega), if_neg h]
  · unfold rescale
    exact ⟨fun h => if_pos h, fun h => if_neg (by omega)⟩

/-- **The scalar parsers are the bare conversions** (shape lifted from `parse_integer` /
`parse_double` on this run: `[if <test>: x = <fn>(x)]* return <fn>(x)`): no conversion is applied to
the argument before `int(x)` / `float(x)` — a detour of some renderings through another type
(`x = float(x)` for signed or padded text) appears here as a non-empty `integerPre`. -/
theorem scalar_parser_bodies :
    Gen.Cast.integerPre = [] ∧ Gen.Cast.integerConv = "int" ∧
    Gen.Cast.doublePre = [] ∧ Gen.Cast.doubleConv = "float" := by decide

/-- **A column default goes through the same cast** (anchor orso/schema.py:203-210; the guard and the
cast expression are lifted from the source on this run): a truthy default — whatever its class, a
value of a subclass of the column's class included (`isInst` arbitrary) — is replaced by the column
type's cast of it, so by `result_class` it has the column type's class; a null default stays null.
(Falsy defaults are not cast today — an observation the statement does not demand, so nothing is
claimed about them.) -/
theorem column_default_cast (fot : List Char → Option UInt64) (t : Ty) (isInst : Bool) :
    Gen.Cast.defaultCast = "self.type.parse(self.default)" ∧
    (∀ v : Val, v.falsy = false → columnDefault (parse fot t) isInst (some v) = parse fot t (some v)) ∧
    (∀ v r : Val, v.falsy = false → columnDefault (parse fot t) isInst (some v) = .ok (some r) → r.cls = t.cls) ∧
    columnDefault (parse fot t) isInst none = .ok none := by
  have hcast : ∀ v : Val, v.falsy = false → columnDefault (parse fot t) isInst (some v) = parse fot t (some v) := by
    intro v hv
    simp only [columnDefault]
    exact if_pos (by simp [Gen.Cast.defaultGuard, hv])
  refine ⟨rfl, hcast, fun v r hv h => ?_, ?_⟩
  · rw [hcast v hv] at h
    obtain ⟨_, e, hr⟩ := parseVia_ok_some null_guard _ _ r h
    cases e
    exact result_class fot t v r hr
  · have := parseVia_none null_guard (parseWith fot t)
    simp only [columnDefault]
    split
    · exact this
    · rfl

open Cast.Json in
/-- **The JSON text → elements step: reading inverts writing.**  For every JSON value of the subset
arrays are rendered in (null, true/false, integers inside orjson's 64-bit range, floats, strings of
any characters, arrays nested to any depth), written compactly (`orjson.dumps`) or with any JSON
white space after `[`, after `,`, before `]` and around the document (`json.dumps`), the reader gives
back exactly that value: every escape (`\"`, `\\`, `\b \f \n \r \t`, `\u00XX`) is undone, numbers
keep their sign and every digit, nesting and order are kept.  For floats it ASSUMES exactly
`FloatParam` (their rendering is a JSON number with a fraction or an exponent that `float()` reads
back to the same finite double; sampled on every run for `repr` and `orjson.dumps`). -/
theorem json_roundtrip (fot : List Char → Option UInt64) (rep : UInt64 → List Char) (w : Ws) (hwok : w.ok)
    (v : J) (hw : Wf fot rep v) (pre post : List Char)
    (hpre : ∀ c ∈ pre, isWs c = true) (hpost : ∀ c ∈ post, isWs c = true) :
    readJson fot (pre ++ (render w rep v ++ post)) = .ok v ∧
    Ws.compact.ok ∧ Ws.jsonDumps.ok :=
  ⟨readJson_render fot rep w hwok v hw pre post hpre hpost,
   ⟨by simp [Ws.compact], by simp [Ws.compact], by simp [Ws.compact]⟩,
   ⟨by simp [Ws.jsonDumps], by simp [Ws.jsonDumps, isWs], by simp [Ws.jsonDumps]⟩⟩

open Cast.Json in
/-- **JSON arrays element-wise, starting from the text** (`parse_array`: what is not a list, tuple or
set is handed to `orjson.loads` — both lifted from the source on this run): casting the JSON text
of an array, or the UTF-8 bytes of that text, is the element-wise cast (`parseArray`,
`array_elementwise`) of the values it denotes — `null` as `None`, so nulls are kept in place — hence:
same length, every element the element type's cast of the JSON value at its position, an error when
one of them raises. -/
theorem array_from_text (fot : List Char → Option UInt64) (rep : UInt64 → List Char) (w : Ws) (hwok : w.ok)
    (xs : List J) (hw : WfL fot rep xs) (t : Ty) (pre post : List Char)
    (hpre : ∀ c ∈ pre, isWs c = true) (hpost : ∀ c ∈ post, isWs c = true) :
    (Gen.Cast.arrayNative = ["list", "tuple", "set"] ∧ Gen.Cast.arrayLoader = "orjson.loads") ∧
    parseArrayText fot (some t) (.str (pre ++ (render w rep (.arr xs) ++ post)))
      = some (parseArray fot (some t) (xs.map J.toVal)) ∧
    parseArrayText fot (some t) (.bytes (String.ofList (pre ++ (render w rep (.arr xs) ++ post))).toUTF8.data.toList)
      = some (parseArray fot (some t) (xs.map J.toVal)) ∧
    (∀ rs, parseArrayText fot (some t) (.str (pre ++ (render w rep (.arr xs) ++ post))) = some (.ok rs) →
      rs.length = xs.length ∧
      ∀ i (h : i < xs.length) (h' : i < rs.length),
        parse fot t (xs[i]).toVal = .ok rs[i] ∧ (xs[i] = .null → rs[i] = none)) := by
  obtain ⟨h1, h2⟩ := parseArrayText_arr fot (some t) _ xs
    (readJson_render fot rep w hwok (.arr xs) (by simpa [Wf] using hw) pre post hpre hpost)
  have hu := Iso.decodeUtf8_toUTF8 (String.ofList (pre ++ (render w rep (.arr xs) ++ post)))
  rw [String.toList_ofList] at hu
  refine ⟨⟨rfl, rfl⟩, h1, h2 _ hu, ?_⟩
  · intro rs hrs
    rw [h1] at hrs
    obtain ⟨hl, hi⟩ := (array_elementwise fot t _).2.1 rs (Option.some.inj hrs)
    rw [List.length_map] at hl
    refine ⟨hl, fun i h h' => ?_⟩
    have := hi i (by rw [List.length_map]; exact h) h'
    rw [List.getElem_map] at this
    exact ⟨this.1, fun hn => this.2 (by rw [hn]; rfl)⟩

open Cast.Json in
/-- **Arrays of integers, booleans and text from their JSON text give back the values** (nulls kept):
`[1,null,-3]` as `ARRAY<INTEGER>` is `[1, None, -3]`, etc.  `_partial`: integers are restricted to
orjson's range `[-2^63, 2^64)`; beyond it the full statement ("integers of any size") is false of the
code — `array_int_beyond_64bit_counterexample`, open finding C07-K01. -/
theorem array_values_from_text_partial (fot : List Char → Option UInt64) (rep : UInt64 → List Char) (w : Ws) (hwok : w.ok) :
    (∀ ns : List (Option Int), (∀ n, some n ∈ ns → -9223372036854775808 ≤ n ∧ n < 18446744073709551616) →
      parseArrayText fot (some .integer) (.str (render w rep (.arr (ns.map fun o => match o with | none => J.null | some n => J.int n))))
        = some (.ok (ns.map fun o => o.map Val.int))) ∧
    (∀ bs : List (Option Bool),
      parseArrayText fot (some .boolean) (.str (render w rep (.arr (bs.map fun o => match o with | none => J.null | some b => J.bool b))))
        = some (.ok (bs.map fun o => o.map Val.bool))) ∧
    (∀ ss : List (Option (List Char)),
      parseArrayText fot (some (.varchar none)) (.str (render w rep (.arr (ss.map fun o => match o with | none => J.null | some s => J.str s))))
        = some (.ok (ss.map fun o => o.map Val.str))) := by
  -- an element map `f` that writes `None` as `null` and a value `a` as JSON denoting `val a`, which the element type keeps
  have key : ∀ {α : Type} (f : Option α → J) (val : α → Val) (t : Ty) (xs : List (Option α)), f none = .null →
      (∀ a, some a ∈ xs → Wf fot rep (f (some a))) → (∀ a, (f (some a)).toVal = some (val a)) →
      (∀ a, parseWith fot t (val a) = .ok (val a)) →
      parseArrayText fot (some t) (.str (render w rep (.arr (xs.map f)))) = some (.ok (xs.map fun o => o.map val)) := by
    intro α f val t xs hf hwf htv hp
    have hw : WfL fot rep (xs.map f) := (WfL_iff fot rep _).mpr fun x hx => by
      obtain ⟨o, ho, rfl⟩ := List.mem_map.mp hx
      cases o with
      | none => rw [hf]; trivial
      | some a => exact hwf a ho
    have := (array_from_text fot rep w hwok _ hw t [] [] (fun _ h => nomatch h) (fun _ h => nomatch h)).2.1
    rw [List.nil_append, List.append_nil] at this
    rw [this, List.map_map]
    refine congrArg some (parseArray_map fot t _ _ xs fun o _ => ?_)
    cases o with
    | none => show parse fot t (f none).toVal = _; rw [hf]; exact parseVia_none null_guard _
    | some a => show parse fot t (f (some a)).toVal = _; rw [htv a, parse, parseVia_some null_guard, hp a]; rfl
  refine ⟨fun ns hr => ?_, fun bs => ?_, fun ss => ?_⟩
  · exact key _ Val.int .integer ns rfl hr (fun _ => rfl)
      (fun n => by rw [dispatch_table]; rfl)
  · exact key _ Val.bool .boolean bs rfl (fun _ _ => trivial) (fun _ => rfl)
      (fun b => by rw [dispatch_table]; exact (bool_roundtrip.2.2.2 b).1)
  · exact key _ Val.str (.varchar none) ss rfl (fun _ _ => trivial) (fun _ => rfl)
      (fun s => by rw [dispatch_table]; rfl)

open Cast.Json in
/-- **Counterexample to "integers of any size" inside JSON arrays** (open finding C07-K01, the model
is faithful to the code): an integer token beyond 64 bits is read as a double, so — with
`float("18446744073709551617") = 2^64`, IEEE round-to-nearest — the `ARRAY<INTEGER>` cast of
`[18446744073709551617]` is `[18446744073709551616]`. -/
theorem array_int_beyond_64bit_counterexample (fot : List Char → Option UInt64)
    (h : fot "18446744073709551617".toList = some 0x43F0000000000000) :
    parseArrayText fot (some .integer) (.str "[18446744073709551617]".toList)
      = some (.ok [some (.int 18446744073709551616)]) := by
  rw [String.toList_ofList] at h ⊢
  have hv := numValue_through_float fot _ _ (by decide +kernel) (by decide +kernel) h (by decide +kernel)
  have hr := readJson_single_number fot _ _ (by decide +kernel) hv
  refine (parseArrayText_arr fot _ _ _ hr).1.trans ?_
  simp only [List.map_cons, List.map_nil, J.toVal, parseArray, parse, parseVia_some null_guard, dispatch_table]
  -- what is left is `int()` of the double 2^64
  decide +kernel

/-! ## The functions of `orso/types.py`, translated statement by statement on this run, are the model

`Gen.CastFns.*` is what `harness/pystmt_cast.py` makes of the *current* bodies of `parse_boolean`, `parse_integer`,
`parse_double`, `parse_varchar`, `parse_bytes`, `parse_date`, `parse_timestamp`, `parse_decimal`, `parse_array`,
`OrsoTypes.parse` and the dict `ORSO_TO_PYTHON_PARSER` (Python primitives: `Model/CastPrim.lean`).  Each theorem below
says that the generated program *is* the hand-written model function all theorems above are about — for every value,
every option — so a change of a guard, of the order of two tests, of a conversion, of a slice bound, of a table entry
breaks the theorem named after the function. -/
section Generated
open Cast.Prim
-- `bind_pure` (`t = e; return t` read as `return e`) is given also where today's spelling has no such temporary,
-- so that a respelling of the source that introduces one keeps the proof
set_option linter.unusedSimpArgs false

/-- `parse_boolean` as translated on this run is `parseBoolean` (typed booleans and integers, text, bytes; `str()` of
other classes is not modelled). -/
theorem generated_parse_boolean_eq_model (fot : Fot) (v : Val) (kw : Kw) (hv : textual v = true) :
    Gen.CastFns.parse_boolean fot (.val v) kw = (parseBoolean v).map Obj.val := by
  unfold Gen.CastFns.parse_boolean
  cases v with
  | bytes b =>
    -- `bytes.upper()` works on bytes, the model on the characters they spell
    exact congrArg Except.ok (pyIn_upper_bytes b)
  | str _ | bool _ | int _ => rfl  -- the model's `fold` is the method the source names, `upper`
  | _ => cases hv

/-- `parse_integer` as translated on this run is `int(x)` on its argument and nothing else. -/
theorem generated_parse_integer_eq_model (fot : Fot) (v : Val) (kw : Kw) :
    Gen.CastFns.parse_integer fot (.val v) kw = (parseInteger v).map Obj.val := by
  simp only [Gen.CastFns.parse_integer, pyInt, bind_pure]

/-- `parse_double` as translated on this run is `float(x)` on its argument and nothing else. -/
theorem generated_parse_double_eq_model (fot : Fot) (v : Val) (kw : Kw) :
    Gen.CastFns.parse_double fot (.val v) kw = (parseDouble fot v).map Obj.val := by
  simp only [Gen.CastFns.parse_double, pyFloat, bind_pure]

/-- `parse_varchar` as translated on this run (decode bytes / `str()`, then `if length:` the `[:length]` slice) is
`parseVarchar` for every value and every `length` (None, 0, positive). -/
theorem generated_parse_varchar_eq_model (fot : Fot) (v : Val) (kw : Kw) :
    Gen.CastFns.parse_varchar fot (.val v) kw = (parseVarchar kw.length v).map Obj.val := by
  unfold Gen.CastFns.parse_varchar
  have hs := sliceIfTruthy (fun s => Obj.val (.str s)) (fun _ _ => rfl) limit_expressions.1 kw.length
  -- with `let t ← e; pure t` read as `e`, the program runs on each class of value to the slice `hs` or the model's exception
  simp only [bind_pure]
  cases v with
  | bytes b =>
    simp only [pyDecode, parseVarchar]
    cases Iso.decodeUtf8 b with
    | none => rfl
    | some s => exact hs s
  | str _ | int _ | bool _ => exact hs _
  | _ => rfl

/-- `parse_bytes` as translated on this run (bytes as they are, anything else `str(x).encode("utf-8")`, then the slice)
is `parseBlob`. -/
theorem generated_parse_bytes_eq_model (fot : Fot) (v : Val) (kw : Kw) :
    Gen.CastFns.parse_bytes fot (.val v) kw = (parseBlob kw.length v).map Obj.val := by
  unfold Gen.CastFns.parse_bytes
  have hs := sliceIfTruthy (fun b => Obj.val (.bytes b)) (fun _ _ => rfl) limit_expressions.2 kw.length
  simp only [bind_pure]
  cases v with
  | bytes _ | str _ | int _ | bool _ => exact hs _
  | _ => rfl

/-- `parse_date` / `parse_timestamp` as translated on this run (`parse_iso`, `None` raises `ValueError`, `.date()` for
DATE) are `parseTemporal`. -/
theorem generated_parse_temporal_eq_model (fot : Fot) (v : Val) (kw : Kw) :
    Gen.CastFns.parse_date fot (.val v) kw = (parseTemporal .date v).map Obj.val ∧
    Gen.CastFns.parse_timestamp fot (.val v) kw = (parseTemporal .timestamp v).map Obj.val := by
  simp only [Gen.CastFns.parse_date, Gen.CastFns.parse_timestamp, parseIso, parseTemporal, Iso.cast]
  cases Iso.parseIso (isoInput v) <;> exact ⟨rfl, rfl⟩

/-- `parse_decimal` as translated on this run — defaults 38 / 21, numbers through `str()`, bytes decoded, *then* text
stripped (so decoded bytes are stripped too), the factory called with the declared precision and scale — is
`parseDecimal`. -/
theorem generated_parse_decimal_eq_model (fot : Fot) (v : Val) (kw : Kw) :
    Gen.CastFns.parse_decimal fot (.val v) kw = (parseDecimal kw.precision kw.scale v).map Obj.val := by
  unfold Gen.CastFns.parse_decimal
  have h1 : (if pyIsNone (kwGet kw .scale) then pure (intLit 21) else pyInt (kwGet kw .scale) : M Obj)
      = .ok (intLit (kw.scale.getD 21 : Nat)) := orDefault_natObj kw.scale 21
  have h2 : (if pyIsNone (kwGet kw .precision) then pure (intLit 38) else pyInt (kwGet kw .precision) : M Obj)
      = .ok (intLit (kw.precision.getD 38 : Nat)) := orDefault_natObj kw.precision 38
  simp only [h1, h2]
  -- two counts: no sign test (`decimalFactory_nat`); the rest runs on each class of value to the model's factory call
  simp only [ok_bind, intLit, decimalFactory_nat, bind_pure]
  cases v with
  | bytes b =>
    -- bytes are decoded first, and an undecodable value raises on both sides
    show Except.bind (pyDecode (.val (.bytes b)) .utf8) _ = _
    simp only [pyDecode, parseDecimal]
    cases Iso.decodeUtf8 b <;> rfl
  | _ => rfl

/-- **`OrsoTypes.parse` and the dict `ORSO_TO_PYTHON_PARSER` as translated on this run are `Cast.parse`**: `None`
returns `None` before anything is looked up; any other value is handed, with the options, to the function the dict
names for the type, and that function is the model's parser of the type (theorems above; hence, for BOOLEAN, on the
values `generated_parse_boolean_eq_model` covers: `hb`).  Holds for the full dict and for the dict
`element_type.parse` dispatches through. -/
theorem generated_dispatch_eq_model (fot : Fot) (tbl : Fot → List (String × Parser))
    (htbl : tbl = Gen.CastFns.ORSO_TO_PYTHON_PARSER ∨ tbl = Gen.CastFns.scalarParsers) (t : Ty) (ov : Option Val)
    (hb : t = .boolean → ∀ v, ov = some v → textual v = true) :
    Gen.CastFns.OrsoTypes_parse fot (tbl fot) (.ty t) (ofOpt ov) (kwOf t) = (Cast.parse fot t ov).map ofOpt := by
  unfold Gen.CastFns.OrsoTypes_parse
  cases ov with
  | none => simp only [ofOpt, pyIsNone, if_true, Cast.parse, parseVia_none null_guard]; rfl
  | some v =>
    -- the full dict is the element dict with an `ARRAY` entry put in, and no modelled type is named `ARRAY`
    have hl : (tbl fot).lookup t.name = (Gen.CastFns.scalarParsers fot).lookup t.name := by
      rcases htbl with rfl | rfl
      · exact lookup_skip _ ((Gen.CastFns.scalarParsers fot).take 10) ((Gen.CastFns.scalarParsers fot).drop 10)
          (by cases t <;> simp only [Ty.name] <;> decide)
      · rfl
    simp only [ofOpt, pyIsNone, Cast.parse, parseVia_some null_guard, dispatch_table, map_bind_some, tyValue, tableGet,
      ok_bind, String.ofList_toList, hl]
    cases t <;> simp [Gen.CastFns.scalarParsers, List.lookup, Ty.name,
      bind, Except.bind, generated_parse_integer_eq_model, generated_parse_double_eq_model, generated_parse_varchar_eq_model,
      generated_parse_bytes_eq_model, generated_parse_temporal_eq_model, generated_parse_decimal_eq_model,
      kwOf, Ty.length, Ty.precision, Ty.scale]
    exact generated_parse_boolean_eq_model fot v _ (hb rfl v rfl)

/-- **`parse_array` as translated on this run is the model's array cast**: a native sequence is iterated as it is,
anything else is handed to `orjson.loads` first; without an element type the elements are returned as a list,
otherwise each goes through `element_type.parse` (no options: `kwOf t = {}`) — `parseArray` on native sequences,
`Json.parseArrayText` on text and bytes wherever that is defined (JSON without objects); for BOOLEAN elements, on
the values `generated_parse_boolean_eq_model` covers. -/
theorem generated_parse_array_eq_model (fot : Fot) (et : Option Ty) (hopt : ∀ t, et = some t → kwOf t = {}) :
    (∀ xs : List (Option Val), (et = some .boolean → ∀ x ∈ xs, ∀ v, x = some v → textual v = true) →
      Gen.CastFns.parse_array fot (.seq xs) { elementType := et } = (parseArray fot et xs).map Obj.seq) ∧
    (∀ v r, Json.parseArrayText fot et v = some r →
      (et = some .boolean → ∀ xs, Json.loadElements fot v = some (.ok xs) → ∀ x ∈ xs, ∀ v, x = some v → textual v = true) →
      Gen.CastFns.parse_array fot (.val v) { elementType := et } = r.map Obj.seq) := by
  have core : ∀ (x : Obj) (r : Except Exc (List (Option Val))), pyIter x = r →
      (et = some .boolean → ∀ xs, r = .ok xs → ∀ x ∈ xs, ∀ v, x = some v → textual v = true) →
      (match et with
       | none => pyList x
       | some t => pyListComp (fun v => Gen.CastFns.OrsoTypes_parse fot (Gen.CastFns.scalarParsers fot) (.ty t) v {}) x)
        = (r.bind (parseArray fot et)).map Obj.seq := by
    intro x r hx hb
    cases r with
    | error e => cases et <;> simp [pyList, pyListComp, hx, Except.map, Except.bind]
    | ok xs =>
      cases et with
      | none => simp [pyList, hx, parseArray_none, Except.map, Except.bind]
      | some t =>
        have hk := hopt t rfl
        have : mapE (fun v => Gen.CastFns.OrsoTypes_parse fot (Gen.CastFns.scalarParsers fot) (.ty t) v {}) xs
            = parseArray fot (some t) xs := by
          apply mapE_eq_parseArray
          intro y hy
          have := generated_dispatch_eq_model fot Gen.CastFns.scalarParsers (Or.inr rfl) t y
            (fun ht v hv => hb (by rw [ht]) xs rfl y hy v hv)
          rw [hk] at this
          exact this
        simp [pyListComp, hx, this, Except.bind, Except.map]
  refine ⟨?_, ?_⟩
  · intro xs hb
    have := core (.seq xs) (.ok xs) rfl (fun h ys hy => by cases hy; exact hb h)
    unfold Gen.CastFns.parse_array
    cases et <;> simpa [pyIsInstance, kwGet, pyIsNone, bind_pure, Except.bind] using this
  · intro v r hr hb
    simp only [Json.parseArrayText, Option.map_eq_some_iff] at hr
    obtain ⟨r0, hl, rfl⟩ := hr
    unfold Gen.CastFns.parse_array
    have hi := not_native v
    rcases orjsonLoads_of_loadElements fot v r0 hl with ⟨e, h1, rfl⟩ | ⟨j, h1, rfl⟩
    · cases et <;> simp [hi, h1, bind, Except.bind, Except.map]
    · have := core (.json j) (Json.elementsOf j) rfl (fun h xs hx => hb h xs (by rw [hl, hx]))
      cases et <;> simpa [hi, h1, kwGet, pyIsNone, bind_pure, bind, Except.bind] using this

end Generated

/-! Non-vacuity (concrete inputs through the whole text path, including rounding and the fallback).  String literals are
opened by `String.toList_ofList` / `congrArg String.ofList` first: decoding a literal's UTF-8 is slow to check. -/

example : parseDecimal (some 5) (some 2) (.str "123.45".toList) = .ok (.dec (.fin false 12345 (-2))) := by
  rw [String.toList_ofList]
  decide +kernel
example : parseDecimal (some 5) (some 2) (.str " -1.5 ".toList) = .ok (.dec (.fin true 150 (-2))) := by
  rw [String.toList_ofList]
  decide +kernel
example : parseDecimal (some 5) (some 2) (.str "15".toList) = .ok (.dec (.fin false 1500 (-2))) := by
  rw [String.toList_ofList]
  decide +kernel
example : parseDecimal (some 5) (some 2) (.str "1E+2".toList) = .ok (.dec (.fin false 10000 (-2))) := by
  rw [String.toList_ofList]
  decide +kernel
/-- half-even rounding to the scale, and to the precision -/
example : parseDecimal (some 5) (some 2) (.str "0.125".toList) = .ok (.dec (.fin false 12 (-2))) := by
  rw [String.toList_ofList]
  decide +kernel
example : parseDecimal (some 5) (some 2) (.str "123.456".toList) = .ok (.dec (.fin false 12346 (-2))) := by
  rw [String.toList_ofList]
  decide +kernel
/-- does not fit: the `InvalidOperation` fallback returns the rounded, unquantised value -/
example : parseDecimal (some 5) (some 2) (.str "123456".toList) = .ok (.dec (.fin false 12346 1)) := by
  rw [String.toList_ofList]
  decide +kernel
example : parseDecimal (some 5) (some 2) (.str "abc".toList) = .error .invalidOperation := by
  rw [String.toList_ofList]
  decide +kernel
/-- scale above the cap: 28 places are kept; precision 38 keeps 38 digits -/
example : parseDecimal (some 38) (some 30) (.str "1.5".toList) = .ok (.dec (.fin false (15 * 10 ^ 27) (-28))) := by
  rw [String.toList_ofList]
  decide +kernel
example : parseDecimal (some 38) (some 0) (.str "12345678901234567890123456789012345678".toList)
    = .ok (.dec (.fin false 12345678901234567890123456789012345678 0)) := by
  rw [String.toList_ofList]
  decide +kernel
/-- falsy values are not null: they reach their parser -/
example : parse (fun _ => none) .integer (some (.int 0)) = .ok (some (.int 0)) := by decide +kernel
example : parse (fun _ => none) (.varchar (some 3)) (some (.str [])) = .ok (some (.str [])) := by decide +kernel
example : parseArray (fun _ => none) (some .integer) [some (.str "12".toList), none, some (.int 0)]
    = .ok [some (.int 12), none, some (.int 0)] := by
  rw [String.toList_ofList]
  decide +kernel
example : String.ofList (renderDec (.fin true 15 (-1))) = "-1.5" ∧ String.ofList (renderDec (.fin false 1 2)) = "1E+2"
    ∧ String.ofList (renderDec (.fin false 12 (-9))) = "1.2E-8" ∧ String.ofList (renderDec (.fin false 5 (-6))) = "0.000005" := by
  refine ⟨congrArg String.ofList ?_, congrArg String.ofList ?_, congrArg String.ofList ?_, congrArg String.ofList ?_⟩ <;>
    decide +kernel
/-- the JSON text path: white space, nulls, escapes and a surrogate pair, nested arrays, malformed text, scalars, objects -/
example : Json.parseArrayText (fun _ => none) (some .integer) (.str " [1, null ,\"-12\" ]\n".toList)
    = some (.ok [some (.int 1), none, some (.int (-12))]) := by
  rw [String.toList_ofList]
  decide +kernel
example : Json.parseArrayText (fun _ => none) (some (.varchar (some 2))) (.str "[\"a\\n\\u00e9z\",\"\\ud83d\\ude00\"]".toList)
    = some (.ok [some (.str ['a', '\n']), some (.str [Char.ofNat 0x1F600])]) := by
  rw [String.toList_ofList]
  decide +kernel
example : Json.parseArrayText (fun _ => none) none (.str "[[1],true]".toList) = some (.ok [some .other, some (.bool true)]) := by
  rw [String.toList_ofList]
  decide +kernel
example : Json.parseArrayText (fun _ => none) (some .integer) (.str "[1,]".toList) = some (.error .valueError) := by
  rw [String.toList_ofList]
  decide +kernel
example : Json.parseArrayText (fun _ => none) (some .integer) (.str "[01]".toList) = some (.error .valueError) := by
  rw [String.toList_ofList]
  decide +kernel
example : Json.parseArrayText (fun _ => none) (some .integer) (.str "5".toList) = some (.error .typeError) := by
  rw [String.toList_ofList]
  decide +kernel
example : Json.parseArrayText (fun _ => none) (some .integer) (.str "{}".toList) = none := by
  rw [String.toList_ofList]
  decide +kernel
example : String.ofList (Json.render Json.Ws.jsonDumps (fun _ => []) (.arr [.int (-1), .null, .str ['"', Char.ofNat 1], .arr []]))
    = "[-1, null, \"\\\"\\u0001\", []]" := by
  refine congrArg String.ofList ?_
  decide +kernel
example : parseInteger (.str " -12_000 ".toList) = .ok (.int (-12000)) := by
  rw [String.toList_ofList]
  decide +kernel
example : parseVarchar (some 3) (.str "héllo".toList) = .ok (.str "hél".toList) := by
  rw [String.toList_ofList, String.toList_ofList]
  decide +kernel

/-- the generated programs run: text, bytes, options, nulls, an array from JSON text -/
example : (Gen.CastFns.parse_varchar (fun _ => none) (.val (.str "héllo".toList)) { length := some 3 }).map Prim.toOpt
    = .ok (some (.str "hél".toList)) := by
  rw [String.toList_ofList, String.toList_ofList]
  decide +kernel
example : (Gen.CastFns.parse_boolean (fun _ => none) (.val (.bytes [121, 101, 115])) {}).map Prim.toOpt = .ok (some (.bool true)) := by decide +kernel
example : (Gen.CastFns.OrsoTypes_parse (fun _ => none) (Gen.CastFns.ORSO_TO_PYTHON_PARSER (fun _ => none)) (.ty (.decimal (some 5) (some 2)))
    (.val (.bytes [32, 49, 46, 53, 32])) (Prim.kwOf (.decimal (some 5) (some 2)))).map Prim.toOpt = .ok (some (.dec (.fin false 150 (-2)))) := by decide +kernel
example : (Gen.CastFns.parse_array (fun _ => none) (.val (.str "[1, null, \"-2\"]".toList)) { elementType := some .integer }).map Prim.seqOf
    = .ok (some [some (.int 1), none, some (.int (-2))]) := by
  rw [String.toList_ofList]
  decide +kernel

end C07
