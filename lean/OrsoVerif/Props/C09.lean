import OrsoVerif.Model.Encodings
import OrsoVerif.Lemmas.Encodings
import OrsoVerif.Lemmas.EncodingsUnique
import OrsoVerif.Lemmas.EncodingsDType
import OrsoVerif.Lemmas.EncodingsHeap
/-!
# C09 — Compressed column encodings are lossless

Every statement quantifies over all element types, all
sequences (any length), all defaults, all lengths.  The comparison used by the run
detection and by the sparse scan is a parameter (`eq`, `ne`): for floats it is IEEE
equality, under which NaN is unequal to itself, so the only assumption made about it is
soundness (`eq a b = true → a = b`, resp. `ne a d = false → a = d`) — never reflexivity.
-/
namespace C09
open Enc

variable {α β : Type}

/-! ## Run-length -/

/-- The source still compares with `==` in the run detection and with `!=` in the sparse scan,
and starts every run at length one (extracted from `orso/schema.py` on every run; the model's
`rleEncode` uses `Gen.Encodings.runStart`, so the length theorems below depend on it). -/
theorem source_comparisons :
    Gen.Encodings.rleCompareIsEq = true ∧ Gen.Encodings.sparseCompareIsNe = true ∧
    Gen.Encodings.runStart = 1 := by decide

/-- **RLE round trip.**  Expanding the stored runs reproduces the input, element for element. -/
theorem rle_roundtrip (eq : α → α → Bool) (heq : ∀ a b, eq a b = true → a = b) (xs : List α) :
    rleDecode (rleEncode eq xs) = xs := by
  cases xs with
  | nil => rfl
  | cons x t => exact rleLoop_expand eq heq t x 1

/-- **Adjacent runs differ**: consecutive stored values are unequal under the very comparison
the loop uses (`value == prev_value`), for every input and every comparison. -/
theorem rle_adjacent_differ (eq : α → α → Bool) (xs : List α) (i : Nat)
    (hi : i + 1 < (rleEncode eq xs).values.length) :
    eq (rleEncode eq xs).values[i + 1] (rleEncode eq xs).values[i] = false := by
  cases xs with
  | nil => cases hi
  | cons x t =>
    exact (rleLoop_adjacent eq t x 1).2 i _ _ (List.getElem?_eq_getElem _) (List.getElem?_eq_getElem hi)

/-- **Run lengths sum to the input length**, and there is one length per stored value. -/
theorem rle_lengths_sum (eq : α → α → Bool) (xs : List α) :
    (rleEncode eq xs).lengths.sum = xs.length ∧
    (rleEncode eq xs).lengths.length = (rleEncode eq xs).values.length := by
  cases xs with
  | nil => simp [rleEncode]
  | cons x t =>
    exact ⟨(rleLoop_lengths_sum eq t x 1).trans (Nat.add_comm 1 t.length), by simp [rleEncode]⟩

/-- **Every run length is positive** (no empty run is stored). -/
theorem rle_lengths_pos (eq : α → α → Bool) (xs : List α) :
    ∀ n ∈ (rleEncode eq xs).lengths, 0 < n := by
  cases xs with
  | nil => simp [rleEncode]
  | cons x t =>
    exact List.forall_mem_map.mpr (rleLoop_lengths_pos eq t x 1 Nat.one_pos)

/-- **Map commutes with RLE expansion**, for every stored form (not only encoder outputs). -/
theorem map_commutes_rle (f : α → β) (e : RLE α) :
    rleDecode (e.mapValues f) = (rleDecode e).map f := by
  simp only [rleDecode, RLE.mapValues, List.zip_map_left, List.flatMap_map, List.map_flatMap, List.map_replicate,
    Prod.map, id_eq]

/-! ## Dictionary -/

/-- The dictionary holds exactly the values that occur in the input. -/
theorem dict_values_complete [DecidableEq α] (le : α → α → Bool) (xs : List α) (v : α) :
    v ∈ (dictEncode le xs).values ↔ v ∈ xs := by
  simp [dictEncode, List.mem_mergeSort, mem_dedup]

/-- **Dictionary round trip.**  Gathering the entries by the codes reproduces the input (in
particular no code is out of range: the gather does not fail).  Holds for every order `le`. -/
theorem dict_roundtrip [DecidableEq α] (le : α → α → Bool) (xs : List α) :
    dictDecode (dictEncode le xs) = some xs := by
  unfold dictDecode dictEncode
  -- every element is found in the dictionary, and its code points back at it
  rw [List.mapM_map]
  exact mapM_eq_some_self xs fun x hx => getElem?_idxOf_of_mem x _ ((dict_values_complete le xs x).mpr hx)

/-- **Dictionary entries are unique.** -/
theorem dict_values_nodup [DecidableEq α] (le : α → α → Bool) (xs : List α) :
    (dictEncode le xs).values.Nodup :=
  (List.mergeSort_perm (dedup xs) le).symm.nodup (nodup_dedup xs)

/-- **Codes index the dictionary**: one code per element, each within range, each pointing at
an entry equal to its element. -/
theorem dict_codes_in_range [DecidableEq α] (le : α → α → Bool) (xs : List α) :
    (dictEncode le xs).codes.length = xs.length ∧
    (∀ c ∈ (dictEncode le xs).codes, c < (dictEncode le xs).values.length) ∧
    (∀ i (h : i < xs.length), (dictEncode le xs).values[((dictEncode le xs).codes[i]?).getD 0]? = some xs[i]) := by
  have hmem := fun x => (dict_values_complete le xs x).mpr
  refine ⟨by simp [dictEncode], ?_, ?_⟩
  · intro c hc
    obtain ⟨x, hx, rfl⟩ := List.mem_map.mp (show c ∈ xs.map _ from hc)
    exact List.idxOf_lt_length_of_mem (hmem x hx)
  · intro i h
    simp only [dictEncode, List.getElem?_map, List.getElem?_eq_getElem h, Option.map_some,
      Option.getD_some]
    exact getElem?_idxOf_of_mem _ _ (hmem _ (List.getElem_mem h))

/-- The dictionary is sorted whenever `le` is a total preorder (as `numpy.unique` sorts). -/
theorem dict_values_sorted [DecidableEq α] (le : α → α → Bool)
    (trans : ∀ a b c, le a b → le b c → le a c) (total : ∀ a b, le a b || le b a) (xs : List α) :
    (dictEncode le xs).values.Pairwise (fun a b => le a b) :=
  List.pairwise_mergeSort trans total (dedup xs)

/-- **Map commutes with dictionary expansion**, for every stored form. -/
theorem map_commutes_dict (f : α → β) (e : Dict α) :
    dictDecode (e.mapValues f) = (dictDecode e).map (List.map f) := by
  obtain ⟨vals, codes⟩ := e
  simp only [dictDecode, Dict.mapValues]
  induction codes with
  | nil => rfl
  | cons c t ih =>
    rw [List.mapM_cons, ih, List.mapM_cons, List.getElem?_map]
    cases vals[c]? <;> cases (t.mapM fun c => vals[c]?) <;> rfl

/-! ## Sparse -/

/-- **Sparse round trip.**  Filling a default array of the total length and scattering the
stored values over it reproduces the input (in particular the scatter does not fail). -/
theorem sparse_roundtrip (ne : α → α → Bool) (d : α) (hne : ∀ a, ne a d = false → a = d)
    (xs : List α) : sparseDecode d (sparseEncode ne d xs) = some xs := by
  have h := sparseDecode_encode_map ne d id d xs fun x _ hx => hne x hx
  rwa [Sparse.mapValues_id, List.map_id] at h

/-- **Sparse storage excludes the default**: every stored value is unequal to the default
under the comparison the scan uses; the indices are the strictly increasing positions of the
stored values in the input. -/
theorem sparse_excludes_default (ne : α → α → Bool) (d : α) (xs : List α) :
    (∀ v ∈ (sparseEncode ne d xs).values, ne v d = true) ∧
    (sparseEncode ne d xs).indices.Pairwise (· < ·) ∧
    (sparseEncode ne d xs).indices.length = (sparseEncode ne d xs).values.length ∧
    (sparseEncode ne d xs).total = xs.length ∧
    (∀ p ∈ (sparseEncode ne d xs).indices.zip (sparseEncode ne d xs).values,
      p.1 < xs.length ∧ xs[p.1]? = some p.2) := by
  refine ⟨fun v hv => (mem_sparseEncode_values hv).2, sparseScan_increasing ne d xs 0,
    by simp [sparseEncode], rfl, ?_⟩
  · intro p hp
    simp only [sparseEncode, zip_map_fst_snd] at hp
    have h := (sparseScan_range ne d xs 0 p hp).2
    exact ⟨(List.getElem?_eq_some_iff.mp h).1, h⟩

/-- **Map commutes with sparse expansion** for functions that fix the default, for every
stored form.  (The stored form does not contain the default, so nothing can be demanded of
functions that move it: see `map_sparse_needs_fixed_default`.) -/
theorem map_commutes_sparse (f : α → α) (d : α) (hf : f d = d) (e : Sparse α) :
    sparseDecode d (e.mapValues f) = (sparseDecode d e).map (List.map f) := by
  have := sparseDecode_map f d e
  rwa [hf] at this

/-- The hypothesis `f d = d` is necessary: for any function that moves the default, the
one-element column `[d]` expands to `[d]` after mapping, not to `[f d]`. -/
theorem map_sparse_needs_fixed_default (ne : α → α → Bool) (f : α → α) (d : α)
    (hd : ne d d = false) (hf : f d ≠ d) :
    sparseDecode d ((sparseEncode ne d [d]).mapValues f) = some [d] ∧ [d] ≠ [d].map f := by
  constructor
  · simp [sparseEncode, sparseScan, hd, Sparse.mapValues, sparseDecode, scatter]
  · intro h; apply hf; simpa using h.symm

/-! ## Constant and function columns -/

/-- **A constant column expands to its value repeated to its length**; it stores one value. -/
theorem constant_expand (v : α) (n : Nat) :
    constDecode (constEncode v n) = some (List.replicate n v) ∧ (constEncode v n).values = [v] :=
  ⟨rfl, rfl⟩

theorem constant_expand_elements (v : α) (n : Nat) (out : List α)
    (h : constDecode (constEncode v n) = some out) : out.length = n ∧ ∀ x ∈ out, x = v := by
  cases h
  exact ⟨List.length_replicate, fun x hx => (List.mem_replicate.mp hx).2⟩

/-- **Map commutes with constant expansion**, for every stored form. -/
theorem map_commutes_constant (f : α → β) (e : Const α) :
    constDecode (e.mapValues f) = (constDecode e).map (List.map f) := by
  obtain ⟨vs, n⟩ := e
  cases vs with
  | nil => rfl
  | cons v t =>
    cases t with
    | nil => simp [constDecode, Const.mapValues]
    | cons w t' => rfl

/-- **A function column expands to its bound function's value repeated to its length.** -/
theorem function_expand {γ : Type} (binding : γ → α) (cfg : γ) (n : Nat) :
    (functionExpand binding cfg n).length = n ∧
    ∀ x ∈ functionExpand binding cfg n, x = binding cfg :=
  ⟨by simp [functionExpand], fun x hx => (List.mem_replicate.mp hx).2⟩

/-! ## The code as it stands: the statement-by-statement translations of `orso/schema.py`

`Generated/Encodings.lean` is rewritten from the working tree on every run (`harness/pystmt_np.py`):
the loops, guards, appends, `[value] * length`, the order of the statements and the numpy calls of the
nine methods are *in* these definitions.  The theorems below say that the translated code computes
exactly what the recursive model computes (so every theorem above is a theorem about the code as
extracted), and restate the property's main clauses directly on the translated code. -/

set_option linter.unusedSimpArgs false in
open Gen.Encodings in
/-- One step of the generated run-detection loop, whatever the order of its assignments: a value for which
the source's run test holds (`Gen.Encodings.rleExtends`: the test of the loop's `if`, translated from the
working tree together with the loop) extends the run, any other value closes it. -/
theorem gen_rle_loop_step (eq sc : α → α → Bool) (p : α) (n : Nat) (rl : List Nat) (rv : List α) (v : α) :
    rleInit_loop1 eq sc (p, n, rl, rv) v =
      if rleExtends eq sc v p then (p, n + 1, rl, rv) else (v, Gen.Encodings.runStart, rl ++ [n], rv ++ [p]) := by
  -- split on both comparisons, so that the proof goes through whichever of them the source's test consults;
  -- where the test looks at `eq` alone, `h'` is unused (hence the linter option in front)
  cases h : eq v p <;> cases h' : sc v p <;> simp [rleInit_loop1, rleExtends, h, h', Gen.Encodings.runStart]

/-- **The run test implies equality**: a value extends a run only if it is `==` the run's value (whatever else
the test looks at, e.g. the classes of the two values).  This is what the round trip needs. -/
theorem gen_rle_extends_sound (eq sc : α → α → Bool) (a b : α) (h : Gen.Encodings.rleExtends eq sc a b = true) :
    eq a b = true := by
  cases h1 : eq a b <;> cases h2 : sc a b <;> simp_all [Gen.Encodings.rleExtends]

/-- **Every equal neighbour extends the run**: the run test holds for *every* pair of `==` values, of whatever
classes.  This is what "adjacent runs differ" needs: the run values are stored in one numpy array, i.e. one
dtype, where `2` and `2.0`, `True` and `1` are the same value; a test that splits a run between two equal
values of different classes (`value.__class__ is prev_value.__class__ and value == prev_value`) stores that
value twice in a row. -/
theorem gen_rle_extends_complete (eq sc : α → α → Bool) (a b : α) (h : eq a b = true) :
    Gen.Encodings.rleExtends eq sc a b = true := by
  simp [Gen.Encodings.rleExtends, h]

open Gen.Encodings in
/-- The generated fold, followed by the two final appends, is the recursive run detection under the source's
run test. -/
theorem gen_rle_loop_fold (eq sc : α → α → Bool) (vs : List α) (p : α) (n : Nat) (rl : List Nat) (rv : List α) :
    rleFinish (List.foldl (rleInit_loop1 eq sc) (p, n, rl, rv) vs) =
    (rv ++ (rleLoop (rleExtends eq sc) p n vs).map (·.1), rl ++ (rleLoop (rleExtends eq sc) p n vs).map (·.2)) := by
  induction vs generalizing p n rl rv with
  | nil => simp [rleLoop, rleFinish]
  | cons v vs ih =>
    rw [List.foldl_cons, gen_rle_loop_step]
    cases h : rleExtends eq sc v p <;> simp [ih, rleLoop, h, Gen.Encodings.runStart]

open Gen.Encodings in
/-- The translated expansion loop (`materialized.extend([value] * length)` over the zipped runs). -/
theorem gen_rle_materialize_fold (acc : List α) (ps : List (α × Nat)) :
    List.foldl rleMaterialize_loop1 acc ps = acc ++ ps.flatMap fun p => List.replicate p.2 p.1 :=
  List.foldl_eq_append_flatMap _ _ (fun _ _ => rfl) ps acc

/-- The translated `RLEColumn.__init__` is the model's encoder under the source's run test (incl. the
empty-input early return; it never raises). -/
theorem gen_rle_init_refines (eq sc : α → α → Bool) (xs : List α) :
    Gen.Encodings.rleInit eq sc xs =
      some ((rleEncode (Gen.Encodings.rleExtends eq sc) xs).values, (rleEncode (Gen.Encodings.rleExtends eq sc) xs).lengths) := by
  cases xs with
  | nil => simp [Gen.Encodings.rleInit, rleEncode]
  | cons x t =>
    simpa [Gen.Encodings.rleInit, rleEncode, rleFinish, Gen.Encodings.runStart]
      using gen_rle_loop_fold eq sc t x Gen.Encodings.runStart [] []

theorem gen_rle_materialize_refines (vs : List α) (ls : List Nat) :
    Gen.Encodings.rleMaterialize vs ls = some (rleDecode ⟨vs, ls⟩) := by
  simp [Gen.Encodings.rleMaterialize, gen_rle_materialize_fold, rleDecode]

/-- the translated code runs: `RLEColumn([3,3,5,3])` stores `[3,5,3]` / `[2,1,1]` and expands back -/
example : Gen.Encodings.rleInit (fun a b : Nat => a == b) (fun _ _ => true) [3, 3, 5, 3] = some ([3, 5, 3], [2, 1, 1]) ∧
    Gen.Encodings.rleMaterialize [3, 5, 3] [2, 1, 1] = some [3, 3, 5, 3] := by decide

theorem gen_function_materialize_refines {γ : Type} (binding : γ → α) (cfg : γ) (n : Nat) :
    Gen.Encodings.functionMaterialize binding cfg n = some (functionExpand binding cfg n) := by
  simp [Gen.Encodings.functionMaterialize, functionExpand]

theorem gen_const_init_refines (v : α) (n : Nat) :
    Gen.Encodings.constInit v = some (constEncode v n).values := by
  simp [Gen.Encodings.constInit, constEncode]

theorem gen_const_materialize_refines (n : Nat) (vs : List α) :
    Gen.Encodings.constMaterialize n vs = constDecode ⟨vs, n⟩ := by
  simp only [Gen.Encodings.constMaterialize, Np.fullFrom, constDecode]
  rfl

theorem gen_sparse_init_refines (ne : α → α → Bool) (isPyNumber : α → Bool) (xs : List α) (d : α) :
    Gen.Encodings.sparseInit ne isPyNumber xs d =
      some ((sparseEncode ne d xs).indices, (sparseEncode ne d xs).values, (sparseEncode ne d xs).total) := by
  cases hp : isPyNumber d <;>
    simp [Gen.Encodings.sparseInit, hp, Np.where, whereFrom_scan ne d xs 0, take_scan ne d xs, sparseEncode]

example : Gen.Encodings.sparseInit (fun a b : Nat => a != b) (fun _ => true) [7, 0, 9] 0 = some ([0, 2], [7, 9], 3) := by
  decide

theorem gen_sparse_materialize_refines {DT : Type} (cast : DT → α → Option α) (t : DT) (vs : List α)
    (d : α) (idx : List Nat) (n : Nat) :
    Gen.Encodings.sparseMaterialize cast t vs d idx n =
      (cast t d).bind fun d' => (vs.mapM (cast t)).bind fun vs' => sparseDecode d' ⟨idx, vs', n⟩ := by
  simp only [Gen.Encodings.sparseMaterialize, Np.fullCast, Np.putCast, sparseDecode]
  cases cast t d <;> simp

theorem gen_dict_init_refines [DecidableEq α] (le : α → α → Bool) (xs : List α) :
    Gen.Encodings.dictInit le xs = some ((dictEncode le xs).values, (dictEncode le xs).codes) := by
  simp [Gen.Encodings.dictInit, dictEncode, Np.uniqueValues, Np.uniqueInverse]

theorem gen_dict_materialize_refines (vs : List α) (cs : List Nat) :
    Gen.Encodings.dictMaterialize vs cs = dictDecode ⟨vs, cs⟩ := by
  simp [Gen.Encodings.dictMaterialize, Np.take, dictDecode]

/-- The model's `sparseMaterialize` is the translated `SparseColumn.materialize` run with numpy's cast
into the result dtype. -/
theorem model_sparse_materialize_is_generated (i2f : Int → UInt64) (d : PyVal) (vdt : DType)
    (e : Sparse PyVal) :
    sparseMaterialize i2f d vdt e = (scalarDType d).bind fun ddt =>
      (Gen.Encodings.sparseMaterialize (castInto i2f) (DType.join vdt ddt) e.values d e.indices e.total).map
        fun out => (DType.join vdt ddt, out) := by
  -- both sides are the same chain of binds, once the `map` is written as a last bind
  simp only [sparseMaterialize, gen_sparse_materialize_refines, Option.bind_eq_bind, Option.map_eq_bind,
    Option.bind_assoc]
  rfl

/-- **RLE, on the translated code**: `RLEColumn(values=xs).materialize()` is `xs`. -/
theorem source_rle_roundtrip (eq sc : α → α → Bool) (heq : ∀ a b, eq a b = true → a = b) (xs : List α) :
    ((Gen.Encodings.rleInit eq sc xs).bind fun e => Gen.Encodings.rleMaterialize e.1 e.2) = some xs := by
  rw [gen_rle_init_refines, Option.bind_some, gen_rle_materialize_refines]
  exact congrArg some (rle_roundtrip _ (fun a b h => heq a b (gen_rle_extends_sound eq sc a b h)) xs)

/-- **Adjacent runs differ, on the values as stored, on the translated code.**  The run values are collected
into one numpy array: `store` is what that does to a value (bring it to the common dtype), `eqS` equality of
stored values.  Whenever storing does not identify values that `==` tells apart (`hstore`; for numpy's
promotion: up to 2^53, `cast_into_reflects_pyEq`), two neighbouring stored run values are different -- for
every input, of whatever mixture of classes (`sc` is arbitrary).  The proof needs the run test to hold for
*every* pair of equal values (`gen_rle_extends_complete`). -/
theorem source_rle_adjacent_stored_differ {β : Type} (eq sc : α → α → Bool) (store : α → β) (eqS : β → β → Bool)
    (hstore : ∀ a b, eqS (store a) (store b) = true → eq a b = true)
    (xs vs : List α) (ls : List Nat) (h : Gen.Encodings.rleInit eq sc xs = some (vs, ls))
    (i : Nat) (hi : i + 1 < vs.length) :
    eqS (store vs[i + 1]) (store vs[i]) = false := by
  rw [gen_rle_init_refines] at h
  obtain ⟨rfl, -⟩ := Prod.mk.inj (Option.some.inj h)
  have hd := rle_adjacent_differ (Gen.Encodings.rleExtends eq sc) xs i hi
  exact Bool.eq_false_iff.mpr fun hs =>
    Bool.false_ne_true (hd.symm.trans (gen_rle_extends_complete eq sc _ _ (hstore _ _ hs)))

/-- **Run lengths on the translated code**: one positive length per stored value, summing to the input length. -/
theorem source_rle_lengths (eq sc : α → α → Bool) (xs vs : List α) (ls : List Nat)
    (h : Gen.Encodings.rleInit eq sc xs = some (vs, ls)) :
    ls.sum = xs.length ∧ ls.length = vs.length ∧ ∀ n ∈ ls, 0 < n := by
  rw [gen_rle_init_refines] at h
  obtain ⟨rfl, rfl⟩ := Prod.mk.inj (Option.some.inj h)
  exact ⟨(rle_lengths_sum _ xs).1, (rle_lengths_sum _ xs).2, rle_lengths_pos _ xs⟩

/-- **A class-aware run test stores a value twice in a row** (the counterexample for the class of change):
under `sameClass a b && eq a b` -- complete for no mixture -- the list `[2.0, 2]` (`eq`: numeric equality;
elements tagged with their class) gives two runs whose values are equal. -/
theorem rle_class_split_stores_equal_neighbours :
    let eq : (Nat × Bool) → (Nat × Bool) → Bool := fun a b => a.1 == b.1   -- the value; the flag is the class
    let ext : (Nat × Bool) → (Nat × Bool) → Bool := fun a b => a.2 == b.2 && eq a b
    (rleEncode ext [(2, true), (2, false)]).values = [(2, true), (2, false)] ∧
    eq (2, false) (2, true) = true ∧ (rleEncode ext [(2, true), (2, false)]).lengths = [1, 1] := by decide

/-- **Dictionary, on the translated code.** -/
theorem source_dict_roundtrip [DecidableEq α] (le : α → α → Bool) (xs : List α) :
    ((Gen.Encodings.dictInit le xs).bind fun e => Gen.Encodings.dictMaterialize e.1 e.2) = some xs := by
  rw [gen_dict_init_refines, Option.bind_some, gen_dict_materialize_refines]
  exact dict_roundtrip le xs

/-- **Sparse, on the translated code** (values held as they are: the identity cast; the dtype layer is
`sparse_dtype_lossless`). -/
theorem source_sparse_roundtrip (ne : α → α → Bool) (isPyNumber : α → Bool) (d : α)
    (hne : ∀ a, ne a d = false → a = d) (xs : List α) :
    ((Gen.Encodings.sparseInit ne isPyNumber xs d).bind fun e =>
      Gen.Encodings.sparseMaterialize (fun (_ : Unit) v => some v) () e.2.1 d e.1 e.2.2) = some xs := by
  rw [gen_sparse_init_refines, Option.bind_some, gen_sparse_materialize_refines,
    mapM_eq_some_self (g := fun v => some v) _ fun _ _ => rfl]
  exact sparse_roundtrip ne d hne xs

/-- **Constant and function columns, on the translated code.** -/
theorem source_constant_function_expand {γ : Type} (v : α) (n : Nat) (binding : γ → α) (cfg : γ) :
    ((Gen.Encodings.constInit v).bind fun vs => Gen.Encodings.constMaterialize n vs) = some (List.replicate n v) ∧
    Gen.Encodings.functionMaterialize binding cfg n = some (List.replicate n (binding cfg)) := by
  refine ⟨?_, gen_function_materialize_refines binding cfg n⟩
  rw [gen_const_init_refines v n, Option.bind_some, gen_const_materialize_refines]
  rfl

/-- **Map commutes with expansion, on the translated `materialize` methods** (for every stored form). -/
theorem source_map_commutes (f : α → β) (vs : List α) (ls cs : List Nat) (n : Nat) :
    Gen.Encodings.rleMaterialize (vs.map f) ls = (Gen.Encodings.rleMaterialize vs ls).map (List.map f) ∧
    Gen.Encodings.dictMaterialize (vs.map f) cs = (Gen.Encodings.dictMaterialize vs cs).map (List.map f) ∧
    Gen.Encodings.constMaterialize n (vs.map f) = (Gen.Encodings.constMaterialize n vs).map (List.map f) := by
  refine ⟨?_, ?_, ?_⟩
  · rw [gen_rle_materialize_refines, gen_rle_materialize_refines]
    exact congrArg some (map_commutes_rle f ⟨vs, ls⟩)
  · rw [gen_dict_materialize_refines, gen_dict_materialize_refines]
    exact map_commutes_dict f ⟨vs, cs⟩
  · rw [gen_const_materialize_refines, gen_const_materialize_refines]
    exact map_commutes_constant f ⟨vs, n⟩

/-! ## The shared constructor (`FlatColumn.__init__`): keywords against the parameters of a type name

Every column class is built by `FlatColumn.__init__`.  When the type is given by *name*
(`'VARCHAR[20]'`, `'BLOB[8]'`, `'DECIMAL(10,2)'`, `'ARRAY<INTEGER>'`) the parameters written in the name
are copied into `element_type`, `precision`, `scale`, `length` -- each only `if self.<attr> is None`.
`ConstantColumn` / `FunctionColumn` reuse `length` as the number of rows, so this guard is what keeps the
declared width of `'VARCHAR[20]'` out of the row count.  `Gen.Encodings.ctorResolve` is that block of
four statements translated from the working tree; `constLengthDefault` / `functionLengthDefault` are the
field defaults `length: int = 1` of the two classes. -/

section Ctor
variable {ET : Type}

/-- What the translated block does to `length` (the only one of the four attributes an encoding reads): it
keeps the keyword and takes the width written in the type name only when no keyword was given -- whatever
happens to `element_type`, `precision` and `scale`. -/
theorem gen_ctor_length (et det : Option ET) (p s n dp ds dn : Option Nat) :
    (Gen.Encodings.ctorResolve et p s n det dp ds dn).map (·.2.2.2) = some (n.or dn) := by
  cases n <;> simp [Gen.Encodings.ctorResolve]

/-- **The `length` keyword is never overwritten by the type name**, whatever the name declares. -/
theorem gen_ctor_keeps_length (n : Nat) (et det : Option ET) (p s dp ds dn : Option Nat) :
    (Gen.Encodings.ctorResolve et p s (some n) det dp ds dn).map (·.2.2.2) = some (some n) := by
  rw [gen_ctor_length]; rfl

/-- **The row count of a constant / function column never comes from the type name**: with the keyword
it is the keyword, without it the class's own default (`length: int = 1`, which is not `None`) -- for
every declared width `dn`. -/
theorem gen_ctor_row_count (kw : Option Nat) (et det : Option ET) (p s dp ds dn : Option Nat) :
    (Gen.Encodings.ctorResolve et p s (kw.or Gen.Encodings.constLengthDefault) det dp ds dn).map (·.2.2.2)
      = some (some (kw.getD 1)) ∧
    (Gen.Encodings.ctorResolve et p s (kw.or Gen.Encodings.functionLengthDefault) det dp ds dn).map (·.2.2.2)
      = some (some (kw.getD 1)) := by
  rw [gen_ctor_length, gen_ctor_length]
  cases kw <;> simp [Gen.Encodings.constLengthDefault, Gen.Encodings.functionLengthDefault]

/-- **Constant and function columns, declared by any type name, on the translated code**: the shared
constructor (keyword `length = n`, any parameters parsed from the name, any other keywords) followed by
the class's own `__init__` / `materialize` expands to `n` copies -- same length, whatever width the type
name declares. -/
theorem source_constant_function_expand_declared {γ : Type} (v : α) (n : Nat) (binding : γ → α) (cfg : γ)
    (et det : Option ET) (p s dp ds dn : Option Nat) :
    ((Gen.Encodings.ctorResolve et p s (some n) det dp ds dn).bind fun r => r.2.2.2.bind fun len =>
        (Gen.Encodings.constInit v).bind fun vs => Gen.Encodings.constMaterialize len vs)
      = some (List.replicate n v) ∧
    ((Gen.Encodings.ctorResolve et p s (some n) det dp ds dn).bind fun r => r.2.2.2.bind fun len =>
        Gen.Encodings.functionMaterialize binding cfg len)
      = some (List.replicate n (binding cfg)) := by
  obtain ⟨r, hr, hr2⟩ := Option.map_eq_some_iff.mp (gen_ctor_keeps_length n et det p s dp ds dn)
  rw [hr]
  simp only [Option.bind_some, hr2]
  exact source_constant_function_expand v n binding cfg

/-- the translated block runs: `ConstantColumn(type='VARCHAR[20]', length=5)` keeps 5 rows; a flat
column without the keyword takes the declared width -/
example : (Gen.Encodings.ctorResolve (none : Option Unit) none none (some 5) none none none (some 20)).map (·.2.2.2)
      = some (some 5) ∧
    (Gen.Encodings.ctorResolve (none : Option Unit) none none none none none none (some 20)).map (·.2.2.2)
      = some (some 20) := by decide

end Ctor

/-! ## `numpy.unique` the way numpy computes it

`DictionaryColumn.__init__` is one call of `numpy.unique(values, return_inverse=True)`; the model's
`Np.uniqueValues` is its specification (the distinct values, sorted).  numpy itself sorts the array and
then keeps every element that differs from its predecessor (`Np.uniqueSortMerge`).  The theorems below
prove "dictionary entries are unique" and "exactly the values that occur" of that algorithm, identify it
with the specification whenever the order is total and antisymmetric, and prove the counterexample for
an order that is not (Python's `<` on an object array holding a NaN: open finding C09-K02). -/

/-- **Dictionary entries are unique -- of numpy's sort-then-merge**, for every total antisymmetric order
and `ne` = inequality. -/
theorem numpy_unique_nodup (le ne : α → α → Bool) (hne : ∀ a b, ne a b = false ↔ a = b)
    (trans : ∀ a b c, le a b → le b c → le a c) (total : ∀ a b, le a b || le b a)
    (antisymm : ∀ a b, le a b = true → le b a = true → a = b) (xs : List α) :
    (Np.uniqueSortMerge le ne xs).Nodup := by
  unfold Np.uniqueSortMerge
  have hs := List.pairwise_mergeSort trans total xs
  generalize xs.mergeSort le = l at hs
  cases l with
  | nil => exact List.nodup_nil
  | cons x t => exact keepFirstsFrom_nodup le ne hne antisymm x t hs

/-- **The dictionary holds exactly the values that occur -- of numpy's sort-then-merge** (only soundness
of `!=` is needed: what is dropped equals its predecessor). -/
theorem numpy_unique_complete (le ne : α → α → Bool) (hsound : ∀ a b, ne a b = false → a = b)
    (xs : List α) (v : α) : v ∈ Np.uniqueSortMerge le ne xs ↔ v ∈ xs := by
  unfold Np.uniqueSortMerge
  constructor
  · intro h
    exact List.mem_mergeSort.mp ((keepFirsts_sublist ne _).subset h)
  · intro h
    have h' : v ∈ xs.mergeSort le := List.mem_mergeSort.mpr h
    generalize xs.mergeSort le = l at h'
    cases l with
    | nil => cases h'
    | cons x t => exact keepFirstsFrom_mem ne hsound x t v h'

/-- **numpy's algorithm computes the model's dictionary**: for a total antisymmetric order, sort-then-merge
is the sorted list of distinct values -- `Np.uniqueValues`, the first component of the translated
`DictionaryColumn.__init__`, the dictionary `dict_values_nodup` / `dict_values_sorted` are about. -/
theorem numpy_unique_is_model [DecidableEq α] (le ne : α → α → Bool) (hne : ∀ a b, ne a b = false ↔ a = b)
    (trans : ∀ a b c, le a b → le b c → le a c) (total : ∀ a b, le a b || le b a)
    (antisymm : ∀ a b, le a b = true → le b a = true → a = b) (xs : List α) :
    Np.uniqueSortMerge le ne xs = (dictEncode le xs).values ∧
    (Gen.Encodings.dictInit le xs).map (·.1) = some (Np.uniqueSortMerge le ne xs) := by
  have key : Np.uniqueSortMerge le ne xs = (dictEncode le xs).values := by
    apply List.Perm.eq_of_pairwise (le := fun a b => le a b = true)
    · intro a b _ _ hab hba; exact antisymm a b hab hba
    · exact List.Pairwise.sublist (keepFirsts_sublist ne _) (List.pairwise_mergeSort trans total xs)
    · exact dict_values_sorted le trans total xs
    · refine (List.perm_ext_iff_of_nodup (numpy_unique_nodup le ne hne trans total antisymm xs)
        (dict_values_nodup le xs)).mpr fun a => ?_
      rw [numpy_unique_complete le ne (fun a b h => (hne a b).mp h) xs a, dict_values_complete]
  exact ⟨key, by rw [gen_dict_init_refines, key]; rfl⟩

/-- **Without a total order the merge step keeps duplicates** (the open finding C09-K02 on the model):
when the sort leaves an unordered value `n` between two occurrences of `a` -- as Python's `<` does with a
NaN in an object array, where every comparison with it is false -- both occurrences are kept. -/
theorem numpy_unique_unordered_keeps_duplicates (ne : α → α → Bool) (hne : ∀ a b, ne a b = false ↔ a = b)
    (a n : α) (h : a ≠ n) :
    Np.keepFirsts ne [a, n, a] = [a, n, a] ∧ ¬ (Np.keepFirsts ne [a, n, a]).Nodup := by
  have h1 : ne n a = true := Bool.of_not_eq_false fun e => h ((hne n a).mp e).symm
  have h2 : ne a n = true := Bool.of_not_eq_false fun e => h ((hne a n).mp e)
  have hk : Np.keepFirsts ne [a, n, a] = [a, n, a] := by simp [Np.keepFirsts, Np.keepFirstsFrom, h1, h2]
  exact ⟨hk, by rw [hk]; simp⟩

/-- the merge step runs: sorted `[1, 1, 2, 3, 3]` keeps `[1, 2, 3]` -/
example : Np.keepFirsts (fun a b : Nat => a != b) [1, 1, 2, 3, 3] = [1, 2, 3] := by decide

/-! ## The dtype `numpy.array(list)` infers: RLE, dictionary, constant and function columns never cast

These four encodings hold their values in the array `numpy.array(<list>)` builds and expand by
repeating / gathering its elements; the only place a value could be truncated or narrowed is that
array's dtype (`arrayDType`: one numeric kind as it is, text at the width of the widest element,
anything with a null as objects). -/

/-- **The inferred dtype holds every element natively** -- the numeric kind of the elements itself (never
a smaller one), text at least as wide as every element, objects when there is a null. -/
theorem array_dtype_holds (xs : List PyVal) (t : DType) (h : arrayDType xs = some t) :
    ∀ x ∈ xs, holds t x = true := by
  cases xs with
  | nil => exact fun _ hx => nomatch hx
  | cons x0 rest =>
    obtain ⟨t0, h0, h⟩ := Option.bind_eq_some_iff.mp h
    obtain ⟨i1, i2⟩ := foldlM_arrayStep_holds rest t0 t h
    exact List.forall_mem_cons.mpr ⟨i2 x0 (scalarDType_holds x0 t0 h0), i1⟩

/-- **Values neither truncated nor narrowed (RLE, dictionary, constant, function)**: storing the
elements of a sequence into the array numpy builds for it returns every element itself -- no width
cut, no change of numeric type, for every sequence of the property's kinds. -/
theorem array_dtype_lossless (i2f : Int → UInt64) (xs : List PyVal) (t : DType)
    (h : arrayDType xs = some t) : xs.mapM (castInto i2f t) = some xs :=
  mapM_eq_some_self xs fun x hx => castInto_of_holds i2f t x (array_dtype_holds xs t h x hx)

example : arrayDType [.str "a", .str "abcd", .str ""] = some (.str 4) ∧
    arrayDType [.int 1, .none] = some .object ∧ arrayDType [.int 1, .float 0] = none := by decide

/-! ## Text in a fixed-width numpy array (open finding C09-K03)

Every encoding holds text in a `<U`n array.  The value-level model takes `numpy.array(list)` to hold
its elements exactly; for text that is true exactly of strings that do not end in a NUL character. -/

/-- Text that does not end in NUL is read back from a fixed-width text array as it was stored. -/
theorem np_text_exact (cs : List Char) (h : cs.getLast? ≠ some '\x00') : Np.textRead cs = cs := by
  -- the last character is the head of the reversed text, where the dropping stops at once
  rw [Np.textRead, List.dropWhile_beq_eq_self_of_head?_ne (List.head?_reverse ▸ h), List.reverse_reverse]

/-- **The counterexample** (C09-K03): text that ends in NUL is never read back as stored -- the full
statement "values are not truncated" is false of numpy's text dtype, whatever the encoding. -/
theorem np_text_trailing_nul_lossy (cs : List Char) : Np.textRead (cs ++ ['\x00']) ≠ cs ++ ['\x00'] := by
  intro h
  have hl := congrArg List.length h
  unfold Np.textRead at hl
  simp only [List.reverse_append, List.reverse_cons, List.reverse_nil, List.nil_append,
    List.singleton_append, List.dropWhile, beq_self_eq_true, List.length_reverse,
    List.length_append, List.length_cons, List.length_nil] at hl
  have := (List.dropWhile_sublist (l := cs.reverse) (fun c => c == '\x00')).length_le
  simp only [List.length_reverse] at this
  omega

/-- The model's element kinds exclude exactly that text: every string `scalarDType` accepts is read back
from a text array as stored (so `castInto`'s "text is returned as it is" is numpy's behaviour on the
model's inputs). -/
theorem scalar_text_read_exact (s : String) (t : DType) (h : scalarDType (.str s) = some t) :
    Np.textRead s.toList = s.toList := by
  apply np_text_exact
  intro hn
  simp [scalarDType, endsNul, hn] at h

example : Np.textRead "a\x00".toList = "a".toList ∧ Np.textRead "a\x00b".toList = "a\x00b".toList := by decide

/-! ## The result dtype of the repaired `SparseColumn.materialize` -/

/-- The result dtype is an upper bound of the stored values' dtype and of the default's dtype. -/
theorem sparse_dtype_is_join (vdt ddt : DType) :
    DType.le vdt (DType.join vdt ddt) = true ∧ DType.le ddt (DType.join vdt ddt) = true := by
  -- by evaluation on the lattice; between two texts the join is the wider width
  cases vdt <;> cases ddt <;>
    first | exact ⟨rfl, rfl⟩ | exact ⟨decide_eq_true (Nat.le_max_left _ _), decide_eq_true (Nat.le_max_right _ _)⟩

/-- Storing a value into an array of a dtype above its own never fails, never truncates text
and changes a number at most by widening it along `bool → int → float`. -/
theorem cast_into_wider (i2f : Int → UInt64) (t rt : DType) (v : PyVal)
    (hv : holds t v = true) (hle : DType.le t rt = true) :
    ∃ w, castInto i2f rt v = some w ∧ Widened i2f v w := by
  rcases castInto_le_cases i2f hle with hid | ⟨rfl, rfl⟩ | ⟨rfl, rfl⟩ | ⟨rfl, rfl⟩
  · exact ⟨v, hid v hv, .inl rfl⟩
  · obtain ⟨b, rfl⟩ := holds_bool hv
    exact ⟨_, rfl, .inr (.inr (.inl ⟨b, rfl, rfl⟩))⟩
  · obtain ⟨b, rfl⟩ := holds_bool hv
    exact ⟨_, rfl, .inr (.inr (.inr ⟨b, rfl, rfl⟩))⟩
  · obtain ⟨i, rfl⟩ := holds_int hv
    exact ⟨_, rfl, .inr (.inl ⟨i, rfl, rfl⟩)⟩

/-- **Casting into the join is injective** on the values of one dtype, given that the integer-to-double
conversion is injective *on the integers that occur* (`S`; for the real conversion: any set within
±2^53 -- beyond, numpy's promotion rounds, C09-K01): two different stored values can never come out of the
expansion as the same value.  (Injectivity on *all* integers is not asked: no function into 64 bits has it.) -/
theorem cast_into_wider_injective (i2f : Int → UInt64) (S : Int → Prop)
    (hi : ∀ a b, S a → S b → i2f a = i2f b → a = b)
    (t rt : DType) (v v' : PyVal) (hv : holds t v = true) (hv' : holds t v' = true)
    (hS : ∀ i, intOf v = some i → S i) (hS' : ∀ i, intOf v' = some i → S i)
    (hle : DType.le t rt = true) (h : castInto i2f rt v = castInto i2f rt v') : v = v' := by
  rcases castInto_le_cases i2f hle with hid | ⟨rfl, rfl⟩ | ⟨rfl, rfl⟩ | ⟨rfl, rfl⟩
  · rw [hid v hv, hid v' hv'] at h
    exact Option.some.inj h
  -- on the numeric chain the dtype fixes the class of its values, so both go through the same clause of `castInto`
  · obtain ⟨b, rfl⟩ := holds_bool hv
    obtain ⟨b', rfl⟩ := holds_bool hv'
    exact congrArg _ (boolInt_inj (PyVal.int.inj (Option.some.inj h)))
  · obtain ⟨b, rfl⟩ := holds_bool hv
    obtain ⟨b', rfl⟩ := holds_bool hv'
    exact congrArg _ (boolInt_inj (hi _ _ (hS _ rfl) (hS' _ rfl) (PyVal.float.inj (Option.some.inj h))))
  · obtain ⟨i, rfl⟩ := holds_int hv
    obtain ⟨i', rfl⟩ := holds_int hv'
    exact congrArg _ (hi _ _ (hS _ rfl) (hS' _ rfl) (PyVal.float.inj (Option.some.inj h)))

/-- the hypotheses of `cast_into_wider_injective` are satisfiable with a non-trivial set of integers -/
example : ∃ (i2f : Int → UInt64) (S : Int → Prop), S 0 ∧ S 1 ∧ S 7 ∧ ∀ a b, S a → S b → i2f a = i2f b → a = b :=
  ⟨fun i => if i = 0 then 0 else if i = 1 then 1 else 7, fun i => i = 0 ∨ i = 1 ∨ i = 7, by simp, by simp, by simp, by
    intro a b ha hb
    rcases ha with rfl | rfl | rfl <;> rcases hb with rfl | rfl | rfl <;> decide⟩

/-- **Bringing values to one dtype does not make different values equal** (the `hstore` of
`source_rle_adjacent_stored_differ` for numpy's unification `Enc.castInto`, whatever the classes of the two
values): if two values stored into one array of dtype `rt` compare equal there, they compare equal as Python
values (`pyEq`: numbers after promotion).  `S`: a set of integers on which the integer-to-double conversion
tells integers apart (within ±2^53 for the real one; beyond, `[2**53 + 1, 2.0**53]` is stored as two equal
doubles -- the class of C09-K01). -/
theorem cast_into_reflects_pyEq (i2f : Int → UInt64) (S : Int → Prop)
    (hi : ∀ a b, S a → S b → floatEq (i2f a) (i2f b) = true → a = b)
    (rt : DType) (a b a' b' : PyVal) (hS : ∀ i, intOf a = some i → S i) (hS' : ∀ i, intOf b = some i → S i)
    (ha : castInto i2f rt a = some a') (hb : castInto i2f rt b = some b') (h : pyEq i2f a' b' = true) :
    pyEq i2f a b = true := by
  cases rt with
  | object => cases ha; cases hb; exact h
  | bool => cases castInto_bool_inv ha; cases castInto_bool_inv hb; exact h
  | str w => cases castInto_str_inv ha; cases castInto_str_inv hb; exact h
  | int =>
    rw [castInto_int] at ha hb
    obtain ⟨i, hai, rfl⟩ := Option.map_eq_some_iff.mp ha
    obtain ⟨j, hbj, rfl⟩ := Option.map_eq_some_iff.mp hb
    rw [pyEq_intOf hai hbj]; exact h
  | float =>
    rcases castInto_float_inv ha with ⟨x, rfl, rfl⟩ | ⟨i, hai, rfl⟩ <;>
      rcases castInto_float_inv hb with ⟨y, rfl, rfl⟩ | ⟨j, hbj, rfl⟩
    · exact h
    · rw [(pyEq_float_intOf x hbj).1]; exact h
    · rw [(pyEq_float_intOf y hai).2]; exact h
    · -- two converted integers that compare equal as doubles: this is where `hi` is needed
      rw [pyEq_intOf hai hbj, hi i j (hS i hai) (hS' j hbj) h]; exact beq_self_eq_true j

/-- **Dtype-changing maps on a sparse column** (`values / 2` on integers, `values.astype(str)`, wider text):
a function `f` applied to the stored values, whose results are of dtype `vdt'` -- any dtype, not the one the
column was built with -- and which fixes the default in the result dtype (`hfix`: at a position the scan
dropped, `f x` and the default are the same value there; `f 0 = 0.0` against the default `0` counts).  Then
`materialize` of the mapped stored form succeeds, its dtype is the join of the *mapped* values' dtype and the
default's, and the expansion is `f` applied to every element of the original, each at most widened. -/
theorem sparse_dtype_lossless_mapped (i2f : Int → UInt64) (ne : PyVal → PyVal → Bool) (f : PyVal → PyVal)
    (d : PyVal) (vdt' ddt : DType) (xs : List PyVal)
    (hd : scalarDType d = some ddt) (hdd : holds ddt d = true)
    (hx : ∀ x ∈ xs, holds vdt' (f x) = true)
    (hfix : ∀ x ∈ xs, ne x d = false →
      castInto i2f (DType.join vdt' ddt) (f x) = castInto i2f (DType.join vdt' ddt) d) :
    ∃ c : PyVal → PyVal, (∀ x ∈ xs, Widened i2f (f x) (c (f x))) ∧
      sparseMaterialize i2f d vdt' ((sparseEncode ne d xs).mapValues f)
        = some (DType.join vdt' ddt, xs.map fun x => c (f x)) := by
  let c : PyVal → PyVal := fun v => (castInto i2f (DType.join vdt' ddt) v).getD v
  -- `c` is the cast into the join wherever that succeeds: on everything a dtype below the join holds
  have hc : ∀ t v, holds t v = true → DType.le t (DType.join vdt' ddt) = true →
      castInto i2f (DType.join vdt' ddt) v = some (c v) ∧ Widened i2f v (c v) := by
    intro t v hv hle
    obtain ⟨w, hw, hW⟩ := cast_into_wider i2f t _ v hv hle
    simp only [c, hw, Option.getD_some]; exact ⟨trivial, hW⟩
  have hcx := fun x hxm => hc vdt' (f x) (hx x hxm) (sparse_dtype_is_join vdt' ddt).1
  have hcd := (hc ddt d hdd (sparse_dtype_is_join vdt' ddt).2).1
  have hvals : ((sparseEncode ne d xs).values.map f).mapM (castInto i2f (DType.join vdt' ddt))
      = some ((sparseEncode ne d xs).values.map fun x => c (f x)) := by
    rw [List.mapM_map]
    exact List.mapM_eq_some_map _ fun u hu => (hcx u (mem_sparseEncode_values hu).1).1
  have hdec := sparseDecode_encode_map ne d (fun x => c (f x)) (c d) xs fun x hxm hx0 => by
    have h2 := hfix x hxm hx0
    rw [(hcx x hxm).1, hcd] at h2
    exact Option.some.inj h2
  refine ⟨c, fun x hxm => (hcx x hxm).2, ?_⟩
  simp only [sparseMaterialize, Sparse.mapValues, hd, Option.bind_eq_bind, Option.bind_some, hcd, hvals] at hdec ⊢
  rw [hdec]
  rfl

/-- **The repaired sparse expansion is lossless in the dtype lattice.**  For every input whose
elements are of dtype `vdt`, every default of dtype `ddt`: `materialize` succeeds, its result
dtype is the join, and the expansion is the input element for element (`xs.map c`), each element at most
widened by `c` (never truncated, never narrowed).  `hne` says what the scan's comparison means: an element
it treats as the default is indistinguishable from the default once both are in the result
dtype (for `0.0` against the default `0`: both are `0.0` in `float64`). -/
theorem sparse_dtype_lossless (i2f : Int → UInt64) (ne : PyVal → PyVal → Bool)
    (d : PyVal) (vdt ddt : DType) (xs : List PyVal)
    (hd : scalarDType d = some ddt) (hdd : holds ddt d = true)
    (hx : ∀ x ∈ xs, holds vdt x = true)
    (hne : ∀ x ∈ xs, ne x d = false →
      castInto i2f (DType.join vdt ddt) x = castInto i2f (DType.join vdt ddt) d) :
    ∃ c : PyVal → PyVal, (∀ x ∈ xs, Widened i2f x (c x)) ∧
      sparseMaterialize i2f d vdt (sparseEncode ne d xs) = some (DType.join vdt ddt, xs.map c) := by
  obtain ⟨c, hc, hm⟩ := sparse_dtype_lossless_mapped i2f ne id d vdt ddt xs hd hdd hx hne
  rw [Sparse.mapValues_id] at hm
  exact ⟨c, hc, hm⟩

/-- The defect `SparseColumn.materialize` had before its repair (C09-F01), on the model: taking the dtype of
the default alone narrows a float to an integer (default `0`: `1.5 ↦ 1`) and cuts text to the width of the
default (default `""`, dtype `<U1`: at most one character survives). -/
theorem pinned_cast_narrows (f2i : UInt64 → Int) (b : UInt64) (s : String) (w : Nat) :
    castPinned f2i .int (.float b) = some (.int (f2i b)) ∧
    castPinned f2i (.str w) (.str s) = some (.str (String.ofList (s.toList.take w))) ∧
    (s.toList.take w).length ≤ w :=
  ⟨rfl, rfl, by simp [List.length_take]; omega⟩

/-! ## numpy's real promotion table (asked of the installed numpy on every run)

`Generated/NpDtypes.lean` holds `dtype.kind`, `iinfo`, `finfo` and all 196 entries of
`numpy.promote_types` for bool, int8..int64, uint8..uint64, float16..float64, complex64/128;
`Gen.Encodings.sparseResultDType` is the dtype decision of `SparseColumn.materialize` as written in
the source (the test over the dtype kinds and both branches).  The theorems are over the whole
table. -/

section Table
open Gen.NpDtypes
open Gen.Encodings (sparseResultDType)

theorem promote_table_comm (a b : Num) : promote a b = promote b a ∧ promote a a = a :=
  forall_num_pairs a b (by decide +kernel)

/-- **The promoted dtype holds every value of either argument exactly, with one exception**: a
64-bit integer dtype promoted to a float / complex dtype (`int64` with any float, `uint64` with a
signed integer or a float).  Decided on all 196 entries from numpy's `iinfo` / `finfo`. -/
theorem promote_table_exact_iff (a b : Num) :
    a.exactInto (promote a b) = !(a.lossy64 (promote a b)) :=
  forall_num_pairs a b (by decide +kernel)

/-- What `exactInto` means for integers: every integer value of `a` is a value of `b` (for a float
dtype: representable with its precision and exponent range). -/
theorem exactInto_sound_int (a b : Num) (h : a.exactInto b = true) (i : Int) (hi : a.holdsInt i) :
    b.holdsInt i := by
  have hroom := fun ha => exactInto_float_room a b ha h
  unfold Num.exactInto at h
  unfold Num.holdsInt at hi ⊢
  -- the three ways `exactInto` can hold: integer into integer, integer into float, float into float
  split at h
  · rename_i ra rb _ _ hra hrb
    simp only [hra, hrb, Bool.and_eq_true, decide_eq_true_eq] at h hi ⊢
    omega
  · rename_i ra _ fb hra hrb hfb
    simp only [hra, hrb, hfb, Bool.and_eq_true, decide_eq_true_eq] at h hi ⊢
    exact ⟨i, 0, by simp, by omega, by omega, by omega⟩
  · rename_i fa fb hra hrb hfa hfb
    simp only [hra, hrb, hfa, hfb, Bool.and_eq_true, decide_eq_true_eq] at h hi ⊢
    obtain ⟨m, e, h1, h2, h3, h4⟩ := hi
    have hp : (2 : Int) ^ fa.1 ≤ 2 ^ fb.1 := by exact_mod_cast Nat.pow_le_pow_right Nat.zero_lt_two h.1.1
    have := hroom hra fa hfa fb hfb
    exact ⟨m, e, h1, by omega, by omega, by omega⟩
  · cases h

/-- The exception is real (this is the open finding C09-K01 on the table): numpy promotes `int64`
with `float64` to `float64`, `2^53 + 1` is an `int64` and is not a `float64`. -/
theorem promote_int64_float64_lossy :
    promote .i64 .f64 = .f64 ∧ Num.holdsInt .i64 (2 ^ 53 + 1) ∧ ¬ Num.holdsInt .f64 (2 ^ 53 + 1) := by
  refine ⟨rfl, by simp [Num.holdsInt, intRange], ?_⟩
  simp only [Num.holdsInt, intRange, floatFormat]
  rintro ⟨m, e, h, h1, h2, _⟩
  cases e with
  | zero => simp at h; omega
  | succ k =>
    have h2' : (m * 2 ^ (k + 1)) % 2 = 0 := by
      rw [Int.pow_succ, ← Int.mul_assoc]; exact Int.mul_emod_left _ 2
    omega

/-- **The source's dtype decision is `NpDType.promote`**: numpy's table between two numbers, the wider width
between two texts, `object` for every other pair (those the test over the dtype kinds keeps away from
`numpy.promote_types`, which would turn a number next to text into text). -/
theorem sparseResultDType_eq_promote (v d : NpDType) : sparseResultDType v d = v.promote d := by
  cases v <;> cases d
  case num.num a b =>
    -- the kind of a numeric dtype is one of the five the test lets numpy promote
    have hk : ∀ n : Num, [Kind.b, Kind.i, Kind.u, Kind.f, Kind.c].contains (NpDType.num n).kind = true :=
      fun n => by cases n <;> rfl
    rw [sparseResultDType, if_pos]
    simp only [List.all_cons, List.all_nil, hk a, hk b, Bool.and_self, Bool.true_or]
  case str.str => rfl
  -- a number against text, anything against objects: whatever the test says, both branches give `object`
  all_goals exact ite_self _

/-- **The result dtype chosen by the source holds the stored values and the default** — for every
pair of dtypes (all numeric dtypes, text of every width, object), except the 64-bit-integer-into-
float promotions.  Text is never cut (`w ≤ max w w'`), numbers against text or nulls go to `object`. -/
theorem sparse_result_dtype_holds (v d : NpDType) :
    (v.holdsAll (Gen.Encodings.sparseResultDType v d) = true ∨
      v.lossy64 (Gen.Encodings.sparseResultDType v d) = true) ∧
    (d.holdsAll (Gen.Encodings.sparseResultDType v d) = true ∨
      d.lossy64 (Gen.Encodings.sparseResultDType v d) = true) := by
  have hnum : ∀ x y : Bool, x = !y → x = true ∨ y = true := by decide
  rw [sparseResultDType_eq_promote]
  cases v <;> cases d
  case num.num a b =>
    -- numpy's table, read from either side
    refine ⟨hnum _ _ (promote_table_exact_iff a b), hnum _ _ ?_⟩
    rw [NpDType.promote, (promote_table_comm a b).1]; exact promote_table_exact_iff b a
  case str.str w w' =>
    exact ⟨.inl (decide_eq_true (Nat.le_max_left w w')), .inl (decide_eq_true (Nat.le_max_right w w'))⟩
  all_goals exact ⟨.inl rfl, .inl rfl⟩

example : Gen.Encodings.sparseResultDType (.num .i64) (.num .f64) = .num .f64 ∧
    Gen.Encodings.sparseResultDType (.str 2) (.str 5) = .str 5 ∧
    Gen.Encodings.sparseResultDType (.num .i8) (.str 5) = .object ∧
    Gen.Encodings.sparseResultDType (.num .u8) (.num .i8) = .num .i16 := by decide

/-- **The five-point lattice of the model is a sound abstraction of the source's decision over
numpy's real table**: forgetting the widths, the extracted `sparseResultDType` is `DType.join` —
for all dtypes the lattice has a point for (`NpDType.abs`: not the complex ones) except `uint64` against a
signed integer dtype (see the next theorem).  This is what ties `sparse_dtype_lossless` (stated with
`DType.join`) to the code and to numpy. -/
theorem sparse_result_dtype_abstracts (v d : NpDType) (tv td : DType)
    (hv : v.abs = some tv) (hd : d.abs = some td) (hmix : v.mixedU64 d = false) :
    (Gen.Encodings.sparseResultDType v d).abs = some (DType.join tv td) := by
  rw [sparseResultDType_eq_promote]
  cases v <;> cases d
  case num.num a b => exact abs_promote a b hmix tv hv td hd
  -- a number against text or objects: `object` in the lattice as well
  case num.str | num.object =>
    cases hd; exact congrArg some (DType.join_numeric_other (abs_num_numeric hv) rfl).1.symm
  case str.num | object.num =>
    cases hv; exact congrArg some (DType.join_numeric_other (abs_num_numeric hd) rfl).2.symm
  all_goals cases hv; cases hd; rfl

/-- `uint64` against a signed integer dtype: no integer dtype holds both; the source's decision gives
`float64` (the abstraction `int ⊔ int = int` does not describe this pair — it is outside the
property's integers, which lie within `int64`, and is of the class of C09-K01 beyond `2^53`). -/
theorem sparse_result_dtype_mixed_u64 (a b : Num) (h : a.mixedU64 b = true) :
    Gen.Encodings.sparseResultDType (.num a) (.num b) = .num .f64 := by
  rw [sparseResultDType_eq_promote]
  revert h
  exact forall_num_pairs a b (by decide +kernel)

end Table

/-! ## Families of function columns: every expansion is judged against *its* column's configuration

Several function columns over one binding (a query carries `f(1)`, `f(1.0)`, `f(True)` side by side), the
same column expanded again after its configuration was reassigned: whatever an earlier expansion computed
must not show in a later one. -/

/-- **History independence, on the translated code**: in every history of expansions -- any number of
column objects, bindings, configurations, lengths, in any order -- each expansion is the value of *that*
use's binding on *that* use's configuration, repeated to *that* use's length.  (The translated
`FunctionColumn.materialize` reads nothing but the column's three fields; a `materialize` that consults
module-level state is outside the translated subset and degrades.) -/
theorem gen_function_family_independent {γ : Type} (us : List (FnUse γ α)) :
    familyRun us = (familyExpand us).map some ∧
    familyExpand us = us.map fun u => List.replicate u.length (u.binding u.configuration) := by
  refine ⟨?_, rfl⟩
  unfold familyRun familyExpand
  rw [List.map_map]
  exact List.map_congr_left fun u _ => gen_function_materialize_refines u.binding u.configuration u.length

/-- The same, position by position: what stands before and after a use in the history is irrelevant to it. -/
theorem gen_function_family_at {γ : Type} (pre post : List (FnUse γ α)) (u : FnUse γ α) :
    (familyRun (pre ++ u :: post))[pre.length]? = some (some (List.replicate u.length (u.binding u.configuration))) := by
  rw [(gen_function_family_independent _).1, (gen_function_family_independent _).2]
  simp

/-- **A function column declared without a configuration calls its binding with no arguments** (the
dataclass default `configuration: Tuple = field(default_factory=tuple)`, extracted on every run): its
expansion is the value of `binding()` repeated to its length. -/
theorem gen_function_default_configuration (binding : List β → α) (pad : β) (n : Nat) :
    Gen.Encodings.functionConfigurationArity = 0 ∧
    Gen.Encodings.functionMaterialize binding (List.replicate Gen.Encodings.functionConfigurationArity pad) n
      = some (List.replicate n (binding [])) := by
  refine ⟨rfl, ?_⟩
  rw [gen_function_materialize_refines]
  rfl

/-- **When a memo in front of the binding is admissible**: if the key comparison only identifies
configurations on which the binding agrees (identity does; Python's `==` does not, see below), then every
history evaluated through the memo -- starting from any memo that holds only values of the binding -- equals
the history evaluated directly. -/
theorem memo_family_exact {γ : Type} (keq : γ → γ → Bool) (binding : γ → α)
    (hk : ∀ a b, keq a b = true → binding a = binding b)
    (memo : List (γ × α)) (hm : ∀ e ∈ memo, e.2 = binding e.1) (us : List (γ × Nat)) :
    memoFamily keq binding memo us = us.map fun u => List.replicate u.2 (binding u.1) := by
  fun_induction memoFamily keq binding memo us with
  | case1 => rfl
  | case2 memo c n rest ih =>
    -- one lookup gives the binding's value and leaves a memo that holds only values of the binding
    have step : (memoLookup keq memo c binding).1 = binding c ∧
        ∀ e ∈ (memoLookup keq memo c binding).2, e.2 = binding e.1 := by
      unfold memoLookup
      cases hf : memo.find? (fun e => keq e.1 c) with
      | some e => exact ⟨(hm e (List.mem_of_find?_eq_some hf)).trans (hk _ _ (List.find?_some hf :)), hm⟩
      | none =>
        refine ⟨rfl, fun e he => (List.mem_append.mp he).elim (hm e) fun h => ?_⟩
        cases List.mem_singleton.mp h; rfl
    rw [step.1, ih step.2]; rfl

/-- **The condition is necessary** (the full statement "a memo keyed by any comparison is lossless" is
false): two configurations the comparison identifies and the binding tells apart give a history of two
expansions whose second one is the value computed for the *other* column. -/
theorem memo_family_inexact {γ : Type} (keq : γ → γ → Bool) (binding : γ → α) (a b : γ)
    (hab : keq a b = true) (hne : binding a ≠ binding b) :
    memoFamily keq binding [] [(a, 1), (b, 1)] = [[binding a], [binding a]] ∧
    memoFamily keq binding [] [(a, 1), (b, 1)] ≠ [(a, 1), (b, 1)].map fun u => List.replicate u.2 (binding u.1) := by
  have h : memoFamily keq binding [] [(a, 1), (b, 1)] = [[binding a], [binding a]] := by
    simp [memoFamily, memoLookup, hab]
  refine ⟨h, ?_⟩
  rw [h]
  simpa using hne

/-- The counterexample on Python values (the seeded class: a memo keyed by `==` / `hash`): `1 == True`, so
the column over `True` expands to the integer computed for the column over `1` -- a value of another type. -/
theorem memo_python_eq_mixes_kinds (i2f : Int → UInt64) :
    pyEq i2f (.int 1) (.bool true) = true ∧
    memoFamily (pyEq i2f) id [] [(.int 1, 2), (.bool true, 1)] = [[.int 1, .int 1], [.int 1]] :=
  ⟨rfl, rfl⟩

/-! ## An expansion is an array of its own

The clauses above speak of contents.  `materialize` hands out an *object*; the property's last clause
("applying an element-wise function to the stored values and then expanding") is a session on one column
object, and the repository's own idiom for the function is in place (`constant_col.values *= 2`).  If the
expansion were a window onto the stored array (`numpy.broadcast_to(self.values, (n,))`: right length, dtype
and elements), the expansion of the *original* would turn into the expansion of the mapped values the moment
the function is applied.  `Enc.Heap` / `Enc.materializeAt` model arrays as objects; the `Origin` of each
`materialize` result is read off the source on every run (`Gen.Encodings.*MaterializeOrigin`). -/

section Fresh

/-- **A fresh expansion is a new array**: its address is not one of the heap before the call, every array that
existed keeps its content, and it reads the decoded stored values. -/
theorem fresh_expansion_is_new_array (decode : List α → List α) (h : Heap α) (s : Nat) :
    (materializeAt .fresh decode h s).2 = .owned h.cells.length ∧
    (∀ a, a < h.cells.length → (materializeAt .fresh decode h s).1.read a = h.read a) ∧
    (materializeAt .fresh decode h s).1.deref (materializeAt .fresh decode h s).2 = decode (h.read s) :=
  ⟨rfl, Heap.alloc_spec h _⟩

/-- **A fresh expansion does not follow the column**: after *any* sequence of in-place operations on arrays
that existed when it was handed out (the stored values, the codes, the indices, earlier expansions) it still
reads what it read -- the decoded values as they were stored at the time. -/
theorem fresh_expansion_survives_writes (decode : List α → List α) (h : Heap α) (s : Nat)
    (ws : List (Nat × List α)) (hws : ∀ w ∈ ws, w.1 < h.cells.length) :
    ((materializeAt .fresh decode h s).1.writes ws).deref (materializeAt .fresh decode h s).2 = decode (h.read s) :=
  Heap.alloc_survives_writes h _ ws hws

/-- **The session of the map clause with a fresh expansion**: the first expansion still is the expansion of the
original after the stored values were mapped in place, the second is the expansion of the mapped values. -/
theorem session_fresh (decode : List α → List α) (f : α → α) (h : Heap α) (s : Nat) (hs : s < h.cells.length) :
    session .fresh decode f h s = (decode (h.read s), decode ((h.read s).map f)) := by
  have h1 : s ≠ h.cells.length := Nat.ne_of_lt hs
  have h2 : s < h.cells.length + 1 := Nat.lt_succ_of_lt hs
  -- every read is decided by comparing addresses: the stored array is below the two new ones
  simp [session, materializeAt_fresh, Heap.deref, heap_read_alloc, heap_read_write, heap_alloc_length,
    heap_write_length, h1, h2, h1.symm]

/-- **The session with a window onto the stored array**: both readings are the expansion of the *mapped* values. -/
theorem session_alias (decode : List α → List α) (f : α → α) (h : Heap α) (s : Nat) (hs : s < h.cells.length) :
    session .aliasStored decode f h s = (decode ((h.read s).map f), decode ((h.read s).map f)) := by
  simp only [session, materializeAt, Heap.deref]
  rw [heap_read_write, if_pos ⟨rfl, hs⟩]

/-- The class of change, on the constant column: with `numpy.broadcast_to(self.values, (n,))` (a window, decode =
the one stored cell repeated `n` times) the expansion of `[v] * n` handed out *before* `values` was mapped in place
reads `[f v] * n` afterwards -- it no longer reproduces the original whenever `n ≥ 1` and `f v ≠ v`. -/
theorem alias_expansion_follows_map (f : α → α) (v : α) (n : Nat) (hn : 0 < n) (hf : f v ≠ v) :
    (session .aliasStored (fun vs => (Np.fullFrom n vs).getD []) f ⟨[[v]]⟩ 0).1 ≠ List.replicate n v := by
  rw [session_alias _ _ _ _ (by simp)]
  obtain ⟨m, rfl⟩ : ∃ m, n = m + 1 := ⟨n - 1, by omega⟩
  simp [Heap.read, Np.fullFrom, List.replicate_succ, hf]

/-- **The caller's edits stay the caller's**: with a fresh expansion, overwriting the expansion leaves the stored
array as it was, and the next expansion is again the decoded stored values. -/
theorem edit_session_fresh (decode : List α → List α) (xs : List α) (h : Heap α) (s : Nat) (hs : s < h.cells.length) :
    editSession .fresh decode xs h s = (h.read s, decode (h.read s)) := by
  have h1 : s ≠ h.cells.length := Nat.ne_of_lt hs
  have h2 : s ≠ h.cells.length + 1 := Nat.ne_of_lt (Nat.lt_succ_of_lt hs)
  simp [editSession, materializeAt_fresh, Heap.deref, heap_read_alloc, heap_read_write, heap_alloc_length,
    heap_write_length, h1, h2]

open Gen.Encodings in
/-- **Every `materialize` of the source hands out an array built anew** (the origins the extractor read off the
`return` expressions of the working tree: `numpy.array(<list>)`, `self.values[self.encoding]`, `numpy.full(...)` +
item assignment, `numpy.full(self.length, self.values)`, `numpy.array([value] * self.length)`). -/
theorem source_expansions_are_fresh :
    rleMaterializeOrigin = .fresh ∧ dictMaterializeOrigin = .fresh ∧ sparseMaterializeOrigin = .fresh ∧
    constMaterializeOrigin = .fresh ∧ functionMaterializeOrigin = .fresh := by
  decide

open Gen.Encodings in
/-- **The map clause as a session on one column object, on the translated code**: expand, apply `f` to the stored
values in place, look at the first expansion again, expand again -- the first expansion still is the expansion of
the original, the second is `f` applied to every element of it (run-length, dictionary, constant columns: the
translated `materialize` bodies with the origins read off the source; `ls` / `cs` / `n` are the run lengths / codes /
length the column holds besides its values). -/
theorem source_map_session (f : α → α) (h : Heap α) (s : Nat) (hs : s < h.cells.length) (ls cs : List Nat) (n : Nat) :
    session rleMaterializeOrigin (fun vs => (rleMaterialize vs ls).getD []) f h s
      = ((rleMaterialize (h.read s) ls).getD [], ((rleMaterialize (h.read s) ls).getD []).map f) ∧
    session dictMaterializeOrigin (fun vs => (dictMaterialize vs cs).getD []) f h s
      = ((dictMaterialize (h.read s) cs).getD [], ((dictMaterialize (h.read s) cs).getD []).map f) ∧
    session constMaterializeOrigin (fun vs => (constMaterialize n vs).getD []) f h s
      = ((constMaterialize n (h.read s)).getD [], ((constMaterialize n (h.read s)).getD []).map f) := by
  obtain ⟨h1, h2, _, h4, _⟩ := source_expansions_are_fresh
  obtain ⟨m1, m2, m3⟩ := source_map_commutes f (h.read s) ls cs n
  rw [h1, h2, h4, session_fresh _ _ _ _ hs, session_fresh _ _ _ _ hs, session_fresh _ _ _ _ hs, m1, m2, m3]
  exact ⟨congrArg _ (Option.getD_map (List.map f) [] _), congrArg _ (Option.getD_map (List.map f) [] _),
    congrArg _ (Option.getD_map (List.map f) [] _)⟩

open Gen.Encodings in
/-- **Sparse and function columns, and every encoding under the caller's edits**: with the origins read off the
source, the first expansion of a session is what was decoded when it was handed out (whatever `decode` is: the
sparse `materialize` with its dtype decision, the binding's value repeated), and an expansion overwritten by the
caller changes neither the stored array nor the next expansion. -/
theorem source_expansions_independent (decode : List α → List α) (f : α → α) (xs : List α) (h : Heap α) (s : Nat)
    (hs : s < h.cells.length) :
    (∀ o ∈ [rleMaterializeOrigin, dictMaterializeOrigin, sparseMaterializeOrigin, constMaterializeOrigin,
        functionMaterializeOrigin],
      session o decode f h s = (decode (h.read s), decode ((h.read s).map f)) ∧
      editSession o decode xs h s = (h.read s, decode (h.read s))) := by
  obtain ⟨h1, h2, h3, h4, h5⟩ := source_expansions_are_fresh
  intro o ho
  obtain rfl : o = .fresh := by simpa [h1, h2, h3, h4, h5] using ho
  exact ⟨session_fresh decode f h s hs, edit_session_fresh decode xs h s hs⟩

/-! ### The stored form is the column's own

The other direction: the arrays a constructor *stores*.  Were the stored values the caller's input array
(`numpy.asarray(self.values)` kept when nothing had to be left out), the function applied in place to one
column's stored values would rewrite the input sequence and the stored values of every other column built from
it: a column nobody touched would stop expanding to the original. -/

/-- **Stored values built anew are a new array**: the address is not one of the heap before the constructor ran,
every array that existed (the input among them) keeps its content, and it reads the encoded input. -/
theorem own_stored_is_new_array (encode : List α → List α) (h : Heap α) (i : Nat) :
    (constructAt .own encode h i).2 = h.cells.length ∧
    (∀ a, a < h.cells.length → (constructAt .own encode h i).1.read a = h.read a) ∧
    (constructAt .own encode h i).1.read (constructAt .own encode h i).2 = encode (h.read i) :=
  ⟨rfl, Heap.alloc_spec h _⟩

/-- **Stored values built anew do not follow the input**: after *any* sequence of
in-place operations on arrays that existed when the column was built -- the input array, the stored arrays of
every column built before -- the column's stored values still read the encoded input as it was. -/
theorem fresh_stored_survives_maps (encode : List α → List α) (h : Heap α) (i : Nat)
    (ws : List (Nat × List α)) (hws : ∀ w ∈ ws, w.1 < h.cells.length) :
    ((constructAt .own encode h i).1.writes ws).read (constructAt .own encode h i).2 = encode (h.read i) :=
  Heap.alloc_survives_writes h _ ws hws

/-- **Two columns over one input, stored values of their own**: after `f` was applied in place to the stored
values of the first, the first expands to the decoding of the mapped stored values, the second -- untouched --
still expands to the decoding of the encoded input, and the input reads what it read. -/
theorem twin_session_own (encode decode : List α → List α) (f : α → α) (h : Heap α) (i : Nat) (hi : i < h.cells.length) :
    twinSession .own encode decode f h i =
      (decode ((encode (h.read i)).map f), decode (encode (h.read i)), h.read i) := by
  have h1 : i ≠ h.cells.length := Nat.ne_of_lt hi
  have h2 : i ≠ h.cells.length + 1 := Nat.ne_of_lt (Nat.lt_succ_of_lt hi)
  have h3 : h.cells.length < h.cells.length + 1 + 1 := Nat.lt_succ_of_lt (Nat.lt_succ_self _)
  -- the input is below the two stored arrays; the write goes to the first of them
  simp [twinSession, constructAt_own, heap_read_alloc, heap_read_write, heap_alloc_length, h1, h2, h3]

/-- **The statement is false when the stored values are the input array**: all three readings follow the map --
the untouched column expands to the decoding of the *mapped* input, and the input itself reads mapped. -/
theorem twin_session_alias (encode decode : List α → List α) (f : α → α) (h : Heap α) (i : Nat) (hi : i < h.cells.length) :
    twinSession .aliasInput encode decode f h i =
      (decode ((h.read i).map f), decode ((h.read i).map f), (h.read i).map f) := by
  simp only [twinSession, constructAt_alias]
  rw [heap_read_write, if_pos ⟨rfl, hi⟩]

/-- **The seeded change on the model**: a dense sparse column (nothing equals the default: the stored values are the
whole sequence, `encode = decode = id`) whose stored values are the input array -- the untouched twin no longer
expands to the original whenever `f` moves an element. -/
theorem alias_stored_follows_map (f : α → α) (xs : List α) (hf : xs.map f ≠ xs) :
    (twinSession .aliasInput id id f ⟨[xs]⟩ 0).2.1 ≠ xs := by
  rw [twin_session_alias _ _ _ _ _ (by simp)]
  simpa [Heap.read] using hf

open Gen.Encodings in
/-- **Every constructor of the source stores arrays built anew** (the origins the extractor read off the assignments
of the working tree: `numpy.array(run_values)` / `numpy.array([])`, `numpy.unique(...)`, `numpy.where(...)` and
`numpy.array(self.values)[self.indices]`, `numpy.array([self.value])`; a function column stores no array). -/
theorem stored_values_are_fresh :
    rleStoredOrigin = .own ∧ dictStoredOrigin = .own ∧ sparseStoredOrigin = .own ∧ constStoredOrigin = .own := by
  decide

open Gen.Encodings in
/-- **Two columns over one input, on the origins read off the source**: for each of the four storing encoders and any
lossless pair (`decode (encode xs) = xs`: the round-trip theorems above), after an in-place map of the first column's
stored values the untouched second column still expands to the original sequence and the input is unchanged. -/
theorem source_twin_session (encode decode : List α → List α) (f : α → α) (h : Heap α) (i : Nat) (hi : i < h.cells.length)
    (hrt : decode (encode (h.read i)) = h.read i) (o : StoredOrigin)
    (ho : o ∈ [rleStoredOrigin, dictStoredOrigin, sparseStoredOrigin, constStoredOrigin]) :
    (twinSession o encode decode f h i).2 = (h.read i, h.read i) := by
  obtain ⟨h1, h2, h3, h4⟩ := stored_values_are_fresh
  obtain rfl : o = .own := by simpa [h1, h2, h3, h4] using ho
  rw [twin_session_own _ _ _ _ _ hi, hrt]

end Fresh

/-! ## Non-vacuity -/

example : (rleEncode (fun a b : Nat => a == b) [3, 3, 5, 3]).values = [3, 5, 3] ∧
    (rleEncode (fun a b : Nat => a == b) [3, 3, 5, 3]).lengths = [2, 1, 1] := by decide
example : rleDecode (rleEncode (fun a b : Nat => a == b) [3, 3, 5, 3]) = [3, 3, 5, 3] := by decide
/-- (`List.mergeSort` is defined by well-founded recursion and does not reduce under `decide`;
the concrete dictionary `[1, 2, 3]` / codes `[2, 0, 1, 0]` of this input is what the native
driver computes and the correspondence compares with `numpy.unique`.) -/
example : dictDecode (dictEncode (fun a b : Nat => a ≤ b) [3, 1, 2, 1]) = some [3, 1, 2, 1] ∧
    (dictEncode (fun a b : Nat => a ≤ b) [3, 1, 2, 1]).values.Pairwise (fun a b => a ≤ b) :=
  ⟨dict_roundtrip _ _, by
    simpa using dict_values_sorted (fun a b : Nat => a ≤ b)
      (fun a b c h1 h2 => by simp at *; omega) (fun a b => by simp; omega) [3, 1, 2, 1]⟩
example : (sparseEncode (fun a b : Nat => a != b) 0 [7, 0, 9]).indices = [0, 2] ∧
    (sparseEncode (fun a b : Nat => a != b) 0 [7, 0, 9]).values = [7, 9] := by decide
example : sparseDecode 0 (sparseEncode (fun a b : Nat => a != b) 0 [7, 0, 9]) = some [7, 0, 9] := by
  decide
example : sparseDecode 0 ((sparseEncode (fun a b : Nat => a != b) 0 [7, 0, 9]).mapValues (· * 2))
    = some ([7, 0, 9].map (· * 2)) := by decide
example : scalarDType (.str "a\x00") = none ∧ scalarDType (.str "a\x00b") = some (.str 3) := by decide
/-- the hypotheses of `sparse_dtype_lossless` are satisfiable: floats with an integer default -/
example : scalarDType (.int 0) = some .int ∧ holds .int (.int 0) = true ∧
    holds .float (.float 0x3FF8000000000000) = true ∧ DType.join .float .int = .float := by decide

/-- the hypotheses of `sparse_dtype_lossless_mapped` are satisfiable by a dtype-changing map: booleans with the
default `False`, mapped to integers (`astype(int64)`): the expansion is the integers, the default position `0` -/
example : sparseMaterialize (fun _ => 0) (.bool false) .int
    ((sparseEncode (pyNe (fun _ => 0)) (.bool false) [.bool true, .bool false, .bool true]).mapValues
      fun v => match v with | .bool b => .int (if b then 1 else 0) | v => v)
    = some (.int, [.int 1, .int 0, .int 1]) := by decide
example : familyRun [⟨fun x : Nat => x * 3, 1, 2⟩, ⟨fun x : Nat => x + 1, 1, 0⟩, ⟨fun x : Nat => x * 3, 2, 1⟩]
    = [some [3, 3], some [], some [6]] := by decide
example : memoFamily (fun a b : Nat => a == b) (· * 3) [] [(1, 2), (2, 1), (1, 1)] = [[3, 3], [6], [3]] := by decide

example : Num.exactInto .i32 .f64 = true ∧ Num.exactInto .i64 .f64 = false ∧ Num.exactInto .f32 .f64 = true ∧
    Num.exactInto .f64 .f32 = false ∧ Num.exactInto .u8 .i8 = false := by decide

/-- a session on a heap holding the stored array of the constant 3 (and another array): the first expansion stays
`[3, 3]` after `values *= 2`, the second is `[6, 6]`; through a window both read `[6, 6]` -/
example : session .fresh (fun vs => (Np.fullFrom 2 vs).getD []) (· * 2) ⟨[[7], [3]]⟩ 1 = ([3, 3], [6, 6]) ∧
    session .aliasStored (fun vs => (Np.fullFrom 2 vs).getD []) (· * 2) ⟨[[7], [3]]⟩ 1 = ([6, 6], [6, 6]) ∧
    editSession .fresh (fun vs => (Np.fullFrom 2 vs).getD []) [0, 0] (⟨[[7], [3]]⟩ : Heap Nat) 1 = ([3], [3, 3]) := by decide

/-- two columns over the input `[3, 1]` at address 1: with stored values of their own the untouched twin still expands
to `[3, 1]` and the input reads `[3, 1]` after `values *= 2` on the first; with the input array as stored values both
read `[6, 2]` -/
example : twinSession .own id id (· * 2) (⟨[[7], [3, 1]]⟩ : Heap Nat) 1 = ([6, 2], [3, 1], [3, 1]) ∧
    twinSession .aliasInput id id (· * 2) (⟨[[7], [3, 1]]⟩ : Heap Nat) 1 = ([6, 2], [6, 2], [6, 2]) := by decide

end C09
