import OrsoVerif.Lemmas.DistogramState
import OrsoVerif.Lemmas.DistogramRefine
import OrsoVerif.Lemmas.DistogramFaithful
import Mathlib.Algebra.Order.Ring.Rat
import Mathlib.Algebra.Field.Rat
/-!
# C13 — Streaming histogram conserves mass, order, bounds and mean

Property theorems only, over an arbitrary linear ordered field `K`, for every bin limit `≥ 1` and
every history — a tree of `update`, `+` of independently built histograms, bulk loads (numpy's
(value, count) pairs or histogram edges and the data's bounds are parameters) and dump/load.

* Stage 1 is about the **reference** machine of `Model/Distogram.lean` (insert in order, merge the
  first closest adjacent pair by weighted centroid): `Distogram.Built s L B` — `s` is the state
  reached, `L` the ledger of inserted (value, weight) pairs, `B` the ledger of data bounds.
* Stage 2 is about the **faithful** machine (the code line by line: cached differences, exact hit,
  in-place shortcut): `Distogram.FLedger h L B` is the same kind of history for it, and
  `Distogram.FHist h s L B` runs one history on both machines.  `faithful_*` state the first sentence
  of the property for the code's own machine, ties or not; `refines_reference` is the second
  sentence: with a unique closest pair at every step the faithful state *is* the reference state.
-/
namespace C13
open Distogram
set_option linter.unusedSectionVars false

variable {K : Type} [Field K] [LinearOrder K] [IsStrictOrderedRing K]
variable {s t : RState K} {L L1 L2 : List (K × K)} {B B1 B2 : List K}

/-- **One step: merging any valid adjacent pair** keeps the centres strictly increasing and the
counts positive, conserves the mass and the weighted sum, shortens the list by one, and every new
centre lies between two old ones.  (`trimRef` merges the first closest pair; nothing below depends
on which pair is chosen.) -/
theorem merge_any_adjacent_pair (i : Nat) (l : List (K × K))
    (hinc : l.Pairwise (fun a b => a.1 < b.1)) (hpos : ∀ b ∈ l, 0 < b.2) :
    (mergeAt i l).Pairwise (fun a b => a.1 < b.1) ∧ (∀ b ∈ mergeAt i l, 0 < b.2) ∧
    mass (mergeAt i l) = mass l ∧ wsum (mergeAt i l) = wsum l ∧
    (i + 1 < l.length → (mergeAt i l).length + 1 = l.length) ∧
    ∀ x ∈ mergeAt i l, (∃ y ∈ l, y.1 ≤ x.1) ∧ (∃ z ∈ l, x.1 ≤ z.1) :=
  ⟨mergeAt_inc i l hinc hpos, mergeAt_pos i l hpos, mergeAt_mass i l, mergeAt_wsum i l hinc hpos,
   mergeAt_length i l, mergeAt_mem i l hinc hpos⟩

/-- The merged centre is strictly between the two it replaces and carries both weights exactly. -/
theorem centroid_between_and_exact {v1 f1 v2 f2 : K} (hv : v1 < v2) (h1 : 0 < f1) (h2 : 0 < f2) :
    v1 < centroid v1 f1 v2 f2 ∧ centroid v1 f1 v2 f2 < v2 ∧
    centroid v1 f1 v2 f2 * (f1 + f2) = v1 * f1 + v2 * f2 :=
  ⟨centroid_gt hv h1 h2, centroid_lt hv h1 h2, centroid_mul hv h1 h2⟩

/-- **Bins are strictly increasing in value** after every history. -/
theorem bins_strictly_increasing (h : Built s L B) : s.bins.Pairwise (fun a b => a.1 < b.1) :=
  (built_facts h).1.inc

/-- **No more bins than the configured maximum** after every history (a loaded histogram's
maximum is the module default `Gen.Distogram.binCount`, see `Built.dumpLoad`). -/
theorem bins_le_cap (h : Built s L B) : s.bins.length ≤ s.cap :=
  (built_facts h).1.len

/-- Every bin has a positive count. -/
theorem counts_positive (h : Built s L B) : ∀ b ∈ s.bins, 0 < b.2 :=
  (built_facts h).1.pos

/-- **The counts sum to the total weight inserted.** -/
theorem mass_conserved (h : Built s L B) :
    (s.bins.map (fun b => b.2)).sum = (L.map (fun p => p.2)).sum :=
  (built_facts h).2.1

/-- **Σ centre × count is invariant**: it equals Σ value × weight over everything inserted. -/
theorem weighted_sum_conserved (h : Built s L B) :
    (s.bins.map (fun b => b.1 * b.2)).sum = (L.map (fun p => p.1 * p.2)).sum :=
  (built_facts h).2.2.1

/-- **The weighted mean of the bins equals the true mean** (exactly, in exact arithmetic). -/
theorem mean_exact (h : Built s L B) : wsum s.bins / mass s.bins = wsum L / mass L := by
  obtain ⟨_, hm, hw, _⟩ := built_facts h
  rw [hm, hw]

/-- **The reported minimum and maximum are exactly those of the inserted values**: each is a
member of the data-bounds ledger and bounds all of it; they are absent iff nothing was inserted. -/
theorem minmax_exact (h : Built s L B) :
    (∀ m, s.min = some m → m ∈ B ∧ ∀ b ∈ B, m ≤ b) ∧ (s.min = none → B = []) ∧
    (∀ M, s.max = some M → M ∈ B ∧ ∀ b ∈ B, b ≤ M) ∧ (s.max = none → B = []) := by
  obtain ⟨_, _, _, hmin, hmax⟩ := built_facts h
  exact ⟨hmin.spec.1, hmin.spec.2, hmax.spec.1, hmax.spec.2⟩

/-- **Every bin centre lies between the reported minimum and maximum**, and both are present as
soon as there is a bin. -/
theorem centres_within_bounds (h : Built s L B) :
    (s.bins ≠ [] → ∃ m M, s.min = some m ∧ s.max = some M) ∧
    ∀ m M, s.min = some m → s.max = some M → ∀ b ∈ s.bins, m ≤ b.1 ∧ b.1 ≤ M := by
  have hi := (built_facts h).1
  refine ⟨fun hne => ?_, hi.within⟩
  obtain ⟨b, hb⟩ := List.exists_mem_of_ne_nil _ hne
  obtain ⟨m, M, hm, hM, _⟩ := hi.bounds hb
  exact ⟨m, M, hm, hM⟩

/-- **The bare `merge`** is held to order, capacity, mass and weighted sum, to bounds *within* the
true range (the reported minimum is not below the true one and not above the first centre) and to centres
within the reported bounds — not to exact bounds, as documented in the code.
The full-strength statement (`minmax_exact` for `mergeRef`) is false: merging a histogram whose
first centre is above its minimum reports that centre, see `merge_bounds_not_exact`. -/
theorem merge_bounds_partial (hs : Built s L1 B1) (ht : Built t L2 B2) :
    let m := mergeRef s t.bins
    m.bins.Pairwise (fun a b => a.1 < b.1) ∧ m.bins.length ≤ m.cap ∧
    mass m.bins = mass L1 + mass L2 ∧ wsum m.bins = wsum L1 + wsum L2 ∧
    (∀ x, m.min = some x → ∀ b ∈ B1 ++ B2, (∀ b' ∈ B1 ++ B2, b ≤ b') → b ≤ x) ∧
    (∀ x, m.max = some x → ∀ b ∈ B1 ++ B2, (∀ b' ∈ B1 ++ B2, b' ≤ b) → x ≤ b) ∧
    (∀ x y, m.min = some x → m.max = some y → ∀ b ∈ m.bins, x ≤ b.1 ∧ b.1 ≤ y) := by
  obtain ⟨si, sm, sw, smin, smax⟩ := built_facts hs
  obtain ⟨ti, tm, tw, _, _⟩ := built_facts ht
  obtain ⟨mi, _, mm, mw, _, _⟩ := mergeRef_facts t.bins s B1 si ti.pos smin smax
  -- the sum `s + t` reports the exact bounds of `B1 ++ B2`, and they are those of the merge widened by those of `t`
  obtain ⟨_, _, _, amin, amax⟩ := built_facts (Built.add hs ht)
  refine ⟨mi.inc, mi.len, by rw [mm, sm, tm], by rw [mw, sw, tw], ?_, ?_, mi.within⟩
  · intro x hx b _ hb
    cases hy : optMin (some x) t.min with
    | none => cases optMin_eq_none hy
    | some y =>
      have hmin : IsMinOf (some y) (B1 ++ B2) := by rw [← hy, ← hx]; exact amin
      exact le_trans (hb y hmin.1) (optMin_le_left x _ y hy)
  · intro x hx b _ hb
    cases hy : optMax (some x) t.max with
    | none => cases optMax_eq_none hy
    | some y =>
      have hmax : IsMaxOf (some y) (B1 ++ B2) := by rw [← hy, ← hx]; exact amax
      exact le_trans (optMax_ge_left x _ y hy) (hb y hmax.1)

/-- **Bulk load above the threshold inserts values inside the data's range**: the midpoint the
source computes for two consecutive histogram edges lies between them (with
`a + b / 2`, as the source had it before the repair, this is false and the theorem does not check). -/
theorem bulk_midpoint_between {a b : K} (h : a ≤ b) :
    a ≤ Gen.DistogramExpr.bulkMid a b ∧ Gen.DistogramExpr.bulkMid a b ≤ b :=
  bulkMid_within ⟨le_refl a, h⟩ ⟨h, le_refl b⟩

/-- **Dump/load preserves bins and bounds** (reference machine and the faithful `load`), the
loaded cache is coherent — `diffs` are the adjacent gaps and `min_diff` their minimum — and the
configured maximum becomes the module default. -/
theorem dump_load_id (s : RState K) (h : Hist K) :
    (dumpLoadRef s).bins = s.bins ∧ (dumpLoadRef s).min = s.min ∧ (dumpLoadRef s).max = s.max ∧
    (load h.bins h.min h.max).bins = h.bins ∧ (load h.bins h.min h.max).min = h.min ∧
    (load h.bins h.min h.max).max = h.max ∧
    (load h.bins h.min h.max).diffs = some (gaps h.bins) ∧
    (load h.bins h.min h.max).minDiff = listMin (gaps h.bins) ∧
    (load h.bins h.min h.max).cap = Gen.Distogram.binCount ∧
    (dumpLoadRef s).cap = Gen.Distogram.binCount :=
  ⟨rfl, rfl, rfl, rfl, rfl, rfl, by rw [load_def], by rw [load_def], rfl, rfl⟩

/-- Known finding C13-K01 (model level): `load` forgets the configured maximum, so a histogram
dumped with more bins than the module default is above its limit as soon as it is loaded. -/
theorem load_over_default_exceeds (bins : List (K × K)) (mn mx : Option K)
    (h : Gen.Distogram.binCount < bins.length) :
    ¬ (load bins mn mx).bins.length ≤ (load bins mn mx).cap := by
  simpa [load_def] using h

/-- Known finding C13-K01, the other half — what the unchanged tree does and what the predicate of the
check relies on: **the first update that inserts a bin ends within the limit, however many bins `load()` left**
(`_trim` is a loop: `Gen.DistogramFlow.trimTurns n = n`); only exact-hit and in-place updates keep a loaded histogram
above its limit. -/
theorem inserting_update_restores_capacity {h h' : Hist K} {neg : Bool} {idx : Nat} {v c : K} (hc : Coherent h)
    (hcap : 1 ≤ h.cap) (hidx : neg = false → h.bins ≠ [] → idx < h.bins.length)
    (hok : insertTrim h neg idx v c = .ok h') : h'.bins.length ≤ h'.cap := by
  obtain ⟨_, hb, _, _, p⟩ := (insertTrim_spec hok).2 hc hidx
  rw [hb, p]
  exact trimRef_length _ hcap _ _ (Nat.le_add_left _ _)

/-- The bare merge does not report exact bounds: `{1, 3} → centre 2`, merged into an empty
histogram, reports minimum 2 although 1 was inserted. -/
theorem merge_bounds_not_exact :
    (mergeRef (RState.init 1 : RState ℚ)
      (updateRef (updateRef (RState.init 1) 1 1) 3 1).bins).min = some 2 := by
  decide +kernel

/-! ## Stage 2: the faithful machine (cached differences, exact hit, in-place shortcut) -/

/-- **The arithmetic of the source is the arithmetic of the reference** (definitions regenerated from
the AST of `distogram/__init__.py` on every run): `_trim` computes the weighted centroid and the sum of
counts; `_trim_in_place` computes the same centroid for (neighbour, new value) in either order; and what both
*store* — the computed centre kept within the pair it replaces, `min(max(centre, lo), hi)` — is that centroid
whenever the pair is in order and the counts are positive (the guard only ever acts on rounding). -/
theorem source_merge_arithmetic (v1 f1 v2 f2 : K) :
    Gen.DistogramExpr.trimCentre v1 f1 v2 f2 = (v1 * f1 + v2 * f2) / (f1 + f2) ∧
    Gen.DistogramExpr.trimCount v1 f1 v2 f2 = f1 + f2 ∧
    Gen.DistogramExpr.inPlaceCentre v1 f1 v2 f2 = Gen.DistogramExpr.trimCentre v1 f1 v2 f2 ∧
    Gen.DistogramExpr.inPlaceCentre v1 f1 v2 f2 = Gen.DistogramExpr.trimCentre v2 f2 v1 f1 ∧
    Gen.DistogramExpr.inPlaceCount v1 f1 v2 f2 = f1 + f2 ∧
    (v1 < v2 → 0 < f1 → 0 < f2 →
      centroid v1 f1 v2 f2 = (v1 * f1 + v2 * f2) / (f1 + f2) ∧
      Gen.DistogramOps.inPlaceStored (Gen.DistogramExpr.inPlaceCentre v1 f1 v2 f2) v1 v2 = centroid v1 f1 v2 f2 ∧
      Gen.DistogramOps.inPlaceStored (Gen.DistogramExpr.inPlaceCentre v2 f2 v1 f1) v2 v1 = centroid v1 f1 v2 f2) :=
  ⟨rfl, rfl, (inPlace_centre_eq v1 f1 v2 f2).1, (inPlace_centre_eq v1 f1 v2 f2).2.1, rfl,
   fun hv h1 h2 => ⟨centroid_eq hv h1 h2, inPlace_stored_left (le_of_lt hv), inPlace_stored_right (le_of_lt hv)⟩⟩

/-- **The stored centre of a merge lies within the pair it replaces — whatever the division computed.**  No
hypothesis on the computed centre `c`: this is the statement that survives floating-point rounding (it uses only that
the order is total), and the reason the centres stay strictly increasing and inside `[min, max]` when neighbouring
doubles with large counts, or float64 and numpy.float128 centres after a `dump()`, are merged.  `_trim` stores
`trimStored c v1 v2 ∈ [v1, v2]`, `_trim_in_place` stores `inPlaceStored c sv nv` between the bin and the new value. -/
theorem stored_centre_within_pair (c v1 v2 : K) :
    (v1 ≤ v2 → v1 ≤ Gen.DistogramOps.trimStored c v1 v2 ∧ Gen.DistogramOps.trimStored c v1 v2 ≤ v2) ∧
    min v1 v2 ≤ Gen.DistogramOps.inPlaceStored c v1 v2 ∧ Gen.DistogramOps.inPlaceStored c v1 v2 ≤ max v1 v2 :=
  ⟨fun h => trimStored_within c h, inPlaceStored_within c v1 v2⟩

/-- **The control flow of the source is the control flow of the model** (definitions regenerated from the AST of
`_trim` and `update` on every run): `_trim` *loops* while there are more bins than the limit; a count `<= 0` is
rejected; `index` is 0 iff `value <= first centre`, -1 iff `value >= last centre`, else `bisect_left` with the key
`(value, 1)`; an exact hit is `vi == value` and stores `fi + count`; the in-place shortcut is tried iff
`index > 0 and len(bins) >= limit` (whether its answer is then taken — `in_place_index > 0` — is followed by the model
but no theorem depends on it: both outcomes refine the reference); the bounds tests of the source (`min > value`,
`max < value`, or their non-strict forms) make the bounds the running minimum and maximum. -/
theorem source_control_flow (n len cap idx : Nat) (neg : Bool) (value first last count vi fi : K) (h : Hist K) :
    Gen.DistogramFlow.trimTurns n = n ∧
    (Gen.DistogramFlow.trimGuard len cap = true ↔ cap < len) ∧
    (Gen.DistogramFlow.updCountBad count = true ↔ count ≤ 0) ∧
    (Gen.DistogramFlow.updFirst value first last = true ↔ value ≤ first) ∧
    (Gen.DistogramFlow.updLast value first last = true ↔ last ≤ value) ∧
    (Gen.DistogramFlow.bisectKeyCount : K) = 1 ∧
    (Gen.DistogramFlow.hitTest vi value = true ↔ vi = value) ∧
    Gen.DistogramFlow.hitCount fi count = fi + count ∧
    Gen.DistogramFlow.inPlaceTry (if neg then -1 else (idx : Int)) len cap = (!neg && decide (0 < idx) && decide (cap ≤ len)) ∧
    (bumpBounds h value).min = some (minO h.min value) ∧
    (bumpBounds h value).max = some (maxO h.max value) := by
  refine ⟨trimTurns_eq n, by simp [Gen.DistogramFlow.trimGuard], by simp [Gen.DistogramFlow.updCountBad],
    by simp [Gen.DistogramFlow.updFirst], by simp [Gen.DistogramFlow.updLast], rfl, eqK_iff' vi value, rfl,
    inPlaceTry_eq neg idx len cap, bumpBounds_min h value, bumpBounds_max h value⟩

/-- **The statements around the update path are the model's** (`Gen.DistogramOps.*`, regenerated from the AST of
`Distogram.__add__`, `Distogram.bulkload`, `update`, `_update_diffs` and `_trim` on every run).  The two bound updates
of `update` are independent statements (`if … if …`; with `if … elif …` the first value of a stream would set the
minimum only); `__add__` takes the operand's bounds iff `operand.min is not None` (a truthiness test would drop a
bound of exactly zero) and forms the smaller minimum / larger maximum, as does `bulkload`, which inserts the pairs
with `count > 0`, takes the data's bounds when it has none, and goes through numpy.histogram only for *more* than
`limit * bulkFactor` distinct values; an append lowers the cached minimum to the new last gap; `_update_diffs(h, i)`
refreshes the gap left of bin `i` iff `i > 0` and the gap right of it iff `i + 1 < len(bins)`, storing
`bins[j+1] - bins[j]`, recomputing the minimum iff an overwritten entry equalled it and lowering it iff the new gap is
smaller; a turn of `_trim` keeps bin `i`, pops bin `i + 1`, pops cache entry `i` and refreshes the cache around `i`. -/
theorem source_operations (i len distinct cap : Nat) (a b old md nd : K) (omin omax : Option K) :
    Gen.DistogramOps.bumpChained = false ∧
    Gen.DistogramOps.addGuard omin omax = omin.isSome ∧
    Gen.DistogramOps.addMin a b = min a b ∧ Gen.DistogramOps.addMax a b = max a b ∧
    (Gen.DistogramOps.bulkAbove (distinct : Int) (cap : Int) = true ↔ cap * Gen.Distogram.bulkFactor < distinct) ∧
    (Gen.DistogramOps.bulkTake a = true ↔ 0 < a) ∧
    Gen.DistogramOps.bulkFresh omin omax = omin.isNone ∧
    Gen.DistogramOps.bulkMin a b = min a b ∧ Gen.DistogramOps.bulkMax a b = max a b ∧
    Gen.DistogramOps.appendMinDiff a b = min a b ∧
    Gen.DistogramOps.udLeft (i : Int) (len : Int) = decide (0 < i) ∧
    Gen.DistogramOps.udRight (i : Int) (len : Int) = decide (i + 1 < len) ∧
    (Gen.DistogramOps.udStale old md = true ↔ old = md) ∧
    (Gen.DistogramOps.udLower nd md = true ↔ nd < md) ∧
    Gen.DistogramOps.udGap a b = b - a ∧
    Gen.DistogramOps.trimKeep i = i ∧ Gen.DistogramOps.trimPopBin i = i + 1 ∧
    Gen.DistogramOps.trimPopDiff i = i ∧ Gen.DistogramOps.trimRefresh i = i := by
  exact ⟨bumpChained_eq, rfl, pyMin_eq_min a b, pyMax_eq_max a b, bulkAbove_iff distinct cap,
    by simp [Gen.DistogramOps.bulkTake], rfl, pyMin_eq_min a b, pyMax_eq_max a b, pyMin_eq_min a b,
    udLeft_eq i len, udRight_eq i len, eqK_iff' old md, by simp [Gen.DistogramOps.udLower], rfl, rfl, rfl, rfl, rfl⟩

/-- **The model's `+`, bulk load, cache refresh and trim turn are these statements** — the equations the history
proofs (`faithful_*`, `refines_reference`, `cache_coherent`) unfold.  Each is proved from the generated definitions, so
a change of one of the statements above breaks the corresponding equation by name. -/
theorem source_operations_assembled (h t : Hist K) (pairs : List (K × K)) (lo hi : K) (i : Nat) :
    (add h t = (merge h t.bins).bind fun m =>
      match m.min, m.max, t.min, t.max with
      | some a, some b, some c, some d =>
        .ok { m with min := some (if c < a then c else a), max := some (if b < d then d else b) }
      | _, _, none, _ => .ok m
      | _, _, _, _ => .error "TypeError") ∧
    (bulk h pairs lo hi =
      ((pairs.filter (fun p => decide (0 < p.2))).foldlM (fun acc b => update acc b.1 b.2) h).bind fun m =>
      match m.min, m.max with
      | some a, some b =>
        .ok { m with min := some (if lo < a then lo else a), max := some (if b < hi then hi else b) }
      | none, _ => .ok { m with min := some lo, max := some hi }
      | some _, none => .error "TypeError") ∧
    (updateDiffs h i = match h.diffs with
      | none => .ok h
      | some d0 =>
        (diffBlock h.bins (d0, h.minDiff, false) (decide (0 < i)) (i - 1)).bind fun s1 =>
        (diffBlock h.bins s1 (decide (i + 1 < h.bins.length)) i).bind fun s2 =>
        (finishMin s2).bind fun md =>
        .ok { h with diffs := some s2.1, minDiff := md }) :=
  ⟨add_def h t, bulk_def h pairs lo hi, updateDiffs_def h i⟩

/-- **The tests on the optional cache of adjacent differences are `is not None` / `is None`, not truthiness**
(`Gen.DistogramOps.*`, regenerated from `_update_diffs`, `_trim` (twice), `update` (twice) and `_search_in_place_index` on
every run).  `load()` of a histogram with a single bin creates the EMPTY list with an infinite minimum; that list is a
cache (it `is not None`) and every one of the five maintaining sites must treat it as one, or it is never filled while
`_search_in_place_index` never computes it either and every interior value of the full histogram is merged in place.
Also regenerated: `update` appends iff `index == -1`; `merge` hands `(value, count)` of each bin to `update` in that
order; `_compute_diffs` caches `v2 - v1`; `load` computes `len - 1` differences and takes `min(diffs)` iff there is a gap, infinity otherwise; `_trim` without a cache records
`(i - 1, b[0] - bins[i - 1][0])` for the pair ending at bin `i`. -/
theorem source_cache_tests (d : Option (List K)) (neg : Bool) (idx : Nat) (i : Int) (v1 v2 : K) (l : List K) :
    Gen.DistogramOps.udCache d = d.isSome ∧ Gen.DistogramOps.trimCachePick d = d.isSome ∧
    Gen.DistogramOps.trimCacheKeep d = d.isSome ∧ Gen.DistogramOps.appendCache d = d.isSome ∧
    Gen.DistogramOps.insertCache d = d.isSome ∧ Gen.DistogramOps.searchNoCache d = d.isNone ∧
    Gen.DistogramOps.isAppend (if neg then -1 else (idx : Int)) = neg ∧
    Gen.DistogramOps.mergeValue v1 v2 = v1 ∧ Gen.DistogramOps.mergeCount v1 v2 = v2 ∧
    Gen.DistogramOps.computeGap v1 v2 = v2 - v1 ∧
    (Gen.DistogramOps.loadHasDiffs l = true ↔ l ≠ []) ∧
    Gen.DistogramOps.trimScanIdx i = i - 1 ∧ Gen.DistogramOps.trimScanGap v1 v2 = v2 - v1 ∧
    Gen.DistogramOps.loadTurns i = i - 1 ∧ (Gen.DistogramOps.loadNoDiffs : Option K) = none :=
  ⟨udCache_eq d, trimCachePick_eq d, trimCacheKeep_eq d, appendCache_eq d, insertCache_eq d, searchNoCache_eq d,
   isAppend_eq neg idx, rfl, rfl, rfl, by cases l <;> simp [Gen.DistogramOps.loadHasDiffs, Gen.DistogramOps.listTruthy],
   rfl, rfl, rfl, rfl⟩

/-- **The model's cache bookkeeping, `_compute_diffs`, `merge`, `load` and the cache-less `_trim` are these statements** —
the equations the proofs of `cache_coherent`, `trim_refines_reference` and `refines_reference` unfold: a cache that is
set (even empty) is looked up and maintained, none is computed by `_compute_diffs` as the adjacent gaps, `_trim`
without a cache merges the first closest adjacent pair, and a loaded histogram's cache is the gaps with their minimum
(infinite for a single bin). -/
theorem source_cache_assembled (h : Hist K) (other bins : List (K × K)) (mn mx : Option K) :
    (trimIndex h = match h.diffs with
      | some d =>
        (match h.minDiff with
         | some md => (match indexOf md d with
                       | some i => .ok i
                       | none => .error "ValueError")
         | none => .error "ValueError")
      | none => (match gaps h.bins with
                 | [] => .error "ValueError"
                 | g => .ok (argminFirst g))) ∧
    (computeDiffs h = match listMin (gaps h.bins) with
      | some m => .ok { h with diffs := some (gaps h.bins), minDiff := some m }
      | none => .error "ValueError") ∧
    merge h other = other.foldlM (fun acc b => update acc b.1 b.2) h ∧
    load bins mn mx = { bins := bins, min := mn, max := mx, diffs := some (gaps bins), minDiff := listMin (gaps bins),
                        cap := Gen.Distogram.binCount } :=
  ⟨trimIndex_def h, computeDiffs_def h, merge_def h other, load_def bins mn mx⟩

/-- **`acc += part` is `acc + part`** (the other spelling of "+ of independently built histograms";
`Gen.Distogram.augmentedAdd` / `classDunders` regenerated from the body of `class Distogram` on every run).  The class
defines no `__iadd__` of its own (or one that hands over to `__add__`), so Python resolves the augmented assignment —
and `operator.iadd`, and each step of `sum(parts, acc)` / `functools.reduce(operator.add, …)` — to `__add__`, whose
bounds are the exact ones of `source_operations` (`addGuard`/`addMin`/`addMax`: the smaller minimum and the larger
maximum of the two operands' exact bounds whenever the operand has any).  An `__iadd__` that returns the bare
`merge(self, operand)` would report the operand's outermost bin centres instead (`merge_bounds_not_exact`). -/
theorem iadd_is_add (a b : K) (omin omax : Option K) :
    Gen.Distogram.augmentedAdd = "__add__" ∧
    Gen.DistogramOps.addGuard omin omax = omin.isSome ∧
    Gen.DistogramOps.addMin a b = min a b ∧ Gen.DistogramOps.addMax a b = max a b := by
  have h := source_operations (K := K) 0 0 0 0 a b a a a omin omax
  exact ⟨by decide, h.2.1, h.2.2.1, h.2.2.2.1⟩

/-- **The first value of a stream sets both bounds**: after a
successful `update` of the *empty* histogram the minimum and the maximum are both the inserted value — single-value
streams, streams whose first value is the largest, strictly descending streams (`hc1` is not used: `update` itself
rejects a count `≤ 0`). -/
theorem first_value_sets_both_bounds {cap : Nat} {h' : Hist K} {v c : K} (hcap : 1 ≤ cap) (hc1 : 1 ≤ c)
    (hok : update (Hist.init cap) v c = .ok h') :
    h'.min = some v ∧ h'.max = some v ∧ h'.bins = [(v, c)] := by
  obtain ⟨⟨_, _, hb⟩, _, mn, mx, _⟩ := update_induct (coherent_init cap) (init_inv cap hcap) (fun _ hb => nomatch hb) hok
    (fun l => l = [(v, c)]) (fun i l _ _ e => by subst e; rcases i with _ | _ | _ <;> rfl) rfl
  exact ⟨mn, mx, hb⟩

/-- **cache_coherent**: after every operation of the faithful machine — any tree of successful
`update`, bare `merge`, `+`, bulk load and dump/load — whenever `diffs` is set the histogram is not
empty, `diffs` are exactly the adjacent differences of the bins and `min_diff` is their minimum. -/
theorem cache_coherent {h : Hist K} (hb : FBuilt h) :
    ∀ d, h.diffs = some d → h.bins ≠ [] ∧ d = gaps h.bins ∧
      (match h.minDiff with
       | none => d = []
       | some m => m ∈ d ∧ ∀ x ∈ d, m ≤ x) := by
  show Coherent h
  induction hb with
  | init cap => exact coherent_init cap
  | update v c _ hok ih => exact ((update_spec hok).2 ih).1
  | merge _ _ hok ih _ =>
    rw [merge_def] at hok
    exact (foldUpdate_spec _ hok).2 ih
  | add _ _ hok ih _ =>
    obtain ⟨m, _, _, hm, rfl, _⟩ := add_spec hok
    exact show Coherent m from (foldUpdate_spec _ hm).2 ih
  | bulk pairs lo hi _ hok ih =>
    obtain ⟨m, _, _, hm, rfl, _⟩ := bulk_spec hok
    exact show Coherent m from (foldUpdate_spec _ hm).2 ih
  | load _ hne _ => exact coherent_load _ _ _ hne

/-- **A loaded histogram — however small — is served by a live, correct cache for the rest of its life.**  `load()` of
any non-empty dump (a SINGLE bin included: then the cache is the empty list, which `is not None`, with an infinite
minimum) followed by any number of successful updates (`merge` folds `update` over a list of (value, count) pairs: the
further updates of the property's "dump/load followed by further updates") leaves `diffs` *set* and equal to the adjacent
gaps of the current bins, with `min_diff` their minimum (infinite iff there is no gap).  A cache that is set is never
un-set by `update` (`cache_stays_set`), and a set cache is maintained by every path (`update_keeps_cache_coherent`). -/
theorem loaded_cache_stays_live {bins vs : List (K × K)} {mn mx : Option K} {h' : Hist K} (hne : bins ≠ [])
    (hok : merge (load bins mn mx) vs = .ok h') :
    h'.diffs = some (gaps h'.bins) ∧
    (match h'.minDiff with
     | none => gaps h'.bins = []
     | some m => m ∈ gaps h'.bins ∧ ∀ x ∈ gaps h'.bins, m ≤ x) := by
  rw [merge_def] at hok
  obtain ⟨hs, hc⟩ := foldUpdate_spec vs hok
  have hset := hs (by rw [load_def]; rfl)
  have hc := hc (coherent_load bins mn mx hne)
  obtain ⟨d, hd⟩ := Option.isSome_iff_exists.mp hset
  obtain ⟨_, hg, hm⟩ := hc d hd
  subst hg
  exact ⟨hd, hm⟩

/-- One step: **a cache that is set stays set** through every path of `update` (exact hit, in-place merge, append, insert,
every turn of `_trim`). -/
theorem cache_stays_set {h h' : Hist K} {v c : K} (hok : update h v c = .ok h') (hd : h.diffs.isSome = true) :
    h'.diffs.isSome = true :=
  (update_spec hok).1 hd

/-- One step of the invariant: a successful `update` of a coherent state is coherent and keeps the limit. -/
theorem update_keeps_cache_coherent {h h' : Hist K} {v c : K} (hc : Coherent h) (hok : update h v c = .ok h') :
    Coherent h' ∧ h'.cap = h.cap :=
  (update_spec hok).2 hc

/-- **`_trim` refines the reference trim** for any number of turns: with a coherent cache
`h.diffs.index(h.min_diff)` is the first closest pair and the stored bin is `mergeAt` of it — ties included. -/
theorem trim_refines_reference (fuel : Nat) {h h' : Hist K} (hc : Coherent h) (hok : trim fuel h = .ok h') :
    h'.bins = trimRef h.cap fuel h.bins :=
  ((trim_spec fuel hok).2 hc).2.1

/-- **The exact-hit branch refines the reference insertion**: a bin that holds the value takes the count, wherever
`index` points (`hne` and `h1` are not used). -/
theorem exact_hit_refines_reference {bins : List (K × K)} {v c vi fi : K} (hne : bins ≠ [])
    (hi : bins.Pairwise (fun a b => a.1 < b.1)) (h1 : ∀ b ∈ bins, 1 ≤ b.2)
    (hb : bins[(locate bins v).2]? = some (vi, fi)) (he : vi = v) :
    bins.set (locate bins v).2 (vi, fi + c) = insertRef v c bins := by
  subst he
  exact (insertRef_set vi c bins _ fi hi hb).symm

/-- **Insert + `_trim` refines the reference update** — no uniqueness hypothesis: both machines merge the
first closest pair. -/
theorem insert_trim_refines_reference {h h' : Hist K} {v c : K} (hc : Coherent h)
    (hi : h.bins.Pairwise (fun a b => a.1 < b.1)) (h1 : ∀ b ∈ h.bins, 1 ≤ b.2)
    (hnohit : ∀ vi fi, h.bins[(locate h.bins v).2]? = some (vi, fi) → vi ≠ v)
    (hok : insertTrim h (locate h.bins v).1 (locate h.bins v).2 v c = .ok h') :
    h'.bins = (updateRef h.toR v c).bins :=
  congrArg RState.bins (insertTrim_sim hc hi h1 hnohit hok)

/-- **The tie flag is sound**: when the executable tie detection (`tieIn`, what the driver and the harness use
to decide whether the reference clause is judged) is silent, the smallest adjacent gap is attained once. -/
theorem tie_detection_sound {l : List (K × K)} (h : tieIn l = false) : UniqueClosest l :=
  uniqueClosest_of_tieIn h

/-- The fold the driver runs for `+`, `merge` and bulk loads is `mergeRef` with the tie flag `foldTie`. -/
theorem driver_fold_is_reference (bs : List (K × K)) (s : RState K) (t : Bool) :
    bs.foldl refStep (s, t) = (mergeRef s bs, t || foldTie s bs) := by
  induction bs generalizing s t with
  | nil => simp [mergeRef, foldTie]
  | cons b bs ih =>
    rw [List.foldl_cons, show refStep (s, t) b = (updateRef s b.1 b.2, t || updateTie s b.1 b.2) from rfl, ih]
    simp only [mergeRef, List.foldl_cons, foldTie, Bool.or_assoc]

/-- **The in-place shortcut, and every other path of `update`, merges an adjacent pair**: a successful `update` is
either exactly the reference update (exact hit; insert + `_trim`, ties or not) or — through `_trim_in_place`, on a
full histogram — the merge of an adjacent pair `p` of the list after insertion, and `p` is the reference's first
closest pair as soon as the closest pair is unique. -/
theorem update_is_adjacent_merge {h h' : Hist K} {v c : K} (hc : Coherent h) (hinv : Inv h.toR)
    (h1 : ∀ b ∈ h.bins, 1 ≤ b.2) (hok : update h v c = .ok h') :
    h'.toR = updateRef h.toR v c ∨
    ∃ p, p + 1 < (insertRef v c h.bins).length ∧ (insertRef v c h.bins).length = h.cap + 1 ∧
      h'.bins = mergeAt p (insertRef v c h.bins) ∧
      (UniqueClosest (insertRef v c h.bins) → argminFirst (gaps (insertRef v c h.bins)) = p) ∧
      h'.min = some (minO h.min v) ∧ h'.max = some (maxO h.max v) ∧ h'.cap = h.cap :=
  update_shape hc hinv h1 hok

/-- **refines_reference, one step** (every path of `update`, the in-place shortcut included): on a coherent state
that is valid (`Inv`: increasing centres, positive counts, at most `cap` bins, centres within the bounds) with
counts ≥ 1, a successful `update` yields the reference's bins, bounds and limit whenever the reference saw a
unique closest pair (`updateTie … = false`). -/
theorem refines_reference_step {h h' : Hist K} {v c : K} (hc : Coherent h) (hinv : Inv h.toR)
    (h1 : ∀ b ∈ h.bins, 1 ≤ b.2) (hok : update h v c = .ok h') (hnt : updateTie h.toR v c = false) :
    h'.toR = updateRef h.toR v c :=
  update_sim hc hinv h1 hok hnt

/-- The bare `merge` (and the fold inside `+` and bulk loads) refines the reference fold. -/
theorem merge_refines_reference {h h' : Hist K} (bs : List (K × K)) (hc : Coherent h) (hinv : Inv h.toR)
    (h1 : ∀ b ∈ h.bins, 1 ≤ b.2) (hb : ∀ b ∈ bs, 1 ≤ b.2) (hok : merge h bs = .ok h')
    (hnt : foldTie h.toR bs = false) : h'.toR = mergeRef h.toR bs :=
  fold_sim bs hc hinv h1 hb hok hnt

/-- **refines_reference** (the property's second sentence, whole histories): for every history of `update`, `+`
of independently built histograms, bulk loads and dump/load run on both machines in which the reference never saw
a second closest pair, the faithful machine's state — bins, minimum, maximum, limit — **is** the reference
machine's state; the history is a `Built` history, so every stage-1 theorem holds of the faithful state. -/
theorem refines_reference {h : Hist K} (hb : FHist h s L B) : h.toR = s ∧ Built s L B :=
  ⟨(fhist_sim hb).1, (fhist_sim hb).2.1⟩

/-- One step of the faithful invariants, ties or not. -/
theorem faithful_update_conserves {h h' : Hist K} {v c : K} (hc : Coherent h) (hinv : Inv h.toR)
    (h1 : ∀ b ∈ h.bins, 1 ≤ b.2) (hc1 : 1 ≤ c) (hok : update h v c = .ok h') :
    Inv h'.toR ∧ (∀ b ∈ h'.bins, 1 ≤ b.2) ∧ mass h'.bins = mass h.bins + c ∧ wsum h'.bins = wsum h.bins + v * c ∧
    h'.min = some (minO h.min v) ∧ h'.max = some (maxO h.max v) ∧ h'.cap = h.cap :=
  update_inv hc hinv h1 hc1 hok

/-- **Bins strictly increasing and no more than the configured maximum — for the code's own machine**, after every
history (`FLedger`), whichever pairs were merged (ties, in-place shortcut, cached differences). -/
theorem faithful_order_and_capacity {h : Hist K} (hb : FLedger h L B) :
    h.bins.Pairwise (fun a b => a.1 < b.1) ∧ h.bins.length ≤ h.cap ∧ ∀ b ∈ h.bins, 1 ≤ b.2 := by
  obtain ⟨_, h1, hi, _⟩ := fledger_facts hb
  exact ⟨hi.inc, hi.len, h1⟩

/-- **Mass, weighted sum and mean — for the code's own machine**, after every history. -/
theorem faithful_mass_and_mean {h : Hist K} (hb : FLedger h L B) :
    mass h.bins = mass L ∧ wsum h.bins = wsum L ∧ wsum h.bins / mass h.bins = wsum L / mass L := by
  obtain ⟨_, _, _, (hm : mass h.bins = mass L), (hw : wsum h.bins = wsum L), _⟩ := fledger_facts hb
  exact ⟨hm, hw, by rw [hm, hw]⟩

/-- **Exact minimum and maximum, every centre between them — for the code's own machine**, after every history. -/
theorem faithful_bounds {h : Hist K} (hb : FLedger h L B) :
    (∀ m, h.min = some m → m ∈ B ∧ ∀ b ∈ B, m ≤ b) ∧ (h.min = none → B = []) ∧
    (∀ M, h.max = some M → M ∈ B ∧ ∀ b ∈ B, b ≤ M) ∧ (h.max = none → B = []) ∧
    (∀ m M, h.min = some m → h.max = some M → ∀ b ∈ h.bins, m ≤ b.1 ∧ b.1 ≤ M) := by
  obtain ⟨_, _, hi, _, _, hmin, hmax⟩ := fledger_facts hb
  exact ⟨hmin.spec.1, hmin.spec.2, hmax.spec.1, hmax.spec.2, hi.within⟩

/-- **Bulk load above the direct-insert threshold** (numpy.histogram's `edges` and `counts` are parameters, all
edges inside the data's range `[lo, hi]`): it is a ledger step that inserts the midpoints the source computes with
their counts, so the weighted mean of the bins is the true mean *of the inserted midpoints* — exactly — and all the
other clauses hold of the result (`faithful_*`). -/
theorem bulk_above_threshold_mean {h h' : Hist K} (edges counts : List K) (lo hi : K) (hs : FLedger h L B)
    (hlh : lo ≤ hi) (he : ∀ e ∈ edges, lo ≤ e ∧ e ≤ hi) (hcn : ∀ c ∈ counts, 0 < c → 1 ≤ c)
    (hok : bulk h ((midpoints edges).zip counts) lo hi = .ok h') :
    let ins := ((midpoints edges).zip counts).filter (fun p => decide (0 < p.2))
    FLedger h' (L ++ ins) (B ++ [lo, hi]) ∧ (∀ p ∈ ins, lo ≤ p.1 ∧ p.1 ≤ hi) ∧
    wsum h'.bins / mass h'.bins = (wsum L + wsum ins) / (mass L + mass ins) := by
  have hl := FLedger.bulk _ lo hi hs hlh (fun p hp hpos =>
    ⟨hcn p.2 (List.of_mem_zip hp).2 hpos, midpoints_within he p.1 (List.of_mem_zip hp).1⟩) hok
  obtain ⟨_, _, _, (hm : mass h'.bins = _), (hw : wsum h'.bins = _), _⟩ := fledger_facts hl
  refine ⟨hl, ?_, ?_⟩
  · intro p hp
    exact midpoints_within he p.1 (List.of_mem_zip (List.mem_filter.mp hp).1).1
  · rw [hm, hw, mass_append, wsum_append]

/-- Non-vacuity of stage 2: a faithful history with an in-place merge, an exact hit, an insert + trim and
a dump/load succeeds, is `FBuilt`, and equals the reference on it. -/
example :
    ((update (Hist.init 3 : Hist ℚ) 0 1).bind fun h1 =>
     (update h1 10 1).bind fun h2 =>
     (update h2 20 1).bind fun h3 =>
     (update h3 11 1).bind fun h4 =>      -- in place into bin 1
     (update h4 20 2).bind fun h5 =>      -- exact hit
     (update h5 40 1).bind fun h6 =>      -- append + trim
     .ok (h6.bins, h6.diffs, h6.minDiff))
      = .ok ([(0, 1), (81 / 5, 5), (40, 1)], some [81 / 5, 119 / 5], some (81 / 5)) := by
  decide +kernel

/-- Non-vacuity of `loaded_cache_stays_live`: a single-bin dump is loaded (empty cache, infinite minimum), then a new
minimum is inserted and a new maximum appended — the cache is filled and kept. -/
example :
    ((merge (load [((10 : ℚ), 3)] (some 10) (some 10)) [(0, 1), (25, 2)]).map fun h => (h.bins, h.diffs, h.minDiff)) =
      .ok ([(0, 1), (10, 3), (25, 2)], some [10, 15], some 10) ∧
    (load [((10 : ℚ), 3)] (some 10) (some 10)).diffs = some [] ∧ (load [((10 : ℚ), 3)] (some 10) (some 10)).minDiff = none := by
  decide +kernel

/-- Non-vacuity of `FHist` / `FLedger`: the history above up to the in-place merge runs on both machines without
a tie, and the states agree. -/
example :
    ∃ h : Hist ℚ, FHist h (updateRef (updateRef (updateRef (updateRef (RState.init 3) 0 1) 10 1) 20 1) 11 1)
      ([] ++ [(0, 1)] ++ [(10, 1)] ++ [(20, 1)] ++ [(11, 1)]) ([] ++ [0] ++ [10] ++ [20] ++ [11]) ∧
      h.bins = [(0, 1), (21 / 2, 2), (20, 1)] := by
  refine ⟨_, FHist.update (h' := ⟨[(0, 1), (21 / 2, 2), (20, 1)], some 0, some 20, some [21 / 2, 19 / 2], some (19 / 2), 3⟩)
    11 1 (FHist.update (h' := ⟨[(0, 1), (10, 1), (20, 1)], some 0, some 20, none, none, 3⟩) 20 1
      (FHist.update (h' := ⟨[(0, 1), (10, 1)], some 0, some 10, none, none, 3⟩) 10 1
        (FHist.update (h' := ⟨[(0, 1)], some 0, some 0, none, none, 3⟩) 0 1 (FHist.init 3 (by decide)) (le_refl _)
          (by decide +kernel) (by decide +kernel))
        (le_refl _) (by decide +kernel) (by decide +kernel))
      (le_refl _) (by decide +kernel) (by decide +kernel))
    (le_refl _) (by decide +kernel) (by decide +kernel), rfl⟩

/-- Non-vacuity: a concrete history with an update sequence that trims, a `+`, a bulk load and a
dump/load is `Built`, and its state is the expected one. -/
example :
    let a : RState ℚ := updateRef (updateRef (updateRef (RState.init 2) 1 1) 3 1) 8 2
    let b : RState ℚ := updateRef (RState.init 3) (-5) 4
    let c := dumpLoadRef (bulkRef (addRef a b) [(10, 1), (20, 0)] 9 21)
    Built c ([(1, 1), (3, 1), (8, 2)] ++ [(-5, 4)] ++ [(10, 1)]) ([1, 3, 8] ++ [-5] ++ [9, 21]) ∧
    a.bins = [(2, 2), (8, 2)] ∧ c.bins = [(-5, 4), (6, 5)] ∧ c.min = some (-5) ∧ c.max = some 21 := by
  refine ⟨?_, by decide +kernel, by decide +kernel, by decide +kernel, by decide +kernel⟩
  refine Built.dumpLoad (Built.bulk _ 9 21 (Built.add ?_ ?_) (by norm_num) ?_) (by decide +kernel)
  · exact Built.update 8 2 (Built.update 3 1 (Built.update 1 1 (Built.init 2 (by decide)) (by norm_num)) (by norm_num)) (by norm_num)
  · exact Built.update (-5) 4 (Built.init 3 (by decide)) (by norm_num)
  · intro p hp hpos
    simp only [List.mem_cons, List.not_mem_nil, or_false] at hp
    rcases hp with rfl | rfl
    · norm_num
    · norm_num at hpos

end C13
