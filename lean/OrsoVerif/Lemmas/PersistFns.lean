import OrsoVerif.Generated.PersistFns
import OrsoVerif.Lemmas.Persist
import OrsoVerif.Lemmas.PersistAll
/-! C16: the functions of `orso/schema.py` translated statement by statement (`Generated/PersistFns.lean`,
regenerated from the working tree on every run) are equal to the hand-written references of `Model/Persist.lean` /
`Model/PersistOps.lean`.  `Props/C16.lean` restates them as `generated_*_eq_model` (and proves the equation of `to_json`'s
`default=` hook, which nothing here needs).  At the end, what its round trips over the translated functions are stated
for: the column states `Reachable`, and the column built from a name alone (`nameOnly`). -/
namespace Persist
open TypeName (Str Ty)
open Gen.Persist

variable {V : Type}

/-! ### `FlatColumn.from_dict`, `from_json` -/

/-- one statement `if <conditions>: dic = {**dic, k: OrsoTypes.<m>}` followed by the rest `f` of the function is `f` after
the rule; `p` is the test as the translation writes it -/
theorem ite_applyRule {α : Type} (f : Raw V → α) (d : Raw V) (cs : List (String × String × String)) (k m : String)
    {p : Prop} [Decidable p] (hp : p ↔ cs.all (evalCond d) = true) :
    (if p then f (dSetMember d k m) else f d) = f (applyRule d (cs, k, m)) := by
  unfold applyRule dSetMember
  by_cases h : p
  · rw [if_pos h, if_pos (hp.mp h)]
  · rw [if_neg h, if_neg (mt hp.mpr h)]

theorem eqValue_rule (d : Raw V) (k m : String) :
    dGetEqValue d k m = true ↔ [("eqValue", k, m)].all (evalCond d) = true := by
  rw [List.all_cons, List.all_nil, Bool.and_true]
  rfl

theorem array_null_rule (d : Raw V) :
    (dGetEqValue d "type" "ARRAY" = true ∧ dHas d "element_type" = true ∧ dIsNone d "element_type" = true) ↔
      [("eqValue", "type", "ARRAY"), ("present", "element_type", ""), ("isNone", "element_type", "")].all (evalCond d)
        = true := by
  simp only [List.all_cons, List.all_nil, Bool.and_true, Bool.and_eq_true]
  rfl

theorem gen_column_from_dict_eq (K : Caster V) (fresh : String) (d : Raw V) :
    Gen.PersistFns.column_from_dict K fresh d = colFromDict K fresh d := by
  unfold Gen.PersistFns.column_from_dict
  dsimp only
  -- the translation repeats what follows an `if` in both branches: the last statement stands in four places, the
  -- second in two; each is folded into its rule, from the last statement outwards
  repeat rw [ite_applyRule (init K fresh) _ _ "type" "ARRAY" (array_null_rule _)]
  repeat rw [ite_applyRule (fun x => init K fresh (applyRule x _)) _ _ "element_type" "_MISSING_TYPE" (eqValue_rule _ _ _)]
  rw [ite_applyRule (fun x => init K fresh (applyRule (applyRule x _) _)) _ _ "type" "_MISSING_TYPE" (eqValue_rule _ _ _)]
  rfl

theorem gen_from_json_eq (K : Caster V) (fresh : String) (d : Raw V) :
    Gen.PersistFns.from_json K fresh d = load jsonLoader K fresh d := by
  unfold Gen.PersistFns.from_json loads
  rw [gen_column_from_dict_eq, load_jsonLoader]

/-! ### `to_json`, `to_flatcolumn` -/

theorem gen_to_json_eq (K : Caster V) (c : Col V) :
    Gen.PersistFns.to_json K c = colToJson K c := by
  unfold Gen.PersistFns.to_json dumps colToJson asdictCol
  rw [show Gen.PersistFns.default_serializer (.value "object") = .error .type by decide]
  split
  · rfl
  · cases K.json c.default <;> cases K.json c.highest_value <;> cases K.json c.lowest_value <;>
      cases mapO K.json c.expectations <;> rfl

theorem gen_jsonRoundTrip_eq (K : Caster V) (fresh : String) (c : Col V) :
    (Gen.PersistFns.to_json K c).bind (Gen.PersistFns.from_json K fresh) = jsonRoundTrip K fresh c := by
  unfold jsonRoundTrip
  rw [gen_to_json_eq]
  cases colToJson K c with
  | error e => rfl
  | ok d => exact gen_from_json_eq K fresh d

theorem gen_to_flatcolumn_eq (K : Caster V) (fresh : String) (c : Col V) :
    Gen.PersistFns.to_flatcolumn K fresh c = toFlat K fresh c := by
  unfold Gen.PersistFns.to_flatcolumn toFlat
  rw [flatRaw_eq]
  rfl

/-! ### `RelationSchema.from_dict` -/

/-- the column list the loop of `RelationSchema.from_dict` builds: one load per dictionary or name, in order (a load that raised
stays in its place, see `SchemaB`), nothing for any other entry -/
def entryResults (K : Caster V) (fresh : String) : List (ColEntry V) → List (Except Err (Col V))
  | [] => []
  | .dict r :: es => colFromDict K fresh r :: entryResults K fresh es
  | .name s :: es => init K fresh { name := some s } :: entryResults K fresh es
  | .other :: es => entryResults K fresh es

theorem firstError_entryResults (K : Caster V) (fresh : String) (es : List (ColEntry V)) :
    firstError (entryResults K fresh es) = loadEntries K fresh es := by
  induction es with
  | nil => rfl
  | cons e es ih =>
    cases e with
    | dict r =>
      simp only [entryResults, loadEntries]
      cases h : colFromDict K fresh r with
      | error e => rfl
      | ok c => simp only [firstError, ih]; cases loadEntries K fresh es <;> rfl
    | name s =>
      simp only [entryResults, loadEntries]
      cases h : init K fresh ({ name := some s } : Raw V) with
      | error e => rfl
      | ok c => simp only [firstError, ih]; cases loadEntries K fresh es <;> rfl
    | other => simpa only [entryResults, loadEntries] using ih

theorem foldl_entryResults (K : Caster V) (fresh : String) (g : SchemaB V → ColEntry V → SchemaB V)
    (hg : ∀ s e, g s e = { s with columns := s.columns ++ entryResults K fresh [e] }) (es : List (ColEntry V))
    (s : SchemaB V) : es.foldl g s = { s with columns := s.columns ++ entryResults K fresh es } := by
  induction es generalizing s with
  | nil => simp [entryResults]
  | cons e es ih =>
    rw [List.foldl_cons, ih, hg]
    cases e <;> simp [entryResults]

theorem gen_schema_from_dict_eq (K : Caster V) (fresh : String) (d : SDictE V) :
    Gen.PersistFns.schema_from_dict K fresh d = fromDictE K fresh d := by
  unfold Gen.PersistFns.schema_from_dict fromDictE
  cases d.name with
  | none => rfl
  | some name =>
    cases d.columns with
    | none => rfl
    | some es =>
      show SchemaB.seal (es.foldl _ _) = _
      rw [foldl_entryResults K fresh _ fun s e => by
        cases e <;> simp [ColEntry.isDict, ColEntry.isStr, ColEntry.text, onDict, SchemaB.append, entryResults,
          gen_column_from_dict_eq]]
      simp only [SchemaB.seal, List.nil_append, firstError_entryResults]

theorem loadEntries_dicts (K : Caster V) (fresh : String) (cols : List (Raw V)) :
    loadEntries K fresh (cols.map ColEntry.dict) = mapE (colFromDict K fresh) cols := by
  induction cols with
  | nil => rfl
  | cons r rs ih =>
    simp only [List.map_cons, loadEntries, mapE, ih]
    cases colFromDict K fresh r with
    | error e => rfl
    | ok c => cases mapE (colFromDict K fresh) rs <;> rfl

/-- on a dictionary whose column entries are all dictionaries (what `to_dict` writes), the reference is `fromDict` -/
theorem fromDictE_ofSDict (K : Caster V) (fresh : String) (d : SDict V) :
    fromDictE K fresh (SDictE.ofSDict d) = fromDict K fresh d := by
  rw [fromDict_eq]
  unfold fromDictE SDictE.ofSDict
  cases d.name with
  | none => rfl
  | some name =>
    cases d.columns with
    | none => rfl
    | some cols =>
      simp only [Option.map_some, loadEntries_dicts]
      rfl

/-! ### `RelationSchema.to_dict` -/

theorem gen_colAsdict (c : Col V) : colAsdict Gen.PersistFns.converter_value c = colToDict c := by
  have e1 : convTy Gen.PersistFns.converter_value = writeTy := funext fun t => by cases t <;> rfl
  have e2 : convDisp Gen.PersistFns.converter_value = writeDisp := rfl
  unfold colAsdict colToDict
  rw [e1, e2]

theorem gen_schema_to_dict_eq (s : Schema V) : Gen.PersistFns.schema_to_dict s = toDict s := by
  unfold Gen.PersistFns.schema_to_dict asdictSchema
  have : s.columns.map (colAsdict Gen.PersistFns.converter_value) = s.columns.map colToDict :=
    List.map_congr_left (fun c _ => gen_colAsdict c)
  rw [this]
  rfl

theorem gen_dictRoundTrip_eq (K : Caster V) (fresh : String) (s : Schema V) :
    Gen.PersistFns.schema_from_dict K fresh (SDictE.ofSDict (Gen.PersistFns.schema_to_dict s))
      = fromDict K fresh (toDict s) := by
  rw [gen_schema_from_dict_eq, gen_schema_to_dict_eq, fromDictE_ofSDict]

/-! ### `FlatColumn.__init__`, the statements after the attribute loop -/

theorem gen_init_s1_eq (K : Caster V) (s : St V) : Gen.PersistFns.init_s1 K s =
    match resolveType s.type s.element_type s.length s.precision s.scale with
    | .error e => .error e
    | .ok t => .ok { s with type := rawTy t.ty, element_type := t.elem, length := t.length, precision := t.precision,
                            scale := t.scale } := by
  obtain ⟨ty, el, disp, dflt, len, prec, sc⟩ := s
  cases hm : ty.isMember with
  | true => cases ty <;> first | rfl | cases hm
  | false =>
    simp only [Gen.PersistFns.init_s1, resolveType_literal hm, hm, Bool.false_eq_true, not_false_eq_true, ↓reduceIte]
    cases fromNameRaw ty with
    | error e => rfl
    | ok d =>
      obtain ⟨dty, dl, dp, ds, de⟩ := d
      cases dty with
      | zero => rfl
      | member m => cases el <;> cases prec <;> cases sc <;> cases len <;> rfl

theorem gen_init_s2_eq (K : Caster V) (s : St V) : Gen.PersistFns.init_s2 K s =
    match resolveElem s.element_type with
    | .error e => .error e
    | .ok el => .ok { s with element_type := el.map rawTy } := by
  obtain ⟨ty, el, disp, dflt, len, prec, sc⟩ := s
  cases el with
  | none => rfl
  | some t =>
    cases t
    case member m => rfl
    all_goals
      simp only [Gen.PersistFns.init_s2, resolveElem, isMemberO, RawTy.isMember, fromNameOpt, ne_eq, reduceCtorEq,
        not_false_eq_true, Bool.false_eq_true, and_self, ↓reduceIte]
      generalize fromNameRaw _ = res
      cases res <;> rfl

theorem gen_init_s3_eq (K : Caster V) (s : St V) : Gen.PersistFns.init_s3 K s =
    match resolveDisp s.disposition with
    | .error e => .error e
    | .ok d => .ok { s with disposition := d.map RawDisp.member } := by
  obtain ⟨ty, el, disp, dflt, len, prec, sc⟩ := s
  cases disp with
  | none => rfl
  | some d =>
    cases d with
    | member n => rfl
    | text x =>
      simp only [Gen.PersistFns.init_s3, resolveDisp, dispIsMemberO, RawDisp.isMember, dispOfValue, ne_eq, reduceCtorEq,
        not_false_eq_true, Bool.false_eq_true, and_self, ↓reduceIte]
      generalize List.find? _ dispositions = res
      cases res <;> rfl

theorem gen_init_s4_eq (K : Caster V) (s : St V) (ty : Ty) (h : s.type = rawTy ty) : Gen.PersistFns.init_s4 K s =
    match resolveDefault K ty s.default with
    | .error e => .error e
    | .ok v => .ok { s with default := v } := by
  obtain ⟨ty', el, disp, dflt, len, prec, sc⟩ := s
  change ty' = rawTy ty at h
  subst h
  simp only [Gen.PersistFns.init_s4, resolveDefault]
  by_cases ht : K.truthy dflt = true
  · simp only [ht, ↓reduceIte]
    cases ty with
    | zero => rfl
    | member m =>
      simp only [parseWith, rawTy]
      cases K.parse m dflt <;> rfl
  · simp only [ht, Bool.false_eq_true, ↓reduceIte]

theorem tyIs_decimal (ty : Ty) : tyIs (rawTy ty) "DECIMAL" = isDecimal ty := by
  cases ty with
  | zero => rfl
  | member m =>
    have hl : "DECIMAL".toList = TypeName.litDecimal := by decide +kernel
    simp only [tyIs, rawTy, isDecimal, hl]
    by_cases hm : m = TypeName.litDecimal
    · subst hm; rfl
    · have h1 : (m == TypeName.litDecimal) = false := beq_eq_false_iff_ne.mpr hm
      have h2 : (Ty.member m == Ty.member TypeName.litDecimal) = false :=
        beq_eq_false_iff_ne.mpr (fun h => by cases h; exact hm rfl)
      rw [h1, h2]

theorem gen_init_s5_eq (K : Caster V) (s : St V) (ty : Ty) (h : s.type = rawTy ty) :
    Gen.PersistFns.init_s5 K s = .ok { s with precision := decimalPrecision ty s.precision } := by
  obtain ⟨ty', el, disp, dflt, len, prec, sc⟩ := s
  change ty' = rawTy ty at h
  subst h
  simp only [Gen.PersistFns.init_s5, decimalPrecision, tyIs_decimal, decimalGuard_precision]
  cases isDecimal ty <;> cases prec <;> rfl

theorem gen_init_s6_eq (K : Caster V) (s : St V) (ty : Ty) (h : s.type = rawTy ty) :
    Gen.PersistFns.init_s6 K s = .ok { s with scale := decimalScale ty s.precision s.scale } := by
  obtain ⟨ty', el, disp, dflt, len, prec, sc⟩ := s
  change ty' = rawTy ty at h
  subst h
  simp only [Gen.PersistFns.init_s6, decimalScale, tyIs_decimal, decimalGuard_scale]
  cases isDecimal ty <;> cases sc <;> rfl

theorem gen_init_body_eq (K : Caster V) (s : St V) : Gen.PersistFns.init_body K s = initBody K s := by
  unfold Gen.PersistFns.init_body initBody
  rw [gen_init_s1_eq]
  cases resolveType s.type s.element_type s.length s.precision s.scale with
  | error e => rfl
  | ok t =>
    simp only [Except.bind, gen_init_s2_eq]
    cases resolveElem t.elem with
    | error e => rfl
    | ok el =>
      simp only [gen_init_s3_eq]
      cases resolveDisp s.disposition with
      | error e => rfl
      | ok d =>
        simp only
        rw [gen_init_s4_eq K _ t.ty rfl]
        cases resolveDefault K t.ty s.default with
        | error e => rfl
        | ok v =>
          simp only
          rw [gen_init_s5_eq K _ t.ty rfl]
          simp only
          rw [gen_init_s6_eq K _ t.ty rfl]

/-- what the constructor leaves in the attributes its statements after the loop work on -/
def initSt (K : Caster V) (fresh : String) (r : Raw V) : Except Err (St V) :=
  match init K fresh r with
  | .error e => .error e
  | .ok c => .ok (stOfCol c)

/-- the attribute loop (`name` has neither default nor factory), then `body` on the state it leaves -/
def loopThen (K : Caster V) (r : Raw V) (body : St V → Except Err (St V)) : Except Err (St V) :=
  match rdReq "name" r.name with
  | none => .error .columnDefinition
  | some _ => body (stOf K r)

theorem init_eq_initBody (K : Caster V) (fresh : String) (r : Raw V) :
    initSt K fresh r = loopThen K r (initBody K) := by
  unfold initSt loopThen
  unfold init initBody stOf
  cases rdReq "name" r.name with
  | none => rfl
  | some name =>
    simp only
    cases resolveType (rd "type" r.type (.member missingName)) (rd "element_type" r.element_type none)
        (rd "length" r.length none) (rd "precision" r.precision none) (rd "scale" r.scale none) with
    | error e => rfl
    | ok t =>
      simp only
      cases resolveElem t.elem with
      | error e => rfl
      | ok el =>
        simp only
        cases resolveDisp (rd "disposition" r.disposition none) with
        | error e => rfl
        | ok d =>
          simp only
          cases resolveDefault K t.ty (rd "default" r.default K.none) with
          | error e => rfl
          | ok v => rfl

/-! ### the states a column can be in: built by the constructor, then attributes assigned -/

/-- a column state reachable by a constructor call followed by any number of assignments to the attributes the rest of
the library assigns after construction (names and aliases by the binder, nullability and description, the identity, the
three statistics by the profiler, origin and length by readers) -/
inductive Reachable (K : Caster V) : Col V → Prop
  | built {f : String} {r : Raw V} {c : Col V} : WellTyped r → init K f r = .ok c → Reachable K c
  | name {c : Col V} (x : String) : Reachable K c → Reachable K { c with name := x }
  | description {c : Col V} (x : Option String) : Reachable K c → Reachable K { c with description := x }
  | aliases {c : Col V} (x : Option (List String)) : Reachable K c → Reachable K { c with aliases := x }
  | nullable {c : Col V} (x : Bool) : Reachable K c → Reachable K { c with nullable := x }
  | identity {c : Col V} (x : String) : Reachable K c → Reachable K { c with identity := x }
  | highest_value {c : Col V} (x : V) : Reachable K c → Reachable K { c with highest_value := x }
  | lowest_value {c : Col V} (x : V) : Reachable K c → Reachable K { c with lowest_value := x }
  | null_count {c : Col V} (x : Option Nat) : Reachable K c → Reachable K { c with null_count := x }
  | origin {c : Col V} (x : List String) : Reachable K c → Reachable K { c with origin := x }
  | length {c : Col V} (x : Option Nat) : Reachable K c → Reachable K { c with length := x }

theorem reachable_writable (K : Caster V) (c : Col V) (h : Reachable K c) : Writable c := by
  induction h with
  | built hw hi => exact init_writable K _ _ _ hi hw
  -- `Writable` reads no attribute that is assigned after construction
  | _ _ _ ih => exact ih

theorem reachable_ok (K : Caster V)
    (hIdem : ∀ m v w, K.parse m v = some w → K.truthy w = true → K.parse m w = some w)
    (c : Col V) (h : Reachable K c) : Constructed K c ∧ Writable c := by
  refine ⟨?_, reachable_writable K c h⟩
  induction h with
  | built _ hi => exact init_establishes K hIdem _ _ _ hi
  -- nor does `Constructed`
  | _ _ _ ih => exact ih

/-- a column built from a name alone: every declared default -/
def nameOnly (K : Caster V) (fresh name : String) : Col V :=
  { name := name, default := K.none, type := .member missingName, element_type := none, description := none,
    disposition := none, aliases := some [], nullable := true, expectations := [], identity := fresh, length := none,
    precision := none, scale := none, origin := [], highest_value := K.none, lowest_value := K.none,
    null_count := none }

theorem init_name_only (K : Caster V) (hn : K.truthy K.none = false) (fresh name : String) :
    init K fresh { name := some name } = .ok (nameOnly K fresh name) := by
  rw [init_eq]
  have h : resolveDefault K (.member missingName) K.none = .ok K.none :=
    resolveDefault_fixed fun ht => by rw [hn] at ht; cases ht
  simp only [Option.getD_none, resolveType, resolveElem, resolveDisp, h]
  rfl

end Persist
