import OrsoVerif.Model.MsgPack
/-!
# Lemmas for the MessagePack model: every header/scalar the encoder emits is read back
-/
namespace MsgPack

theorem toNat_ofNat (n : Nat) (h : n < 256) : (UInt8.ofNat n).toNat = n := by
  simp [UInt8.toNat_ofNat']; omega

theorem unpack_succ (fuel : Nat) (bs : Bytes) : unpack (fuel + 1) bs = unpackHd (unpack fuel) bs := rfl

theorem unpackHd_cons (un : Bytes → Option (PyVal × Bytes)) (t : UInt8) (rest : Bytes) :
    unpackHd un (t :: rest) = unpackTag un t.toNat rest := rfl

theorem rd8_be (n : Nat) (rest : Bytes) (h : n < 256) : rd8 (UInt8.ofNat n :: rest) = some (n, rest) := by
  simp [rd8, toNat_ofNat n h]

/-- Putting one more base-256 digit in front of the low part of `n`. -/
theorem mod_digit (n a b : Nat) (h : a * 256 = b) : n / a % 256 * a + n % a = n % b := by
  subst h; rw [Nat.mod_mul, Nat.mul_comm, Nat.add_comm]

theorem rd16_be (n : Nat) (rest : Bytes) (h : n < 65536) : rd16 (be16 n ++ rest) = some (n, rest) := by
  simp only [rd16, be16, List.cons_append, List.nil_append, UInt8.toNat_ofNat']
  rw [mod_digit n 256 65536 rfl, Nat.mod_eq_of_lt h]

theorem rd32_be (n : Nat) (rest : Bytes) (h : n < 4294967296) : rd32 (be32 n ++ rest) = some (n, rest) := by
  simp only [rd32, be32, List.cons_append, List.nil_append, UInt8.toNat_ofNat', Nat.add_assoc]
  rw [mod_digit n 256 65536 rfl, mod_digit n 65536 16777216 rfl, mod_digit n 16777216 4294967296 rfl,
    Nat.mod_eq_of_lt h]

theorem rd64_be (n : Nat) (rest : Bytes) (h : n < 18446744073709551616) :
    rd64 (be64 n ++ rest) = some (n, rest) := by
  simp only [rd64, be64, List.cons_append, List.nil_append, UInt8.toNat_ofNat', Nat.add_assoc]
  rw [mod_digit n 256 65536 rfl, mod_digit n 65536 16777216 rfl, mod_digit n 16777216 4294967296 rfl,
    mod_digit n 4294967296 1099511627776 rfl, mod_digit n 1099511627776 281474976710656 rfl,
    mod_digit n 281474976710656 72057594037927936 rfl,
    mod_digit n 72057594037927936 18446744073709551616 rfl, Nat.mod_eq_of_lt h]

theorem takeN_append (a rest : Bytes) : takeN a.length (a ++ rest) = some (a, rest) := by
  simp [takeN]

theorem ofUtf8_utf8 (s : String) : ofUtf8 (utf8 s) = some s := by
  unfold ofUtf8 utf8
  have : (ByteArray.mk s.toByteArray.data.toList.toArray) = s.toByteArray := by simp
  rw [this]
  simp [String.fromUTF8?, s.isValidUTF8]
  rfl

theorem unStr_utf8 (s : String) (rest : Bytes) : unStr (utf8 s).length (utf8 s ++ rest) = some (s, rest) := by
  simp [unStr, takeN_append, ofUtf8_utf8]

/-! Tags with a fixed value: the `if` chain of `unpackTag` evaluates. -/
section tags
variable (un : Bytes → Option (PyVal × Bytes)) (rest : Bytes)
theorem tag192 : unpackTag un 192 rest = some (.none, rest) := rfl
theorem tag194 : unpackTag un 194 rest = some (.bool false, rest) := rfl
theorem tag195 : unpackTag un 195 rest = some (.bool true, rest) := rfl
theorem tag203 : unpackTag un 203 rest = andThen (rd64 rest) fun n r => some (.float (UInt64.ofNat n), r) := rfl
theorem tag204 : unpackTag un 204 rest = andThen (rd8 rest) fun n r => some (.int (n : Int), r) := rfl
theorem tag205 : unpackTag un 205 rest = andThen (rd16 rest) fun n r => some (.int (n : Int), r) := rfl
theorem tag206 : unpackTag un 206 rest = andThen (rd32 rest) fun n r => some (.int (n : Int), r) := rfl
theorem tag207 : unpackTag un 207 rest = andThen (rd64 rest) fun n r => some (.int (n : Int), r) := rfl
theorem tag208 : unpackTag un 208 rest = andThen (rd8 rest) fun n r => some (.int (signed 128 256 n), r) := rfl
theorem tag209 : unpackTag un 209 rest = andThen (rd16 rest) fun n r => some (.int (signed 32768 65536 n), r) := rfl
theorem tag210 : unpackTag un 210 rest =
    andThen (rd32 rest) fun n r => some (.int (signed 2147483648 4294967296 n), r) := rfl
theorem tag211 : unpackTag un 211 rest =
    andThen (rd64 rest) fun n r => some (.int (signed 9223372036854775808 18446744073709551616 n), r) := rfl
end tags

/-! The tag bytes `pack` writes as hexadecimal literals, as the numbers `unpackTag` tests for. -/
theorem t192 : (0xc0 : UInt8).toNat = 192 := rfl
theorem t194 : (0xc2 : UInt8).toNat = 194 := rfl
theorem t195 : (0xc3 : UInt8).toNat = 195 := rfl
theorem t203 : (0xcb : UInt8).toNat = 203 := rfl
theorem t204 : (0xcc : UInt8).toNat = 204 := rfl
theorem t205 : (0xcd : UInt8).toNat = 205 := rfl
theorem t206 : (0xce : UInt8).toNat = 206 := rfl
theorem t207 : (0xcf : UInt8).toNat = 207 := rfl
theorem t208 : (0xd0 : UInt8).toNat = 208 := rfl
theorem t209 : (0xd1 : UInt8).toNat = 209 := rfl
theorem t210 : (0xd2 : UInt8).toNat = 210 := rfl
theorem t211 : (0xd3 : UInt8).toNat = 211 := rfl

section counted
variable {β : Type} {R : Bytes → Option β} {f : Nat → Bytes → Option β}

/-- One counted branch of a reader `R` (`unpackHd un`, `unKey`): at the tag `t` it reads a count with `rd` and goes on with
`f` (`ht`: its `if` chain evaluated at the tag, `fun _ => rfl` or one of `tag203` … `tag211`), and `rd` reads `n` back from
`enc` (`hrd`: one of `rd8_be` … `rd64_be`). -/
theorem counted {t : UInt8} {rd : Bytes → Option (Nat × Bytes)} {enc rest : Bytes} {n : Nat} {y : Option β}
    (ht : ∀ rest, R (t :: rest) = andThen (rd rest) f) (hrd : rd (enc ++ rest) = some (n, rest))
    (hy : f n rest = y) : R (t :: enc ++ rest) = y := by
  rw [List.cons_append, ht, hrd]; exact hy

/-- Behind its short form every counted family of the encoder writes the count in the narrowest of three widths (two for
arrays and maps), a tag and the big-endian count. -/
theorem counted16 {t16 t32 : UInt8} (h16 : ∀ rest, R (t16 :: rest) = andThen (rd16 rest) f)
    (h32 : ∀ rest, R (t32 :: rest) = andThen (rd32 rest) f) (n : Nat) (rest : Bytes) (h : n < 4294967296) :
    R ((if n < 65536 then t16 :: be16 n else t32 :: be32 n) ++ rest) = f n rest := by
  by_cases a3 : n < 65536
  · rw [if_pos a3]; exact counted h16 (rd16_be _ _ a3) rfl
  · rw [if_neg a3]; exact counted h32 (rd32_be _ _ h) rfl

theorem counted8 {t8 t16 t32 : UInt8} (h8 : ∀ rest, R (t8 :: rest) = andThen (rd8 rest) f)
    (h16 : ∀ rest, R (t16 :: rest) = andThen (rd16 rest) f) (h32 : ∀ rest, R (t32 :: rest) = andThen (rd32 rest) f)
    (n : Nat) (rest : Bytes) (h : n < 4294967296) :
    R ((if n < 256 then [t8, UInt8.ofNat n] else if n < 65536 then t16 :: be16 n else t32 :: be32 n) ++ rest)
      = f n rest := by
  by_cases a2 : n < 256
  · rw [if_pos a2]; exact counted h8 (rd8_be _ _ a2) rfl
  · rw [if_neg a2]; exact counted16 h16 h32 n rest h

end counted

section headers
variable (un : Bytes → Option (PyVal × Bytes))

theorem tag_fixneg (k : Nat) (rest : Bytes) (h : 224 ≤ k) :
    unpackTag un k rest = some (.int ((k : Int) - 256), rest) := by
  -- every test of the chain compares `k` with a constant that is at most 224
  have hlt : ∀ c, c ≤ 224 → (k < c) = False := fun c hc => eq_false (by omega)
  have hne : ∀ c, c < 224 → (k = c) = False := fun c hc => eq_false (by omega)
  simp (disch := decide) only [unpackTag, hlt, hne, if_false]

/-- Two's complement as `packInt` writes it: a negative `i` of the width `full = 2 * half` goes out as `i + full`. -/
theorem signed_add_toNat {half full : Nat} {i : Int} (hf : full = 2 * half) (h1 : -(half : Int) ≤ i) (h2 : i < 0) :
    (i + (full : Int)).toNat < full ∧ signed half full (i + (full : Int)).toNat = i := by
  unfold signed; split <;> omega

theorem unpackHd_int (i : Int) (rest : Bytes)
    (h1 : -9223372036854775808 ≤ i) (h2 : i < 18446744073709551616) :
    unpackHd un (packInt i ++ rest) = some (.int i, rest) := by
  have val : ∀ {j : Int}, j = i → some (PyVal.int j, rest) = some (.int i, rest) := fun h => by rw [h]
  unfold packInt
  by_cases h0 : 0 ≤ i
  · have hi : ((i.toNat : Nat) : Int) = i := Int.toNat_of_nonneg h0
    rw [if_pos h0]
    simp only []
    by_cases a1 : i.toNat < 128
    · rw [if_pos a1, List.cons_append, List.nil_append, unpackHd_cons, toNat_ofNat _ (Nat.lt_trans a1 (by decide))]
      unfold unpackTag; rw [if_pos a1, hi]
    rw [if_neg a1]
    by_cases a2 : i.toNat < 256
    · rw [if_pos a2]; exact counted (R := unpackHd un) (tag204 un) (rd8_be _ _ a2) (val hi)
    rw [if_neg a2]
    by_cases a3 : i.toNat < 65536
    · rw [if_pos a3]; exact counted (R := unpackHd un) (tag205 un) (rd16_be _ _ a3) (val hi)
    rw [if_neg a3]
    by_cases a4 : i.toNat < 4294967296
    · rw [if_pos a4]; exact counted (R := unpackHd un) (tag206 un) (rd32_be _ _ a4) (val hi)
    · rw [if_neg a4]; exact counted (R := unpackHd un) (tag207 un) (rd64_be _ _ ((Int.toNat_lt h0).mpr h2)) (val hi)
  · have hneg : i < 0 := Int.not_le.mp h0
    rw [if_neg h0]
    by_cases b1 : -32 ≤ i
    · rw [if_pos b1, List.cons_append, List.nil_append, unpackHd_cons, toNat_ofNat _ (by omega),
        tag_fixneg un _ rest (by omega), show (((i + 256).toNat : Nat) : Int) - 256 = i by omega]
    rw [if_neg b1]
    by_cases b2 : -128 ≤ i
    · rw [if_pos b2]
      have s := signed_add_toNat rfl b2 hneg
      exact counted (R := unpackHd un) (tag208 un) (rd8_be _ _ s.1) (val s.2)
    rw [if_neg b2]
    by_cases b3 : -32768 ≤ i
    · rw [if_pos b3]
      have s := signed_add_toNat rfl b3 hneg
      exact counted (R := unpackHd un) (tag209 un) (rd16_be _ _ s.1) (val s.2)
    rw [if_neg b3]
    by_cases b4 : -2147483648 ≤ i
    · rw [if_pos b4]
      have s := signed_add_toNat rfl b4 hneg
      exact counted (R := unpackHd un) (tag210 un) (rd32_be _ _ s.1) (val s.2)
    · rw [if_neg b4]
      have s := signed_add_toNat rfl h1 hneg
      exact counted (R := unpackHd un) (tag211 un) (rd64_be _ _ s.1) (val s.2)

theorem unpackHd_strHdr (n : Nat) (rest : Bytes) (h : n < 4294967296) :
    unpackHd un (strHdr n ++ rest) = unStrV n rest := by
  unfold strHdr
  by_cases a1 : n < 32
  · rw [if_pos a1, List.cons_append, List.nil_append, unpackHd_cons, toNat_ofNat _ (by omega)]
    unfold unpackTag
    rw [if_neg (by omega), if_neg (by omega), if_neg (by omega), if_pos (by omega), Nat.add_sub_cancel_left]
  · rw [if_neg a1]; exact counted8 (fun _ => rfl) (fun _ => rfl) (fun _ => rfl) n rest h

theorem unKey_cons (t : UInt8) (rest : Bytes) : unKey (t :: rest) =
    (if 160 ≤ t.toNat ∧ t.toNat < 192 then unStr (t.toNat - 160) rest
     else if t.toNat = 217 then andThen (rd8 rest) unStr
     else if t.toNat = 218 then andThen (rd16 rest) unStr
     else if t.toNat = 219 then andThen (rd32 rest) unStr
     else none) := rfl

theorem unKey_strHdr (n : Nat) (rest : Bytes) (h : n < 4294967296) :
    unKey (strHdr n ++ rest) = unStr n rest := by
  unfold strHdr
  by_cases a1 : n < 32
  · rw [if_pos a1, List.cons_append, List.nil_append, unKey_cons, toNat_ofNat _ (by omega), if_pos (by omega),
      Nat.add_sub_cancel_left]
  · rw [if_neg a1]; exact counted8 (fun _ => rfl) (fun _ => rfl) (fun _ => rfl) n rest h

theorem unpackHd_binHdr (n : Nat) (rest : Bytes) (h : n < 4294967296) :
    unpackHd un (binHdr n ++ rest) = unBin n rest :=
  counted8 (fun _ => rfl) (fun _ => rfl) (fun _ => rfl) n rest h

theorem unpackHd_arrHdr (n : Nat) (rest : Bytes) (h : n < 4294967296) :
    unpackHd un (arrHdr n ++ rest) = unArr un n rest := by
  unfold arrHdr
  by_cases a1 : n < 16
  · rw [if_pos a1, List.cons_append, List.nil_append, unpackHd_cons, toNat_ofNat _ (by omega)]
    unfold unpackTag
    rw [if_neg (by omega), if_neg (by omega), if_pos (by omega), Nat.add_sub_cancel_left]
  · rw [if_neg a1]; exact counted16 (fun _ => rfl) (fun _ => rfl) n rest h

theorem unpackHd_mapHdr (n : Nat) (rest : Bytes) (h : n < 4294967296) :
    unpackHd un (mapHdr n ++ rest) = unMap un n rest := by
  unfold mapHdr
  by_cases a1 : n < 16
  · rw [if_pos a1, List.cons_append, List.nil_append, unpackHd_cons, toNat_ofNat _ (by omega)]
    unfold unpackTag
    rw [if_neg (by omega), if_pos (by omega), Nat.add_sub_cancel_left]
  · rw [if_neg a1]; exact counted16 (fun _ => rfl) (fun _ => rfl) n rest h

theorem unpackHd_float (b : UInt64) (rest : Bytes) :
    unpackHd un (0xcb :: be64 b.toNat ++ rest) = some (.float b, rest) :=
  counted (R := unpackHd un) (tag203 un) (rd64_be _ _ b.toNat_lt) (by rw [UInt64.ofNat_toNat])

end headers

end MsgPack
