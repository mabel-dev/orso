import OrsoVerif.Model.Sanitise
import OrsoVerif.Lemmas.Sanitise
/-!
Helper lemmas for C20: a *barrier* is a run of text `B` that no pattern of a scanning function can
touch (no window of the pattern overlaps it).  Every scanning function of the sanitiser then maps
`a ++ B ++ b` to `a' ++ B ++ b'` with `a'`, `b'` not depending on `B`: it rewrites *around* the run
(`Around`, closed under composition; `Scans.around`: one induction for all scans).  Used twice: `B` = the
`://user-info@` of a URL (plain-text branch), `B` = a visible token (JSON branch).
-/
namespace Sanitise

/-! ## `str.replace` -/

theorem replaceAllF_cons (pat rep : Str) (n : Nat) (c : Char) (r : Str) :
    replaceAllF pat rep (n + 1) (c :: r) =
      match stripPrefix charEq pat (c :: r) with
      | some rest => rep ++ replaceAllF pat rep n rest
      | none => c :: replaceAllF pat rep n r := rfl

theorem stripPrefix_length_lt (p : Char) (ps s rest : Str)
    (h : stripPrefix charEq (p :: ps) s = some rest) : rest.length < s.length := by
  have := (stripPrefix_charEq _ _ _).mp h
  subst this; simp; omega

theorem replaceAllF_scans (p : Char) (ps rep : Str) :
    Scans (replaceAllF (p :: ps) rep) fun c r => (stripPrefix charEq (p :: ps) (c :: r)).map (rep, ·) where
  nil n := by cases n <;> rfl
  cons n c r := by rw [replaceAllF_cons]; cases stripPrefix charEq (p :: ps) (c :: r) <;> rfl
  shorter c r out rest h := by
    simp only [Option.map_eq_some_iff, Prod.mk.injEq] at h
    obtain ⟨_, h, _, rfl⟩ := h
    exact Nat.le_of_lt_succ (stripPrefix_length_lt p ps _ _ h)

/-- `replaceAll` for a non-empty pattern, with its canonical fuel. -/
def RA (pat rep s : Str) : Str := replaceAllF pat rep (s.length + 1) s

theorem replaceAll_eq_RA (p : Char) (ps rep s : Str) : replaceAll (p :: ps) rep s = RA (p :: ps) rep s := by
  simp [replaceAll, RA]

theorem RA_nil (pat rep : Str) : RA pat rep [] = [] := rfl

theorem RA_cons (p : Char) (ps rep : Str) (c : Char) (r : Str) :
    RA (p :: ps) rep (c :: r) =
      match stripPrefix charEq (p :: ps) (c :: r) with
      | some rest => rep ++ RA (p :: ps) rep rest
      | none => c :: RA (p :: ps) rep r := by
  rw [RA, (replaceAllF_scans p ps rep).step_cons]
  cases stripPrefix charEq (p :: ps) (c :: r) <;> rfl

/-! ## barriers -/

structure Barrier (pat B : Str) : Prop where
  /-- no window can start inside the barrier -/
  head_ne : ∀ p ps, pat = p :: ps → ∀ x ∈ B, x ≠ p
  /-- the barrier is not empty, and no window starting before it can reach into it -/
  first_notin : ∃ b bs, B = b :: bs ∧ b ∉ pat

/-- How both kinds of barrier arise (URL core, token): the run is made of characters of one class, the
pattern starts with a character outside it and does not contain the first character of the run. -/
theorem Barrier.of_class (good : Char → Bool) {pat : Str} {b : Char} {bs : Str}
    (hB : ∀ x ∈ b :: bs, good x = true) (hhead : ∀ p ps, pat = p :: ps → good p = false) (hb : b ∉ pat) :
    Barrier pat (b :: bs) :=
  ⟨fun p ps hk x hx e => Bool.false_ne_true ((hhead p ps hk).symm.trans (e ▸ hB x hx)), b, bs, rfl, hb⟩

theorem stripPrefix_head_ne (p : Char) (ps : Str) (x : Char) (t : Str) (h : x ≠ p) :
    stripPrefix charEq (p :: ps) (x :: t) = none := by
  simp [stripPrefix, charEq, Ne.symm h]

theorem stripPrefix_before_barrier {pat B : Str} (hb : Barrier pat B) (a b : Str) :
    stripPrefix charEq pat (a ++ (B ++ b)) = (stripPrefix charEq pat a).map (· ++ (B ++ b)) := by
  cases hs : stripPrefix charEq pat a with
  | some rest => exact stripPrefix_append _ _ _ _ hs
  | none =>
    obtain ⟨b0, bs, rfl, h0⟩ := hb.first_notin
    exact stripPrefix_none_append pat _ b0 (bs ++ b) h0 hs

/-! ## `pat in s` -/

theorem isInfix_cons (pat : Str) (c : Char) (r : Str) :
    isInfix pat (c :: r) = ((stripPrefix charEq pat (c :: r)).isSome || isInfix pat r) := rfl

theorem isInfix_nil (s : Str) : isInfix [] s = true := by cases s <;> rfl

theorem isInfix_through (p : Char) (ps : Str) : ∀ (B b : Str), (∀ x ∈ B, x ≠ p) →
    isInfix (p :: ps) (B ++ b) = isInfix (p :: ps) b := by
  intro B
  induction B with
  | nil => intro b _; rfl
  | cons x B ih =>
    intro b hB
    rw [List.cons_append, isInfix_cons, stripPrefix_head_ne p ps x _ (hB x (by simp))]
    simp only [Option.isSome_none, Bool.false_or]
    exact ih b (fun y hy => hB y (List.mem_cons_of_mem _ hy))

theorem isInfix_barrier {pat B : Str} (hb : Barrier pat B) (b : Str) :
    ∀ a : Str, isInfix pat (a ++ (B ++ b)) = (isInfix pat a || isInfix pat b) := by
  cases pat with
  | nil => intro a; simp only [isInfix_nil, Bool.or_self]
  | cons p ps =>
    intro a
    induction a with
    | nil => simp [isInfix, isInfix_through p ps B b (hb.head_ne p ps rfl)]
    | cons c r ih =>
      rw [List.cons_append, isInfix_cons, ← List.cons_append, stripPrefix_before_barrier hb, ih, isInfix_cons,
        Option.isSome_map, Bool.or_assoc]

theorem isInfix_self (pat a b : Str) : isInfix pat (a ++ (pat ++ b)) = true := by
  induction a with
  | nil =>
    cases pat with
    | nil => exact isInfix_nil _
    | cons p ps =>
      rw [List.nil_append, List.cons_append, isInfix_cons, ← List.cons_append, (stripPrefix_charEq _ _ _).mpr rfl]
      rfl
  | cons c r ih => rw [List.cons_append, isInfix_cons, ih, Bool.or_true]

/-! ## rewriting around a run -/

section
variable {P Q : Str → Prop} {f g : Str → Str}

/-- `f` rewrites the text around a run of the class `P` without looking at the run. -/
def Around (P : Str → Prop) (f : Str → Str) : Prop :=
  ∀ a b, ∃ a' b', ∀ B, P B → f (a ++ (B ++ b)) = a' ++ (B ++ b')

theorem Around.comp (hf : Around P f) (hg : Around P g) : Around P fun s => g (f s) := fun a b =>
  let ⟨a₁, b₁, h₁⟩ := hf a b
  let ⟨a₂, b₂, h₂⟩ := hg a₁ b₁
  ⟨a₂, b₂, fun B hB => (congrArg g (h₁ B hB)).trans (h₂ B hB)⟩

theorem Around.mono (hf : Around Q f) (h : ∀ B, P B → Q B) : Around P f := fun a b =>
  let ⟨a', b', h'⟩ := hf a b
  ⟨a', b', fun B hB => h' B (h B hB)⟩

theorem Around.wrap (x y : Str) : Around P fun s => x ++ (s ++ y) := fun a b =>
  ⟨x ++ a, b ++ y, fun B _ => by simp only [List.append_assoc]⟩

theorem Around.infix (hf : Around P f) {t s : Str} (ht : P t) (h : t <:+: s) : t <:+: f s := by
  obtain ⟨a, b, rfl⟩ := h
  obtain ⟨a', b', e⟩ := hf a b
  exact ⟨a', b', by rw [List.append_assoc a, e t ht, List.append_assoc]⟩

variable {F : Nat → Str → Str} {step : Char → Str → Option (Str × Str)}

/-- What the attempts of a scan do around a run of the class `P`, the same way for every run: no attempt succeeds at a
character of the run, and an attempt in front of the run does what it does without the run, or reaches over it (the run
ends up inside what is put out). -/
structure StepAround (step : Char → Str → Option (Str × Str)) (P : Str → Prop) : Prop where
  inside : ∀ B, P B → ∀ x ∈ B, ∀ t, step x t = none
  before : ∀ c r b,
    (∀ B, P B → step c (r ++ (B ++ b)) = (step c r).map fun p => (p.1, p.2 ++ (B ++ b))) ∨
    ∃ o₁ o₂ rest, ∀ B, P B → step c (r ++ (B ++ b)) = some (o₁ ++ (B ++ o₂), rest)

theorem Scans.through (h : Scans F step) (b : Str) : ∀ B : Str, (∀ x ∈ B, ∀ t, step x t = none) →
    F ((B ++ b).length + 1) (B ++ b) = B ++ F (b.length + 1) b := by
  intro B
  induction B with
  | nil => intro _; rfl
  | cons x B ih =>
    intro hB
    rw [List.cons_append, h.step_cons, hB x List.mem_cons_self]
    exact congrArg (x :: ·) (ih fun y hy => hB y (List.mem_cons_of_mem _ hy))

theorem Scans.around (h : Scans F step) (hl : StepAround step P) : Around P fun s => F (s.length + 1) s := fun a b =>
  h.uniform (· ++ b) id ⟨F (b.length + 1) b, fun B hB => h.through b B (hl.inside B hB)⟩ (fun c r => hl.before c r b) a

theorem replaceAll_stepAround (p : Char) (ps rep : Str) :
    StepAround (fun c r => (stripPrefix charEq (p :: ps) (c :: r)).map (rep, ·)) (Barrier (p :: ps)) where
  inside B hB x hx t := by rw [stripPrefix_head_ne p ps x t (hB.head_ne p ps rfl x hx)]; rfl
  before c r b := .inl fun B hB => by
    rw [← List.cons_append, stripPrefix_before_barrier hB, Option.map_map, Option.map_map]
    rfl

theorem replaceAll_around (pat rep : Str) : Around (Barrier pat) (replaceAll pat rep) := by
  cases pat with
  | nil => exact fun a b => ⟨a, b, fun _ _ => rfl⟩
  | cons p ps => exact (replaceAllF_scans p ps rep).around (replaceAll_stepAround p ps rep)

/-- The runs a quote-colouring substitution rewrites around: none of their characters opens a quoted run, and they hold no
newline where a quoted run may not. -/
def QuoteFree (opens : Char → Bool) (line : Bool) (B : Str) : Prop :=
  (∀ x ∈ B, opens x = false) ∧ (line = true → '\n' ∉ B)

theorem quoteStep_around (opens : Char → Bool) (quote : Char → Char) (line : Bool) (y o : Str) :
    StepAround (quoteStep opens quote line y o) (QuoteFree opens line) where
  inside B hB x hx t := by rw [quoteStep, hB.1 x hx]; rfl
  before c r b := by
    cases ho : opens c with
    | false => exact .inl fun B _ => by simp only [quoteStep, ho]; rfl
    | true =>
      simp only [quoteStep, ho, if_true]
      rcases findClose_append c line r with ⟨i, t, _, h⟩ | ⟨_, _, h⟩ | h
      · -- the quoted run closes before the run
        exact .inl fun B _ => by rw [h, show findClose c line r = some (i, t) by simpa using h []]; rfl
      · exact .inl fun B _ => by rw [h, show findClose c line r = none by simpa using h []]; rfl
      · have thr : ∀ B, QuoteFree opens line B →
            findClose c line (r ++ (B ++ b)) = (findClose c line b).map fun p => (r ++ (B ++ p.1), p.2) := fun B hB => by
          rw [h, findClose_through c line b (fun hm => by rw [hB.1 c hm] at ho; cases ho) hB.2, Option.map_map]
          rfl
        cases hb : findClose c line b with
        | some p =>
          -- it closes behind the run: the run is inside the coloured text
          exact .inr ⟨quote c :: (y ++ r), p.1 ++ o ++ [quote c], p.2, fun B hB => by
            simp only [thr B hB, hb, Option.map_some, List.append_assoc, List.cons_append]⟩
        | none =>
          exact .inl fun B hB => by rw [thr B hB, hb, show findClose c line r = none by simpa [findClose] using h []]; rfl

/-- `color_code`: which level token is found does not depend on the run either. -/
theorem colorCodeWith_around (table : List (Str × Str)) (ht : ∀ kv ∈ table, ∀ B, P B → Barrier kv.1 B) :
    Around P (colorCodeWith table) := by
  induction table with
  | nil => exact fun a b => ⟨a, b, fun _ _ => rfl⟩
  | cons kv rest ih =>
    obtain ⟨k, v⟩ := kv
    intro a b
    have hk := ht (k, v) List.mem_cons_self
    by_cases hc : (isInfix k a || isInfix k b) = true
    · obtain ⟨a', b', h⟩ := replaceAll_around k v a b
      exact ⟨a', b', fun B hB => by rw [colorCodeWith, isInfix_barrier (hk B hB), if_pos hc, h B (hk B hB)]⟩
    · obtain ⟨a', b', h⟩ := ih (fun kv hm => ht kv (List.mem_cons_of_mem _ hm)) a b
      exact ⟨a', b', fun B hB => by rw [colorCodeWith, isInfix_barrier (hk B hB), if_neg hc, h B hB]⟩

theorem foldl_around {α : Type} (F : Str → α → Str) (l : List α) (hl : ∀ x ∈ l, Around P (F · x))
    {f : Str → Str} (hf : Around P f) : Around P fun s => l.foldl F (f s) := by
  induction l generalizing f with
  | nil => exact hf
  | cons x l ih =>
    exact ih (fun y hy => hl y (List.mem_cons_of_mem _ hy)) (hf.comp (hl x List.mem_cons_self))

theorem colorizer_around (can : Bool) (hu : ∀ B, P B → Barrier ['\\', 'u', '0', '0', '0', '1'] B)
    (ht : ∀ kv ∈ Gen.Sanitise.displayColors, ∀ B, P B → Barrier kv.1 B) : Around P (colorizer can) := by
  show Around P fun s => Gen.Sanitise.displayColors.foldl
    (fun acc (kv : Str × Str) => replaceAll kv.1 (if can then kv.2 else []) acc)
    (replaceAll ['\\', 'u', '0', '0', '0', '1'] [Char.ofNat 1] s)
  exact foldl_around _ _ (fun kv hm => (replaceAll_around kv.1 _).mono (ht kv hm)) ((replaceAll_around _ _).mono hu)

end

end Sanitise
