import OrsoVerif.Lemmas.MsgPack
/-!
# `unpack fuel (pack v ++ rest) = (v, rest)` by induction on the fuel
-/
namespace MsgPack

theorem unStrV_packStr (s : String) (rest : Bytes) :
    unStrV (utf8 s).length (utf8 s ++ rest) = some (.str s, rest) := by
  simp [unStrV, unStr_utf8]

section
/- A reader `un` of single values that reads back what `pack` wrote, for values nested less than `f` deep, does so for
their lists and maps. -/
variable {un : Bytes → Option (PyVal × Bytes)} {f : Nat}
  (hun : ∀ v rest, packable v = true → cdepth v < f → un (pack v ++ rest) = some (v, rest))
include hun

theorem unpackN_packL_of (xs : List PyVal) (rest : Bytes) (hp : packableL xs = true) (hd : cdepthL xs < f) :
    unpackN un xs.length (packL xs ++ rest) = some (xs, rest) := by
  induction xs with
  | nil => simp only [packL, List.length_nil, List.nil_append, unpackN]
  | cons x xs ih =>
    simp only [packableL, Bool.and_eq_true] at hp
    simp only [cdepthL, Nat.max_lt] at hd
    simp only [packL, List.length_cons, List.append_assoc, unpackN]
    rw [hun x _ hp.1 hd.1]
    simp only []
    rw [ih hp.2 hd.2]

theorem unpackKV_packD_of (kvs : List (String × PyVal)) (rest : Bytes) (hp : packableD kvs = true) (hd : cdepthD kvs < f) :
    unpackKV un kvs.length (packD kvs ++ rest) = some (kvs, rest) := by
  induction kvs with
  | nil => simp only [packD, List.length_nil, List.nil_append, unpackKV]
  | cons kv kvs ih =>
    obtain ⟨k, v⟩ := kv
    simp only [packableD, Bool.and_eq_true, decide_eq_true_eq] at hp
    simp only [cdepthD, Nat.max_lt] at hd
    simp only [packD, packStr, List.length_cons, List.append_assoc, unpackKV]
    rw [unKey_strHdr _ _ hp.1, unStr_utf8]
    simp only []
    rw [hun v _ hp.2.1 hd.1]
    simp only []
    rw [ih hp.2.2 hd.2]

end

/-- By induction on the fuel, which is the decoder's own recursion: a container spends one unit and its items are
read with what is left. -/
theorem unpack_pack' (v : PyVal) (fuel : Nat) (rest : Bytes)
    (hp : packable v = true) (hd : cdepth v < fuel) :
    unpack fuel (pack v ++ rest) = some (v, rest) := by
  induction fuel generalizing v rest with
  | zero => omega
  | succ f ih =>
    rw [unpack_succ]
    cases v with
    | none => simp only [pack, List.cons_append, List.nil_append, unpackHd_cons, t192, tag192]
    | bool b =>
      cases b
      · simp only [pack, List.cons_append, List.nil_append, unpackHd_cons, t194, tag194]
      · simp only [pack, List.cons_append, List.nil_append, unpackHd_cons, t195, tag195]
    | int i =>
      simp only [packable, Bool.and_eq_true, decide_eq_true_eq] at hp
      simp only [pack]
      exact unpackHd_int _ i rest hp.1 hp.2
    | float b =>
      simp only [pack]
      exact unpackHd_float _ b rest
    | str s =>
      simp only [packable, decide_eq_true_eq] at hp
      simp only [pack, packStr, List.append_assoc]
      rw [unpackHd_strHdr _ _ _ hp, unStrV_packStr]
    | bytes b =>
      simp only [packable, decide_eq_true_eq] at hp
      simp only [pack, List.append_assoc]
      rw [unpackHd_binHdr _ _ _ hp, unBin, takeN_append]
    | list xs =>
      simp only [packable, Bool.and_eq_true, decide_eq_true_eq] at hp
      simp only [cdepth] at hd
      simp only [pack, List.append_assoc]
      rw [unpackHd_arrHdr _ _ _ hp.1, unArr, unpackN_packL_of ih xs rest hp.2 (by omega)]
    | dict kvs =>
      simp only [packable, Bool.and_eq_true, decide_eq_true_eq] at hp
      simp only [cdepth] at hd
      simp only [pack, List.append_assoc]
      rw [unpackHd_mapHdr _ _ _ hp.1, unMap, unpackKV_packD_of ih kvs rest hp.2 (by omega)]

theorem unpackN_packL (xs : List PyVal) (g : Nat) (rest : Bytes)
    (hp : packableL xs = true) (hd : cdepthL xs ≤ g) :
    unpackN (unpack (g + 1)) xs.length (packL xs ++ rest) = some (xs, rest) :=
  unpackN_packL_of (fun v rest => unpack_pack' v (g + 1) rest) xs rest hp (Nat.lt_succ_of_le hd)

theorem unpackKV_packD (kvs : List (String × PyVal)) (g : Nat) (rest : Bytes)
    (hp : packableD kvs = true) (hd : cdepthD kvs ≤ g) :
    unpackKV (unpack (g + 1)) kvs.length (packD kvs ++ rest) = some (kvs, rest) :=
  unpackKV_packD_of (fun v rest => unpack_pack' v (g + 1) rest) kvs rest hp (Nat.lt_succ_of_le hd)

/-- `unpackb ∘ packb` on what `packb` accepts: the decoder's nesting limit is beyond the encoder's. -/
theorem unpackb_pack (v : PyVal) (hp : packable v = true) (hd : cdepth v ≤ packDepthLimit) :
    unpackb (pack v) = some v := by
  have := unpack_pack' v unpackFuel [] hp (Nat.lt_of_le_of_lt hd (by decide))
  rw [List.append_nil] at this
  rw [unpackb, this]

end MsgPack
