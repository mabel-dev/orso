import OrsoVerif.Model.DictClass
import OrsoVerif.Lemmas.Basics
/-! Schema objects: a route to a schema's names (`Model/DictSchema.lean`) never changes the columns and, when fresh, yields
them; the projection to the specification machine does not see what a read keeps; one step of the row-class machine
(`Model/DictClass.lean`) keeps its invariant when the refresh makes a new class. -/
namespace C02
open DictRow DictSession DictSchema Gen.DictCode

variable {α : Type}

theorem columnNames_cols (cfg : Cfg) (s : Schema) : (columnNames cfg s).2.cols = s.cols := by
  unfold columnNames
  split
  · split
    · split <;> rfl
    · rfl
  · rfl

theorem readVia_cols (cfg : Cfg) (v : Via) (s : Schema) : (readVia cfg v s).2.cols = s.cols := by
  cases v with
  | columns => rfl
  | columnNames => exact columnNames_cols cfg s
  | iter =>
    show (iterNames cfg s).2.cols = s.cols
    unfold iterNames
    cases cfg.iterVia with
    | columns => rfl
    | columnNames => exact columnNames_cols cfg s

theorem columnNames_fresh (cfg : Cfg) (h : cfg.namesKept = true → ∀ k c, cfg.keptValid k c = true → k = c) (s : Schema) :
    (columnNames cfg s).1 = s.cols := by
  unfold columnNames
  split
  · next hk =>
    split
    · next k _ =>
      split
      · next hv => exact h hk k s.cols hv
      · rfl
    · rfl
  · rfl

theorem readVia_fresh (cfg : Cfg) (v : Via) (h : RouteFresh cfg v) (s : Schema) : (readVia cfg v s).1 = s.cols := by
  rcases h with rfl | ⟨rfl, hi⟩ | hk
  · rfl
  · show (iterNames cfg s).1 = s.cols
    unfold iterNames; rw [hi]
  · cases v with
    | columns => rfl
    | columnNames => exact columnNames_fresh cfg hk s
    | iter =>
      show (iterNames cfg s).1 = s.cols
      unfold iterNames
      cases cfg.iterVia with
      | columns => rfl
      | columnNames => exact columnNames_fresh cfg hk s

/-- `RouteFresh` with its third alternative, a statement about every kept list, replaced by one that can be evaluated:
nothing is kept at all -/
theorem routeFresh_of (cfg : Cfg) (v : Via)
    (h : v = .columns ∨ (v = .iter ∧ cfg.iterVia = .columns) ∨ cfg.namesKept = false) : RouteFresh cfg v :=
  h.imp_right fun h => h.imp_right fun hk hk' => absurd (hk.symm.trans hk') Bool.false_ne_true

theorem refreshed_safe (cfg : Cfg) (h : Safe cfg) (factory : List String) (s : Schema) :
    (refreshed cfg factory s).1 = s.cols ∧ (refreshed cfg factory s).2.cols = s.cols := by
  have a1 := readVia_fresh cfg cfg.refreshVia h.refreshFresh s
  have a2 := readVia_cols cfg cfg.refreshVia s
  have c1 := readVia_fresh cfg cfg.classVia h.classFresh (readVia cfg cfg.refreshVia s).2
  have c2 := readVia_cols cfg cfg.classVia (readVia cfg cfg.refreshVia s).2
  unfold refreshed
  simp only [h.refreshes, if_true]
  by_cases hne : (readVia cfg cfg.refreshVia s).1 ≠ factory
  · simp only [hne, if_true, ne_eq, not_false_eq_true]
    exact ⟨by rw [c1, a2], by rw [c2, a2]⟩
  · have he : factory = s.cols := by rw [← Decidable.of_not_not hne, a1]
    simp only [hne, if_false]
    exact ⟨he, a2⟩

theorem map_cols_set (l : List Schema) (i : Nat) (s s' : Schema) (hi : l[i]? = some s) (hc : s'.cols = s.cols) :
    (l.set i s').map (·.cols) = l.map (·.cols) := by
  obtain ⟨hlt, rfl⟩ := List.getElem?_eq_some_iff.mp hi
  -- `l` is `l` with its entry `i` set to itself
  refine Eq.trans ?_ (congrArg (List.map (·.cols)) (List.set_getElem_self hlt))
  rw [List.map_set, List.map_set, hc]

theorem proj_schemas_mod (st : St α) (k : Nat) :
    (proj st).schemas[k % (proj st).schemas.length]? = (st.schemas[k % st.schemas.length]?).map (·.cols) := by
  simp only [proj, List.length_map, List.getElem?_map]

theorem proj_frames_mod (st : St α) (i : Nat) :
    (proj st).frames[i % (proj st).frames.length]? = (st.frames[i % st.frames.length]?).map fun f => (f.schema, f.rows) := by
  simp only [proj, List.length_map, List.getElem?_map]

theorem proj_schemas_get (st : St α) (j : Nat) : (proj st).schemas[j]? = (st.schemas[j]?).map (·.cols) :=
  List.getElem?_map

theorem proj_set_schema (st : St α) (j : Nat) (s s' : Schema) (fr : List (DictSchema.Frame α))
    (hs : st.schemas[j]? = some s) (hc : s'.cols = s.cols) :
    proj ⟨st.schemas.set j s', fr⟩ = ⟨(proj st).schemas, fr.map fun f => (f.schema, f.rows)⟩ := by
  simp only [proj, map_cols_set _ _ _ _ hs hc]

theorem class_step_inv (null : α) (st : DictClass.St α) (op : DictClass.Op α) (h : DictClass.Inv null st) :
    DictClass.Inv null (DictClass.step true null st op) := by
  obtain ⟨hf, hr⟩ := h
  cases op with
  | edit f => exact ⟨hf, hr⟩
  | append d =>
    -- the refresh only adds classes at the end of the heap, and leaves the factory a class for the names as they are now
    obtain ⟨ext, fac', e, h4⟩ : ∃ ext fac', DictClass.refresh true st = { st with heap := st.heap ++ ext, factory := fac' }
        ∧ (st.heap ++ ext)[fac']? = some st.names := by
      unfold DictClass.refresh
      by_cases he : st.heap.getD st.factory [] = st.names
      · refine ⟨[], st.factory, by rw [if_pos he, List.append_nil], ?_⟩
        rw [List.append_nil, ← he, List.getD_eq_getElem?_getD, List.getElem?_eq_getElem hf]; rfl
      · exact ⟨[st.names], st.heap.length, by rw [if_neg he, if_pos rfl], List.getElem?_concat_length⟩
    simp only [DictClass.step, e]
    refine ⟨(List.getElem?_eq_some_iff.mp h4).1, fun r hm => ?_⟩
    rcases List.mem_append.mp hm with hm | hm
    · obtain ⟨h1, h2⟩ := hr r hm
      exact ⟨List.getElem?_append_of_eq_some _ h1, h2⟩
    · rw [List.mem_singleton.mp hm]
      exact ⟨h4, by rw [List.getD_eq_getElem?_getD, h4]; rfl⟩

end C02
