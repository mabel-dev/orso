import OrsoVerif.Model.SchemaEdit
/-! Helper lemmas for `Model/SchemaEdit.lean`: a memo on the column that is revalidated by the name and a *copy* of the
aliases (or no memo at all) answers every read with the names of the column as it is then. -/
namespace SchemaOps
variable {ν : Type} [DecidableEq ν]

def Cell.MemoSound (c : Cell ν) : Prop := ∀ m, c.memo = some m → m.names = namesOf m.name m.copy

theorem Cell.read_sound (p : Option (Bool × String)) (hp : p = none ∨ p = some (true, "copy")) (c : Cell ν) (hs : c.MemoSound) :
    (c.read p).1 = namesOf c.name c.aliases ∧ (c.read p).2.name = c.name ∧ (c.read p).2.aliases = c.aliases
    ∧ (c.read p).2.MemoSound := by
  have hrem : c.remember.MemoSound := fun m h => by cases h; rfl
  rcases hp with rfl | rfl
  · exact ⟨rfl, rfl, rfl, hs⟩
  · unfold Cell.read
    split
    · next q m hq hm =>
      cases hq
      split
      · next hv =>
        -- the memo is believed: its name and its copy of the aliases are the current ones
        simp only [memoValid, Bool.not_true, Bool.false_or, if_true, Bool.and_eq_true, decide_eq_true_eq] at hv
        exact ⟨by rw [hs m hm, hv.1, hv.2], rfl, rfl, hs⟩
      · exact ⟨rfl, rfl, rfl, hrem⟩
    · exact ⟨rfl, rfl, rfl, hrem⟩
    · next _ h => cases h

theorem Cell.edit_sound (e : Edit ν) (c : Cell ν) (hs : c.MemoSound) : (c.edit e).MemoSound := by
  intro m h
  exact hs m (by simpa [Cell.edit] using h)

end SchemaOps
