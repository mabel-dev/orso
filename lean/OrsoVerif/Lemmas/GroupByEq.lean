import OrsoVerif.Model.GroupByEq
import OrsoVerif.Lemmas.GroupBy
/-! Dictionaries looked up by an equivalence (`Model/GroupByEq.lean`).  When `eqv` is "same image under `canon`"
(`Kernel eqv canon`), `insBy`, `firstSeenBy`, `collectedBy`, `aggregateBy`, read through `canon`, are `ins`, `firstSeen`,
`collected`, `aggregate` over the canonical keys; the key stored for a class is the first that occurs
(`foldl_insBy_first`).  Then Python's `==` on scalars: `canonVal` tells integers, texts and the null apart. -/
namespace GroupBy

section By
variable {ρ κ κ' : Type} [DecidableEq κ'] {eqv : κ → κ → Bool} {canon : κ → κ'}

omit [DecidableEq κ'] in
theorem Kernel.refl (h : Kernel eqv canon) (a : κ) : eqv a a = true := (h a a).mpr rfl

theorem Kernel.of_canon (canon : κ → κ') : Kernel (fun a b => decide (canon a = canon b)) canon :=
  fun _ _ => decide_eq_true_iff

omit [DecidableEq κ'] in
theorem memBy_iff (h : Kernel eqv canon) (seen : List κ) (x : κ) :
    memBy eqv seen x = true ↔ canon x ∈ seen.map canon := by
  unfold memBy
  rw [List.any_eq_true, List.mem_map]
  constructor
  · rintro ⟨y, hy, he⟩
    exact ⟨y, hy, (h y x).mp he⟩
  · rintro ⟨y, hy, he⟩
    exact ⟨y, hy, (h y x).mpr he⟩

theorem insBy_map (h : Kernel eqv canon) (seen : List κ) (x : κ) :
    (insBy eqv seen x).map canon = ins (seen.map canon) (canon x) := by
  unfold insBy
  by_cases hm : memBy eqv seen x = true
  · rw [if_pos hm, ins_of_mem ((memBy_iff h seen x).mp hm)]
  · rw [if_neg hm, ins_of_not_mem fun hc => hm ((memBy_iff h seen x).mpr hc), List.map_append]
    rfl

theorem firstSeenBy_map (h : Kernel eqv canon) (xs : List κ) :
    (firstSeenBy eqv xs).map canon = firstSeen (xs.map canon) :=
  foldl_map_ins canon (insBy eqv) (insBy_map h) xs []

theorem collectedBy_eq (h : Kernel eqv canon) {ν : Type} (s : List (κ × String × Option ν)) (g : κ)
    (c : String) :
    collectedBy eqv s g c = collected (s.map fun t => (canon t.1, t.2)) (canon g) c := by
  unfold collectedBy collected
  rw [List.filterMap_map]
  congr 1
  funext t
  by_cases hk : eqv t.1 g = true
  · simp [hk, (h _ _).mp hk]
  · have : ¬ canon t.1 = canon g := fun hc => hk ((h _ _).mpr hc)
    simp [hk, this]

theorem membersBy_eq (h : Kernel eqv canon) (keyOf : ρ → κ) (rows : List ρ) (k : κ) :
    membersBy eqv keyOf rows k = members (fun r => canon (keyOf r)) rows (canon k) :=
  List.filter_congr fun _ _ => Bool.eq_iff_iff.mpr ((h _ _).trans decide_eq_true_iff.symm)

omit [DecidableEq κ'] in
theorem emit_map_canon {ν : Type} (canon : κ → κ') (keyOf : ρ → κ) (cell : ρ → String → Option ν)
    (cols : List String) (rows : List ρ) :
    (emit keyOf cell cols rows).map (fun t => (canon t.1, t.2)) =
      emit (fun r => canon (keyOf r)) cell cols rows := by
  unfold emit
  simp [List.map_flatMap, List.map_map, Function.comp_def]

theorem aggregateBy_map_canon (h : Kernel eqv canon) (keyOf : ρ → κ) (cell : ρ → String → Option Int)
    (rows : List ρ) (reqs : List Req) :
    (aggregateBy eqv keyOf cell rows reqs).map (fun ka => (canon ka.1, ka.2)) =
      aggregate (fun r => canon (keyOf r)) cell rows reqs := by
  unfold aggregateBy aggregate
  -- the triples of the frame keyed by `canon` are the renamed triples, and so are their keys
  have hkeys : ∀ s : List (κ × String × Option Int),
      (s.map fun t => (canon t.1, t.2)).map (·.1) = (s.map (·.1)).map canon := fun s => by
    rw [List.map_map, List.map_map]; rfl
  rw [← emit_map_canon canon keyOf cell]
  simp only
  rw [hkeys, ← firstSeenBy_map h, List.map_map, List.map_map]
  refine List.map_congr_left fun g _ => congrArg (Prod.mk (canon g)) (List.map_congr_left fun q _ => ?_)
  exact congrArg (fold q.1) (collectedBy_eq h _ g q.2)

/-- Lean's `=` is the kernel of every injective function, the identity among them: `aggregateBy_map_canon` for both. -/
theorem aggregate_map_inj [DecidableEq κ] {f : κ → κ'} (hf : Function.Injective f) (keyOf : ρ → κ)
    (cell : ρ → String → Option Int) (rows : List ρ) (reqs : List Req) :
    aggregate (fun r => f (keyOf r)) cell rows reqs =
      (aggregate keyOf cell rows reqs).map fun ka => (f ka.1, ka.2) := by
  have hk : ∀ {γ : Type} {c : κ → γ}, Function.Injective c → Kernel (fun a b : κ => decide (a = b)) c :=
    fun hc a b => decide_eq_true_iff.trans ⟨congrArg _, @hc a b⟩
  have h : aggregateBy (fun a b => decide (a = b)) keyOf cell rows reqs = aggregate keyOf cell rows reqs := by
    simpa using aggregateBy_map_canon (hk fun _ _ h => h) keyOf cell rows reqs
  rw [← h, aggregateBy_map_canon (hk hf)]

theorem insBy_insBy_same (hr : ∀ a, eqv a a = true) (seen : List κ) (x : κ) :
    insBy eqv (insBy eqv seen x) x = insBy eqv seen x := by
  unfold insBy
  by_cases hm : memBy eqv seen x = true
  · simp [hm]
  · have : memBy eqv (seen ++ [x]) x = true := by simp [memBy, hr]
    simp [hm, this]

theorem firstSeenBy_emit_keys (hr : ∀ a, eqv a a = true) {ν : Type} (keyOf : ρ → κ)
    (cell : ρ → String → Option ν) {cols : List String} (hcols : cols ≠ []) (rows : List ρ) :
    firstSeenBy eqv ((emit keyOf cell cols rows).map (·.1)) = firstSeenBy eqv (rows.map keyOf) :=
  foldl_emit_keys (insBy eqv) (insBy_insBy_same hr) keyOf cell hcols rows []

omit [DecidableEq κ'] in
/-- Every stored key is the first of its class: nothing before it is equivalent to it. -/
theorem foldl_insBy_first (h : Kernel eqv canon) (xs seen : List κ) (k : κ)
    (hk : k ∈ xs.foldl (insBy eqv) seen) :
    k ∈ seen ∨ ∃ pre suf, xs = pre ++ k :: suf ∧ canon k ∉ (seen ++ pre).map canon := by
  induction xs generalizing seen with
  | nil => exact Or.inl hk
  | cons x xs ih =>
    rw [List.foldl_cons, insBy] at hk
    by_cases hm : memBy eqv seen x = true
    · -- `x` is not stored, and its class is among those of `seen` already
      rw [if_pos hm] at hk
      refine (ih seen hk).imp_right fun ⟨pre, suf, hxs, hnot⟩ => ⟨x :: pre, suf, by rw [hxs]; rfl, ?_⟩
      have hx := (memBy_iff h seen x).mp hm
      simp only [List.map_append, List.map_cons, List.mem_append, List.mem_cons] at hnot ⊢
      exact fun hc => hnot (hc.elim Or.inl fun hc => hc.elim (fun e => Or.inl (e ▸ hx)) Or.inr)
    · rw [if_neg hm] at hk
      rcases ih (seen ++ [x]) hk with hin | ⟨pre, suf, hxs, hnot⟩
      · rcases List.mem_append.mp hin with hin | hin
        · exact Or.inl hin
        · -- `k` is `x`, stored because no stored key is equivalent to it
          obtain rfl := List.mem_singleton.mp hin
          exact Or.inr ⟨[], xs, rfl, fun hc => hm ((memBy_iff h seen k).mpr (List.append_nil seen ▸ hc))⟩
      · exact Or.inr ⟨x :: pre, suf, by rw [hxs]; rfl, List.append_cons seen x pre ▸ hnot⟩

end By

theorem stripTwos_value (fuel : Nat) (m e : Int) (he : 0 ≤ e) :
    0 ≤ (stripTwos fuel m e).2 ∧ (stripTwos fuel m e).1 * 2 ^ (stripTwos fuel m e).2.toNat = m * 2 ^ e.toNat := by
  induction fuel generalizing m e with
  | zero => exact ⟨he, rfl⟩
  | succ n ih =>
    unfold stripTwos
    split
    · rename_i hc
      obtain ⟨h1, h2⟩ := ih (m / 2) (e + 1) (Int.le_add_one he)
      refine ⟨h1, h2.trans ?_⟩
      -- `m` is even: `m / 2 * 2 ^ (e + 1) = m / 2 * 2 * 2 ^ e = m * 2 ^ e`
      rw [Int.toNat_add he (by decide), show (1 : Int).toNat = 1 from rfl, Int.pow_succ,
        Int.mul_comm (2 ^ e.toNat) 2, ← Int.mul_assoc, Int.ediv_mul_cancel (Int.dvd_of_emod_eq_zero hc.2)]
    · exact ⟨he, rfl⟩

theorem dyadic_is_num (m e : Int) : ∃ a b, dyadic m e = .num a b := by
  unfold dyadic
  split
  · exact ⟨0, 0, rfl⟩
  · exact ⟨_, _, rfl⟩

theorem dyadic_value {i a b : Int} (h : dyadic i 0 = .num a b) : a * 2 ^ b.toNat = i := by
  unfold dyadic at h
  split at h
  · cases h
    rename_i h0
    rw [h0]
    rfl
  · cases h
    exact (stripTwos_value i.natAbs i 0 (Int.le_refl 0)).2.trans (Int.mul_one i)

theorem dyadic_int_inj {i j : Int} (h : dyadic i 0 = dyadic j 0) : i = j := by
  obtain ⟨a, b, hi⟩ := dyadic_is_num i 0
  exact (dyadic_value hi).symm.trans (dyadic_value (h ▸ hi))

theorem floatKey_cases (bits : UInt64) :
    (∃ a b, floatKey bits = .num a b) ∨ (∃ n, floatKey bits = .inf n) ∨ floatKey bits = .other (.float bits) := by
  -- about the shape of `floatKey` only, so that its numerals are never unfolded
  have hite : ∀ (p q : Prop) [Decidable p] [Decidable q] (n : Bool) (m e : Int),
      let k := if p then (if q then CKey.inf n else .other (.float bits)) else dyadic m e
      (∃ a b, k = .num a b) ∨ (∃ n, k = .inf n) ∨ k = .other (.float bits) := by
    intro p q _ _ n m e
    by_cases hp : p
    · by_cases hq : q
      · exact Or.inr (Or.inl ⟨n, by simp only [if_pos hp, if_pos hq]⟩)
      · exact Or.inr (Or.inr (by simp only [if_pos hp, if_neg hq]))
    · obtain ⟨a, b, h⟩ := dyadic_is_num m e
      exact Or.inl ⟨a, b, by simp only [if_neg hp, h]⟩
  exact hite _ _ _ _ _

theorem canonVal_eq_str {v : PyVal} {s : String} : canonVal v = .str s ↔ v = .str s := by
  refine ⟨fun h => ?_, fun h => h ▸ rfl⟩
  cases v with
  | str t => exact congrArg PyVal.str (CKey.str.inj h)
  | int i => obtain ⟨a, b, hd⟩ := dyadic_is_num i 0; rw [canonVal, hd] at h; cases h
  | float f => rcases floatKey_cases f with ⟨a, b, hd⟩ | ⟨n, hd⟩ | hd <;> rw [canonVal, hd] at h <;> cases h
  | _ => cases h

theorem canonVal_eq_none {v : PyVal} : canonVal v = .none ↔ v = .none := by
  refine ⟨fun h => ?_, fun h => h ▸ rfl⟩
  cases v with
  | none => rfl
  | int i => obtain ⟨a, b, hd⟩ := dyadic_is_num i 0; rw [canonVal, hd] at h; cases h
  | float f => rcases floatKey_cases f with ⟨a, b, hd⟩ | ⟨n, hd⟩ | hd <;> rw [canonVal, hd] at h <;> cases h
  | _ => cases h

end GroupBy
