import OrsoVerif.Model.Display
import OrsoVerif.Lemmas.DisplaySpec
/-! Row selection and labelling: the closed form of the shown rows, eager and lazy. -/
namespace Display
variable {α : Type}

theorem dfHead_eq (rows : List α) (limit : Nat) (h : 0 < limit) : dfHead rows limit = rows.take limit := by
  have h0 : limit ≠ 0 := by omega
  have h1 : ¬ ((limit : Int) < 0) := by omega
  simp [dfHead, dfSlice, pySlice, pyIdx, h0, h1]

theorem dfTail_eq (rows : List α) (limit : Nat) (h : 0 < limit) (hn : limit ≤ rows.length) :
    dfTail rows limit = rows.drop (rows.length - limit) := by
  have e : (rows.length : Int) + (0 - (limit : Int)) = ((rows.length - limit : Nat) : Int) := by omega
  have e2 : ((rows.length - limit : Nat) : Int) + (limit : Int) = (rows.length : Int) := by omega
  have hneg : ∀ k : Nat, ¬ ((k : Int) < 0) := fun k => by omega
  simp only [dfTail, dfSlice, pySlice, pyIdx, show ((0 : Int) - (limit : Int) < 0) by omega, if_true,
    Nat.ne_of_gt h, if_false, e, e2, hneg, Int.toNat_natCast, Nat.min_self, List.take_length,
    Nat.min_eq_left (Nat.sub_le _ _)]

theorem labelFrom_eq (k : Nat) (xs : List α) : labelFrom k xs = (xs.zipIdx k).map fun p => Line.data p.2 p.1 := by
  induction xs generalizing k with
  | nil => rfl
  | cons x xs ih => rw [labelFrom, ih, List.zipIdx_cons, List.map_cons]

theorem labelFrom_append (k : Nat) (xs ys : List α) :
    labelFrom k (xs ++ ys) = labelFrom k xs ++ labelFrom (k + xs.length) ys := by
  simp only [labelFrom_eq, List.zipIdx_append, List.map_append]

theorem length_labelFrom (k : Nat) (xs : List α) : (labelFrom k xs).length = xs.length := by
  rw [labelFrom_eq, List.length_map, List.length_zipIdx]

theorem mem_labelFrom (k : Nat) (xs : List α) (l : Nat) (r : α) :
    Line.data l r ∈ labelFrom k xs ↔ ∃ i, xs[i]? = some r ∧ l = k + i := by
  rw [labelFrom_eq, List.mem_map]
  constructor
  · rintro ⟨⟨x, j⟩, hp, e⟩
    cases e
    obtain ⟨hle, hx⟩ := List.mk_mem_zipIdx_iff_le_and_getElem?_sub.mp hp
    exact ⟨j - k, hx, (Nat.add_sub_cancel' hle).symm⟩
  · rintro ⟨i, hi, rfl⟩
    exact ⟨(r, k + i), List.mk_add_mem_zipIdx_iff_getElem?.mpr hi, rfl⟩

theorem ellipsis_not_mem_labelFrom (k : Nat) (xs : List α) : Line.ellipsis ∉ labelFrom k xs := by
  rw [labelFrom_eq, List.mem_map]
  exact fun ⟨_, _, e⟩ => nomatch e

theorem filter_isEllipsis_labelFrom (k : Nat) (xs : List α) : (labelFrom k xs).filter isEllipsis = [] := by
  refine List.filter_eq_nil_iff.mpr fun l hl h => ?_
  cases l with
  | ellipsis => exact ellipsis_not_mem_labelFrom k xs hl
  | data _ _ => cases h

theorem eagerGo_append (A : Arith) (n tlen limit : Nat) (tt : Bool) (i : Nat) (xs ys : List α) :
    eagerGo A n tlen limit tt i (xs ++ ys)
      = eagerGo A n tlen limit tt i xs ++ eagerGo A n tlen limit tt (i + xs.length) ys := by
  induction xs generalizing i with
  | nil => simp [eagerGo]
  | cons x xs ih => simp [eagerGo, ih, Nat.add_assoc, Nat.add_comm 1]

theorem eagerLineAt_spec (n tlen limit : Nat) (tt : Bool) (j : Nat) (row : α) :
    eagerLineAt specArith n tlen limit tt j row =
      if tt = true ∧ 2 * limit < n then
        (if j = limit then [Line.ellipsis] else [])
          ++ [Line.data ((if limit ≤ j then j + n - 2 * limit else j) + 1) row]
      else [Line.data (j + 1) row] := by
  simp only [eagerLineAt, spec_eagerSplit, spec_eagerAtEll, spec_eagerInTail, spec_eagerShift, spec_eagerLabel]

theorem eagerGo_stretch (A : Arith) (n tlen limit : Nat) (tt : Bool) (k i : Nat) (xs : List α)
    (h : ∀ j (row : α), i ≤ j → j < i + xs.length → eagerLineAt A n tlen limit tt j row = [Line.data (j + k) row]) :
    eagerGo A n tlen limit tt i xs = labelFrom (i + k) xs := by
  induction xs generalizing i with
  | nil => rfl
  | cons x xs ih =>
    rw [eagerGo, h i x (Nat.le_refl _) (Nat.lt_add_of_pos_right (Nat.succ_pos _)),
      ih (i + 1) (fun j row h1 h2 => h j row (Nat.le_of_succ_le h1) (by rw [List.length_cons]; omega)),
      Nat.add_right_comm]
    rfl

theorem eagerGo_plain (n tlen limit : Nat) (tt : Bool) (h : ¬ (tt = true ∧ 2 * limit < n))
    (i : Nat) (xs : List α) : eagerGo specArith n tlen limit tt i xs = labelFrom (i + 1) xs :=
  eagerGo_stretch specArith n tlen limit tt 1 i xs fun j row _ _ => by rw [eagerLineAt_spec, if_neg h]

theorem eagerGo_split (n tlen limit : Nat) (hn : 2 * limit < n) (xs : List α) (y : α) (ys : List α)
    (hx : xs.length = limit) :
    eagerGo specArith n tlen limit true 0 (xs ++ y :: ys)
      = labelFrom 1 xs ++ Line.ellipsis :: labelFrom (n - limit + 1) (y :: ys) := by
  subst hx
  have hs : (true = true ∧ 2 * xs.length < n) := ⟨rfl, hn⟩
  rw [eagerGo_append, eagerGo, Nat.zero_add,
    eagerGo_stretch specArith n tlen _ true 1 0 xs (fun j row _ hj => by
      rw [Nat.zero_add] at hj
      rw [eagerLineAt_spec, if_pos hs, if_neg (Nat.ne_of_lt hj), if_neg (Nat.not_le.mpr hj)]; rfl),
    eagerGo_stretch specArith n tlen _ true (n - 2 * xs.length + 1) (xs.length + 1) ys (fun j row hj _ => by
      rw [eagerLineAt_spec, if_pos hs, if_neg (Nat.ne_of_gt hj), if_pos (Nat.le_of_lt hj), List.nil_append,
        Nat.add_sub_assoc (Nat.le_of_lt hn), Nat.add_assoc]),
    eagerLineAt_spec, if_pos hs, if_pos rfl, if_pos (Nat.le_refl _),
    show xs.length + n - 2 * xs.length + 1 = n - xs.length + 1 by omega,
    show xs.length + 1 + (n - 2 * xs.length + 1) = n - xs.length + 1 + 1 by omega]
  rfl

theorem foldl_dequePush (m : Nat) (rest d : List α) (hd : d.length ≤ m) :
    rest.foldl (dequePush m) d = (d ++ rest).drop ((d ++ rest).length - m) := by
  induction rest generalizing d with
  | nil => rw [List.foldl_nil, List.append_nil, Nat.sub_eq_zero_of_le hd, List.drop_zero]
  | cons x xs ih =>
    rw [List.foldl_cons, dequePush, List.length_append, List.length_singleton]
    by_cases hlt : m < d.length + 1
    · have hm : d.length = m := by omega
      rw [if_pos hlt, ih _ (by rw [List.length_drop, List.length_append, List.length_singleton]; omega),
        ← List.drop_append_of_le_length (by rw [List.length_append, List.length_singleton]; omega), List.drop_drop,
        List.append_assoc, List.singleton_append, List.length_drop]
      simp only [List.length_append, List.length_cons]
      congr 1; omega
    · rw [if_neg hlt, ih _ (by rw [List.length_append, List.length_singleton]; omega), List.append_assoc,
        List.singleton_append]

/-- **The lazy loop is the eager loop run with `lazy_length` for the row count**: its running `offset` is 1
up to the ellipsis and `1 + lazy_length - 2·limit` after it, which is the eager shift. -/
theorem lazyGo_eq_eagerGo (limit ll tlen : Nat) (i off : Nat) (xs : List α)
    (hoff : off = if 2 * limit < ll ∧ limit < i then 1 + ll - 2 * limit else 1) :
    lazyGo specArith limit ll i off xs = eagerGo specArith ll tlen limit true i xs := by
  induction xs generalizing i off with
  | nil => rfl
  | cons x xs ih =>
    simp only [lazyGo, eagerGo, eagerLineAt, spec_lazyEll, spec_lazyLabel, spec_lazyOffsetUpd, spec_eagerSplit,
      spec_eagerAtEll, spec_eagerInTail, spec_eagerShift, spec_eagerLabel, true_and]
    by_cases hs : 2 * limit < ll
    · rcases Nat.lt_trichotomy i limit with hi | hi | hi
      · rw [if_neg (fun h => Nat.lt_asymm hi h.2)] at hoff
        subst hoff
        rw [if_neg (fun h => Nat.ne_of_lt hi h.1), if_pos hs, if_neg (Nat.ne_of_lt hi), if_neg (Nat.not_le.mpr hi),
          ih (i + 1) 1 (by rw [if_neg (fun h => by omega)])]
        rfl
      · subst hi
        rw [if_neg (fun h => Nat.lt_irrefl _ h.2)] at hoff
        subst hoff
        rw [if_pos ⟨rfl, hs⟩, if_pos hs, if_pos rfl, if_pos (Nat.le_refl _),
          ih (i + 1) _ (by rw [if_pos ⟨hs, Nat.lt_succ_self _⟩])]
        simp only [List.cons_append, List.nil_append]
        congr 3; omega
      · rw [if_pos ⟨hs, hi⟩] at hoff
        subst hoff
        rw [if_neg (fun h => by omega), if_pos hs, if_neg (by omega), if_pos (Nat.le_of_lt hi),
          ih (i + 1) _ (by rw [if_pos ⟨hs, Nat.lt_succ_of_lt hi⟩])]
        simp only [List.nil_append, List.cons_append]
        congr 2; omega
    · rw [if_neg (fun h => hs h.1)] at hoff
      subst hoff
      rw [if_neg (fun h => hs h.2), if_neg hs, ih (i + 1) 1 (by rw [if_neg (fun h => hs h.1)])]
      rfl

theorem lazySelect_ff (rows : List α) (limit : Nat) (hl : 0 < limit) :
    lazySelect specArith rows limit false = (rows.take limit, (rows.take limit).length) :=
  if_pos ⟨hl, rfl⟩

theorem lazySelect_tt (rows : List α) (limit : Nat) (hl : 0 < limit) :
    lazySelect specArith rows limit true
      = (if 2 * limit < rows.length then rows.take limit ++ rows.drop (rows.length - limit) else rows,
         if limit < rows.length then rows.length else rows.length + 1) := by
  simp only [lazySelect]
  rw [spec_lazyHeadTake, spec_dequeMax, if_neg (by simp), if_pos ⟨hl, trivial⟩, foldl_dequePush _ _ _ (Nat.zero_le _)]
  simp only [spec_lazyLenInit, spec_lazyLenUpd, List.nil_append, List.length_drop, List.length_take, List.drop_drop,
    List.isEmpty_iff, List.drop_eq_nil_iff]
  congr 1
  · split
    · rw [show limit + (rows.length - limit - limit) = rows.length - limit by omega]
    · rw [show rows.length - limit - limit = 0 by omega, Nat.add_zero, List.take_append_drop]
  · by_cases h : limit < rows.length
    · rw [if_pos h, if_neg (Nat.not_le.mpr h)]; omega
    · rw [if_neg h, if_pos (Nat.not_lt.mp h)]; omega

theorem eagerGo_headTail (rows : List α) (limit tlen : Nat) (hl : 0 < limit) (hn : 2 * limit < rows.length) :
    eagerGo specArith rows.length tlen limit true 0 (rows.take limit ++ rows.drop (rows.length - limit))
      = labelFrom 1 (rows.take limit) ++ [Line.ellipsis]
        ++ labelFrom (rows.length - limit + 1) (rows.drop (rows.length - limit)) := by
  cases h : rows.drop (rows.length - limit) with
  | nil => have := congrArg List.length h; rw [List.length_drop] at this; simp at this; omega
  | cons y ys =>
    rw [eagerGo_split _ _ _ hn _ _ _ (by rw [List.length_take]; omega), List.append_assoc]; rfl

theorem visibleRows_closed (rows : List α) (limit : Nat) (tt lazy : Bool) (hl : 0 < limit) :
    visibleRows specArith rows limit tt lazy =
      if tt = true then
        (if 2 * limit < rows.length then
          labelFrom 1 (rows.take limit) ++ [Line.ellipsis]
            ++ labelFrom (rows.length - limit + 1) (rows.drop (rows.length - limit))
        else labelFrom 1 rows)
      else labelFrom 1 (rows.take limit) := by
  cases lazy with
  | false =>
    simp only [visibleRows, Bool.false_eq_true, if_false, eagerLines, eagerCut, spec_headTail, spec_eagerHeadSize,
      spec_eagerTailSize, spec_eagerSliceLen, hl, true_and]
    cases tt with
    | false => simp only [Bool.false_eq_true, if_false, if_true]; rw [← dfHead, dfHead_eq _ _ hl, eagerGo_plain _ _ _ _ (by simp)]
    | true =>
      simp only [Bool.true_eq_false, if_false, if_true]
      by_cases hn : 2 * limit < rows.length
      · rw [if_pos (show 2 * limit + 1 ≤ rows.length from hn), if_pos hn, dfHead_eq _ _ hl, dfTail_eq _ _ hl (by omega), eagerGo_headTail _ _ _ hl hn]
      · rw [if_neg (show ¬ 2 * limit + 1 ≤ rows.length from hn), if_neg hn, eagerGo_plain _ _ _ _ (fun h => hn h.2)]
  | true =>
    simp only [visibleRows, if_true, lazyLines, spec_lazyOffset0]
    rw [lazyGo_eq_eagerGo _ _ 0 _ _ _ (by rw [if_neg (by omega)])]
    cases tt with
    | false =>
      rw [lazySelect_ff rows limit hl, eagerGo_plain _ _ _ _ (by rw [List.length_take]; omega)]
      rfl
    | true =>
      rw [lazySelect_tt rows limit hl]
      simp only [if_true]
      by_cases hn : 2 * limit < rows.length
      · rw [if_pos hn, if_pos hn, if_pos (by omega), eagerGo_headTail _ _ _ hl hn]
      · rw [if_neg hn, if_neg hn, eagerGo_plain _ _ _ _ (by split <;> omega)]

theorem visibleRows_position (rows : List α) (limit : Nat) (tt lazy : Bool) (hl : 0 < limit) (label : Nat) (row : α)
    (h : Line.data label row ∈ visibleRows specArith rows limit tt lazy) :
    ∃ i, rows[i]? = some row ∧ label = i + 1 ∧ (tt = false → i < limit) := by
  rw [visibleRows_closed rows limit tt lazy hl] at h
  have head : ∀ {k}, Line.data label row ∈ labelFrom 1 (rows.take k) →
      ∃ i, rows[i]? = some row ∧ label = i + 1 ∧ i < k := by
    intro k h
    obtain ⟨i, hi, rfl⟩ := (mem_labelFrom _ _ _ _).mp h
    rw [List.getElem?_take] at hi
    split at hi
    · exact ⟨i, hi, Nat.add_comm 1 i, ‹_›⟩
    · cases hi
  cases tt with
  | false => obtain ⟨i, hi, e, hk⟩ := head h; exact ⟨i, hi, e, fun _ => hk⟩
  | true =>
    suffices ∃ i, rows[i]? = some row ∧ label = i + 1 from this.imp fun i hi => ⟨hi.1, hi.2, fun e => by cases e⟩
    simp only [if_true] at h
    split at h
    · rcases List.mem_append.mp h with h | h
      · rcases List.mem_append.mp h with h | h
        · obtain ⟨i, hi, e, _⟩ := head h; exact ⟨i, hi, e⟩
        · cases List.mem_singleton.mp h
      · obtain ⟨i, hi, rfl⟩ := (mem_labelFrom _ _ _ _).mp h
        rw [List.getElem?_drop] at hi
        exact ⟨_, hi, by omega⟩
    · obtain ⟨i, hi, rfl⟩ := (mem_labelFrom _ _ _ _).mp h
      exact ⟨i, hi, Nat.add_comm 1 i⟩

end Display
