import OrsoVerif.Lemmas.DisplayTable
/-! The values of the shown rows are shown: every column is at least as wide as each value printed in it (up to the
column-width limit), so `[:width]` / `trunc_printable` cut nothing from a value that fits the limit. -/
namespace Display
variable {α : Type}

def Line.row? : Line α → Option α
  | .data _ r => some r
  | .ellipsis => none

theorem eagerGo_shows (A : Arith) (n tlen limit : Nat) (tt : Bool) (i : Nat) (xs : List α) :
    (eagerGo A n tlen limit tt i xs).filterMap Line.row? = xs := by
  induction xs generalizing i with
  | nil => rfl
  | cons x xs ih =>
    have : (eagerLineAt A n tlen limit tt i x).filterMap Line.row? = [x] := by
      unfold eagerLineAt
      split
      · split <;> rfl
      · rfl
    rw [eagerGo, List.filterMap_append, this, ih]; rfl

theorem lazyGo_shows (A : Arith) (limit ll : Nat) (i off : Nat) (xs : List α) :
    (lazyGo A limit ll i off xs).filterMap Line.row? = xs := by
  induction xs generalizing i off with
  | nil => rfl
  | cons x xs ih =>
    unfold lazyGo
    split
    · exact congrArg (x :: ·) (ih _ _)
    · exact congrArg (x :: ·) (ih _ _)

theorem visibleRows_shows (A : Arith) (rows : List α) (limit : Nat) (tt lazy : Bool) :
    (visibleRows A rows limit tt lazy).filterMap Line.row? = cutRows A rows limit tt lazy := by
  cases lazy
  · exact eagerGo_shows A _ _ limit tt 0 _
  · exact lazyGo_shows A limit _ 0 _ _

theorem visibleRows_in_cut (A : Arith) (rows : List α) (limit : Nat) (tt lazy : Bool) (label : Nat) (row : α)
    (h : Line.data label row ∈ visibleRows A rows limit tt lazy) : row ∈ cutRows A rows limit tt lazy :=
  visibleRows_shows A rows limit tt lazy ▸ List.mem_filterMap.mpr ⟨_, h, rfl⟩

theorem dataWidth_ge_mem (col : List Cell) (c : Cell) (h : c ∈ col) : cellSlen c ≤ dataWidth col :=
  (foldl_max_ge cellSlen col 4).2 c h

theorem column_mem (t : List (List Cell)) (row : List Cell) (j : Nat) (c : Cell) (hr : row ∈ t)
    (hc : row[j]? = some c) : c ∈ column t j := by
  unfold column
  exact List.mem_filterMap.mpr ⟨row, hr, hc⟩

theorem spec_colWidth_ge {x a b c m : Nat} (h : x ≤ a ∨ x ≤ b ∨ x ≤ c) : min x m ≤ specArith.colWidth a b c m := by
  have : x ≤ max (max a b) c := by
    rcases h with h | h | h
    · exact Nat.le_trans h (Nat.le_trans (Nat.le_max_left a b) (Nat.le_max_left _ c))
    · exact Nat.le_trans h (Nat.le_trans (Nat.le_max_right a b) (Nat.le_max_left _ c))
    · exact Nat.le_trans h (Nat.le_max_right _ c)
  exact Nat.le_min.mpr ⟨Nat.le_trans (Nat.min_le_left x m) this, Nat.min_le_right x m⟩

theorem colWidthsGo_get (A : Arith) (st : Bool) (mc : Nat) (t : List (List Cell)) (i : Nat) (ns tys : List Str)
    (j w : Nat) (h : (colWidthsGo A st mc t i ns tys)[j]? = some w) :
    ∃ n ty, ns[j]? = some n ∧ tys[j]? = some ty
      ∧ w = A.colWidth n.length (if st then ty.length else 0) (dataWidth (column t (i + j))) mc := by
  induction ns generalizing i tys j with
  | nil => cases h
  | cons n ns ih =>
    cases tys with
    | nil => cases h
    | cons ty tys =>
      cases j with
      | zero => exact ⟨n, ty, rfl, rfl, (Option.some.inj h).symm⟩
      | succ j =>
        obtain ⟨a, b, ha, hb, e⟩ := ih (i + 1) tys j h
        exact ⟨a, b, ha, hb, by rw [e, Nat.add_assoc, Nat.add_comm 1 j]⟩

theorem take_of_length_le {β : Type} (l : List β) (w : Nat) (h : l.length ≤ w) : l.take w = l :=
  List.take_of_length_le h

/-- `str(value).rjust(width)[:width]` is `rjust` itself when the value fits. -/
theorem take_rjust_fits (w : Nat) (s : Str) (h : s.length ≤ w) : (rjust w s).take w = spaces (w - s.length) ++ s := by
  unfold rjust
  apply List.take_of_length_le
  simp [spaces]; omega

/-- `trunc_printable(text.ljust(width), width)` on printable text that fits: nothing is cut. -/
theorem truncGo_fits (cw : Char → Nat) (hcw : ∀ c, Printable c → cw c = 1) (width : Nat) (full : Bool) (l : Str)
    (off : Nat) (hp : PStr l) (hlen : off + l.length = width) (h0 : 0 < l.length) :
    truncGo specArith cw width full l off false = l ++ T_OFF := by
  induction l generalizing off with
  | nil => cases h0
  | cons c cs ih =>
    have hc : Printable c := hp c (by simp)
    obtain ⟨he, hn, hr⟩ := printable_not_esc hc
    rw [truncGo_count _ _ _ _ _ _ hn hr (by simp [scanStep, he]), hcw c hc, spec_truncStop', List.cons_append]
    simp only [List.length_cons] at hlen
    cases cs with
    | nil => rw [if_pos (by simp at hlen ⊢; omega)]; rfl
    | cons d ds =>
      rw [if_neg (by simp at hlen ⊢; omega),
        ih (off + 1) (fun x hx => hp x (List.mem_cons_of_mem _ hx)) (by omega) (by simp)]

/-- `v.center(w)[:w]` shows `v` in full, between blanks, when it fits. -/
theorem headCell_fits (tok v : Str) (w : Nat) (h : v.length ≤ w) :
    ∃ l r, headCell tok v w = tok ++ (spaces l ++ v ++ spaces r) ++ T_OFF ∧ l + v.length + r = w := by
  obtain ⟨l, r, e, hlr⟩ := center_eq w v
  refine ⟨l, r, ?_, by omega⟩
  rw [headCell, e, List.take_of_length_le]
  simp only [List.length_append, spaces, List.length_replicate]
  omega

end Display
