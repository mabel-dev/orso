import OrsoVerif.Lemmas.IsoExact
import OrsoVerif.Lemmas.IsoEpochTotal
/-! Helper lemmas for C08: the skeleton of the text path accepts exactly the language of `Model/IsoGrammar.lean`
(`textPath_iff`, from the normal forms of `Lemmas/IsoExact.lean`), and all-digit text is read exactly for the second counts of
valid date-times (`digits_iff`). -/
namespace Iso

theorem trimmed_iff (s v : List Char) :
    Trimmed s v ↔ v = cutTail s ∧ ((zStrip s).contains '+' = true → 10 ≤ v.length ∧ v.length ≤ 28) := by
  unfold cutTail
  constructor
  · intro h
    cases h with
    | whole hn => rw [hn]; exact ⟨rfl, nofun⟩
    | beforePlus hp h1 h2 => rw [if_pos hp]; exact ⟨rfl, fun _ => ⟨h1, h2⟩⟩
  · rintro ⟨rfl, h⟩
    by_cases hp : (zStrip s).contains '+' = true
    · rw [if_pos hp] at h ⊢; exact .beforePlus hp (h hp).1 (h hp).2
    · rw [if_neg hp]; exact .whole (Bool.eq_false_iff.mpr hp)

theorem textPath_iff (E : Exact) (s : List Char) (dt : DateTime) :
    textPath s = .ok (some dt) ↔ 10 ≤ s.length ∧ s.length ≤ 33 ∧ ∃ v, Trimmed s v ∧ Layout v dt := by
  rw [textPath_closed E]
  by_cases hk : Kept s
  · rw [if_pos hk, shaped_iff_layout E _ hk.nine_le]
    exact ⟨fun h => ⟨hk.1, hk.2.1, _, (trimmed_iff s _).mpr ⟨rfl, hk.2.2⟩, h⟩,
      fun ⟨_, _, v, ht, hl⟩ => ((trimmed_iff s v).mp ht).1 ▸ hl⟩
  · rw [if_neg hk]
    refine ⟨nofun, fun ⟨h1, h2, v, ht, _⟩ => absurd ⟨h1, h2, ?_⟩ hk⟩
    obtain ⟨rfl, h⟩ := (trimmed_iff s v).mp ht
    exact h

theorem pyInt_too_long (ds : List Char) (h : ∀ c ∈ ds, c.isDigit = true) (hlen : maxStrDigits < ds.length) :
    pyInt ds = .error .valueError := by
  rw [pyInt_of_digits ds (fun e => absurd (e ▸ hlen) (Nat.not_lt_zero _)) h, pyNat, List.filter_eq_self.mpr h,
    if_pos hlen]
  rfl

theorem digits_iff (s : List Char) (hd : isDigitStr s = true) (dt : DateTime) :
    epoch "int" (pyInt s) = .ok (some dt) ↔
      (Iso.epochAdmits "int" = true ∧ s.length ≤ maxStrDigits ∧ validDateTime dt = true ∧ dt.micro = 0 ∧
        toEpoch dt = (Nat.ofDigitChars 10 s 0 : Nat)) := by
  have hall : ∀ c ∈ s, c.isDigit = true := by
    simp only [isDigitStr, Bool.and_eq_true, List.all_eq_true] at hd; exact hd.2
  have hne : s ≠ [] := by
    intro e; subst e; simp [isDigitStr] at hd
  have some_iff : ∀ r : Except Exc DateTime, (r.bind fun dt => .ok (some dt)) = .ok (some dt) ↔ r = .ok dt := by
    intro r; cases r <;> simp [Except.bind]
  unfold epoch
  by_cases hc : Iso.epochAdmits "int" = true
  · rw [if_pos hc]
    by_cases hlen : s.length ≤ maxStrDigits
    · rw [pyInt_digits s hne hall hlen, bind_ok, some_iff, fromTimestamp_eq_ok_iff]
      exact ⟨fun h => ⟨hc, hlen, h⟩, fun h => h.2.2⟩
    · rw [pyInt_too_long s hall (by omega)]
      exact ⟨nofun, fun h => absurd h.2.1 hlen⟩
  · rw [if_neg hc]
    exact ⟨nofun, fun h => absurd h.1 hc⟩

end Iso
