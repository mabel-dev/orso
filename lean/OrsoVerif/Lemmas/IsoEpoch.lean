import OrsoVerif.Lemmas.IsoDigits
/-! Helper lemmas for C08: the calendar arithmetic of `fromtimestamp`.  A year is the half-open
interval of day numbers `[daysBeforeYearZ y, daysBeforeYearZ (y + 1))`, a month the interval
`[daysBeforeMonthL m, daysBeforeMonthL (m + 1))`; `yearDoy` and `monthDay` find the interval a day
lies in, and since the intervals do not overlap they invert `daysBeforeYear` and
`daysBeforeMonthL`. -/
namespace Iso

/-- `daysBeforeYear` on every integer (astronomical year numbering). -/
def daysBeforeYearZ (y : Int) : Int := 365 * (y - 1) + (y - 1) / 4 - (y - 1) / 100 + (y - 1) / 400

def leapI (y : Int) : Prop := y % 4 = 0 ∧ (y % 100 ≠ 0 ∨ y % 400 = 0)

theorem daysBeforeYear_cast {y : Nat} (hy : 1 ≤ y) : (daysBeforeYear y : Int) = daysBeforeYearZ y := by
  obtain ⟨q, rfl⟩ : ∃ q, y = q + 1 := ⟨y - 1, by omega⟩
  simp only [daysBeforeYear, daysBeforeYearZ, Nat.add_sub_cancel, Int.natCast_add, Int.cast_ofNat_Int,
    Int.add_sub_cancel]
  omega

theorem isLeap_iff (y : Nat) : isLeap y = true ↔ leapI y := by
  simp only [isLeap, leapI, Bool.and_eq_true, Bool.or_eq_true, beq_iff_eq, bne_iff_ne]
  omega

theorem daysBeforeYearZ_mono {y z : Int} (h : y ≤ z) : daysBeforeYearZ y ≤ daysBeforeYearZ z := by
  unfold daysBeforeYearZ
  omega

theorem lt_daysBeforeYearZ_succ {y : Int} {d : Nat} (h : d < 365 ∨ (d = 365 ∧ leapI y)) :
    daysBeforeYearZ y + d < daysBeforeYearZ (y + 1) := by
  unfold daysBeforeYearZ leapI at *
  rw [Int.add_sub_cancel]
  omega

/-- Year `400 a + 100 b + 4 c + t + 1` begins after `a` 400-year cycles, `b` centuries, `c`
4-year cycles and `t` years: the centuries and the single years are common ones (36524 and 365
days) because there are at most three of each. -/
theorem daysBeforeYearZ_cycles (y a : Int) (b c t : Nat) (hy : y = 400 * a + (100 * b + 4 * c + t : Nat) + 1)
    (hb : b ≤ 3) (hc : c ≤ 24) (ht : t ≤ 3) :
    daysBeforeYearZ y = 146097 * a + (36524 * b + 1461 * c + 365 * t : Nat) := by
  subst hy
  unfold daysBeforeYearZ
  rw [Int.add_sub_cancel]
  omega

/-- `yearDoy` on its quotients and remainders: `b = 4` or `t = 4` only on the last day of a cycle that is one day
longer than four of its parts. -/
theorem year_of_cycles (N a : Int) (r b r1 c r2 t r3 : Nat)
    (hN : N = 146097 * a + r) (hr : r < 146097)
    (er : r = 36524 * b + r1) (hr1 : r1 < 36524) (er1 : r1 = 1461 * c + r2) (hr2 : r2 < 1461)
    (er2 : r2 = 365 * t + r3) (hr3 : r3 < 365) (p : Int × Nat)
    (hp : p = if t = 4 ∨ b = 4 then (a * 400 + ((b * 100 + c * 4 + t : Nat) : Int) + 1 - 1, 365)
      else (a * 400 + ((b * 100 + c * 4 + t : Nat) : Int) + 1, r3)) :
    daysBeforeYearZ p.1 + p.2 = N ∧ (p.2 < 365 ∨ (p.2 = 365 ∧ leapI p.1)) := by
  subst hN er er1 er2 hp
  by_cases hb : b = 4
  · -- `r = 4 * 36524`, the last day of the 400 years: day 365 of year `400 a + 400`
    obtain ⟨rfl, rfl, rfl⟩ : c = 0 ∧ t = 0 ∧ r3 = 0 := by omega
    subst hb
    rw [if_pos (Or.inr rfl)]
    refine ⟨?_, Or.inr ⟨rfl, ?_⟩⟩
    · rw [daysBeforeYearZ_cycles _ a 3 24 3 (by omega) (by decide) (by decide) (by decide)]
      omega
    · unfold leapI
      omega
  · by_cases ht : t = 4
    · -- `r2 = 4 * 365`, the last day of the 4 years: day 365 of year `400 a + 100 b + 4 c + 4`
      obtain ⟨rfl, hc, hb⟩ : r3 = 0 ∧ c ≤ 23 ∧ b ≤ 3 := by omega
      subst ht
      rw [if_pos (Or.inl rfl)]
      refine ⟨?_, Or.inr ⟨rfl, ?_⟩⟩
      · rw [daysBeforeYearZ_cycles _ a b c 3 (by omega) hb (by omega) (by decide)]
        omega
      · unfold leapI
        omega
    · rw [if_neg (by omega)]
      refine ⟨?_, Or.inl hr3⟩
      rw [daysBeforeYearZ_cycles _ a b c t (by omega) (by omega) (by omega) (by omega)]
      omega

theorem yearDoy_spec (ord : Int) :
    daysBeforeYearZ (yearDoy ord).1 + (yearDoy ord).2 = ord - 1 ∧
      ((yearDoy ord).2 < 365 ∨ ((yearDoy ord).2 = 365 ∧ leapI (yearDoy ord).1)) := by
  have hr : ((((ord - 1) % 146097).toNat : Nat) : Int) = (ord - 1) % 146097 := by omega
  exact year_of_cycles (ord - 1) ((ord - 1) / 146097) ((ord - 1) % 146097).toNat _ _ _ _ _ _
    (by omega) (by omega) (Nat.div_add_mod _ _).symm (Nat.mod_lt _ (by decide))
    (Nat.div_add_mod _ _).symm (Nat.mod_lt _ (by decide)) (Nat.div_add_mod _ _).symm
    (Nat.mod_lt _ (by decide)) _ rfl

theorem yearDoy_inv (y : Int) (d : Nat) (hd : d < 365 ∨ (d = 365 ∧ leapI y)) :
    yearDoy (daysBeforeYearZ y + d + 1) = (y, d) := by
  obtain ⟨h1, h2⟩ := yearDoy_spec (daysBeforeYearZ y + d + 1)
  have h3 := lt_daysBeforeYearZ_succ h2
  have h4 := lt_daysBeforeYearZ_succ hd
  have hy : (yearDoy (daysBeforeYearZ y + d + 1)).1 = y := by
    rcases Int.lt_trichotomy (yearDoy (daysBeforeYearZ y + d + 1)).1 y with h | h | h
    · have := daysBeforeYearZ_mono (Int.add_one_le_of_lt h)
      omega
    · exact h
    · have := daysBeforeYearZ_mono (Int.add_one_le_of_lt h)
      omega
  rw [hy] at h1
  exact Prod.ext hy (by simp only; omega)

theorem daysBeforeMonthL_succ (leap : Bool) {m : Nat} (hm : 1 ≤ m) :
    daysBeforeMonthL leap (m + 1) = daysBeforeMonthL leap m + daysInMonthL leap m := by
  obtain ⟨k, rfl⟩ : ∃ k, m = k + 1 := ⟨m - 1, by omega⟩
  rfl

theorem daysBeforeMonthL_mono (leap : Bool) {m n : Nat} (hm : 1 ≤ m) (h : m ≤ n) :
    daysBeforeMonthL leap m ≤ daysBeforeMonthL leap n := by
  induction h with
  | refl => exact Nat.le_refl _
  | @step n h ih =>
    rw [daysBeforeMonthL_succ leap (Nat.le_trans hm h)]
    omega

theorem monthDayGo_spec (leap : Bool) (fuel m doy : Nat) (hm : 1 ≤ m)
    (h : daysBeforeMonthL leap m + doy < daysBeforeMonthL leap (m + fuel + 1)) :
    ∃ k d, monthDayGo leap fuel m doy = (k, d) ∧ m ≤ k ∧ k ≤ m + fuel ∧ 1 ≤ d ∧ d ≤ daysInMonthL leap k ∧
      daysBeforeMonthL leap k + d = daysBeforeMonthL leap m + doy + 1 := by
  induction fuel generalizing m doy with
  | zero =>
    rw [Nat.add_zero, daysBeforeMonthL_succ leap hm] at h
    exact ⟨m, doy + 1, rfl, by omega, by omega, by omega, by omega, rfl⟩
  | succ fuel ih =>
    by_cases hlt : doy < daysInMonthL leap m
    · exact ⟨m, doy + 1, by simp only [monthDayGo, if_pos hlt], by omega, by omega, by omega, by omega, rfl⟩
    · have e := daysBeforeMonthL_succ leap hm
      obtain ⟨k, d, h1, h2, h3, h4, h5, h6⟩ := ih (m + 1) (doy - daysInMonthL leap m)
        (by omega) (by rw [Nat.add_right_comm m 1 fuel, Nat.add_assoc m fuel 1]; omega)
      exact ⟨k, d, by simp only [monthDayGo, if_neg hlt, h1], by omega, by omega, h4, h5, by omega⟩

theorem lt_daysBeforeMonthL_13 (leap : Bool) (doy : Nat) :
    doy < daysBeforeMonthL leap 13 ↔ doy < 365 ∨ (doy = 365 ∧ leap = true) := by
  cases leap
  · rw [show daysBeforeMonthL false 13 = 365 from rfl]
    simp
  · rw [show daysBeforeMonthL true 13 = 366 from rfl]
    simp
    omega

theorem monthDay_spec (leap : Bool) (doy : Nat) (h : doy < daysBeforeMonthL leap 13) :
    ∃ m d, monthDay leap doy = (m, d) ∧ 1 ≤ m ∧ m ≤ 12 ∧ 1 ≤ d ∧ d ≤ daysInMonthL leap m ∧
      daysBeforeMonthL leap m + d = doy + 1 := by
  have := monthDayGo_spec leap 11 1 doy (Nat.le_refl 1) ((Nat.zero_add doy).symm ▸ h)
  rwa [show daysBeforeMonthL leap 1 = 0 from rfl, Nat.zero_add] at this

theorem monthDay_inv (leap : Bool) {m d doy : Nat} (hm : 1 ≤ m) (hm' : m ≤ 12) (hd : 1 ≤ d)
    (hd' : d ≤ daysInMonthL leap m) (e : daysBeforeMonthL leap m + d = doy + 1) :
    monthDay leap doy = (m, d) ∧ doy < daysBeforeMonthL leap 13 := by
  have em := daysBeforeMonthL_succ leap hm
  have hlt : doy < daysBeforeMonthL leap 13 := by
    have := daysBeforeMonthL_mono leap (Nat.le_add_left 1 m) (show m + 1 ≤ 13 by omega)
    omega
  obtain ⟨k, c, h1, hk, _, hc, hc', h6⟩ := monthDay_spec leap doy hlt
  have ek := daysBeforeMonthL_succ leap hk
  obtain rfl : k = m := by
    rcases Nat.lt_trichotomy k m with h | h | h
    · have := daysBeforeMonthL_mono leap (Nat.le_add_left 1 k) h
      omega
    · exact h
    · have := daysBeforeMonthL_mono leap (Nat.le_add_left 1 m) h
      omega
  obtain rfl : c = d := by omega
  exact ⟨h1, hlt⟩

theorem year_range_iff {y N : Int} (h1 : daysBeforeYearZ y ≤ N) (h2 : N < daysBeforeYearZ (y + 1)) :
    (1 ≤ y ∧ y ≤ 9999) ↔ (0 ≤ N ∧ N < 3652059) := by
  have e1 : daysBeforeYearZ 1 = 0 := by decide
  have e2 : daysBeforeYearZ 10000 = 3652059 := by decide
  constructor
  · rintro ⟨a, b⟩
    have lo := daysBeforeYearZ_mono a
    have hi := daysBeforeYearZ_mono (show y + 1 ≤ 10000 by omega)
    omega
  · rintro ⟨a, b⟩
    refine ⟨Int.not_lt.mp fun h => ?_, Int.not_lt.mp fun h => ?_⟩
    · have := daysBeforeYearZ_mono (show y + 1 ≤ 1 by omega)
      omega
    · have := daysBeforeYearZ_mono (show 10000 ≤ y by omega)
      omega

theorem hms_of_seconds {h m s : Nat} (hm : m ≤ 59) (hs : s ≤ 59) :
    (h * 3600 + m * 60 + s) / 3600 = h ∧ (h * 3600 + m * 60 + s) % 3600 / 60 = m ∧
      (h * 3600 + m * 60 + s) % 60 = s := by
  omega

theorem day_second (k : Int) {s : Nat} (hs : s < 86400) :
    (k * 86400 + s) / 86400 = k ∧ ((k * 86400 + s) % 86400).toNat = s := by
  omega

theorem fromTimestamp_day_second (k : Int) {s : Nat} (hs : s < 86400) {y : Int} {doy : Nat}
    (hyd : yearDoy (k + epochOrdinal) = (y, doy)) :
    fromTimestamp (k * 86400 + s) =
      if k * 86400 + s < -9223372036854775808 ∨ k * 86400 + s > 9223372036854775807 then .error .overflowError
      else if y - 1900 < -2147483648 ∨ y - 1900 > 2147483647 then .error .osError
      else if y < 1 ∨ y > 9999 then .error .valueError
      else .ok ⟨y.toNat, (monthDay (isLeap y.toNat) doy).1, (monthDay (isLeap y.toNat) doy).2,
        s / 3600, s % 3600 / 60, s % 60, 0⟩ := by
  obtain ⟨d1, d2⟩ := day_second k hs
  unfold fromTimestamp
  simp only [d1, d2, hyd]

theorem fromTimestamp_toEpoch (dt : DateTime) (h : validDateTime dt = true) :
    fromTimestamp (toEpoch dt) = .ok (truncSeconds dt) := by
  obtain ⟨h1, h2, h3, h4, h5, h6, h7, h8, h9, _⟩ := valid_bounds h
  have hs : dt.hour * 3600 + dt.minute * 60 + dt.second < 86400 := by omega
  obtain ⟨s1, s2, s3⟩ := hms_of_seconds (h := dt.hour) h8 h9
  obtain ⟨doy, hdoy⟩ : ∃ doy, daysBeforeMonthL (isLeap dt.year) dt.month + dt.day = doy + 1 :=
    ⟨_, (Nat.sub_add_cancel (Nat.le_add_left_of_le h5)).symm⟩
  obtain ⟨md, hv⟩ := monthDay_inv (isLeap dt.year) h3 h4 h5 h6 hdoy
  rw [lt_daysBeforeMonthL_13, isLeap_iff] at hv
  have hyd := yearDoy_inv dt.year doy hv
  rw [show daysBeforeYearZ dt.year + doy + 1 = daysBeforeYearZ dt.year + doy + 1 - 719163 + epochOrdinal by
    simp only [epochOrdinal]; omega] at hyd
  have hE : toEpoch dt = (daysBeforeYearZ dt.year + doy + 1 - 719163) * 86400
      + (dt.hour * 3600 + dt.minute * 60 + dt.second : Nat) := by
    simp only [toEpoch, toOrdinal, epochOrdinal]
    rw [← daysBeforeYear_cast h1]
    omega
  have hr := (year_range_iff (N := daysBeforeYearZ dt.year + doy) (by omega) (lt_daysBeforeYearZ_succ hv)).mp
    ⟨by omega, by omega⟩
  clear hdoy hv h3 h4 h5 h6 h7 h8 h9
  rw [hE, fromTimestamp_day_second _ hs hyd, if_neg (by omega), if_neg (by omega), if_neg (by omega),
    Int.toNat_natCast, md, s1, s2, s3]
  rfl

end Iso
