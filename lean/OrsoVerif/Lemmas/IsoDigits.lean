import OrsoVerif.Model.IsoPrim
/-! Helper lemmas for C08: the equations of `Except.bind`, the bounds of a valid date-time, digit characters,
`int()` on all-digit text and on zero-padded numbers (`padW`). -/
namespace Iso

@[simp] theorem bind_ok {α β : Type} (a : α) (f : α → Except Exc β) : (Except.ok a).bind f = f a := rfl
@[simp] theorem bind_error {α β : Type} (e : Exc) (f : α → Except Exc β) :
    (Except.error e : Except Exc α).bind f = .error e := rfl

theorem valid_bounds {dt : DateTime} (h : validDateTime dt = true) :
    1 ≤ dt.year ∧ dt.year ≤ 9999 ∧ 1 ≤ dt.month ∧ dt.month ≤ 12 ∧ 1 ≤ dt.day ∧
    dt.day ≤ daysInMonth dt.year dt.month ∧ dt.hour ≤ 23 ∧ dt.minute ≤ 59 ∧ dt.second ≤ 59 ∧
    dt.micro ≤ 999999 := by
  simp only [validDateTime, validDate, Bool.and_eq_true, decide_eq_true_eq] at h
  omega

theorem daysInMonth_le (y m : Nat) : daysInMonth y m ≤ 31 := by
  unfold daysInMonth daysInMonthL
  split <;> try omega
  split <;> omega

theorem truncSeconds_of_micro {dt : DateTime} (h : dt.micro = 0) : truncSeconds dt = dt := by
  cases dt
  cases h
  rfl

theorem ne_of_isDigit {c d : Char} (h : c.isDigit = true) (hd : d.isDigit = false) : c ≠ d := by
  intro e; subst e; rw [h] at hd; cases hd

theorem beq_of_isDigit {c : Char} (h : c.isDigit = true) (d : Char) (hd : d.isDigit = false) : (c == d) = false :=
  beq_eq_false_iff_ne.mpr (ne_of_isDigit h hd)

theorem isWs_of_isDigit {c : Char} (h : c.isDigit = true) : isWs c = false := by
  have ne := beq_of_isDigit h
  unfold isWs
  rw [ne _ (by decide), ne _ (by decide), ne _ (by decide), ne _ (by decide), ne _ (by decide), ne _ (by decide)]
  rfl

@[simp] theorem isDigit_digit (n : Nat) : (digit n).isDigit = true := by
  have : ∀ k, k < 10 → (Char.ofNat (48 + k)).isDigit = true := by decide
  exact this (n % 10) (Nat.mod_lt _ (by decide))

@[simp] theorem digitVal_digit (n : Nat) : digitVal (digit n) = n % 10 := by
  have : ∀ k, k < 10 → digitVal (Char.ofNat (48 + k)) = k := by decide
  exact this (n % 10) (Nat.mod_lt _ (by decide))

@[simp] theorem isWs_digit (n : Nat) : isWs (digit n) = false := isWs_of_isDigit (isDigit_digit n)

theorem digit_ne {n : Nat} {d : Char} (hd : d.isDigit = false) : digit n ≠ d :=
  ne_of_isDigit (isDigit_digit n) hd

theorem rstrip_of_no_ws (l : List Char) (h : ∀ c ∈ l, isWs c = false) : rstrip l = l := by
  induction l with
  | nil => rfl
  | cons c r ih =>
    have ih := ih (fun x hx => h x (List.mem_cons_of_mem _ hx))
    have hc := h c (List.mem_cons_self)
    unfold rstrip
    rw [ih]
    cases r with
    | nil => simp [hc]
    | cons a t => rfl

theorem strip_of_no_ws (l : List Char) (h : ∀ c ∈ l, isWs c = false) : strip l = l := by
  unfold strip
  have : l.dropWhile isWs = l := by
    cases l with
    | nil => rfl
    | cons a t => simp [List.dropWhile, h a List.mem_cons_self]
  rw [this, rstrip_of_no_ws l h]

theorem digitsGo_digits (ds : List Char) (acc : Nat) (prev : Bool) (hp : prev = true ∨ ds ≠ [])
    (h : ∀ c ∈ ds, c.isDigit = true) : digitsGo acc prev ds = some (Nat.ofDigitChars 10 ds acc) := by
  induction ds generalizing acc prev with
  | nil =>
    obtain rfl : prev = true := hp.resolve_right (· rfl)
    rfl
  | cons c r ih =>
    have ih := ih (10 * acc + digitVal c) true (.inl rfl) (fun x hx => h x (List.mem_cons_of_mem _ hx))
    simp only [digitsGo, h c List.mem_cons_self, if_true, ih, Nat.ofDigitChars_cons]
    rfl

theorem pyNat_digits (ds : List Char) (hne : ds ≠ []) (h : ∀ c ∈ ds, c.isDigit = true)
    (hlen : ds.length ≤ maxStrDigits) : pyNat ds = .ok (Nat.ofDigitChars 10 ds 0) := by
  have hf : (ds.filter Char.isDigit).length ≤ maxStrDigits :=
    Nat.le_trans (List.length_filter_le _ _) hlen
  rw [pyNat, if_neg (by omega), digitsGo_digits ds 0 false (.inr hne) h]

theorem pyInt_of_digits (ds : List Char) (hne : ds ≠ []) (h : ∀ c ∈ ds, c.isDigit = true) :
    pyInt ds = (pyNat ds).bind fun n => .ok (n : Int) := by
  unfold pyInt
  rw [strip_of_no_ws ds (fun c hc => isWs_of_isDigit (h c hc))]
  cases ds with
  | nil => exact absurd rfl hne
  | cons c r =>
    have hc := h c List.mem_cons_self
    simp only [ne_of_isDigit hc (show '-'.isDigit = false by decide),
      ne_of_isDigit hc (show '+'.isDigit = false by decide), if_false]

theorem pyInt_digits (ds : List Char) (hne : ds ≠ []) (h : ∀ c ∈ ds, c.isDigit = true)
    (hlen : ds.length ≤ maxStrDigits) : pyInt ds = .ok (Nat.ofDigitChars 10 ds 0 : Nat) := by
  rw [pyInt_of_digits ds hne h, pyNat_digits ds hne h hlen]
  rfl

/-- The last `w` decimal digits of `n`, most significant first: `pad2`, `pad4`, `pad6` at any width. -/
def padW : Nat → Nat → List Char
  | 0, _ => []
  | w + 1, n => padW w (n / 10) ++ [digit n]

theorem pad2_eq_padW (n : Nat) : pad2 n = padW 2 n := rfl

theorem pad4_eq_padW (n : Nat) : pad4 n = padW 4 n := by
  simp only [pad4, padW, Nat.div_div_eq_div_mul, List.nil_append, List.cons_append]

theorem pad6_eq_padW (n : Nat) : pad6 n = padW 6 n := by
  simp only [pad6, padW, Nat.div_div_eq_div_mul, List.nil_append, List.cons_append]

theorem length_padW (w n : Nat) : (padW w n).length = w := by
  induction w generalizing n with
  | zero => rfl
  | succ w ih => rw [padW, List.length_append, ih, List.length_singleton]

theorem isDigit_of_mem_padW (w n : Nat) (c : Char) (h : c ∈ padW w n) : c.isDigit = true := by
  induction w generalizing n with
  | zero => nomatch h
  | succ w ih =>
    rw [padW, List.mem_append, List.mem_singleton] at h
    rcases h with h | rfl
    · exact ih _ h
    · exact isDigit_digit n

/-- The digits of a fraction (`fraction micro k`, the first `k` of the six microsecond digits). -/
theorem isDigit_of_mem_take_pad6 (n k : Nat) (c : Char) (h : c ∈ (pad6 n).take k) : c.isDigit = true :=
  isDigit_of_mem_padW 6 n c (pad6_eq_padW n ▸ List.mem_of_mem_take h)

theorem ofDigitChars_padW (w n acc : Nat) : Nat.ofDigitChars 10 (padW w n) acc = acc * 10 ^ w + n % 10 ^ w := by
  induction w generalizing n acc with
  | zero => rw [padW, Nat.ofDigitChars_nil, Nat.pow_zero, Nat.mod_one, Nat.mul_one, Nat.add_zero]
  | succ w ih =>
    rw [padW, Nat.ofDigitChars_append, ih, Nat.ofDigitChars_cons, Nat.ofDigitChars_nil,
      show (digit n).toNat - '0'.toNat = n % 10 from digitVal_digit n, Nat.pow_succ, Nat.mul_comm (10 ^ w) 10,
      Nat.mod_mul, Nat.mul_add, Nat.mul_left_comm, Nat.add_assoc, Nat.add_comm (n % 10)]

theorem pyInt_padW (w n : Nat) (hw : 1 ≤ w) (hm : w ≤ maxStrDigits) (h : n < 10 ^ w) :
    pyInt (padW w n) = .ok (n : Int) := by
  rw [pyInt_digits _ (fun e => by rw [← length_padW w n, e] at hw; cases hw) (isDigit_of_mem_padW w n)
    (by rw [length_padW]; exact hm), ofDigitChars_padW, Nat.zero_mul, Nat.zero_add, Nat.mod_eq_of_lt h]

theorem pyInt_pad2 (n : Nat) (h : n < 100) : pyInt (pad2 n) = .ok (n : Int) := by
  rw [pad2_eq_padW]
  exact pyInt_padW 2 n (by decide) (by decide) h

theorem pyInt_pad4 (n : Nat) (h : n < 10000) : pyInt (pad4 n) = .ok (n : Int) := by
  rw [pad4_eq_padW]
  exact pyInt_padW 4 n (by decide) (by decide) h

end Iso
