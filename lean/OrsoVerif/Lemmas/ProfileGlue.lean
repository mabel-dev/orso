import OrsoVerif.Model.ProfileGlue
/-!
# C15 — lemmas about the glue: the heap of list objects, the keyed accumulators of the morsel loop
-/
namespace Profile

/-! ## the histogram of a sum over a heap of list objects -/

def Heap.Extends (h g : Heap β) : Prop := h.next ≤ g.next ∧ ∀ q, q < h.next → g.get q = h.get q

theorem Heap.Extends.trans {h g k : Heap β} (a : h.Extends g) (b : g.Extends k) : h.Extends k :=
  ⟨Nat.le_trans a.1 b.1, fun q hq => (b.2 q (Nat.lt_of_lt_of_le hq a.1)).trans (a.2 q hq)⟩

theorem Heap.alloc_spec (h : Heap β) (v : β) :
    ∃ g, h.alloc v = (h.next, g) ∧ h.Extends g ∧ h.next < g.next ∧ g.get h.next = v :=
  ⟨_, rfl, ⟨Nat.le_succ _, fun _ hq => if_neg (Nat.ne_of_lt hq)⟩, Nat.lt_succ_self _, if_pos rfl⟩

theorem Heap.Extends.set {h g : Heap β} (a : h.Extends g) {r : Nat} (hr : h.next ≤ r) (v : β) :
    h.Extends (g.set r v) :=
  ⟨a.1, fun q hq => (if_neg (Nat.ne_of_lt (Nat.lt_of_lt_of_le hq hr))).trans (a.2 q hq)⟩

/-- With `distogram.load` copying and `__add__` starting from a copy (whether or not a histogram that is kept as it is
gets copied): no list that existed before the addition is changed, and the sum's histogram holds `addHistSpec` of the
operands'. -/
theorem addHist_copies (co : Bool) (mrg : β → β → β) (len : β → Nat) (h : Heap β) (self other : Nat)
    (hs : self < h.next) (ho : other < h.next) :
    h.Extends (addHist true true co mrg len h self other).2
    ∧ (addHist true true co mrg len h self other).1 < (addHist true true co mrg len h self other).2.next
    ∧ (addHist true true co mrg len h self other).2.get (addHist true true co mrg len h self other).1
        = addHistSpec mrg len (h.get self) (h.get other) := by
  -- `h1`: after `deep_copy`; `h2`, `h3`: after the two `load`s; `h4`: after copying the other side's histogram
  obtain ⟨h1, a1, e1, l1, v1⟩ := h.alloc_spec (h.get self)
  obtain ⟨h2, a2, e2, l2, v2⟩ := h1.alloc_spec (h.get self)
  obtain ⟨h3, a3, e3, l3, v3⟩ := h2.alloc_spec (h.get other)
  obtain ⟨h4, a4, e4, l4, v4⟩ := h1.alloc_spec (h.get other)
  have e03 := e1.trans (e2.trans e3)
  generalize hr : addHist true true co mrg len h self other = r
  simp only [addHist, loadBins, if_true, a1, a2, a3, a4, mergeInPlace, e1.2 self hs, e1.2 other ho,
    (e1.trans e2).2 other ho, e03.2 self hs, e03.2 other ho, (e3.2 _ l2).trans v2, v3] at hr
  unfold addHistSpec
  split <;> rename_i hboth
  · rw [if_pos hboth] at hr
    split <;> rename_i hlonger
    · rw [if_pos hlonger] at hr
      subst hr
      exact ⟨e03.set (Nat.le_of_lt (Nat.lt_trans l1 l2)) _, l3, if_pos rfl⟩
    · rw [if_neg hlonger] at hr
      subst hr
      exact ⟨e03.set (Nat.le_of_lt l1) _, Nat.lt_trans l2 l3, if_pos rfl⟩
  · rw [if_neg hboth] at hr
    split <;> rename_i hother
    · rw [if_pos hother] at hr
      split at hr <;> subst hr
      · exact ⟨e1.trans e4, l4, v4⟩
      · exact ⟨e1, Nat.lt_of_lt_of_le ho e1.1, e1.2 other ho⟩
    · rw [if_neg hother] at hr
      subst hr
      exact ⟨e1, l1, v1⟩

/-! ## the keyed accumulators -/

theorem upsert_append (add : P → P → P) (k : Key) (p : P) (pre tail : List (Key × P))
    (h : ∀ e ∈ pre, e.1 ≠ k) : upsert add k p (pre ++ tail) = pre ++ upsert add k p tail := by
  induction pre with
  | nil => rfl
  | cons e pre ih =>
    obtain ⟨k', q⟩ := e
    have hk : k' ≠ k := h (k', q) List.mem_cons_self
    simp only [List.cons_append, upsert, if_neg hk]
    rw [ih (fun e he => h e (List.mem_cons_of_mem _ he))]

private theorem not_mem_keys_of_nodup {k : Key} {ks : List Key} {pre : List (Key × P)}
    (hnd : (pre.map (·.1) ++ k :: ks).Nodup) : ∀ e ∈ pre, e.1 ≠ k := by
  intro e he hek
  have := List.nodup_append.mp hnd
  exact this.2.2 e.1 (List.mem_map_of_mem he) k (by simp) hek

theorem fold_fresh (key : MCol α → Key) (prof : MCol α → P) (add : P → P → P) (m : List (MCol α))
    (pre : List (Key × P)) (hnd : (pre.map (·.1) ++ m.map key).Nodup) :
    m.foldl (fun acc c => upsert add (key c) (prof c) acc) pre = pre ++ m.map (fun c => (key c, prof c)) := by
  induction m generalizing pre with
  | nil => simp
  | cons c m ih =>
    simp only [List.foldl_cons, List.map_cons] at hnd ⊢
    have hnew := upsert_append add (key c) (prof c) pre [] (not_mem_keys_of_nodup hnd)
    rw [List.append_nil] at hnew
    rw [hnew, upsert, ih (pre ++ [(key c, prof c)]) (by simpa using hnd)]
    simp

theorem fold_hit (key : MCol α → Key) (prof : MCol α → P) (add : P → P → P) (m : List (MCol α))
    (pre : List (Key × P)) (ps : List P) (hlen : ps.length = m.length)
    (hnd : (pre.map (·.1) ++ m.map key).Nodup) :
    m.foldl (fun acc c => upsert add (key c) (prof c) acc) (pre ++ List.zipWith Prod.mk (m.map key) ps)
      = pre ++ List.zipWith Prod.mk (m.map key) (List.zipWith add ps (m.map prof)) := by
  induction m generalizing pre ps with
  | nil => simp
  | cons c m ih =>
    match ps, hlen with
    | p :: ps, hlen =>
      simp only [List.foldl_cons, List.map_cons, List.zipWith_cons_cons] at hnd ⊢
      rw [upsert_append add (key c) (prof c) pre _ (not_mem_keys_of_nodup hnd), upsert, if_pos rfl]
      have := ih (pre ++ [(key c, add p (prof c))]) ps (by simpa using hlen) (by simpa using hnd)
      simpa using this

theorem morselStep_eq (kk : KeyKind) (skips : Bool) (prof : MCol α → P) (add : P → P → P) (m : List (MCol α))
    (acc : List (Key × P)) (hrows : ∀ c ∈ m, c.data ≠ []) :
    morselStep kk skips prof add acc m = m.foldl (fun acc c => upsert add (keyOf kk c) (prof c) acc) acc := by
  unfold morselStep
  induction m generalizing acc with
  | nil => rfl
  | cons c m ih =>
    have hc : c.data.isEmpty = false := by
      have := hrows c (by simp)
      cases hd : c.data with
      | nil => exact absurd hd this
      | cons _ _ => rfl
    simp only [List.foldl_cons, hc, Bool.and_false, Bool.false_eq_true, if_false]
    exact ih _ (fun c' hc' => hrows c' (List.mem_cons_of_mem _ hc'))

/-- Keyed by NAME: whatever the identities of the column objects of the morsels, the loop ends with one entry per
column, in column order, holding the column's morsel profiles added up in morsel order. -/
theorem fromDataframe_by_name (skips : Bool) (prof : MCol α → P) (add : P → P → P) (names : List String)
    (hn : names.Nodup) (m : List (MCol α)) (ms : List (List (MCol α)))
    (hshape : ∀ m' ∈ m :: ms, m'.map (·.name) = names)
    (hrows : ∀ m' ∈ m :: ms, ∀ c ∈ m', c.data ≠ []) :
    fromDataframe .name skips prof add (m :: ms)
      = List.zipWith Prod.mk (names.map Key.byName) (columnSums prof add m ms) := by
  have hnd : (names.map Key.byName).Nodup :=
    List.Pairwise.map Key.byName (fun a b hab h' => hab (Key.byName.inj h')) hn
  have hkeys : ∀ m' : List (MCol α), m'.map (·.name) = names → m'.map (keyOf .name) = names.map Key.byName := by
    intro m' hm'
    rw [← hm', List.map_map]
    rfl
  obtain ⟨hm, hms⟩ := List.forall_mem_cons.mp hshape
  obtain ⟨rm, rms⟩ := List.forall_mem_cons.mp hrows
  clear hshape hrows
  unfold fromDataframe columnSums
  -- the first morsel appends one entry per column
  rw [List.foldl_cons, morselStep_eq _ _ _ _ _ _ rm,
    fold_fresh (keyOf .name) prof add m [] (by simpa [hkeys m hm] using hnd), List.nil_append, ← List.zip_map', List.zip,
    hkeys m hm]
  have hlen : (m.map prof).length = names.length := by rw [← hm, List.length_map, List.length_map]
  generalize m.map prof = ps at hlen
  -- every later one adds to each of them
  induction ms generalizing ps with
  | nil => rfl
  | cons m' ms ih =>
    obtain ⟨hm', hms⟩ := List.forall_mem_cons.mp hms
    obtain ⟨rm', rms⟩ := List.forall_mem_cons.mp rms
    have hl' : m'.length = names.length := by rw [← hm', List.length_map]
    have hit := fold_hit (keyOf .name) prof add m' [] ps (hlen.trans hl'.symm) (by simpa [hkeys m' hm'] using hnd)
    rw [hkeys m' hm', List.nil_append, List.nil_append] at hit
    rw [List.foldl_cons, List.foldl_cons, morselStep_eq _ _ _ _ _ _ rm', hit]
    exact ih hms rms _ (by rw [List.length_zipWith, List.length_map, hlen, hl', Nat.min_self])

theorem columnSums_counts (rows : List (MCol α) → Nat) (n : Nat) (m : List (MCol α)) (ms : List (List (MCol α)))
    (hlen : ∀ m' ∈ m :: ms, m'.length = n)
    (hrows : ∀ m' ∈ m :: ms, ∀ c ∈ m', c.data.length = rows m') :
    columnSums (fun c : MCol α => c.data.length) (· + ·) m ms = List.replicate n (rows m + (ms.map rows).sum) := by
  have hmap : ∀ m' ∈ m :: ms, m'.map (fun c : MCol α => c.data.length) = List.replicate n (rows m') := by
    intro m' hm'
    rw [← hlen m' hm']
    exact List.eq_replicate_iff.mpr ⟨List.length_map _, fun b hb => by
      obtain ⟨c, hc, rfl⟩ := List.mem_map.mp hb
      exact hrows m' hm' c hc⟩
  obtain ⟨hm, hms⟩ := List.forall_mem_cons.mp hmap
  clear hmap hlen hrows
  unfold columnSums
  rw [hm]
  generalize rows m = a
  induction ms generalizing a with
  | nil => simp
  | cons m' ms ih =>
    obtain ⟨hm', hms⟩ := List.forall_mem_cons.mp hms
    rw [List.foldl_cons, hm', List.zipWith_replicate, Nat.min_self, ih hms, List.map_cons, List.sum_cons, Nat.add_assoc]

end Profile
