import OrsoVerif.Model.Display
/-! How a line of a table is laid out: pieces joined by a separator between a left and a right end.  The box table
measures its pieces by printed width, the Markdown table by length; both measures add up over `++`, and that is
all the layout needs. -/
namespace Display

theorem joinWith_closed {P : Str → Prop} (hnil : P []) (happ : ∀ {a b : Str}, P a → P b → P (a ++ b)) {sep : Str}
    (hs : P sep) {xs : List Str} (hx : ∀ x ∈ xs, P x) : P (joinWith sep xs) := by
  induction xs with
  | nil => exact hnil
  | cons x rest ih =>
    cases rest with
    | nil => exact hx x List.mem_cons_self
    | cons y rest =>
      exact happ (happ (hx x List.mem_cons_self) hs) (ih fun z hz => hx z (List.mem_cons_of_mem _ hz))

structure Measure (M : Str → Nat → Prop) : Prop where
  nil : M [] 0
  append : ∀ {a b : Str} {m n : Nat}, M a m → M b n → M (a ++ b) (m + n)

theorem length_measure : Measure fun s n => s.length = n :=
  ⟨rfl, fun ha hb => by rw [List.length_append, ha, hb]⟩

inductive Cols (M : Str → Nat → Prop) : List Str → List Nat → Prop where
  | nil : Cols M [] []
  | cons {x : Str} {w : Nat} {xs : List Str} {ws : List Nat} : M x w → Cols M xs ws → Cols M (x :: xs) (w :: ws)

variable {M : Str → Nat → Prop}

theorem Cols.map (g : Nat → Str) (h : ∀ w, M (g w) w) (ws : List Nat) : Cols M (ws.map g) ws := by
  induction ws with
  | nil => exact .nil
  | cons w ws ih => exact .cons (h w) ih

theorem Cols.zipWithTrunc {β : Type} (f : β → Nat → Str) (bs : List β) (ws : List Nat)
    (h : ∀ b ∈ bs, ∀ w ∈ ws, M (f b w) w) (hlen : bs.length = ws.length) : Cols M (zipWithTrunc f bs ws) ws := by
  induction bs generalizing ws with
  | nil => cases ws with
    | nil => exact .nil
    | cons _ _ => cases hlen
  | cons b bs ih =>
    cases ws with
    | nil => cases hlen
    | cons w ws =>
      exact .cons (h b List.mem_cons_self w List.mem_cons_self)
        (ih ws (fun x hx v hv => h x (List.mem_cons_of_mem _ hx) v (List.mem_cons_of_mem _ hv)) (Nat.succ.inj hlen))

theorem Measure.join (hM : Measure M) {sep : Str} (hsep : M sep 3) {xs : List Str} {ws : List Nat} (h : Cols M xs ws) :
    M (joinWith sep xs) (totalW ws + 3 * (ws.length - 1)) := by
  induction h with
  | nil => exact hM.nil
  | @cons x w xs' ws' hx hrest ih =>
    cases hrest with
    | nil => exact Nat.add_zero w ▸ hx
    | @cons y v ys vs hy hys =>
      have e : w + 3 + (totalW (v :: vs) + 3 * vs.length) = w + totalW (v :: vs) + 3 * (vs.length + 1) := by omega
      exact e ▸ hM.append (hM.append hx hsep) ih

theorem Measure.row (hM : Measure M) {left sep right : Str} {a b : Nat} {xs : List Str} {ws : List Nat}
    (hl : M left a) (hs : M sep 3) (hr : M right b) (h : Cols M xs ws) :
    M (left ++ joinWith sep xs ++ right) (a + (totalW ws + 3 * (ws.length - 1)) + b) :=
  hM.append (hM.append hl (hM.join hs h)) hr

end Display
