/-! Facts about lists, `Except`, digits and numerals that mention nothing of the model, are used by several areas and are not in
core.  Core only, so that every `Lemmas/` and `Props/` module may import it. -/

namespace List
variable {α β : Type}

/-! ### `mapM` into `Option` -/

theorem mapM_eq_some_map {f : α → Option β} {g : α → β} (l : List α) (h : ∀ x ∈ l, f x = some (g x)) :
    l.mapM f = some (l.map g) := by
  induction l with
  | nil => rfl
  | cons x xs ih =>
    rw [mapM_cons, h x mem_cons_self, ih fun y hy => h y (mem_cons_of_mem _ hy)]
    rfl

theorem length_of_mapM_eq_some {f : α → Option β} {l : List α} {r : List β} (h : l.mapM f = some r) :
    r.length = l.length := by
  induction l generalizing r with
  | nil => cases h; rfl
  | cons a l ih =>
    rw [mapM_cons] at h
    obtain ⟨b, -, h⟩ := Option.bind_eq_some_iff.mp h
    obtain ⟨bs, hl, h⟩ := Option.bind_eq_some_iff.mp h
    cases h
    exact congrArg (· + 1) (ih hl)

/-! ### loops that append to an accumulator -/

/-- The shape of a translated `for x in l: acc.extend(f(x))`. -/
theorem foldl_eq_append_flatMap (f : α → List β) (step : List β → α → List β)
    (hstep : ∀ acc x, step acc x = acc ++ f x) (l : List α) (init : List β) :
    l.foldl step init = init ++ l.flatMap f := by
  induction l generalizing init with
  | nil => rw [foldl_nil, flatMap_nil, append_nil]
  | cons x xs ih => rw [foldl_cons, hstep, ih, flatMap_cons, append_assoc]

/-! ### the first index of an element -/

/-- A function with the two equations of a first-index search is core's `idxOf?`, whose lemmas then serve. -/
theorem eq_idxOf?_of_cons [DecidableEq α] (ix : List α → α → Option Nat) (hnil : ∀ a, ix [] a = none)
    (hcons : ∀ n ns a, ix (n :: ns) a = if n = a then some 0 else (ix ns a).map (· + 1)) (l : List α) (a : α) :
    ix l a = l.idxOf? a := by
  induction l with
  | nil => exact hnil a
  | cons n ns ih =>
    rw [hcons, ih, idxOf?_cons]
    exact ite_congr (propext beq_iff_eq.symm) (fun _ => rfl) (fun _ => rfl)

theorem idxOf?_eq_some_iff_getElem? [BEq α] [LawfulBEq α] {l : List α} {a : α} {i : Nat} :
    l.idxOf? a = some i ↔ l[i]? = some a ∧ ∀ j, j < i → l[j]? ≠ some a := by
  rw [idxOf?_eq_some_iff]
  constructor
  · rintro ⟨hi, ha, hj⟩
    exact ⟨getElem?_eq_some_iff.mpr ⟨hi, ha⟩, fun j hji e => hj j hji (getElem?_eq_some_iff.mp e).2⟩
  · rintro ⟨ha, hj⟩
    obtain ⟨hi, ha⟩ := getElem?_eq_some_iff.mp ha
    exact ⟨hi, ha, fun j hji e => hj j hji (getElem?_eq_some_iff.mpr ⟨Nat.lt_trans hji hi, e⟩)⟩

/-! ### positions -/

theorem drop_min_length (l : List α) (n : Nat) : l.drop (min n l.length) = l.drop n :=
  drop_eq_drop_iff.mpr (by rw [Nat.min_assoc, Nat.min_self])

theorem getElem?_append_of_eq_some {l : List α} {i : Nat} {x : α} (l₂ : List α) (h : l[i]? = some x) :
    (l ++ l₂)[i]? = some x :=
  (getElem?_append_left (getElem?_eq_some_iff.mp h).1).trans h

end List

/-- Core has no `DecidableEq (Except ε α)`; `decide` on tables and test vectors that compare results needs one. -/
instance Except.instDecidableEq {ε α : Type} [DecidableEq ε] [DecidableEq α] : DecidableEq (Except ε α) := fun a b =>
  match a, b with
  | .ok x, .ok y => if h : x = y then isTrue (by rw [h]) else isFalse (by intro h'; cases h'; exact h rfl)
  | .error x, .error y => if h : x = y then isTrue (by rw [h]) else isFalse (by intro h'; cases h'; exact h rfl)
  | .ok _, .error _ => isFalse (by intro h; cases h)
  | .error _, .ok _ => isFalse (by intro h; cases h)

theorem Except.bind_eq_ok {ε α β : Type} {x : Except ε α} {f : α → Except ε β} {b : β} (h : x.bind f = .ok b) :
    ∃ a, x = .ok a ∧ f a = .ok b := by
  cases x with
  | error e => cases h
  | ok a => exact ⟨a, rfl, h⟩

/-- core's `Char.isDigit_iff_toNat` with the bounds as numerals, as `omega` reads them -/
theorem Char.toNat_of_isDigit {c : Char} (h : c.isDigit = true) : 48 ≤ c.toNat ∧ c.toNat ≤ 57 :=
  Char.isDigit_iff_toNat.mp h

/-- a digit `k` below the base `b` does not carry: the bound on a numeral written most significant digit first -/
theorem Nat.mul_add_lt_mul_of_lt {x y k b : Nat} (hxy : x < y) (hk : k < b) : x * b + k < y * b :=
  calc x * b + k < x * b + b := Nat.add_lt_add_left hk _
    _ = (x + 1) * b := (Nat.succ_mul x b).symm
    _ ≤ y * b := Nat.mul_le_mul_right b hxy
