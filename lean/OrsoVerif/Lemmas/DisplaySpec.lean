import OrsoVerif.Model.Display
/-! The fields of the reference arithmetic `specArith`, one equation each; and the cast lemma of the two label shifts. -/
namespace Display

@[simp] theorem spec_headTail (n l : Nat) : (specArith.headTail n l = true) = (2 * l + 1 ≤ n) := decide_eq_true_eq
@[simp] theorem spec_lazyLenInit : specArith.lazyLenInit = 0 := rfl
@[simp] theorem spec_lazyLenUpd (ll h : Nat) : specArith.lazyLenUpd ll h = ll + (h + 1) := rfl
@[simp] theorem spec_lazyHeadOnly (t : Nat) : specArith.lazyHeadOnly t = t := rfl
@[simp] theorem spec_idxLazy (ll : Nat) : specArith.idxLazy ll = (natStr (ll + 1)).length + 2 := rfl
@[simp] theorem spec_idxEager (n : Nat) : specArith.idxEager n = (natStr n).length + 2 := rfl
@[simp] theorem spec_colWidth (a b c m : Nat) : specArith.colWidth a b c m = min (max (max a b) c) m := rfl
@[simp] theorem spec_lazyHeadOnlyTake (l : Nat) : specArith.lazyHeadOnlyTake l = l := rfl
@[simp] theorem spec_lazyHeadTake (l : Nat) : specArith.lazyHeadTake l = l := rfl
@[simp] theorem spec_dequeMax (l : Nat) : specArith.dequeMax l = l := rfl
@[simp] theorem spec_eagerHeadSize (l : Nat) : specArith.eagerHeadSize l = l := rfl
@[simp] theorem spec_eagerTailSize (l : Nat) : specArith.eagerTailSize l = l := rfl
@[simp] theorem spec_eagerSliceLen (l : Nat) : specArith.eagerSliceLen l = l := rfl
@[simp] theorem spec_measure (t l : Nat) : specArith.measure t l = t := rfl
@[simp] theorem measuredRows_spec (p : Params) (f : Frame) :
    measuredRows specArith p f = cutRows specArith f.rows p.limit p.tt p.lazy := by
  simp [measuredRows]
@[simp] theorem spec_eagerSplit (n l : Nat) : (specArith.eagerSplit n l = true) = (2 * l < n) := decide_eq_true_eq
@[simp] theorem spec_eagerAtEll (i l : Nat) : (specArith.eagerAtEll i l = true) = (i = l) := decide_eq_true_eq
@[simp] theorem spec_eagerInTail (i l : Nat) : (specArith.eagerInTail i l = true) = (l ≤ i) := decide_eq_true_eq
@[simp] theorem spec_eagerShift (i n t l : Nat) : specArith.eagerShift i n t l = i + n - 2 * l := rfl
@[simp] theorem spec_eagerLabel (i : Nat) : specArith.eagerLabel i = i + 1 := rfl
@[simp] theorem spec_labelPad (iw : Nat) : specArith.labelPad iw = iw - 1 := rfl
@[simp] theorem spec_lazyOffset0 : specArith.lazyOffset0 = 1 := rfl
@[simp] theorem spec_lazyEll (i l ll : Nat) : (specArith.lazyEll i l ll = true) = (i = l ∧ 2 * l < ll) :=
  decide_eq_true_eq
@[simp] theorem spec_lazyOffsetUpd (o ll l : Nat) : specArith.lazyOffsetUpd o ll l = o + ll - 2 * l := rfl
@[simp] theorem spec_lazyLabel (i o : Nat) : specArith.lazyLabel i o = i + o := rfl
@[simp] theorem spec_truncStop (o w : Nat) : (specArith.truncStop o w = true) = (w ≤ o) := decide_eq_true_eq
@[simp] theorem spec_truncPad (w o : Nat) : specArith.truncPad w o = w - o := rfl
@[simp] theorem spec_truncNl (o : Nat) : specArith.truncNl o = o + 1 := rfl
@[simp] theorem spec_mdIdx (n : Nat) : specArith.mdIdx n = (natStr n).length := rfl
@[simp] theorem spec_mdColWidth (a b m : Nat) : specArith.mdColWidth a b m = min (max a b) m := rfl
@[simp] theorem spec_mdHeadPad (iw : Nat) : specArith.mdHeadPad iw = iw - 2 := rfl
@[simp] theorem spec_mdSepLen (iw : Nat) : specArith.mdSepLen iw = iw := rfl
@[simp] theorem spec_mdLabel (i : Nat) : specArith.mdLabel i = i + 1 := rfl
@[simp] theorem spec_mdLabelPad (iw : Nat) : specArith.mdLabelPad iw = iw - 1 := rfl
@[simp] theorem spec_mdFloor : specArith.mdFloor = 4 := rfl
@[simp] theorem spec_hourDiv : specArith.hourDiv = 3600 := rfl
@[simp] theorem spec_minuteDiv : specArith.minuteDiv = 60 := rfl
@[simp] theorem spec_monthDiv : specArith.monthDiv = 12 := rfl

theorem spec_truncStop' (o w : Nat) : specArith.truncStop o w = decide (w ≤ o) := rfl

/-- `a += b - 2*c` on Python ints, back on naturals (the label shifts of the eager and lazy loops) -/
theorem toNat_add_sub_twice (a b c : Nat) : ((a : Int) + (b - 2 * c)).toNat = a + b - 2 * c := by omega
end Display
