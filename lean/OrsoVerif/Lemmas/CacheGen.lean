import OrsoVerif.Model.CacheGen
import OrsoVerif.Lemmas.CacheSeq
/-! Lemmas about the GENERATED wrappers (`Gen.CacheFns`) for an arbitrary `==`. -/
namespace Cache
open Gen.CacheFns

theorem leInf_eq_fresh (valid : Option Int) (now t : Int) : leInf (now - t) valid = fresh valid now t := by
  cases valid <;> rfl

theorem gtInf_eq_not_leInf (x : Int) (v : Option Int) : gtInf x v = !leInf x v := by
  cases v with
  | none => rfl
  | some v => simp only [gtInf, leInf]; by_cases h : x ≤ v <;> simp [h] <;> omega

theorem ltInf_eq_not_geInf (x : Int) (v : Option Int) : geInf x v = !ltInf x v := by
  cases v with
  | none => rfl
  | some v => simp only [geInf, ltInf]; by_cases h : x < v <;> simp [h] <;> omega

theorem find?_filter_not {γ : Type} (p : γ → Bool) (l : List γ) : (l.filter (fun e => !p e)).find? p = none := by
  rw [List.find?_eq_none]
  intro e he
  simpa using (List.mem_filter.mp he).2

section Single
variable {α β : Type} [BEq α] [BEq β]

/-- the single entry, when it holds arguments, holds a result the wrapped function produced for exactly
those arguments at the stored time -/
def GSInv (c : Option α × Option β × Option Nat × Int) (w : FnWorld (α × β)) : Prop :=
  ∀ a b, c.1 = some a → c.2.1 = some b → ∃ i, c.2.2.1 = some i ∧ w.log[i]? = some ((a, b), c.2.2.2)

/-- what a call must deliver: a value the function produced for the same arguments, not too long ago -/
def GOk (valid : Option Int) (log : List ((α × β) × Int)) (k : α × β) (now : Int) (ret : Option Nat) : Prop :=
  ∃ i stored tm, ret = some i ∧ log[i]? = some (stored, tm) ∧ sameArgs stored k ∧ leInf (now - tm) valid = true

theorem sameArgs_fst [LawfulBEq α] {stored k : α × β} (h : sameArgs stored k) : stored.1 = k.1 :=
  h.elim (congrArg Prod.fst) fun h => eq_of_beq h.1

theorem GOk.mono {valid : Option Int} {log log' : List ((α × β) × Int)} {k : α × β} {now : Int} {ret : Option Nat}
    (hl : log <+: log') (h : GOk valid log k now ret) : GOk valid log' k now ret := by
  obtain ⟨i, st, tm, h1, h2, h3, h4⟩ := h
  obtain ⟨l, rfl⟩ := hl
  exact ⟨i, st, tm, h1, List.getElem?_append_of_eq_some l h2, h3, h4⟩

theorem GOk.miss (valid : Option Int) (hv : ∀ v, valid = some v → 0 ≤ v) (log : List ((α × β) × Int)) (k : α × β)
    (now : Int) : GOk valid (log ++ [(k, now)]) k now (some log.length) :=
  ⟨log.length, k, now, rfl, List.getElem?_concat_length, Or.inl rfl, (leInf_eq_fresh valid now now).trans (fresh_self valid hv now)⟩

/-- the simp set that decides the wrapper's tests once the three atomic facts are known, whichever way the source
writes them (`==` / `!=`, `<=` / `>`, `and` / `or` / `not`, hit branch first or miss branch first) -/
macro "decide_tests" h1:ident h2:ident h3:ident : tactic =>
  `(tactic| simp only [$h1:ident, $h2:ident, $h3:ident, bne, gtInf_eq_not_leInf, Bool.not_true, Bool.not_false, Bool.false_eq_true,
      false_and, and_false, and_self, true_and, and_true, or_self, or_true, true_or, false_or, or_false, ↓reduceIte,
      not_true_eq_false, not_false_eq_true, Bool.true_eq_false])

/-- what one call of a generated wrapper guarantees of the triple `r` it returns, for the invariant `Inv` of its cache -/
def GStep {C : Type} (Inv : C → FnWorld (α × β) → Prop) (valid : Option Int) (k : α × β) (w : FnWorld (α × β))
    (r : Option Nat × C × FnWorld (α × β)) : Prop :=
  Inv r.2.1 r.2.2 ∧ w.log <+: r.2.2.log ∧ GOk valid r.2.2.log k w.now r.1

/-- `single_wrapper` in one equation: a hit when the three tests pass, whichever way the source writes them -/
theorem single_wrapper_cases (cost : α × β → Int) (valid : Option Int) (a : α) (b : β)
    (x : Option α) (y : Option β) (r : Option Nat) (t : Int) (w : FnWorld (α × β)) :
    single_wrapper cost valid a b (x, y, r, t) w =
      if (x == some a) = true ∧ (y == some b) = true ∧ leInf (w.now - t) valid = true then (r, (x, y, r, t), w)
      else (some w.log.length, (some a, some b, some w.log.length, w.now),
        { now := w.now + cost (a, b), log := w.log ++ [((a, b), w.now)] }) := by
  unfold single_wrapper
  simp only [FnWorld.time, FnWorld.call]
  rcases Bool.eq_false_or_eq_true (x == some a) with hx | hx <;>
  rcases Bool.eq_false_or_eq_true (y == some b) with hy | hy <;>
  rcases Bool.eq_false_or_eq_true (leInf (w.now - t) valid) with ht | ht <;>
    decide_tests hx hy ht

theorem single_wrapper_step (cost : α × β → Int) (valid : Option Int) (hv : ∀ v, valid = some v → 0 ≤ v)
    (a : α) (b : β) (c : Option α × Option β × Option Nat × Int) (w : FnWorld (α × β)) (h : GSInv c w) :
    GStep GSInv valid (a, b) w (single_wrapper cost valid a b c w) := by
  obtain ⟨x, y, r, t⟩ := c
  rw [single_wrapper_cases]
  split
  · rename_i hc
    obtain ⟨hx, hy, ht⟩ := hc
    refine ⟨h, List.prefix_rfl, ?_⟩
    cases x with
    | none => cases hx
    | some a' =>
      cases y with
      | none => cases hy
      | some b' =>
        obtain ⟨i, hi, hl⟩ := h a' b' rfl rfl
        exact ⟨i, (a', b'), t, hi, hl, Or.inr ⟨by simpa using hx, by simpa using hy⟩, ht⟩
  · refine ⟨?_, List.prefix_append _ _, GOk.miss valid hv w.log (a, b) w.now⟩
    intro a2 b2 ha hb
    cases ha; cases hb
    exact ⟨w.log.length, rfl, List.getElem?_concat_length⟩

theorem gSingleRun_ok (cost : α × β → Int) (valid : Option Int) (hv : ∀ v, valid = some v → 0 ≤ v)
    (ops : List (Op (α × β))) : ∀ (c : Option α × Option β × Option Nat × Int) (w : FnWorld (α × β)), GSInv c w →
    w.log <+: (gSingleRun cost valid c w ops).1.2.log ∧
    ∀ e ∈ (gSingleRun cost valid c w ops).2, GOk valid (gSingleRun cost valid c w ops).1.2.log e.key e.now e.ret := by
  induction ops with
  | nil => intro c w _; exact ⟨List.prefix_rfl, nofun⟩
  | cons op ops ih =>
    intro c w h
    cases op with
    | advance d => exact ih c { w with now := w.now + d } h
    | call k =>
      obtain ⟨h1, hl1, hok⟩ := single_wrapper_step cost valid hv k.1 k.2 c w h
      obtain ⟨hl2, hrest⟩ := ih _ _ h1
      refine ⟨hl1.trans hl2, fun e he => ?_⟩
      rcases List.mem_cons.mp he with rfl | he
      · exact hok.mono hl2
      · exact hrest e he

omit [BEq α] [BEq β] in
theorem GSInv_init (w : FnWorld (α × β)) : GSInv (single_init : Option α × Option β × Option Nat × Int) w :=
  fun _ _ ha => nomatch ha

end Single

section Lru
variable {α β : Type} [BEq α] [BEq β] [Hashable α] [Hashable β]

/-- every stored entry holds a result the wrapped function produced for exactly the stored key at the stored time -/
def GLInv (c : PyOD (α × β) (Int × Nat)) (w : FnWorld (α × β)) : Prop :=
  ∀ e ∈ c, w.log[e.2.2]? = some (e.1, e.2.1)

theorem foldl_delitem (ks : List (α × β)) (c : PyOD (α × β) (Int × Nat)) :
    ks.foldl (fun c k => PyOD.delitem c k) c = c.filter (fun e => ks.all (fun k => !PyOD.keyMatch e.1 k)) :=
  foldl_filter _ ks c

theorem keyMatch_beq {k1 k2 : α × β} (h : PyOD.keyMatch k1 k2 = true) : (k1.1 == k2.1) = true ∧ (k1.2 == k2.2) = true := by
  rw [PyOD.keyMatch, Bool.and_eq_true] at h
  have h2 : (k1.1 == k2.1 && k1.2 == k2.2) = true := h.2
  exact (Bool.and_eq_true _ _).mp h2

theorem keyMatch_self [ReflBEq α] [ReflBEq β] (k : α × β) : PyOD.keyMatch k k = true := by
  simp [PyOD.keyMatch]

/-- the expiry sweep of the generated wrapper, with the tuple patterns spelled as projections -/
def gExpired (valid : Option Int) (now : Int) (c : PyOD (α × β) (Int × Nat)) : List (α × β) :=
  (c.filter (fun x => gtInf (now - x.2.1) valid)).map (·.1)

omit [BEq α] [BEq β] [Hashable α] [Hashable β] in
theorem gExpired_eq (valid : Option Int) (now : Int) (c : PyOD (α × β) (Int × Nat)) :
    ((PyOD.items c).filter (fun (x : (α × β) × Int × Nat) => match x with | (_, (timestamp, _)) => gtInf (now - timestamp) valid)).map
      (fun (x : (α × β) × Int × Nat) => match x with | (k, (_, _)) => k) = gExpired valid now c := by
  rfl

/-- with a reflexive `==` (Python: the identity shortcut of dict lookups) an entry is deleted under its own key, so
everything that survives the sweep is fresh -/
theorem swept_fresh [ReflBEq α] [ReflBEq β] (valid : Option Int) (now : Int) (c : PyOD (α × β) (Int × Nat))
    (e : (α × β) × Int × Nat) (he : e ∈ (gExpired valid now c).foldl (fun c k => PyOD.delitem c k) c) :
    e ∈ c ∧ leInf (now - e.2.1) valid = true := by
  have hx := mem_sweepBy (ε := (α × β) × Int × Nat) Prod.fst (fun e k => !PyOD.keyMatch e.1 k)
    (fun e => congrArg (!·) (keyMatch_self e.1)) (fun e => gtInf (now - e.2.1) valid) c (e := e) he
  rw [gtInf_eq_not_leInf] at hx
  exact ⟨hx.1, Bool.not_inj (y := true) hx.2⟩

theorem contains_eq_find (c : PyOD (α × β) (Int × Nat)) (k : α × β) :
    PyOD.contains c k = (c.find? (fun e => PyOD.keyMatch e.1 k)).isSome := by
  rw [Bool.eq_iff_iff, List.find?_isSome]
  exact List.any_eq_true

set_option linter.unusedSimpArgs false in
/-- `lru_wrapper` in one equation over the swept dictionary `c1`: when an entry `e` matches the key it goes to the end
and its result is returned (`key in cache`, `move_to_end` and `cache[key]` all find the same first match); otherwise
call, append, and drop the oldest entry when `max_size` is exceeded.  The lookup and the size test are decided first, so
the proof does not depend on which branch the source writes first. -/
theorem lru_wrapper_cases (cost : α × β → Int) (maxSize : Nat) (valid : Option Int) (a : α) (b : β)
    (c : PyOD (α × β) (Int × Nat)) (w : FnWorld (α × β)) {c1 : PyOD (α × β) (Int × Nat)}
    (hc1 : (gExpired valid w.now c).foldl (fun c k => PyOD.delitem c k) c = c1) :
    lru_wrapper cost maxSize valid a b c w =
      match c1.find? (fun e => PyOD.keyMatch e.1 (a, b)) with
      | some e => (some e.2.2, c1.filter (fun e' => !PyOD.keyMatch e'.1 (a, b)) ++ [e], w)
      | none =>
        (some w.log.length,
          if (c1 ++ [((a, b), (w.now, w.log.length))]).length > maxSize then (c1 ++ [((a, b), (w.now, w.log.length))]).tail
          else c1 ++ [((a, b), (w.now, w.log.length))],
          { now := w.now + cost (a, b), log := w.log ++ [((a, b), w.now)] }) := by
  unfold lru_wrapper
  simp only [FnWorld.time, FnWorld.call, gExpired_eq, hc1, contains_eq_find]
  cases hfind : c1.find? (fun e => PyOD.keyMatch e.1 (a, b)) with
  | some e =>
    have hm : PyOD.keyMatch e.1 (a, b) = true := by simpa using List.find?_some hfind
    -- `Bool.not_true` here and `Bool.not_false` below are for a source that tests `key not in cache` first
    simp only [Option.isSome_some, Bool.not_true, Bool.false_eq_true, ↓reduceIte, PyOD.move_to_end, hfind, PyOD.getitem,
      List.find?_append, find?_filter_not (fun e => PyOD.keyMatch e.1 (a, b)) c1, List.find?, hm, Option.none_or,
      Option.map_some]
  | none =>
    have hset : PyOD.setitem c1 (a, b) (w.now, w.log.length) = c1 ++ [((a, b), (w.now, w.log.length))] := by
      simp only [PyOD.setitem, contains_eq_find, hfind]; rfl
    simp only [Option.isSome_none, Bool.not_false, Bool.false_eq_true, ↓reduceIte, hset, PyOD.len, PyOD.popitem]
    by_cases hlen : (c1 ++ [((a, b), (w.now, w.log.length))]).length > maxSize <;> simp only [hlen, ↓reduceIte]

theorem lru_wrapper_step [ReflBEq α] [ReflBEq β] (cost : α × β → Int) (maxSize : Nat) (valid : Option Int)
    (hv : ∀ v, valid = some v → 0 ≤ v) (a : α) (b : β) (c : PyOD (α × β) (Int × Nat)) (w : FnWorld (α × β))
    (h : GLInv c w) : GStep GLInv valid (a, b) w (lru_wrapper cost maxSize valid a b c w) := by
  generalize hc1 : (gExpired valid w.now c).foldl (fun c k => PyOD.delitem c k) c = c1
  have hsw : ∀ e ∈ c1, e ∈ c ∧ leInf (w.now - e.2.1) valid = true := fun e he => swept_fresh valid w.now c e (hc1 ▸ he)
  rw [lru_wrapper_cases cost maxSize valid a b c w hc1]
  split
  · rename_i e hfind
    have hmem := List.mem_of_find?_eq_some hfind
    refine ⟨fun e' he' => ?_, List.prefix_rfl,
      e.2.2, e.1, e.2.1, rfl, h e (hsw e hmem).1, Or.inr (keyMatch_beq (by simpa using List.find?_some hfind)), (hsw e hmem).2⟩
    rcases List.mem_append.mp he' with he' | he'
    · exact h e' (hsw e' (List.mem_filter.mp he').1).1
    · rw [List.mem_singleton.mp he']; exact h e (hsw e hmem).1
  · have hinv : GLInv (c1 ++ [((a, b), (w.now, w.log.length))]) { now := w.now + cost (a, b), log := w.log ++ [((a, b), w.now)] } := by
      intro e he
      rcases List.mem_append.mp he with he | he
      · exact List.getElem?_append_of_eq_some _ (h e (hsw e he).1)
      · rw [List.mem_singleton.mp he]; exact List.getElem?_concat_length
    refine ⟨?_, List.prefix_append _ _, GOk.miss valid hv w.log (a, b) w.now⟩
    show GLInv (if _ then _ else _) _
    split
    · exact fun e he => hinv e (List.mem_of_mem_tail he)
    · exact hinv

theorem gLruRun_ok [ReflBEq α] [ReflBEq β] (cost : α × β → Int) (maxSize : Nat) (valid : Option Int)
    (hv : ∀ v, valid = some v → 0 ≤ v) (ops : List (Op (α × β))) :
    ∀ (c : PyOD (α × β) (Int × Nat)) (w : FnWorld (α × β)), GLInv c w →
    w.log <+: (gLruRun cost maxSize valid c w ops).1.2.log ∧
    ∀ e ∈ (gLruRun cost maxSize valid c w ops).2, GOk valid (gLruRun cost maxSize valid c w ops).1.2.log e.key e.now e.ret := by
  induction ops with
  | nil => intro c w _; exact ⟨List.prefix_rfl, nofun⟩
  | cons op ops ih =>
    intro c w h
    cases op with
    | advance d => exact ih c { w with now := w.now + d } h
    | call k =>
      obtain ⟨h1, hl1, hok⟩ := lru_wrapper_step cost maxSize valid hv k.1 k.2 c w h
      obtain ⟨hl2, hrest⟩ := ih _ _ h1
      refine ⟨hl1.trans hl2, fun e he => ?_⟩
      rcases List.mem_cons.mp he with rfl | he
      · exact hok.mono hl2
      · exact hrest e he

/-- the size step of `C19.generated_lru_size_bounded` on a hit -/
theorem len_move_to_end_le (c : PyOD (α × β) (Int × Nat)) (k : α × β) :
    PyOD.len (PyOD.move_to_end c k) ≤ PyOD.len c := by
  unfold PyOD.move_to_end PyOD.len
  split
  · rename_i e he
    have : (c.filter (fun e' => !PyOD.keyMatch e'.1 k)).length < c.length :=
      List.length_filter_lt_length_iff_exists.mpr
        ⟨e, List.mem_of_find?_eq_some he, by simpa using List.find?_some he⟩
    simp only [List.length_append, List.length_cons, List.length_nil]
    omega
  · exact Nat.le_refl _

end Lru
end Cache
