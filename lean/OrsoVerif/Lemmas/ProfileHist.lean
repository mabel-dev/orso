import OrsoVerif.Model.Profile
import OrsoVerif.Lemmas.ProfileEst
import OrsoVerif.Lemmas.HistObj
/-!
# Lemmas for C14: the histogram of a freshly built (one-batch) numeric profile

`NumericProfiler` keeps `[(left_edge, count) for count, left_edge in zip(hist_counts, bin_edges[:-1]) if count > 0]` of
`numpy.histogram(column_data, bins=DISTOGRAM_BIN_COUNT)`: `profileHist`, reasoned about as `keptBins` under `LeftEdgesKept`.
numpy itself is a parameter with the contract `NumpyHist`.  Under it the base case of `Reach … ProfOK` is a theorem
(`profileHist_facts`) and the first bin sits **at the minimum**: a one-batch profile has no left tail, nor has a sum that
does not trim (`PHeadMin`, `addRef_headMin`).
-/
namespace Distogram

variable {K : Type} [Field K]

/-- The profile's `histogram` over the field of the estimator theorems. -/
def profileHist (counts : List Nat) (edges : List K) : List (K × K) :=
  (Profile.histogramOf counts edges).map (fun p => (p.1, (p.2 : K)))

def keptBins (counts : List Nat) (es : List K) : List (K × K) :=
  ((counts.zip es).filter (fun p => decide (0 < p.1))).map (fun p => (p.2, (p.1 : K)))

/-- What the base-case theorems need of the comprehension in the source: every count is paired with the **left** edge of its
bin (`bin_edges[:-1]`), the pair is `(edge, count)`, and exactly the empty bins are dropped (`count > 0`).
`C14.comprehension_keeps_left_edges` (Props/C14.lean) establishes it from the generated `Gen.ProfileExpr.hist*`. -/
def LeftEdgesKept (K : Type) [Field K] : Prop :=
  ∀ (counts : List Nat) (edges : List K), profileHist counts edges = keptBins counts (edges.take (edges.length - 1))

theorem keptBins_nil_left (es : List K) : keptBins [] es = [] := by simp [keptBins]
theorem keptBins_nil_right (cs : List Nat) : keptBins cs ([] : List K) = [] := by simp [keptBins]

theorem keptBins_cons (c : Nat) (cs : List Nat) (e : K) (es : List K) :
    keptBins (c :: cs) (e :: es) = if 0 < c then (e, (c : K)) :: keptBins cs es else keptBins cs es := by
  unfold keptBins
  by_cases h : 0 < c
  · simp [List.zip_cons_cons, h]
  · simp [List.zip_cons_cons, h]

theorem keptBins_length (cs : List Nat) (es : List K) : (keptBins cs es).length ≤ cs.length := by
  unfold keptBins
  rw [List.length_map]
  exact (List.length_filter_le _ _).trans (by rw [List.length_zip]; exact Nat.min_le_left _ _)

theorem keptBins_mass : ∀ (cs : List Nat) (es : List K), cs.length ≤ es.length → mass (keptBins cs es) = (cs.sum : K)
  | [], es, _ => by rw [keptBins_nil_left]; simp [mass]
  | c :: cs, [], h => by simp at h
  | c :: cs, e :: es, h => by
    rw [keptBins_cons]
    have ih := keptBins_mass cs es (by simpa using h)
    by_cases hc : 0 < c
    · rw [if_pos hc]
      simp only [mass, List.map_cons, List.sum_cons, Nat.cast_add] at ih ⊢
      rw [ih]
    · rw [if_neg hc]
      have : c = 0 := by omega
      subst this
      simp only [List.sum_cons, zero_add]
      exact ih

variable [LinearOrder K]

/-- The contract of `numpy.histogram(values, bins=k)` on a non-empty batch of numbers (a parameter of the check). -/
structure NumpyHist (counts : List Nat) (edges : List K) (lo hi : K) (n : Nat) : Prop where
  len : edges.length = counts.length + 1
  inc : edges.Pairwise (· < ·)
  first : edges.head? = some lo
  last : edges.getLast? = some hi
  total : counts.sum = n
  firstBin : ∃ c rest, counts = c :: rest ∧ 0 < c
  asked : counts.length ≤ Gen.Profile.binCount

/-- The kept edges are a sublist of the edges. -/
theorem keptBins_inc (cs : List Nat) (es : List K) (h : es.Pairwise (· < ·)) : Inc (keptBins cs es) := by
  have hz : ((cs.zip es).map Prod.snd).Sublist es := by
    rw [List.zip_eq_zip_take_min, List.map_snd_zip (by simp)]
    exact List.take_sublist _ _
  exact List.pairwise_map.mpr ((List.pairwise_map.mp (h.sublist hz)).filter _)

theorem keptBins_mem [IsStrictOrderedRing K] (cs : List Nat) (es : List K) (b : K × K) (h : b ∈ keptBins cs es) :
    b.1 ∈ es ∧ 0 < b.2 := by
  obtain ⟨p, hp, rfl⟩ := List.mem_map.mp h
  obtain ⟨hz, hpos⟩ := List.mem_filter.mp hp
  exact ⟨(List.of_mem_zip hz).2, Nat.cast_pos.mpr (of_decide_eq_true hpos)⟩

theorem profileHist_facts [IsStrictOrderedRing K] (hk : LeftEdgesKept K) {counts : List Nat} {edges : List K}
    {lo hi : K} {n : Nat} (h : NumpyHist counts edges lo hi n) (hcap : Gen.Profile.binCount ≤ Gen.Distogram.binCount) :
    Inc (profileHist counts edges) ∧ Pos (profileHist counts edges) ∧
    (profileHist counts edges).length ≤ Gen.Distogram.binCount ∧
    mass (profileHist counts edges) = (n : K) ∧ Within lo hi (profileHist counts edges) ∧
    ∃ f0 rest, profileHist counts edges = (lo, f0) :: rest := by
  obtain ⟨et, rfl⟩ := List.head?_eq_some_iff.mp h.first
  obtain ⟨c, rest, rfl, hpos⟩ := h.firstBin
  have hlen : et.length = rest.length + 1 := Nat.succ.inj h.len
  have hsub : ((lo :: et).take ((lo :: et).length - 1)).Sublist (lo :: et) := List.take_sublist _ _
  rw [hk]
  refine ⟨keptBins_inc _ _ (h.inc.sublist hsub), fun b hb => (keptBins_mem _ _ b hb).2,
    (keptBins_length _ _).trans (h.asked.trans hcap), ?_, fun b hb => ?_, ?_⟩
  · rw [keptBins_mass _ _ (by rw [List.length_take, h.len]; simp), h.total]
  · have hm := hsub.subset (keptBins_mem _ _ b hb).1
    exact ⟨pairwise_head_le id h.inc _ hm, pairwise_le_last id _ hi h.inc h.last _ hm⟩
  · -- `bin_edges[:-1]` still starts with the first edge, and the first count is kept
    rw [List.length_cons, Nat.add_sub_cancel, hlen, List.take_succ_cons, keptBins_cons, if_pos hpos]
    exact ⟨_, _, rfl⟩

/-- The first bin of the profile's histogram is at its `minimum`; a profile without a histogram reports no minimum
(an all-null batch, the placeholder of a table sum). -/
def PHeadMin (p : EProf K) : Prop :=
  match p.hist.head? with
  | none => p.minimum = none
  | some b => p.minimum = some b.1

theorem pHeadMin_iff {F : Type} (p : EProf F) : PHeadMin p ↔ p.minimum = p.hist.head?.map (·.1) := by
  unfold PHeadMin
  cases p.hist.head? <;> exact Iff.rfl

theorem pHeadMin_leftTailOK {p : EProf K} (hm : PHeadMin p) {lo : K} (hlo : p.minimum = some lo) :
    LeftTailOK p.hist lo :=
  headMin_leftTailOK (s := ⟨p.hist, p.minimum, p.maximum, 0⟩) ((pHeadMin_iff p).mp hm) hlo

variable [IsStrictOrderedRing K]

theorem mergeRef_min_of_le : ∀ (bs : List (K × K)) (s : RState K) (y : K), s.min = some y → (∀ b ∈ bs, y ≤ b.1) →
    (mergeRef s bs).min = some y
  | [], s, y, h, _ => by rw [mergeRef_nil]; exact h
  | b :: bs, s, y, h, hb => by
    rw [mergeRef_cons]
    refine mergeRef_min_of_le bs _ y ?_ (fun x hx => hb x (by simp [hx]))
    rw [updateRef_min, h]
    have : ¬ b.1 < y := not_lt.mpr (hb b (by simp))
    simp [minO, this]

/-- The smaller of two bounds as `minO`, `optMin` and Python's `min` spell it. -/
theorem ite_lt_eq_min {α : Type} [LinearOrder α] (x y : α) : (if y < x then y else x) = min x y := by
  by_cases c : y < x
  · rw [if_pos c, min_eq_right c.le]
  · rw [if_neg c, min_eq_left (not_lt.mp c)]

theorem mergeRef_min_inc (s : RState K) (x : K) (hs : s.min = some x) (v0 f0 : K) (rest : List (K × K))
    (hinc : Inc ((v0, f0) :: rest)) :
    (mergeRef s ((v0, f0) :: rest)).min = some (min x v0) := by
  rw [mergeRef_cons]
  refine mergeRef_min_of_le rest _ _ (by rw [updateRef_min, hs, ← ite_lt_eq_min]; rfl) fun b hb => ?_
  exact (min_le_right x v0).trans ((List.pairwise_cons.mp hinc).1 b hb).le

theorem refMerge_head {sb ob : List (K × K)} {sl sh : K} {v0 f0 : K} {rest : List (K × K)}
    (hs : HeadMin ⟨sb, some sl, some sh, Gen.Distogram.binCount⟩) (hob : ob = (v0, f0) :: rest) (hinc : Inc ob)
    (hfit : sb.length + ob.length ≤ Gen.Distogram.binCount) :
    (mergeRef ⟨sb, some sl, some sh, Gen.Distogram.binCount⟩ ob).bins.head?.map (·.1) = some (min sl v0) := by
  rw [← mergeRef_headMin ob _ hs (fitsFrom_of_length ob _ hfit)]
  subst hob
  exact mergeRef_min_inc _ sl rfl v0 f0 rest hinc

theorem addRef_headMin (hl : LoadGiven) {drop : Bool} {a b c : EProf K} (ha : ProfOK a) (hb : ProfOK b)
    (pa : PHeadMin a) (pb : PHeadMin b) (hfit : a.hist.length + b.hist.length ≤ Gen.Distogram.binCount)
    (h : EProf.addWith drop refMerge a b = .ok c) : PHeadMin c := by
  obtain ⟨hh, hm, rfl⟩ := addWith_ok h
  rw [pHeadMin_iff] at pa pb ⊢
  simp only
  rcases mergedHist_cases hl hm with ⟨e, rfl⟩ | ⟨e, rfl⟩ | ⟨hna, hnb, hm⟩
  · rw [pa, e]
    exact pb
  · rw [pb, e]
    exact (optMin_none_right _).trans pa
  · obtain ⟨a0, at', hah⟩ := List.exists_cons_of_ne_nil hna
    obtain ⟨b0, bt, hbh⟩ := List.exists_cons_of_ne_nil hnb
    obtain ⟨_, ahi, _, hahi, _⟩ := ha.bounds hna
    obtain ⟨_, bhi, _, hbhi, _⟩ := hb.bounds hnb
    have sa : HeadMin ⟨a.hist, a.minimum, some ahi, Gen.Distogram.binCount⟩ := pa
    have sb : HeadMin ⟨b.hist, b.minimum, some bhi, Gen.Distogram.binCount⟩ := pb
    rw [hah, List.head?_cons, Option.map_some] at pa
    rw [hbh, List.head?_cons, Option.map_some] at pb
    rw [pa] at sa
    rw [pb] at sb
    rw [pa, pb, hahi, hbhi] at hm
    rw [pa, pb]
    rcases hm with rfl | rfl
    · rw [refMerge_head sb hah ha.inc (by omega), min_comm, ← ite_lt_eq_min]
      rfl
    · rw [refMerge_head sa hbh hb.inc hfit, ← ite_lt_eq_min]
      rfl

end Distogram
