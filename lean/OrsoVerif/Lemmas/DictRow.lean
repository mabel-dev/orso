import OrsoVerif.Model.DictRowCode
import OrsoVerif.Model.PyDict
import OrsoVerif.Model.DictIter
import OrsoVerif.Lemmas.Basics
/-!
Association lists keyed by text: `DictRow.lookup`, `insert`, `ofPairs`, `indexOf` and `get` against membership, key lists
and permutations; the loop of `extract_dict_columns` and the body of `DataFrame(dictionaries)` in closed form; a dictionary
with key objects (`PyDictM.lookupId`) finds its own items.
-/
namespace C02
open DictRow Gen.DictCode

variable {α : Type}

def keys (d : List (String × α)) : List String := d.map (·.1)

theorem lookup_append (k : String) (a b : List (String × α)) :
    lookup k (a ++ b) = (lookup k a).or (lookup k b) := by
  induction a with
  | nil => rfl
  | cons p rest ih => by_cases h : p.1 = k <;> simp [lookup, h, ih]

theorem lookup_eq_none_iff (k : String) (d : List (String × α)) : lookup k d = none ↔ k ∉ keys d := by
  induction d with
  | nil => exact iff_of_true rfl List.not_mem_nil
  | cons p rest ih =>
    rw [lookup, keys, List.map_cons, List.mem_cons, not_or, ← keys, ← ih]
    by_cases h : p.1 = k
    · rw [if_pos h]; exact iff_of_false nofun fun hk => hk.1 h.symm
    · rw [if_neg h]; exact (and_iff_right (Ne.symm h)).symm

theorem lookup_some_mem (k : String) (v : α) (d : List (String × α)) (h : lookup k d = some v) : (k, v) ∈ d := by
  induction d with
  | nil => cases h
  | cons p rest ih =>
    rw [lookup] at h
    split at h
    · next hk => cases h; subst hk; exact List.mem_cons_self
    · exact List.mem_cons_of_mem _ (ih h)

theorem lookup_mem (k : String) (v : α) (d : List (String × α)) (hn : (keys d).Nodup)
    (h : (k, v) ∈ d) : lookup k d = some v := by
  induction d with
  | nil => cases h
  | cons p rest ih =>
    simp only [keys, List.map_cons, List.nodup_cons] at hn
    rcases List.mem_cons.mp h with h | h
    · subst h; exact if_pos rfl
    · have hne : ¬ p.1 = k := fun e => hn.1 (e ▸ List.mem_map.mpr ⟨(k, v), h, rfl⟩)
      rw [lookup, if_neg hne]
      exact ih hn.2 h

theorem lookup_perm (f : String) (d d' : List (String × α)) (hn : (keys d).Nodup) (hp : d.Perm d') :
    lookup f d = lookup f d' := by
  cases h : lookup f d' with
  | none => exact (lookup_eq_none_iff f d).mpr fun hk => (lookup_eq_none_iff f d').mp h ((hp.map _).subset hk)
  | some v => exact lookup_mem f v d hn (hp.symm.subset (lookup_some_mem f v d' h))

theorem indexOf_eq_idxOf? (fields : List String) (f : String) : indexOf fields f = fields.idxOf? f :=
  List.eq_idxOf?_of_cons indexOf (fun _ => rfl) (fun _ _ _ => rfl) fields f

theorem indexOf_some (fields : List String) (f : String) (i : Nat) (h : indexOf fields f = some i) :
    fields[i]? = some f ∧ ∀ j, j < i → fields[j]? ≠ some f :=
  List.idxOf?_eq_some_iff_getElem?.mp ((indexOf_eq_idxOf? fields f).symm.trans h)

theorem indexOf_none (fields : List String) (f : String) (h : f ∉ fields) : indexOf fields f = none :=
  (indexOf_eq_idxOf? fields f).trans (List.idxOf?_eq_none_iff.mpr h)

theorem indexOf_of_nodup (fields : List String) (f : String) (i : Nat) (hn : fields.Nodup)
    (h : fields[i]? = some f) : indexOf fields f = some i := by
  rw [indexOf_eq_idxOf?, List.idxOf?_eq_some_iff_getElem?]
  -- an earlier position that holds `f` is position `i`, the list being duplicate-free
  exact ⟨h, fun _ hj e => Nat.ne_of_lt hj
    ((List.getElem?_inj (Nat.lt_trans hj (List.getElem?_eq_some_iff.mp h).1) hn).mp (e.trans h.symm))⟩

theorem lookup_zip (fields : List String) (row : List α) (f : String) :
    lookup f (fields.zip row) = (indexOf fields f).bind (fun i => row[i]?) := by
  induction fields generalizing row with
  | nil => rfl
  | cons n ns ih =>
    cases row with
    | nil => simp only [List.zip_nil_right, lookup, List.getElem?_nil, Option.bind_fun_none]
    | cons v vs =>
      simp only [List.zip_cons_cons, lookup, indexOf, ih vs]
      split
      · rfl
      · cases indexOf ns f <;> rfl

theorem get_eq_lookup_asMap (fields : List String) (row : List α) (f : String) (default : α) :
    get fields row f default = (lookup f (asMap fields row)).getD default := by
  rw [asMap, lookup_zip, DictRow.get]
  cases indexOf fields f <;> rfl

theorem keys_zip_sublist (fields : List String) (row : List α) :
    (keys (fields.zip row)).Sublist fields := by
  induction fields generalizing row with
  | nil => exact List.Sublist.slnil
  | cons n ns ih =>
    cases row with
    | nil => exact List.nil_sublist _
    | cons v vs => exact (ih vs).cons_cons n

theorem insert_fresh (k : String) (v : α) (d : List (String × α)) (h : k ∉ keys d) :
    DictRow.insert k v d = d ++ [(k, v)] := by
  induction d with
  | nil => rfl
  | cons p rest ih =>
    simp only [keys, List.map_cons, List.mem_cons, not_or] at h
    rw [DictRow.insert, if_neg (Ne.symm h.1), ih h.2]; rfl

theorem lookup_insert (k k' : String) (v : α) (d : List (String × α)) :
    lookup k (DictRow.insert k' v d) = if k' = k then some v else lookup k d := by
  induction d with
  | nil => rfl
  | cons p rest ih =>
    obtain ⟨a, b⟩ := p
    by_cases h1 : a = k'
    · subst h1
      by_cases h2 : a = k <;> simp [DictRow.insert, lookup, h2]
    · by_cases h2 : a = k
      · subst h2
        simp [DictRow.insert, lookup, h1, Ne.symm h1]
      · simp [DictRow.insert, lookup, h1, h2, ih]

theorem keys_insert (k : String) (v : α) (d : List (String × α)) :
    keys (DictRow.insert k v d) = if k ∈ keys d then keys d else keys d ++ [k] := by
  induction d with
  | nil => rfl
  | cons p rest ih =>
    rw [DictRow.insert]
    by_cases h1 : p.1 = k
    · rw [if_pos h1, if_pos (h1 ▸ List.mem_cons_self)]; rfl
    · simp only [if_neg h1, keys, List.map_cons, List.mem_cons, Ne.symm h1, false_or] at ih ⊢
      rw [ih]
      exact apply_ite (List.cons p.1) _ _ _

/-! `dict(pairs)` for any pairs: the last value of a key wins, so it is read off the pair list from its end -/

theorem ofPairs_eq_foldr (m : List (String × α)) :
    ofPairs m = m.reverse.foldr (fun p acc => DictRow.insert p.1 p.2 acc) [] :=
  List.foldr_reverse.symm

theorem foldr_insert_fresh (r : List (String × α)) (hn : (keys r).Nodup) :
    r.foldr (fun p acc => DictRow.insert p.1 p.2 acc) [] = r.reverse := by
  induction r with
  | nil => rfl
  | cons p r ih =>
    rw [keys, List.map_cons, List.nodup_cons] at hn
    rw [List.foldr_cons, ih hn.2, insert_fresh, List.reverse_cons]
    rw [keys, List.map_reverse, List.mem_reverse]; exact hn.1

theorem ofPairs_of_nodup (m : List (String × α)) (hn : (keys m).Nodup) : ofPairs m = m := by
  rw [ofPairs_eq_foldr, foldr_insert_fresh, List.reverse_reverse]
  rw [keys, List.map_reverse]
  exact (List.reverse_perm _).nodup_iff.mpr hn

theorem lookup_ofPairs (k : String) (m : List (String × α)) : lookup k (ofPairs m) = lookup k m.reverse := by
  rw [ofPairs_eq_foldr]
  induction m.reverse with
  | nil => rfl
  | cons p r ih => rw [List.foldr_cons, lookup_insert, ih]; rfl

theorem nodup_keys_ofPairs (m : List (String × α)) : (keys (ofPairs m)).Nodup := by
  rw [ofPairs_eq_foldr]
  induction m.reverse with
  | nil => exact List.nodup_nil
  | cons p r ih =>
    rw [List.foldr_cons, keys_insert]
    split
    · exact ih
    · next hk =>
      exact List.nodup_append.mpr ⟨ih, List.nodup_cons.mpr ⟨List.not_mem_nil, List.nodup_nil⟩,
        fun a ha b hb e => hk (List.mem_singleton.mp hb ▸ e ▸ ha)⟩

theorem mem_keys_ofPairs (k : String) (m : List (String × α)) : k ∈ keys (ofPairs m) ↔ k ∈ keys m := by
  refine Decidable.not_iff_not.mp ?_
  rw [← lookup_eq_none_iff, lookup_ofPairs, lookup_eq_none_iff]
  simp only [keys, List.map_reverse, List.mem_reverse]

theorem asDict_values_mem (fields : List String) (row : List α) (p : String × α) (h : p ∈ asDict fields row) :
    p.2 ∈ row := by
  have hl := lookup_mem p.1 p.2 _ (nodup_keys_ofPairs _) h
  rw [lookup_ofPairs] at hl
  exact (List.of_mem_zip (List.mem_reverse.mp (lookup_some_mem _ _ _ hl))).2

theorem loopFrom_succ (null : α) (fields : List String) (d : List (String × α)) (r i : Nat) (buf : List α)
    (hi : i < fields.length) (hb : i < buf.length) :
    loopFrom null fields d (r + 1) i buf
      = loopFrom null fields d r (i + 1) (buf.set i ((lookup fields[i] d).getD null)) := by
  have h1 : ¬ ((i : Int) < 0) := by omega
  have h2 : ¬ ((i : Int) < 0 ∨ (i : Int) ≥ (buf.length : Int)) := by omega
  rw [loopFrom]
  simp only [keyIndex, thenStoreIndex, elseStoreIndex, Int.ofNat_eq_natCast, Int.toNat_natCast,
    List.getElem?_eq_getElem hi, ite_self, if_neg h1, if_neg h2]
  cases lookup fields[i] d <;> rfl

theorem loopFrom_eq (null : α) (fields : List String) (d : List (String × α)) (r i : Nat) (buf : List α)
    (hi : i + r = fields.length) (hb : buf.length = fields.length) :
    loopFrom null fields d r i buf = some (buf.take i ++ (fields.drop i).map fun f => (lookup f d).getD null) := by
  induction r generalizing i buf with
  | zero =>
    rw [loopFrom, List.take_of_length_le (show buf.length ≤ i from Nat.le_of_eq (hb.trans hi.symm)),
      List.drop_of_length_le (show fields.length ≤ i from Nat.le_of_eq hi.symm), List.map_nil, List.append_nil]
  | succ r ih =>
    have hlt : i < fields.length := by omega
    have hls : (buf.set i ((lookup fields[i] d).getD null)).length = fields.length := List.length_set.trans hb
    rw [loopFrom_succ null fields d r i buf hlt (hb.symm ▸ hlt), ih (i + 1) _ ((Nat.add_right_comm i 1 r).trans hi) hls,
      List.take_succ_eq_append_getElem (hls.symm ▸ hlt), List.take_set_of_le (Nat.le_refl i),
      List.getElem_set_self, List.drop_eq_getElem_cons hlt, List.map_cons, List.append_assoc]
    rfl

theorem frameFrom_eq (null : α) (ofKey : String → α) (first : List (String × α)) (src : List (List (String × α))) :
    DictIter.frameFrom null ofKey first src = some (keys first, src.map (extract null (keys first))) := by
  simp only [DictIter.frameFrom, frameSchemaIsFirstKeys, frameLookupKeysAreFirstKeys, frameCellIsGetWithNullDefault,
    rowNew, and_self, not_true_eq_false, if_false]
  rw [List.filter_eq_self.mpr (by simp [frameRowKept])]
  exact congrArg (Option.map _) (List.mapM_pure (m := Option))

open PyDictM in
theorem lookupId_own {β : Type} (l : List (PyKey × β)) (hn : (l.map fun kv => kv.1.id).Nodup) (kv : PyKey × β)
    (h : kv ∈ l) : lookupId kv.1.id l = some kv.2 := by
  induction l with
  | nil => cases h
  | cons p rest ih =>
    rw [List.map_cons, List.nodup_cons] at hn
    rcases List.mem_cons.mp h with h | h
    · subst h; exact if_pos rfl
    · have hne : ¬ p.1.id = kv.1.id := fun e => hn.1 (e ▸ List.mem_map.mpr ⟨kv, h, rfl⟩)
      rw [lookupId, if_neg hne]
      exact ih hn.2 h

end C02
