import OrsoVerif.Lemmas.Persist
import OrsoVerif.Lemmas.TypeName
/-! C16: the dictionary and JSON round trips for **every** column the constructor builds - the stored type may be
the int `0` too (`'VARIANT'`/`'0'`), and so may the element type.  `Writable` is what the written form carries; every
column that came out of `init` from keyword arguments whose enum members are real members is `Writable`
(`init_writable`), by C06's totality of `from_name` (`fromName_wf`: a resolved name is a member or the int 0).  The round
trips are equations with `reload`, column by column (`colFromDict_colToDict`) and for a schema (`fromDict_toDict_reload`). -/
namespace Persist
open TypeName (Str Ty)
open Gen.Persist

variable {V : Type}

/-- the written forms carry it: the type is a member (base type or untyped) or the int 0, so is the element type if
there is one, and the disposition is a member -/
def Writable (c : Col V) : Prop :=
  (c.type = .zero ∨ ∃ m, c.type = .member m ∧ m ∈ persistableTypes)
  ∧ (∀ e, c.element_type = some e → e = .zero ∨ ∃ m, e = .member m ∧ m ∈ persistableTypes)
  ∧ (∀ n, c.disposition = some n → n ∈ dispositions.map Prod.fst)

theorem writable_of_persistable (c : Col V) (h : Persistable c) : Writable c :=
  ⟨.inr h.1, fun e he => .inr (h.2.1 e he), h.2.2⟩

/-- keyword arguments are well typed: an `OrsoTypes` / `ColumnDisposition` member passed in is a member of the enum -/
def WellTyped (r : Raw V) : Prop :=
  (∀ m, r.type = some (.member m) → m ∈ persistableTypes)
  ∧ (∀ m, r.element_type = some (some (.member m)) → m ∈ persistableTypes)
  ∧ (∀ n, r.disposition = some (some (.member n)) → n ∈ dispositions.map Prod.fst)

/-! ### `from_name` gives a member or the int 0 (C06's totality, re-derived from its lemmas) -/

theorem fromName_total' (name : Str) : TypeName.Total (TypeName.fromName name) :=
  TypeName.fromNameU_total TypeName.Chars.ascii TypeName.Chars.ascii_sane.int_err name

theorem members_persistable : ∀ m ∈ TypeName.memberNames, m ∈ persistableTypes := by decide +kernel

theorem isMember_persistable {m : Str} (h : TypeName.isMember m = true) : m ∈ persistableTypes := by
  apply members_persistable
  simpa [TypeName.isMember] using h

theorem fromName_wf {name : Str} {d : TypeName.Desc} (h : TypeName.fromName name = .ok d) :
    WritableTy d.ty ∧ ∀ e, d.elem = some e → e ∈ persistableTypes := by
  rcases fromName_total' name with ⟨d', hd, hwf⟩ | he
  · rw [h] at hd
    cases hd
    unfold TypeName.wfOut at hwf
    cases hty : d.ty with
    | zero =>
      refine ⟨.inl rfl, ?_⟩
      intro e he
      simp [hty, he] at hwf
    | member m =>
      simp only [hty, Bool.and_eq_true] at hwf
      obtain ⟨⟨⟨hm, _⟩, _⟩, helem⟩ := hwf
      refine ⟨.inr ⟨m, rfl, isMember_persistable hm⟩, ?_⟩
      intro e he
      simp only [he, Bool.and_eq_true] at helem
      exact isMember_persistable helem.1.1.2
  · rw [h] at he; cases he

theorem fromNameRaw_wf {t : RawTy} {d : TypeName.Desc} (h : fromNameRaw t = .ok d) :
    WritableTy d.ty ∧ ∀ e, d.elem = some e → e ∈ persistableTypes := by
  cases t with
  | member m => exact fromName_wf h
  | text s => exact fromName_wf h
  | zero => exact fromName_wf (name := zeroText) h

/-! ### what the constructor's literal mappings give -/

/-- a raw type literal is "good" when, if it is a member, it is a real member -/
def GoodRaw (t : RawTy) : Prop := ∀ m, t = .member m → m ∈ persistableTypes

theorem resolveType_writable {t : RawTy} {e : Option RawTy} {l p s : Option Nat} {r : Resolved}
    (h : resolveType t e l p s = .ok r) (ht : GoodRaw t) (he : ∀ x, e = some x → GoodRaw x) :
    WritableTy r.ty ∧ ∀ x, r.elem = some x → GoodRaw x := by
  cases hm : t.isMember with
  | true =>
    cases t <;> cases hm
    cases h
    exact ⟨.inr ⟨_, rfl, ht _ rfl⟩, he⟩
  | false =>
    rw [resolveType_literal hm] at h
    split at h
    · cases h
    · rename_i d hd
      have hwf := fromNameRaw_wf hd
      split at h
      · cases h
        exact ⟨.inl rfl, he⟩
      · rename_i m hty
        cases h
        refine ⟨hty ▸ hwf.1, fun x hx => ?_⟩
        -- a given element type stays; an absent one is the one the type name carries
        cases e with
        | some v => cases hx; exact he _ rfl
        | none =>
          obtain ⟨e', he', rfl⟩ := Option.map_eq_some_iff.mp hx
          intro m' hm'
          cases hm'
          exact hwf.2 _ he'

theorem resolveElem_writable {e : Option RawTy} {r : Option Ty} (h : resolveElem e = .ok r)
    (he : ∀ x, e = some x → GoodRaw x) :
    ∀ t, r = some t → WritableTy t := by
  intro t ht
  subst ht
  unfold resolveElem at h
  split at h
  · cases h
  · rename_i m
    cases h
    exact .inr ⟨m, rfl, he _ rfl m rfl⟩
  · split at h
    · cases h
    · rename_i d hd
      cases h
      exact (fromNameRaw_wf hd).1

theorem resolveDisp_writable {d : Option RawDisp} {r : Option String} (h : resolveDisp d = .ok r)
    (hd : ∀ n, d = some (.member n) → n ∈ dispositions.map Prod.fst) :
    ∀ n, r = some n → n ∈ dispositions.map Prod.fst := by
  intro n hn
  subst hn
  unfold resolveDisp at h
  split at h
  · cases h
  · cases h
    exact hd _ rfl
  · split at h
    · rename_i p hp
      cases h
      exact List.mem_map_of_mem (List.mem_of_find?_eq_some hp)
    · cases h

theorem init_writable (K : Caster V) (fresh : String) (r : Raw V) (c : Col V)
    (h : init K fresh r = .ok c) (hw : WellTyped r) : Writable c := by
  obtain ⟨hwt, hwe, hwd⟩ := hw
  obtain ⟨t, ht, helem, hdisp, -, hty, -⟩ := init_ok h
  -- a keyword is the one given, or its declared default: the untyped member, no element type, no disposition
  have gt : GoodRaw (r.type.getD (.member missingName)) := by
    intro m hm
    rcases Option.getD_eq_iff.mp hm with h | ⟨-, h⟩
    · exact hwt m h
    · cases h
      decide
  have ge : ∀ x, r.element_type.getD none = some x → GoodRaw x := by
    intro x hx m hm
    rcases Option.getD_eq_iff.mp hx with h | ⟨-, h⟩
    · exact hwe m (hm ▸ h)
    · cases h
  have gd : ∀ n, r.disposition.getD none = some (.member n) → n ∈ dispositions.map Prod.fst := by
    intro n hn
    rcases Option.getD_eq_iff.mp hn with h | ⟨-, h⟩
    · exact hwd n h
    · cases h
  have h1 := resolveType_writable ht gt ge
  exact ⟨hty ▸ h1.1, resolveElem_writable helem h1.2, resolveDisp_writable hdisp gd⟩

/-! ### reading back what was written

`reload` is what `from_dict ∘ to_dict` computes on one column, in whatever state the column is; the round trips are read off
it: the identity on what the constructor builds (`reload_ok`), and what `validate` reads in any state (`reload_vcol`). -/

/-- the type is a member of the enum or the int 0 (what an in-place assignment of an `OrsoTypes` member keeps true) -/
def TypeWritable (c : Col V) : Prop := c.type = .zero ∨ ∃ m, c.type = .member m ∧ m ∈ persistableTypes

/-- what `FlatColumn.from_dict` makes of the written form of `c`: the element type and the disposition are read back
from what was written for them, the default is cast again, a DECIMAL's missing parameters are filled (`cls(**dic)` runs the
whole constructor); every other attribute comes back as it is -/
def reload (K : Caster V) (c : Col V) : Except Err (Col V) :=
  match resolveElem (restoredElem c.element_type) with
  | .error e => .error e
  | .ok elem =>
    match resolveDisp (c.disposition.map writeDisp) with
    | .error e => .error e
    | .ok disp =>
      match resolveDefault K c.type c.default with
      | .error e => .error e
      | .ok d => .ok { c with default := d, element_type := elem, disposition := disp,
                              precision := decimalPrecision c.type c.precision,
                              scale := decimalScale c.type (decimalPrecision c.type c.precision) c.scale }

theorem colFromDict_colToDict (K : Caster V) (fresh : String) (c : Col V) (hty : TypeWritable c) :
    colFromDict K fresh (colToDict c) = reload K c := by
  unfold colFromDict reload
  rw [colToDict_eq, prepare_written _ c.type c.element_type rfl rfl, init_eq]
  simp only [Option.getD_some, resolveType_restored hty]
  rfl

theorem reload_ok (K : Caster V) (c : Col V) (hp : Writable c)
    (hdec : isDecimal c.type = true → c.precision.isSome = true ∧ c.scale.isSome = true) {d : V}
    (hd : resolveDefault K c.type c.default = .ok d) : reload K c = .ok { c with default := d } := by
  unfold reload
  simp only [resolveElem_written _ hp.2.1, resolveDisp_written _ hp.2.2, hd, decimalPrecision_fixed fun h => (hdec h).1,
    decimalScale_fixed fun h => (hdec h).2]

theorem reload_vcol {K : Caster V} {c c' : Col V} (h : reload K c = .ok c') : vcol c' = vcol c := by
  unfold reload at h
  split at h
  · cases h
  · split at h
    · cases h
    · split at h
      · cases h
      · cases h
        rfl

theorem mapE_map_congr {α β δ : Type} {f : α → Except Err β} {g : δ → α} {h : δ → Except Err β} (l : List δ)
    (H : ∀ a ∈ l, f (g a) = h a) : mapE f (l.map g) = mapE h l := by
  induction l with
  | nil => rfl
  | cons a l ih =>
    rw [List.forall_mem_cons] at H
    simp only [List.map_cons, mapE, H.1, ih H.2]

theorem mapE_ok {α : Type} {f : α → Except Err α} (l : List α) (h : ∀ a ∈ l, f a = .ok a) : mapE f l = .ok l := by
  induction l with
  | nil => rfl
  | cons a l ih =>
    rw [List.forall_mem_cons] at h
    simp only [mapE, h.1, ih h.2]

theorem mapE_view {α β γ : Type} {f : α → Except Err β} (p : β → γ) (q : α → γ) (l : List α) (l' : List β)
    (hv : ∀ a ∈ l, ∀ b, f a = .ok b → p b = q a) (h : mapE f l = .ok l') : l'.map p = l.map q := by
  induction l generalizing l' with
  | nil => cases h; rfl
  | cons a l ih =>
    rw [List.forall_mem_cons] at hv
    simp only [mapE] at h
    split at h
    · cases h
    · rename_i b hb
      split at h
      · cases h
      · rename_i bs hbs
        cases h
        simp only [List.map_cons, hv.1 b hb, ih bs hv.2 hbs]

theorem fromDict_toDict_reload (K : Caster V) (fresh : String) (s : Schema V) (h : ∀ c ∈ s.columns, TypeWritable c) :
    fromDict K fresh (toDict s) =
      match mapE (reload K) s.columns with
      | .error e => .error e
      | .ok cs => .ok { s with columns := cs } := by
  rw [toDict_eq, fromDict_eq]
  simp only [mapE_map_congr s.columns fun c hc => colFromDict_colToDict K fresh c (h c hc)]
  rfl

theorem fromDict_toDict_eq' (K : Caster V) (fresh : String) (s : Schema V)
    (h : ∀ c ∈ s.columns, Constructed K c ∧ Writable c) :
    fromDict K fresh (toDict s) = .ok s := by
  rw [fromDict_toDict_reload K fresh s fun c hc => (h c hc).2.1,
    mapE_ok s.columns fun c hc => reload_ok K c (h c hc).2 (h c hc).1.2 (resolveDefault_fixed (h c hc).1.1)]

/-- what `to_json` writes is what `to_dict` writes for the column with the JSON renderings in place -/
theorem colToDict_json (c : Col V) (d h l : V) (ex : List V) :
    { colToDict c with default := em "default" d, highest_value := em "highest_value" h,
                       lowest_value := em "lowest_value" l, expectations := em "expectations" ex }
      = colToDict { c with default := d, highest_value := h, lowest_value := l, expectations := ex } := by
  have H := @em_fields
  simp only [columnFields, List.forall_mem_cons] at H
  simp only [colToDict_eq, H]

/-- C16-K02 in general: through JSON the statistics and expectations come back as their JSON renderings -/
theorem jsonRoundTrip_renders (K : Caster V) (fresh : String) (c : Col V)
    (hdec : isDecimal c.type = true → c.precision.isSome = true ∧ c.scale.isSome = true) (hp : Writable c)
    {j h l : V} {ex : List V} (hj : K.json c.default = some j) (hdv : resolveDefault K c.type j = .ok c.default)
    (hh : K.json c.highest_value = some h) (hl : K.json c.lowest_value = some l)
    (hex : mapO K.json c.expectations = some ex)
    (hfit : (intFits c.length && intFits c.precision && intFits c.scale && intFits c.null_count) = true) :
    jsonRoundTrip K fresh c = .ok { c with highest_value := h, lowest_value := l, expectations := ex } := by
  have h1 : colToJson K c
      = .ok (colToDict { c with default := j, highest_value := h, lowest_value := l, expectations := ex }) := by
    unfold colToJson
    simp only [hj, hh, hl, hex, hfit, Bool.not_true, Bool.false_eq_true, if_false, colToDict_json]
  unfold jsonRoundTrip
  simp only [h1, load_jsonLoader]
  -- neither `Writable` nor the DECIMAL parameters read a value that JSON renders
  rw [colFromDict_colToDict]
  · exact reload_ok K { c with default := j, highest_value := h, lowest_value := l, expectations := ex } hp hdec hdv
  · exact hp.1

theorem jsonRoundTrip_eq' (K : Caster V) (fresh : String) (c : Col V)
    (hc : Constructed K c) (hp : Writable c) (hn : JsonNative K c) (hd : DefaultSurvivesJson K c) :
    jsonRoundTrip K fresh c = .ok c := by
  obtain ⟨j, hj, hdv⟩ := hd
  obtain ⟨hh, hl, hex, hfit⟩ := hn
  exact jsonRoundTrip_renders K fresh c hc.2 hp hj hdv hh hl hex hfit

/-- decidable form of `WellTyped`, for concrete keyword arguments -/
def wellTypedB (r : Raw V) : Bool :=
  (match r.type with
    | some (.member m) => persistableTypes.contains m
    | _ => true)
  && (match r.element_type with
    | some (some (.member m)) => persistableTypes.contains m
    | _ => true)
  && (match r.disposition with
    | some (some (.member n)) => (dispositions.map Prod.fst).contains n
    | _ => true)

theorem wellTyped_of_B (r : Raw V) (h : wellTypedB r = true) : WellTyped r := by
  simp only [wellTypedB, Bool.and_eq_true] at h
  obtain ⟨⟨h1, h2⟩, h3⟩ := h
  refine ⟨?_, ?_, ?_⟩
  · intro m hm; rw [hm] at h1; simpa using h1
  · intro m hm; rw [hm] at h2; simpa using h2
  · intro n hn; rw [hn] at h3; simpa using h3

end Persist
