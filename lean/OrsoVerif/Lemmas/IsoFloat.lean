import OrsoVerif.Model.IsoPrim
/-! Helper lemmas for C08: the integer `floatTrunc` returns brackets the exact value of the double. -/
namespace Iso

/-- Numerator of the magnitude of a finite double with the given bit pattern: |x| = `fMant b * 2 ^ fEx b / 2 ^ 1075`. -/
def fMant (b : UInt64) : Nat := if (b.toNat / 2 ^ 52) % 2048 == 0 then b.toNat % 2 ^ 52 else b.toNat % 2 ^ 52 + 2 ^ 52
/-- Biased exponent (1 for subnormals) of a finite double. -/
def fEx (b : UInt64) : Nat := if (b.toNat / 2 ^ 52) % 2048 == 0 then 1 else (b.toNat / 2 ^ 52) % 2048

/-- `mag = ⌊mant * 2^ex / 2^K⌋` written with the shift the model uses: `mag * 2^K ≤ mant * 2^ex < (mag + 1) * 2^K`. -/
theorem trunc_bounds (K mant ex mag : Nat)
    (hm : mag = if ex ≥ K then mant * 2 ^ (ex - K) else mant / 2 ^ (K - ex)) :
    mag * 2 ^ K ≤ mant * 2 ^ ex ∧ mant * 2 ^ ex < (mag + 1) * 2 ^ K := by
  by_cases hge : ex ≥ K
  · rw [if_pos hge] at hm
    have e : mant * 2 ^ (ex - K) * 2 ^ K = mant * 2 ^ ex := by
      rw [Nat.mul_assoc, ← Nat.pow_add]; congr 2; omega
    rw [hm]
    constructor
    · exact Nat.le_of_eq e
    · rw [← e]; exact Nat.mul_lt_mul_of_pos_right (Nat.lt_succ_self _) (Nat.two_pow_pos _)
  · rw [if_neg hge] at hm
    have hp : (2:Nat) ^ K = 2 ^ (K - ex) * 2 ^ ex := by rw [← Nat.pow_add]; congr 1; omega
    have hpos : 0 < (2:Nat) ^ (K - ex) := Nat.two_pow_pos _
    have h1 := Nat.div_mul_le_self mant (2 ^ (K - ex))
    have h2 := Nat.lt_div_mul_add (a := mant) hpos
    rw [hm, hp]
    constructor
    · rw [← Nat.mul_assoc]; exact Nat.mul_le_mul_right _ h1
    · rw [← Nat.mul_assoc]
      apply Nat.mul_lt_mul_of_pos_right _ (Nat.two_pow_pos _)
      rw [Nat.add_mul, Nat.one_mul]; exact h2

theorem floatTrunc_brackets (b : UInt64) (z : Int) (h : floatTrunc b = .fin z) :
    z.natAbs * 2 ^ 1075 ≤ fMant b * 2 ^ fEx b ∧ fMant b * 2 ^ fEx b < (z.natAbs + 1) * 2 ^ 1075 ∧
    (z < 0 → b.toNat / 2 ^ 63 = 1) := by
  -- the definition of `floatTrunc`, its `mant` and `ex` read as `fMant b` and `fEx b` (the powers of two kept as written)
  unfold floatTrunc at h
  dsimp only [-Nat.reducePow] at h
  rw [← fMant, ← fEx] at h
  generalize fMant b = mant at h ⊢
  generalize fEx b = ex at h ⊢
  generalize hm : (if ex ≥ 1075 then mant * 2 ^ (ex - 1075) else mant / 2 ^ (1075 - ex)) = mag at h
  have hb := trunc_bounds 1075 mant ex mag hm.symm
  split at h
  · split at h <;> cases h
  · have h := FloatInt.fin.inj h
    split at h
    · next hn =>
      subst h
      rw [Int.natAbs_neg, Int.natAbs_natCast]
      exact ⟨hb.1, hb.2, fun _ => by simpa using hn⟩
    · subst h
      rw [Int.natAbs_natCast]
      exact ⟨hb.1, hb.2, fun hlt => absurd hlt (Int.not_lt.mpr (Int.natCast_nonneg _))⟩

end Iso
