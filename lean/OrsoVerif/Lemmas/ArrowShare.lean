import OrsoVerif.Model.ArrowShare
/-! Lemmas for `Model/ArrowShare.lean`: when no place memoises, the heap machine is the by-value session
(`fresh_refines`, `To.fresh_refines`); what `buildCols`, a `mapM`, carries from every field (`map_of_mapM`). -/
namespace Arrow.Share

theorem modifyAt_eq_modify {α : Type} (f : α → α) (l : List α) (n : Nat) : modifyAt l n f = l.modify n f := by
  induction l generalizing n with
  | nil => exact (List.modify_nil f n).symm
  | cons x xs ih =>
    cases n with
    | zero => rfl
    | succ n => exact congrArg (x :: ·) (ih n)

/-- the simulation relation: addresses are conversion indices, the heap holds the values -/
def Rel {K α : Type} (st : St K α) (sp : Sp α) : Prop :=
  st.results = List.range st.heap.length ∧ st.heap = sp.vals ∧ st.seen = sp.seen

theorem rel_step {K α : Type} [DecidableEq K] (grp : Site → Option Nat) (hg : ∀ s, grp s = none) (build : K → α)
    (st : St K α) (sp : Sp α) (h : Rel st sp) (x : Step K α) : Rel (step grp build st x) (specStep build sp x) := by
  obtain ⟨h1, h2, h3⟩ := h
  cases x with
  | conv s k =>
    simp only [step, hg s, alloc, specStep]
    exact ⟨by simp [h1, List.range_succ], by simp [h2], by simp [h3]⟩
  | edit r f =>
    simp only [step, specStep, modifyAt_eq_modify]
    by_cases hr : r < st.heap.length
    · have : st.results[r]? = some r := by
        rw [h1]; simp [hr]
      rw [this]
      exact ⟨by simp [h1], by simp [h2], h3⟩
    · have : st.results[r]? = none := by
        rw [h1]; simp; omega
      rw [this, List.modify_eq_self (by rw [← h2]; omega)]
      exact ⟨h1, h2, h3⟩

theorem reads_of_range {α : Type} (l : List α) : (List.range l.length).map (fun a => l[a]?) = l.map some := by
  apply List.ext_getElem?
  intro i
  by_cases hi : i < l.length
  · simp [hi]
  · simp [hi]

theorem fresh_refines {K α : Type} [DecidableEq K] (grp : Site → Option Nat) (hg : ∀ s, grp s = none) (build : K → α)
    (steps : List (Step K α)) :
    (run grp build steps).seen = (spec build steps).seen ∧
    (run grp build steps).reads = (spec build steps).vals.map some := by
  obtain ⟨h1, h2, h3⟩ : Rel (run grp build steps) (spec build steps) :=
    List.foldl_rel (r := Rel) ⟨rfl, rfl, rfl⟩ fun x _ st sp h => rel_step grp hg build st sp h x
  refine ⟨h3, ?_⟩
  unfold St.reads
  rw [h1, ← h2]
  exact reads_of_range _

theorem spec_seen_foldl {K α : Type} (build : K → α) (steps : List (Step K α)) (sp : Sp α) :
    (steps.foldl (specStep build) sp).seen = sp.seen ++ (convKeys steps).map build := by
  induction steps generalizing sp with
  | nil => simp [convKeys]
  | cons x rest ih =>
    rw [List.foldl_cons, ih]
    cases x <;> simp [specStep, convKeys]

theorem spec_seen {K α : Type} (build : K → α) (steps : List (Step K α)) :
    (spec build steps).seen = (convKeys steps).map build := by
  unfold spec
  rw [spec_seen_foldl]
  simp

theorem map_of_mapM {β γ δ : Type} (f : β → Option γ) (g : γ → δ) (h : β → δ)
    (hf : ∀ a c, f a = some c → g c = h a) (l : List β) (cs : List γ) (hm : l.mapM f = some cs) :
    cs.map g = l.map h := by
  induction l generalizing cs with
  | nil => cases (Option.some.inj hm : [] = cs); rfl
  | cons a l ih =>
    simp only [List.mapM_cons, Option.bind_eq_bind, Option.pure_def, Option.bind_eq_some_iff, Option.some.injEq] at hm
    obtain ⟨c, hc, cs', hcs, rfl⟩ := hm
    rw [List.map_cons, List.map_cons, hf a c hc, ih cs' hcs]

namespace To

theorem fresh_step (memo : Site → Bool) (hm : ∀ s, memo s = false) (st : St) (sp : List (List Col) × List (Option Out))
    (h : st.objs = sp.1 ∧ st.out = sp.2) (x : Step) :
    (step memo st x).objs = (specStep sp x).1 ∧ (step memo st x).out = (specStep sp x).2 := by
  obtain ⟨h1, h2⟩ := h
  cases x with
  | conv s k =>
    simp only [step, specStep, hm s]
    rw [← h1]
    cases st.objs[k]? <;> simp [h1, h2]
  | edit k f => simp [step, specStep, h1, h2]

theorem fresh_refines (memo : Site → Bool) (hm : ∀ s, memo s = false) (objs : List (List Col)) (steps : List Step) :
    run memo objs steps = spec objs steps :=
  (List.foldl_rel (r := fun st sp => st.objs = sp.1 ∧ st.out = sp.2) ⟨rfl, rfl⟩
    fun x _ st sp h => fresh_step memo hm st sp h x).2

end To

end Arrow.Share
