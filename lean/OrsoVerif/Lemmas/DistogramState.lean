import OrsoVerif.Lemmas.Distogram
import OrsoVerif.Lemmas.DistogramBounds
/-!
# State-level invariants of the reference histogram machine and the ledger of a history

`Inv` (a valid state), `Ledger s L B` (valid, weight and weighted
sum of the inserted pairs `L`, exact bounds of the data bounds `B`) with one lemma per step of a history, and the
histories `Built` of the reference machine, whose states have their ledger (`built_facts`).
-/
namespace Distogram

variable {K : Type} [Field K] [LinearOrder K]

/-- The invariants of a histogram state (what C13 asserts of the bins, and what C14 assumes). -/
structure Inv (s : RState K) : Prop where
  inc : Inc s.bins
  pos : Pos s.bins
  len : s.bins.length ≤ s.cap
  cap : 1 ≤ s.cap
  minNone : s.min = none → s.bins = []
  maxNone : s.max = none → s.bins = []
  within : ∀ m M, s.min = some m → s.max = some M → Within m M s.bins

theorem init_inv (cap : Nat) (h : 1 ≤ cap) : Inv (RState.init cap : RState K) :=
  ⟨by simp [RState.init, Inc], by intro b hb; simp [RState.init] at hb, by simp [RState.init], h,
   fun _ => rfl, fun _ => rfl, by intro m M hm; simp [RState.init] at hm⟩

theorem Inv.bounds {s : RState K} (hs : Inv s) {b : K × K} (hb : b ∈ s.bins) :
    ∃ m M, s.min = some m ∧ s.max = some M ∧ m ≤ b.1 ∧ b.1 ≤ M := by
  cases hm : s.min with
  | none => rw [hs.minNone hm] at hb; cases hb
  | some m =>
    cases hM : s.max with
    | none => rw [hs.maxNone hM] at hb; cases hb
    | some M => exact ⟨m, M, rfl, rfl, hs.within m M hm hM b hb⟩

theorem Inv.of_bounds {s : RState K} {m M : K} (hi : Inc s.bins) (hp : Pos s.bins) (hl : s.bins.length ≤ s.cap)
    (hc : 1 ≤ s.cap) (hm : s.min = some m) (hM : s.max = some M) (hw : Within m M s.bins) : Inv s :=
  ⟨hi, hp, hl, hc, fun h => (nomatch hm.symm.trans h), fun h => (nomatch hM.symm.trans h), fun m' M' hm' hM' => by
    cases hm.symm.trans hm'
    cases hM.symm.trans hM'
    exact hw⟩

theorem Inv.centres_between {t : RState K} (ht : Inv t) {v : K} (hv : v ∈ t.bins.map (fun b => b.1)) :
    (∀ m, t.min = some m → m ≤ v) ∧ ∀ M, t.max = some M → v ≤ M := by
  obtain ⟨b, hb, rfl⟩ := List.mem_map.mp hv
  obtain ⟨m, M, hm, hM, h1, h2⟩ := ht.bounds hb
  exact ⟨fun m' e => by cases hm.symm.trans e; exact h1, fun M' e => by cases hM.symm.trans e; exact h2⟩

theorem Inv.within_widen {s : RState K} (hs : Inv s) (lo hi : K) : Within (minO s.min lo) (maxO s.max hi) s.bins := by
  intro b hb
  obtain ⟨m, M, hm, hM, h1, h2⟩ := hs.bounds hb
  exact ⟨hm ▸ le_trans (minO_le_old m lo) h1, hM ▸ le_trans h2 (old_le_maxO M hi)⟩

theorem inv_widen {m : RState K} (hm : Inv m) (a b : Option K)
    (ha : ∀ x y, m.min = some x → a = some y → y ≤ x) (hb : ∀ x y, m.max = some x → b = some y → x ≤ y)
    (han : a = none → m.min = none) (hbn : b = none → m.max = none) :
    Inv { m with min := a, max := b } := by
  refine ⟨hm.inc, hm.pos, hm.len, hm.cap, fun h => hm.minNone (han h), fun h => hm.maxNone (hbn h), ?_⟩
  intro x y hx hy c hc
  obtain ⟨m0, M0, hmin, hmax, h1, h2⟩ := hm.bounds hc
  exact ⟨le_trans (ha m0 x hmin hx) h1, le_trans h2 (hb M0 y hmax hy)⟩

/-! ## one update -/

theorem updateRef_cap (s : RState K) (v c : K) : (updateRef s v c).cap = s.cap := rfl
theorem updateRef_min (s : RState K) (v c : K) : (updateRef s v c).min = some (minO s.min v) := rfl
theorem updateRef_max (s : RState K) (v c : K) : (updateRef s v c).max = some (maxO s.max v) := rfl

theorem insert_within (s : RState K) (hs : Inv s) (v c : K) :
    Within (minO s.min v) (maxO s.max v) (insertRef v c s.bins) :=
  insertRef_centres (Q := fun x => minO s.min v ≤ x ∧ x ≤ maxO s.max v) ⟨minO_le_val _ _, val_le_maxO _ _⟩ c
    (hs.within_widen v v)

-- from here on the order has to agree with the arithmetic: `insertRef_pos`, `mergeAt_*` and `trimRef_induct` need it
variable [IsStrictOrderedRing K]

/-- Mass, weighted sum and range of the centres are established by the insertion and kept by every merge of `trimRef`. -/
theorem updateRef_facts (s : RState K) (hs : Inv s) (v c : K) (hc : 0 < c) :
    Inv (updateRef s v c) ∧ mass (updateRef s v c).bins = mass s.bins + c ∧
    wsum (updateRef s v c).bins = wsum s.bins + v * c := by
  obtain ⟨ti, tp, tm, tw, twi⟩ := trimRef_induct
    (fun l => mass l = mass s.bins + c ∧ wsum l = wsum s.bins + v * c ∧ Within (minO s.min v) (maxO s.max v) l)
    (fun i l li lp ⟨m, w, wi⟩ => ⟨(mergeAt_mass i l).trans m, (mergeAt_wsum i l li lp).trans w, mergeAt_within i l li lp wi⟩)
    s.cap (insertRef v c s.bins).length _ (insertRef_inc v c s.bins hs.inc) (insertRef_pos v c hc s.bins hs.pos)
    ⟨insertRef_mass v c s.bins, insertRef_wsum v c s.bins, insert_within s hs v c⟩
  exact ⟨Inv.of_bounds ti tp (trimRef_length s.cap hs.cap _ _ (Nat.le_add_left _ _)) hs.cap rfl rfl twi, tm, tw⟩

/-! ## the ledger of a state

One lemma per way a history goes on (`Built` below): an update (`Ledger.step` for either machine, `Ledger.update`), a sum
(`Ledger.mergeRef` for its fold of updates, `Ledger.add`), a bulk load, a dump/load. -/

/-- `s` is valid, holds the weight and the weighted sum of the inserted pairs `L`, and reports the exact bounds of the
data bounds `B`: everything C13 says about a state. -/
abbrev Ledger (s : RState K) (L : List (K × K)) (B : List K) : Prop :=
  Inv s ∧ mass s.bins = mass L ∧ wsum s.bins = wsum L ∧ IsMinOf s.min B ∧ IsMaxOf s.max B

omit [IsStrictOrderedRing K] in
theorem Ledger.bounds_none {s : RState K} {L : List (K × K)} {B : List K} (h : Ledger s L B) :
    s.min = none ↔ s.max = none := by
  obtain ⟨_, _, _, hmin, hmax⟩ := h
  exact ⟨isMaxOf_none_of_min hmin hmax, isMaxOf_none_of_min (α := Kᵒᵈ) hmax hmin⟩

omit [IsStrictOrderedRing K] in
/-- One more inserted pair, on either machine: `s'` is valid and has the weight, weighted sum and bounds of an update of `s`. -/
theorem Ledger.step {s s' : RState K} {L : List (K × K)} {B : List K} {v c : K} (h : Ledger s L B) (hi : Inv s')
    (hm : mass s'.bins = mass s.bins + c) (hw : wsum s'.bins = wsum s.bins + v * c)
    (hmin : s'.min = some (minO s.min v)) (hmax : s'.max = some (maxO s.max v)) :
    Ledger s' (L ++ [(v, c)]) (B ++ [v]) := by
  obtain ⟨_, sm, sw, smin, smax⟩ := h
  exact ⟨hi, by rw [hm, mass_append, sm, mass_singleton], by rw [hw, wsum_append, sw, wsum_singleton],
    hmin ▸ isMinOf_minO smin v, hmax ▸ isMaxOf_maxO smax v⟩

theorem Ledger.update {s : RState K} {L : List (K × K)} {B : List K} (h : Ledger s L B) (v : K) {c : K} (hc : 0 < c) :
    Ledger (updateRef s v c) (L ++ [(v, c)]) (B ++ [v]) :=
  have ⟨i, m, w⟩ := updateRef_facts s h.1 v c hc
  h.step i m w rfl rfl

set_option linter.unusedSectionVars false in
theorem mergeRef_nil (s : RState K) : mergeRef s [] = s := rfl
set_option linter.unusedSectionVars false in
theorem mergeRef_cons (s : RState K) (b : K × K) (bs : List (K × K)) :
    mergeRef s (b :: bs) = mergeRef (updateRef s b.1 b.2) bs := rfl

theorem Ledger.mergeRef {s : RState K} {L : List (K × K)} {B : List K} (h : Ledger s L B) (bs : List (K × K))
    (hp : Pos bs) : Ledger (mergeRef s bs) (L ++ bs) (B ++ bs.map (fun b => b.1)) ∧ (mergeRef s bs).cap = s.cap := by
  induction bs generalizing s L B with
  | nil => exact ⟨by rw [List.append_nil, List.map_nil, List.append_nil]; exact h, rfl⟩
  | cons b bs ih =>
    obtain ⟨l, c⟩ := ih (h.update b.1 (hp b List.mem_cons_self)) (fun x hx => hp x (List.mem_cons_of_mem _ hx))
    rw [List.append_assoc, List.append_assoc] at l
    exact ⟨l, c⟩

/-- The bare merge into any valid state with exact bounds: its own bins serve as the ledger of what it holds. -/
theorem mergeRef_facts : ∀ (bs : List (K × K)) (s : RState K) (B : List K), Inv s → Pos bs →
    IsMinOf s.min B → IsMaxOf s.max B →
    Inv (mergeRef s bs) ∧ (mergeRef s bs).cap = s.cap ∧
    mass (mergeRef s bs).bins = mass s.bins + mass bs ∧
    wsum (mergeRef s bs).bins = wsum s.bins + wsum bs ∧
    IsMinOf (mergeRef s bs).min (B ++ bs.map (fun b => b.1)) ∧
    IsMaxOf (mergeRef s bs).max (B ++ bs.map (fun b => b.1)) := by
  intro bs s B hs hp hmin hmax
  obtain ⟨⟨i, m, w, mn, mx⟩, c⟩ := Ledger.mergeRef (L := s.bins) ⟨hs, rfl, rfl, hmin, hmax⟩ bs hp
  exact ⟨i, c, m.trans (mass_append _ _), w.trans (wsum_append _ _), mn, mx⟩

omit [IsStrictOrderedRing K] in
/-- The sum: the merged state `M` (the reference's `mergeRef s t.bins`, or the faithful machine's state after `merge`)
holds the left ledger and the right operand's bins; its bounds are widened by the right operand's. -/
theorem Ledger.add {t M : RState K} {L1 L2 : List (K × K)} {B1 B2 : List K} (ht : Ledger t L2 B2)
    (hM : Ledger M (L1 ++ t.bins) (B1 ++ t.bins.map (fun b => b.1))) :
    Ledger { M with min := optMin M.min t.min, max := optMax M.max t.max } (L1 ++ L2) (B1 ++ B2) := by
  obtain ⟨ti, tm, tw, tmin, tmax⟩ := ht
  obtain ⟨mi, mm, mw, mmin, mmax⟩ := hM
  refine ⟨?_, ?_, ?_,
    isMinOf_combine mmin tmin (fun mt e v hv => (ti.centres_between hv).1 mt e) (fun e => by rw [ti.minNone e]; rfl),
    isMaxOf_combine mmax tmax (fun mt e v hv => (ti.centres_between hv).2 mt e) (fun e => by rw [ti.maxNone e]; rfl)⟩
  · exact inv_widen mi _ _ (fun x y hx hy => by rw [hx] at hy; exact optMin_le_left x _ y hy)
      (fun x y hx hy => by rw [hx] at hy; exact optMax_ge_left x _ y hy) optMin_eq_none optMax_eq_none
  · show mass M.bins = _
    rw [mm, mass_append, mass_append, tm]
  · show wsum M.bins = _
    rw [mw, wsum_append, wsum_append, tw]

omit [IsStrictOrderedRing K] in
theorem Ledger.bulk {M : RState K} {B : List K} {lo hi : K} {L ins : List (K × K)}
    (hM : Ledger M (L ++ ins) (B ++ ins.map (fun b => b.1))) (hlh : lo ≤ hi) (hins : ∀ b ∈ ins, lo ≤ b.1 ∧ b.1 ≤ hi) :
    Ledger { M with min := some (minO M.min lo), max := some (maxO M.max hi) } (L ++ ins) (B ++ [lo, hi]) := by
  obtain ⟨mi, mm, mw, mmin, mmax⟩ := hM
  have hlo : IsMinOf (some lo) [lo, hi] :=
    ⟨List.mem_cons_self, fun b hb => by simp at hb; rcases hb with rfl | rfl; exact le_refl _; exact hlh⟩
  have hhi : IsMaxOf (some hi) [lo, hi] :=
    ⟨List.mem_cons_of_mem _ List.mem_cons_self, fun b hb => by simp at hb; rcases hb with rfl | rfl; exact hlh; exact le_refl _⟩
  have hminF := isMinOf_combine mmin hlo (fun mt e v hv => by
    cases e
    obtain ⟨b, hb, rfl⟩ := List.mem_map.mp hv
    exact (hins b hb).1) (fun e => by cases e)
  have hmaxF := isMaxOf_combine mmax hhi (fun mt e v hv => by
    cases e
    obtain ⟨b, hb, rfl⟩ := List.mem_map.mp hv
    exact (hins b hb).2) (fun e => by cases e)
  rw [optMin_some_eq_minO] at hminF
  rw [optMax_some_eq_maxO] at hmaxF
  exact ⟨Inv.of_bounds mi.inc mi.pos mi.len mi.cap rfl rfl (mi.within_widen lo hi), mm, mw, hminF, hmaxF⟩

omit [IsStrictOrderedRing K] in
theorem Ledger.dumpLoad {s : RState K} {L : List (K × K)} {B : List K} (h : Ledger s L B)
    (hlen : s.bins.length ≤ Gen.Distogram.binCount) : Ledger (dumpLoadRef s) L B :=
  ⟨⟨h.1.inc, h.1.pos, hlen, (by decide : 1 ≤ Gen.Distogram.binCount), h.1.minNone, h.1.maxNone, h.1.within⟩, h.2⟩

/-! ## histories -/

/-- `Built s L B`: the reference state `s` is the result of a history whose inserted
(value, weight) pairs are `L` and whose data bounds are `B` (for `update` the value itself, for
a bulk load the data's minimum and maximum, for `+` those of both operands). -/
inductive Built : RState K → List (K × K) → List K → Prop
  | init (cap : Nat) (h : 1 ≤ cap) : Built (RState.init cap) [] []
  | update {s L B} (v c : K) : Built s L B → 0 < c → Built (updateRef s v c) (L ++ [(v, c)]) (B ++ [v])
  | add {s t L1 B1 L2 B2} : Built s L1 B1 → Built t L2 B2 → Built (addRef s t) (L1 ++ L2) (B1 ++ B2)
  | bulk {s L B} (pairs : List (K × K)) (lo hi : K) : Built s L B → lo ≤ hi →
      (∀ p ∈ pairs, 0 < p.2 → lo ≤ p.1 ∧ p.1 ≤ hi) →
      Built (bulkRef s pairs lo hi) (L ++ pairs.filter (fun p => decide (0 < p.2))) (B ++ [lo, hi])
  | dumpLoad {s L B} : Built s L B → s.bins.length ≤ Gen.Distogram.binCount →
      Built (dumpLoadRef s) L B

omit [IsStrictOrderedRing K] in
theorem filter_pos {Q : K × K → Prop} {pairs : List (K × K)} (hp : ∀ p ∈ pairs, 0 < p.2 → Q p) :
    ∀ b ∈ pairs.filter (fun p => decide (0 < p.2)), 0 < b.2 ∧ Q b := by
  intro b hb
  have hb' := List.mem_filter.mp hb
  have hpos : 0 < b.2 := of_decide_eq_true hb'.2
  exact ⟨hpos, hp b hb'.1 hpos⟩

/-- Everything C13 says about a reference state (its `Ledger`), by induction over the history. -/
theorem built_facts {s : RState K} {L : List (K × K)} {B : List K} (h : Built s L B) :
    Inv s ∧ mass s.bins = mass L ∧ wsum s.bins = wsum L ∧ IsMinOf s.min B ∧ IsMaxOf s.max B := by
  induction h with
  | init cap h => exact ⟨init_inv cap h, rfl, rfl, rfl, rfl⟩
  | update v c _ hc ih => exact Ledger.update ih v hc
  | add _ _ ihs iht => exact Ledger.add iht (Ledger.mergeRef ihs _ iht.1.pos).1
  | @bulk s L B pairs lo hi _ hlh hp ih =>
    have hin := filter_pos hp
    exact Ledger.bulk (Ledger.mergeRef ih _ (fun b hb => (hin b hb).1)).1 hlh (fun b hb => (hin b hb).2)
  | dumpLoad _ hlen ih => exact Ledger.dumpLoad ih hlen

end Distogram
