import OrsoVerif.Lemmas.DistogramBins
import OrsoVerif.Lemmas.Basics
/-!
# The functions of the faithful histogram machine restated over the generated tests

`Model/Distogram.lean` is a skeleton over the tests and expressions regenerated from the source (`Gen.DistogramFlow`,
`Gen.DistogramOps`, `Gen.DistogramExpr`); the `*_def` and `*_eq` equations here give each function the form the proofs
unfold.  `update_cases`, `afterHit_cases`: the paths of one successful `update`; `foldUpdate_induct`: induction over a fold
of updates (`Lemmas/Basics.lean` is imported for `Except.bind_eq_ok`, which these three use).
-/
namespace Distogram
-- many of the equations below use only the field, only the order, or neither
set_option linter.unusedSectionVars false

variable {K : Type} [Field K] [LinearOrder K]

/-! ## the generated control flow (`Gen.DistogramFlow`, from the source's AST) means what the proofs use

Each lemma restates one model function over the generated tests in the form the proofs unfold.  A changed
operator, a changed `bisect_left` key, or `_trim`'s loop turned into a single test breaks the lemma here. -/

/-- `_trim` is a loop: as many turns as there are bins are available (`while`, not `if`). -/
theorem trimTurns_eq (n : Nat) : Gen.DistogramFlow.trimTurns n = n := rfl

theorem trim_succ (fuel : Nat) (h : Hist K) :
    trim (fuel + 1) h = if h.cap < h.bins.length then (trimStep h).bind (trim fuel) else .ok h := by
  rw [trim]
  simp only [Gen.DistogramFlow.trimGuard, decide_eq_true_eq, gt_iff_lt]

/-- The `bisect_left` key is `(value, 1)`. -/
theorem bisectLeft_def (value : K) (bins : List (K × K)) : bisectLeft value bins =
    (bins.takeWhile (fun b => decide (b.1 < value) || (eqK b.1 value && decide (b.2 < 1)))).length := rfl

theorem locate_def (bins : List (K × K)) (value : K) : locate bins value =
    match bins.head?, bins.getLast? with
    | some b0, some bl =>
      if value ≤ b0.1 then (false, 0)
      else if bl.1 ≤ value then (true, bins.length - 1)
      else (false, bisectLeft value bins)
    | _, _ => (false, 0) := by
  unfold locate
  simp only [Gen.DistogramFlow.updFirst, Gen.DistogramFlow.updLast, decide_eq_true_eq, ge_iff_le]
  cases bins.head? with
  | none => rfl
  | some b0 =>
    cases bins.getLast? with
    | none => rfl
    | some bl => simp only []

/-- the bounds after an insertion are the running minimum and maximum (whether the source tests `>` or `>=`) -/
theorem bumpBounds_min (h : Hist K) (v : K) : (bumpBounds h v).min = some (minO h.min v) := by
  unfold bumpBounds minO
  cases h.min with
  | none => rfl
  | some m =>
    simp only [Gen.DistogramFlow.bumpMin, decide_eq_true_eq]
      -- reached only if the generated test is `m >= value`: it differs from `m > value` at `m = value`, where both branches agree
      <;> (simp only [Option.some.injEq]; split_ifs <;>
            first | rfl | exact le_antisymm ‹_› (not_lt.mp ‹_›) | exact absurd (le_of_lt ‹_›) ‹_›)

/-- The two bound updates of `update` are independent statements: the maximum is examined whether or not the minimum
moved (`if … if …`, not `if … elif …` — the first value of a stream moves both). -/
theorem bumpChained_eq : Gen.DistogramOps.bumpChained = false := rfl

theorem bumpBounds_max (h : Hist K) (v : K) : (bumpBounds h v).max = some (maxO h.max v) := by
  unfold bumpBounds maxO
  simp only [bumpChained_eq, Bool.false_and, Bool.false_eq_true, if_false]
  cases h.max with
  | none => rfl
  | some m =>
    simp only [Gen.DistogramFlow.bumpMax, decide_eq_true_eq]
      <;> (simp only [Option.some.injEq]; split_ifs <;>
            first | rfl | exact le_antisymm (not_lt.mp ‹_›) ‹_› | exact absurd (le_of_lt ‹_›) ‹_›)

theorem bumpBounds_cap (h : Hist K) (v : K) : (bumpBounds h v).cap = h.cap := rfl
theorem bumpBounds_diffs (h : Hist K) (v : K) : (bumpBounds h v).diffs = h.diffs := rfl
section
-- stated for an ordered field; `rfl` does not use the assumption
variable [IsStrictOrderedRing K]
theorem bumpBounds_bins (h : Hist K) (v : K) : (bumpBounds h v).bins = h.bins := rfl
theorem bumpBounds_minDiff (h : Hist K) (v : K) : (bumpBounds h v).minDiff = h.minDiff := rfl
end

/-! ### the tests on the optional gap cache (`Gen.DistogramOps`, from `_update_diffs`, `_trim`, `update`,
`_search_in_place_index`) are `is not None` / `is None`

`load()` of a histogram with a single bin creates the EMPTY list, which is not `None`: a bare truthiness test
(`if h.diffs:`) would treat it as "no cache" in `update`/`_trim` (never maintained) while `_search_in_place_index`
(`is None`) would never compute it, so `min_diff` stays infinite and every interior value is merged in place.  Each of
these equations is `rfl` for the source as it is and fails for a truthiness test. -/

theorem udCache_eq (d : Option (List K)) : Gen.DistogramOps.udCache d = d.isSome := rfl
theorem trimCachePick_eq (d : Option (List K)) : Gen.DistogramOps.trimCachePick d = d.isSome := rfl
theorem trimCacheKeep_eq (d : Option (List K)) : Gen.DistogramOps.trimCacheKeep d = d.isSome := rfl
theorem appendCache_eq (d : Option (List K)) : Gen.DistogramOps.appendCache d = d.isSome := rfl
theorem insertCache_eq (d : Option (List K)) : Gen.DistogramOps.insertCache d = d.isSome := rfl
theorem searchNoCache_eq (d : Option (List K)) : Gen.DistogramOps.searchNoCache d = d.isNone := rfl

/-- `update` appends iff `index == -1` -/
theorem isAppend_eq (neg : Bool) (idx : Nat) :
    Gen.DistogramOps.isAppend (if neg then -1 else (idx : Int)) = neg := by
  -- proved for `index == -1` and for the equivalent `index < 0` / `index <= -1` alike
  cases neg <;> simp [Gen.DistogramOps.isAppend] <;> omega

theorem inPlaceTry_eq (neg : Bool) (idx len cap : Nat) :
    Gen.DistogramFlow.inPlaceTry (if neg then -1 else (idx : Int)) len cap =
      (!neg && decide (0 < idx) && decide (cap ≤ len)) := by
  cases neg <;> simp [Gen.DistogramFlow.inPlaceTry]

/-- the in-place shortcut is tried for a position `index > 0` (not an append) of a full histogram; whether its answer
is taken (`in_place_index > 0` in the source) is left as the source has it — both outcomes refine the reference -/
theorem afterHit_def (h : Hist K) (neg : Bool) (idx : Nat) (value count : K) : afterHit h neg idx value count =
    if !neg && decide (0 < idx) && decide (h.cap ≤ h.bins.length) then
      (if h.diffs.isNone then computeDiffs h else .ok h).bind fun h1 =>
      (searchInPlaceIndex h1 value idx).bind fun r =>
      match r with
      | some ib =>
        if Gen.DistogramFlow.inPlaceTake (ib : Int) then trimInPlace h1 value count ib
        else insertTrim h1 neg idx value count
      | none => insertTrim h1 neg idx value count
    else insertTrim h neg idx value count := by
  unfold afterHit
  rw [inPlaceTry_eq]
  rfl

theorem update_def (h : Hist K) (value count : K) : update h value count =
    if count ≤ 0 then .error "ValueError" else
    match (if 0 < h.bins.length then h.bins[(locate h.bins value).2]? else none) with
    | some (vi, fi) =>
      if eqK vi value then .ok { h with bins := h.bins.set (locate h.bins value).2 (vi, fi + count) }
      else afterHit h (locate h.bins value).1 (locate h.bins value).2 value count
    | none =>
      if 0 < h.bins.length then .error "IndexError"
      else afterHit h (locate h.bins value).1 (locate h.bins value).2 value count := by
  unfold update
  simp only [Gen.DistogramFlow.updCountBad, Gen.DistogramFlow.hitTest, Gen.DistogramFlow.hitCount, decide_eq_true_eq]
  rfl

theorem update_cases {h h' : Hist K} {v c : K} (hok : update h v c = .ok h') :
    0 < c ∧
    ((∃ vi fi, h.bins[(locate h.bins v).2]? = some (vi, fi) ∧ vi = v ∧
        h' = { h with bins := h.bins.set (locate h.bins v).2 (vi, fi + c) }) ∨
     ((∀ vi fi, h.bins[(locate h.bins v).2]? = some (vi, fi) → vi ≠ v) ∧
        afterHit h (locate h.bins v).1 (locate h.bins v).2 v c = .ok h')) := by
  rw [update_def] at hok
  split at hok
  · cases hok
  rename_i hc
  refine ⟨not_le.mp hc, ?_⟩
  split at hok
  · rename_i vi fi hb
    have hb' : h.bins[(locate h.bins v).2]? = some (vi, fi) := by
      split at hb
      · exact hb
      · cases hb
    split at hok
    · rename_i he
      exact Or.inl ⟨vi, fi, hb', (eqK_iff' vi v).mp he, (Except.ok.inj hok).symm⟩
    · rename_i he
      refine Or.inr ⟨?_, hok⟩
      intro vi' fi' hb2 e
      rw [hb'] at hb2
      cases hb2
      exact he ((eqK_iff' vi v).mpr e)
  · split at hok
    · cases hok
    · rename_i hz
      refine Or.inr ⟨?_, hok⟩
      intro vi fi hb2
      exact absurd (List.getElem?_eq_some_iff.mp hb2).1 fun hlt => hz (Nat.lt_of_le_of_lt (Nat.zero_le _) hlt)

/-- `hd` is `h` with the differences computed if there were none: `_search_in_place_index` does that first -/
theorem afterHit_cases {h h' : Hist K} {neg : Bool} {idx : Nat} {v c : K} (hok : afterHit h neg idx v c = .ok h') :
    insertTrim h neg idx v c = .ok h' ∨
    (neg = false ∧ 0 < idx ∧ h.cap ≤ h.bins.length) ∧
      ∃ hd, (if h.diffs.isNone then computeDiffs h else .ok h) = .ok hd ∧
        (insertTrim hd neg idx v c = .ok h' ∨
         ∃ ib, searchInPlaceIndex hd v idx = .ok (some ib) ∧ trimInPlace hd v c ib = .ok h') := by
  rw [afterHit_def] at hok
  split at hok
  · rename_i hguard
    simp only [Bool.and_eq_true, Bool.not_eq_true', decide_eq_true_eq] at hguard
    obtain ⟨hd, hcd, hok⟩ := Except.bind_eq_ok hok
    obtain ⟨r, hr, hok⟩ := Except.bind_eq_ok hok
    refine Or.inr ⟨⟨hguard.1.1, hguard.1.2, hguard.2⟩, hd, hcd, ?_⟩
    split at hok
    · rename_i ib
      split at hok
      · exact Or.inr ⟨ib, hr, hok⟩
      · exact Or.inl hok
    · exact Or.inl hok
  · exact Or.inl hok

theorem foldUpdate_induct {P : Hist K → Prop}
    (hstep : ∀ {h h' : Hist K} {v c : K}, P h → update h v c = .ok h' → P h') :
    ∀ (bs : List (K × K)) {h h' : Hist K}, P h → bs.foldlM (fun acc b => update acc b.1 b.2) h = .ok h' → P h' := by
  intro bs
  induction bs with
  | nil => intro h h' hp hok; cases hok; exact hp
  | cons b bs ih =>
    intro h h' hp hok
    obtain ⟨h1, hu, hok⟩ := Except.bind_eq_ok hok
    exact ih (hstep hp hu) hok

/-! ## The statements around the update path are the model's (`Gen.DistogramOps.*`, regenerated on every run)

`__add__`, `bulkload`, the append bookkeeping of `update`, `_update_diffs`, the positions of `_trim`: each lemma restates
one model function over the generated tests, expressions and positions in the form the proofs unfold.  A changed test
(`operand.min is not None` turned into a truthiness test), operator, offset (`pop(i + 1)`), or guard (`i < len - 1`)
breaks the lemma here. -/

section
-- stated for an ordered field; `rfl` does not use the assumption
variable [IsStrictOrderedRing K]
/-- the lowering test of `_update_diffs` is `new gap < min_diff` -/
theorem ltMinDiff_def (x : K) (m : Option K) :
    ltMinDiff x m = (match m with | none => true | some y => decide (x < y)) := rfl

/-- the stale-minimum test of `_update_diffs` is `old entry == min_diff` -/
theorem eqMinDiff_def (x : K) (m : Option K) :
    eqMinDiff x m = (match m with | none => false | some y => eqK x y) := rfl
end

/-- `_update_diffs` stores `bins[j + 1] - bins[j]` at cache position `j` -/
theorem diffBlock_def (bins : List (K × K)) (st : List K × Option K × Bool) (c : Bool) (j : Nat) :
    diffBlock bins st c j =
      if c then
        match bins[j + 1]?, bins[j]? with
        | some bn, some bi => pointUpdate st j (bn.1 - bi.1)
        | _, _ => .error "IndexError"
      else .ok st := rfl

/-- the guards of the two blocks of `_update_diffs(h, i)`, for `len` bins: `i > 0` and `i < len - 1` over Python's integers -/
theorem udLeft_eq (i len : Nat) : Gen.DistogramOps.udLeft (i : Int) (len : Int) = decide (0 < i) := by
  simp [Gen.DistogramOps.udLeft]

theorem udRight_eq (i len : Nat) : Gen.DistogramOps.udRight (i : Int) (len : Int) = decide (i + 1 < len) := by
  unfold Gen.DistogramOps.udRight
  exact decide_eq_decide.mpr (by omega)

theorem updateDiffs_def (h : Hist K) (i : Nat) : updateDiffs h i =
    match h.diffs with
    | none => .ok h
    | some d0 =>
      (diffBlock h.bins (d0, h.minDiff, false) (decide (0 < i)) (i - 1)).bind fun s1 =>
      (diffBlock h.bins s1 (decide (i + 1 < h.bins.length)) i).bind fun s2 =>
      (finishMin s2).bind fun md =>
      .ok { h with diffs := some s2.1, minDiff := md } := by
  unfold updateDiffs
  rw [udLeft_eq, udRight_eq, udCache_eq]
  cases h.diffs <;> rfl

theorem trimStep_def (h : Hist K) : trimStep h =
    (trimIndex h).bind fun i =>
    match h.bins[i]?, h.bins[i + 1]? with
    | some (v1, f1), some (v2, f2) =>
      let bins := (h.bins.eraseIdx (i + 1)).set i (centroid v1 f1 v2 f2, Gen.DistogramExpr.trimCount v1 f1 v2 f2)
      match h.diffs with
      | some d =>
        if d.length ≤ i then .error "IndexError" else
        (updateDiffs { h with bins := bins, diffs := some (d.eraseIdx i) } i).bind fun h1 =>
        match h1.diffs.bind listMin with
        | some m => .ok { h1 with minDiff := some m }
        | none => .error "ValueError"
      | none => .ok { h with bins := bins }
    | _, _ => .error "IndexError" := by
  unfold trimStep
  simp only [trimCacheKeep_eq, Gen.DistogramOps.trimKeep, Gen.DistogramOps.trimPopBin, Gen.DistogramOps.trimPopDiff,
    Gen.DistogramOps.trimRefresh]
  cases h.diffs <;> rfl

theorem insertBin_def (h : Hist K) (neg : Bool) (idx : Nat) (value count : K) : insertBin h neg idx value count =
    if neg then
      match h.diffs, h.bins.getLast? with
      | some d, some bl =>
        let diff := value - bl.1
        .ok { h with bins := h.bins ++ [(value, count)], diffs := some (d ++ [diff]),
                     minDiff := some (match h.minDiff with
                                      | none => diff
                                      | some m => if diff < m then diff else m) }
      | _, _ => .ok { h with bins := h.bins ++ [(value, count)] }
    else
      match h.diffs with
      | some d =>
        updateDiffs { h with bins := h.bins.insertIdx idx (value, count), diffs := some (d.insertIdx idx (0 : K)) } idx
      | none => .ok { h with bins := h.bins.insertIdx idx (value, count) } := by
  unfold insertBin
  rw [isAppend_eq, appendCache_eq, insertCache_eq]
  cases neg <;> cases h.diffs <;> rfl

theorem computeGaps_eq_gaps : ∀ (l : List (K × K)), computeGaps l = gaps l
  | [] => rfl
  | [_] => rfl
  | a :: b :: rest => by
    simp only [computeGaps, gaps, Gen.DistogramOps.computeGap, computeGaps_eq_gaps (b :: rest)]

theorem computeDiffs_def (h : Hist K) : computeDiffs h =
    match listMin (gaps h.bins) with
    | some m => .ok { h with diffs := some (gaps h.bins), minDiff := some m }
    | none => .error "ValueError" := by
  unfold computeDiffs
  simp only [computeGaps_eq_gaps]
  cases listMin (gaps h.bins) <;> rfl

/-- `merge(h1, h2)` hands each bin of `h2` to `update` as (value, count), in that order -/
theorem merge_def (h : Hist K) (other : List (K × K)) :
    merge h other = other.foldlM (fun acc b => update acc b.1 b.2) h := rfl

theorem loadDiffsFrom_eq_gaps : ∀ (prev : K) (l : List (K × K)), loadDiffsFrom prev l = gaps l
  | _, [] => rfl
  | _, [_] => rfl
  | prev, a :: b :: rest => by
    simp only [loadDiffsFrom, gaps, Gen.DistogramExpr.loadDiff, loadDiffsFrom_eq_gaps a.1 (b :: rest)]

theorem loadDiffs_eq_gaps (l : List (K × K)) : loadDiffs l = gaps l := by
  unfold loadDiffs
  cases h : l.getLast? with
  | none =>
    cases List.getLast?_eq_none_iff.mp h
    rfl
  | some bl =>
    simp only [loadDiffsFrom_eq_gaps bl.1 l]
    apply List.take_of_length_le
    rw [gaps_length]
    simp only [Gen.DistogramOps.loadTurns]
    omega

/-- `load` caches the adjacent gaps; `min_diff` is `min(diffs)` when there is a gap and infinity otherwise — `listMin` either way -/
theorem load_def (bins : List (K × K)) (mn mx : Option K) : load bins mn mx =
    { bins := bins, min := mn, max := mx, diffs := some (gaps bins), minDiff := listMin (gaps bins),
      cap := Gen.Distogram.binCount } := by
  unfold load
  rw [loadDiffs_eq_gaps]
  cases hd : gaps bins <;> simp [Gen.DistogramOps.loadHasDiffs, Gen.DistogramOps.listTruthy, Gen.DistogramOps.loadNoDiffs, listMin]

/-- `_trim` without a cache scans `enumerate(h.bins[1:], start=1)` recording `(i - 1, b[0] - h.bins[i - 1][0])` and takes
the first smallest: the first closest adjacent pair -/
theorem scan_fold : ∀ (l : List (K × K)) (i : Nat) (m : Nat × K), 1 ≤ i →
    ((scanPairs i l).foldl (fun m q => if q.2 < m.2 then q else m) m).1 = argminFrom (i - 1) m.1 m.2 (gaps l) := by
  intro l
  induction l with
  | nil => intro _ _ _; rfl
  | cons a l ih =>
    intro i m hi
    cases l with
    | nil => rfl
    | cons b rest =>
      have e : ((i : Int) - 1).toNat = i - 1 := by omega
      have e2 : i + 1 - 1 = i - 1 + 1 := by rw [Nat.add_sub_cancel, Nat.sub_add_cancel hi]
      simp only [scanPairs, gaps, List.foldl_cons, argminFrom, Gen.DistogramOps.trimScanIdx, Gen.DistogramOps.trimScanGap, e]
      rw [ih (i + 1) _ (Nat.le_add_left 1 i), e2]
      split <;> rfl

theorem scanMin_eq (l : List (K × K)) : scanMin (scanPairs 1 l) =
    match gaps l with
    | [] => none
    | g => some (argminFirst g) := by
  match l with
  | [] => rfl
  | [_] => rfl
  | a :: b :: rest =>
    have e : ((1 : Int) - 1).toNat = 0 := rfl
    simp only [scanPairs, gaps, scanMin, argminFirst, Gen.DistogramOps.trimScanIdx, Gen.DistogramOps.trimScanGap,
      Nat.cast_one, e]
    rw [scan_fold (b :: rest) 2 _ (Nat.le_succ 1)]

theorem trimIndex_def (h : Hist K) : trimIndex h =
    match h.diffs with
    | some d =>
      match h.minDiff with
      | some md =>
        match indexOf md d with
        | some i => .ok i
        | none => .error "ValueError"
      | none => .error "ValueError"
    | none =>
      match gaps h.bins with
      | [] => .error "ValueError"
      | g => .ok (argminFirst g) := by
  unfold trimIndex
  rw [trimCachePick_eq, scanMin_eq]
  cases h.diffs
  · simp only [Option.isSome_none, Bool.false_eq_true, if_false]
    cases gaps h.bins <;> rfl
  · rfl

/-- `__add__`: the right operand contributes its bounds iff it has a minimum (`operand.min is not None` — not a
truthiness test: a minimum of exactly zero counts), and the bounds of the sum are the smaller minimum / larger maximum -/
theorem add_def (h t : Hist K) : add h t =
    (merge h t.bins).bind fun m =>
    match m.min, m.max, t.min, t.max with
    | some a, some b, some c, some d =>
      .ok { m with min := some (if c < a then c else a), max := some (if b < d then d else b) }
    | _, _, none, _ => .ok m
    | _, _, _, _ => .error "TypeError" := by
  unfold add
  congr 1
  funext m
  cases t.min <;> cases t.max <;> cases m.min <;> cases m.max <;> rfl

theorem bulk_def (h : Hist K) (pairs : List (K × K)) (lo hi : K) : bulk h pairs lo hi =
    ((pairs.filter (fun p => decide (0 < p.2))).foldlM (fun acc b => update acc b.1 b.2) h).bind fun m =>
    match m.min, m.max with
    | some a, some b =>
      .ok { m with min := some (if lo < a then lo else a), max := some (if b < hi then hi else b) }
    | none, _ => .ok { m with min := some lo, max := some hi }
    | some _, none => .error "TypeError" := by
  unfold bulk
  congr 1
  funext m
  cases m.min <;> cases m.max <;> rfl

/-- `bulkload` sends an array through numpy.histogram iff it has MORE than `limit * bulkFactor` distinct values: an
array with exactly that many is inserted value by value (and so keeps the exact mean). -/
theorem bulkAbove_iff (distinct cap : Nat) :
    Gen.DistogramOps.bulkAbove (distinct : Int) (cap : Int) = true ↔ cap * Gen.Distogram.bulkFactor < distinct := by
  simp only [Gen.DistogramOps.bulkAbove, Gen.Distogram.bulkFactor, decide_eq_true_eq]
  omega

end Distogram
