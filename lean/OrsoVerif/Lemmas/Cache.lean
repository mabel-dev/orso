import OrsoVerif.Model.Cache
import OrsoVerif.Lemmas.Basics
/-! C19, concurrent single-item wrapper: every schedule of the repaired line program keeps the slots from
pairing the arguments of one call with the result of another, and hands a thread only results of its own. -/
namespace Cache

/-- invocation `v` of the wrapped function was made for key `k` -/
def Own {K : Type} (log : List (K × Int)) (k : K) (v : Nat) : Prop := ∃ tm, log[v]? = some (k, tm)

theorem Own.mono {K : Type} {log log' : List (K × Int)} {k : K} {v : Nat} (hl : log <+: log')
    (h : Own log k v) : Own log' k v := by
  obtain ⟨l, rfl⟩ := hl
  exact h.imp fun _ => List.getElem?_append_of_eq_some l

theorem Own.new {K : Type} (log : List (K × Int)) (k : K) (tm : Int) :
    Own (log ++ [(k, tm)]) k log.length :=
  ⟨tm, List.getElem?_concat_length⟩

theorem missIdx_repaired : missIdx repairedProgram = 2 := by decide

section Single
variable {A B : Type}

/-- a slot triple never pairs the arguments of one call with the result of another -/
def SlotsOk (log : List ((A × B) × Int)) (s : Slots A B) : Prop :=
  ∀ a b, s.a = some a → s.b = some b → ∃ v, s.r = some v ∧ Own log (a, b) v

/-- A thread of `repairedProgram` in order (lines 0 clock, 1 load and test, 2 call, 3 publish and return): it reaches
the publishing line only with a result of its own, and what it has returned is its own.  Nothing is said of the
snapshot: line 1 loads, tests and returns it in one step, so no other thread's store can come between. -/
structure TInv (log : List ((A × B) × Int)) (t : Thr A B) : Prop where
  pc : t.pc ≤ 3
  pub : t.pc = 3 → ∃ v, t.res = some v ∧ Own log (t.ka, t.kb) v
  out : ∀ r, t.out = some r → ∃ v, r = some v ∧ Own log (t.ka, t.kb) v

theorem SlotsOk.mono {log log' : List ((A × B) × Int)} {s : Slots A B} (hl : log <+: log') (h : SlotsOk log s) :
    SlotsOk log' s := by
  intro a b ha hb
  obtain ⟨v, hv, ho⟩ := h a b ha hb
  exact ⟨v, hv, ho.mono hl⟩

theorem TInv.mono {log log' : List ((A × B) × Int)} {t : Thr A B} (hl : log <+: log') (h : TInv log t) :
    TInv log' t :=
  { pc := h.pc
    pub := fun hp => (h.pub hp).imp fun v hv => ⟨hv.1, hv.2.mono hl⟩
    out := fun r hr => by
      obtain ⟨v, hv, ho⟩ := h.out r hr
      exact ⟨v, hv, ho.mono hl⟩ }

theorem TInv.start (log : List ((A × B) × Int)) (ka : A) (kb : B) : TInv log (Thr.start ka kb) :=
  ⟨Nat.zero_le 3, nofun, nofun⟩

/-- what lines of one thread, run in world `w`, guarantee of the world and thread `r` they end in -/
structure Keeps (w : World A B) (r : World A B × Thr A B) : Prop where
  sh : SlotsOk r.1.log r.1.sh
  thr : TInv r.1.log r.2
  log : w.log <+: r.1.log

def CInv (c : Conc A B) : Prop := SlotsOk c.w.log c.w.sh ∧ ∀ t ∈ c.thr, TInv c.w.log t

theorem CInv.init (t0 : Int) (keys : List (A × B)) : CInv (Conc.init t0 keys) := by
  refine ⟨(fun a b ha => nomatch ha), ?_⟩
  intro t ht
  obtain ⟨k, _, rfl⟩ := List.mem_map.mp ht
  exact TInv.start _ _ _

theorem CInv.set {c : Conc A B} {t : Thr A B} {r : World A B × Thr A B} (i : Nat)
    (hc : CInv c) (hr : SlotsOk c.w.log c.w.sh → TInv c.w.log t → Keeps c.w r) (ht : t ∈ c.thr) :
    CInv { w := r.1, thr := c.thr.set i r.2 } := by
  obtain ⟨hsh, hthr, hl⟩ := hr hc.1 (hc.2 t ht)
  refine ⟨hsh, fun t' hmem => ?_⟩
  rcases List.mem_or_eq_of_mem_set hmem with h | rfl
  · exact (hc.2 t' h).mono hl
  · exact hthr

variable [DecidableEq A] [DecidableEq B]

theorem stepThr_repaired_load (valid : Option Int) (cost : A × B → Int) (w : World A B) (ka : A) (kb : B)
    (now : Int) (snap : Slots A B) (res : Option Nat) (out : Option (Option Nat)) :
    stepThr repairedProgram valid cost w ⟨ka, kb, 1, now, snap, res, out⟩ =
      if w.sh.a = some ka ∧ w.sh.b = some kb ∧ fresh valid now w.sh.t = true
      then (w, ⟨ka, kb, 1, now, w.sh, res, some w.sh.r⟩) else (w, ⟨ka, kb, 2, now, w.sh, res, out⟩) := by
  have hline : repairedProgram[1]? = some [.rd .args, .rd .kwargs, .rd .result, .rd .time, .test .args,
      .test .kwargs, .test .time, .retHit] := rfl
  simp only [stepThr, hline, missIdx_repaired, execLine, execOp]
  by_cases h1 : w.sh.a = some ka
  · by_cases h2 : w.sh.b = some kb
    · by_cases h3 : fresh valid now w.sh.t = true
      · simp only [if_pos h1, if_pos h2, if_pos h3, if_pos (And.intro h1 (And.intro h2 h3))]
      · simp only [if_pos h1, if_pos h2, if_neg h3, if_neg (fun h : _ ∧ _ ∧ _ => h3 h.2.2)]
    · simp only [if_pos h1, if_neg h2, if_neg (fun h : _ ∧ _ ∧ _ => h2 h.2.1)]
  · simp only [if_neg h1, if_neg (fun h : _ ∧ _ => h1 h.1)]

theorem stepThr_repaired (valid : Option Int) (cost : A × B → Int) (w : World A B) (t : Thr A B)
    (hw : SlotsOk w.log w.sh) (ht : TInv w.log t) : Keeps w (stepThr repairedProgram valid cost w t) := by
  obtain ⟨ka, kb, pc, now, snap, res, out⟩ := t
  obtain ⟨hpc, hpub, hout⟩ := ht
  have hnil : w.log <+: w.log := List.prefix_rfl
  match pc, hpc, hpub with
  | 0, _, _ =>
    show Keeps w (w, ⟨ka, kb, 1, w.clock, snap, res, out⟩)
    exact ⟨hw, ⟨(by decide : 1 ≤ 3), nofun, hout⟩, hnil⟩
  | 1, _, _ =>
    rw [stepThr_repaired_load]
    split
    · rename_i h
      obtain ⟨v, hv, ho⟩ := hw ka kb h.1 h.2.1
      exact ⟨hw, ⟨(by decide : 1 ≤ 3), nofun, fun r hr => ⟨v, by cases hr; exact hv, ho⟩⟩, hnil⟩
    · exact ⟨hw, ⟨(by decide : 2 ≤ 3), nofun, hout⟩, hnil⟩
  | 2, _, _ =>
    show Keeps w ({ w with log := w.log ++ [((ka, kb), w.clock)], clock := w.clock + cost (ka, kb) },
      ⟨ka, kb, 3, now, snap, some w.log.length, out⟩)
    have hl := List.prefix_append w.log [((ka, kb), w.clock)]
    exact ⟨hw.mono hl, ⟨Nat.le_refl 3, fun _ => ⟨_, rfl, Own.new _ _ _⟩,
      fun r hr => (hout r hr).imp fun v hv => ⟨hv.1, hv.2.mono hl⟩⟩, hl⟩
  | 3, _, hpub =>
    obtain ⟨v, rfl, hown⟩ := hpub rfl
    show Keeps w ({ w with sh := ⟨some ka, some kb, some v, now⟩ }, ⟨ka, kb, 3, now, snap, some v, some (some v)⟩)
    refine ⟨fun a b ha hb => ?_, ⟨Nat.le_refl 3, fun _ => ⟨v, rfl, hown⟩, fun r hr => ⟨v, by cases hr; rfl, hown⟩⟩, hnil⟩
    cases ha; cases hb
    exact ⟨v, rfl, hown⟩

theorem finishThr_repaired (valid : Option Int) (cost : A × B → Int) (fuel : Nat) :
    ∀ (w : World A B) (t : Thr A B), SlotsOk w.log w.sh → TInv w.log t →
      Keeps w (Conc.finishThr repairedProgram valid cost fuel w t) := by
  induction fuel with
  | zero => intro w t hw ht; exact ⟨hw, ht, List.prefix_rfl⟩
  | succ n ih =>
    intro w t hw ht
    rw [Conc.finishThr]
    split
    · exact ⟨hw, ht, List.prefix_rfl⟩
    · obtain ⟨h1, h2, hl1⟩ := stepThr_repaired valid cost w t hw ht
      obtain ⟨h3, h4, hl2⟩ := ih _ _ h1 h2
      exact ⟨h3, h4, hl1.trans hl2⟩

theorem step_repaired (valid : Option Int) (cost : A × B → Int) (c c' : Conc A B) (s : SStep)
    (hc : CInv c) (h : Conc.step repairedProgram valid cost c s = some c') : CInv c' := by
  cases s with
  | tick d => cases h; exact hc
  | run i =>
    simp only [Conc.step] at h
    split at h
    · cases h
    · rename_i t hg
      split at h
      · cases h
      · cases h
        exact hc.set i (stepThr_repaired valid cost c.w t) (List.mem_of_getElem? hg)
  | finish i =>
    simp only [Conc.step] at h
    split at h
    · cases h
    · rename_i t hg
      split at h
      · cases h
      · cases h
        exact hc.set i (finishThr_repaired valid cost _ c.w t) (List.mem_of_getElem? hg)

theorem runSched_repaired (valid : Option Int) (cost : A × B → Int) (ss : List SStep) :
    ∀ (c c' : Conc A B), CInv c → Conc.runSched repairedProgram valid cost c ss = some c' → CInv c' := by
  induction ss with
  | nil => intro c c' hc h; cases h; exact hc
  | cons s ss ih =>
    intro c c' hc h
    rw [Conc.runSched] at h
    split at h
    · cases h
    · rename_i c1 hs
      exact ih c1 c' (step_repaired valid cost c c1 s hc hs) h

end Single
end Cache
