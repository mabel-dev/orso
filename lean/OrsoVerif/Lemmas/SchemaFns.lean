import OrsoVerif.Model.SchemaOps
import OrsoVerif.Lemmas.SchemaOps
import OrsoVerif.Lemmas.Basics
/-! The shapes `harness/pystmt.py` emits for `orso/schema.py`, tied to the model.  Nothing here mentions a generated
definition, so this file builds whatever the source says.  A lemma on a loop or a search takes the step function or the
predicate as a variable with a pointwise hypothesis (`∀ st c, step st c = …`, `∀ c, p c = decide (c.name = k)`), which
`simp` discharges for whatever spelling the source uses (`not x in` / `x not in`, `continue` / nested `if`, renamed
locals, swapped operands of `==`). -/
set_option linter.unusedSectionVars false
namespace SchemaFnsLemmas
open SchemaOps

variable {ι ν : Type} [DecidableEq ι] [DecidableEq ν]

/-! ### `find_column` -/

theorem bears_id (c : Col ι ν) (k : ν) : c.bears id k = decide (k ∈ c.allNames) := by
  simp [Col.bears]

theorem find?_eq_findCol (norm : ν → ν) (k : ν) (p : Col ι ν → Bool) (cols : List (Col ι ν))
    (hp : ∀ c, p c = c.bears norm k) : cols.find? p = findCol norm k cols := by
  rw [findCol_eq_find?, funext hp]

theorem findCol_id (k : ν) (cols : List (Col ι ν)) :
    findCol id k cols = cols.find? (fun c => decide (k ∈ c.allNames)) :=
  (find?_eq_findCol id k _ cols fun c => (bears_id c k).symm).symm

theorem findCol_norm (norm : ν → ν) (k : ν) (cols : List (Col ι ν)) :
    findCol norm k cols = cols.find? (fun c => decide (norm k ∈ c.allNames.map (fun x => norm x))) :=
  findCol_eq_find? norm k cols

/-- `for n in range(len(xs)): if p(xs[n]): return xs[n]` arrives as a search over `xs.zipIdx`. -/
theorem find?_zipIdx_fst {α : Type} (q : α × Nat → Bool) (p : α → Bool) (hq : ∀ x, q x = p x.1) (l : List α) (k : Nat) :
    ((l.zipIdx k).find? q).map (·.1) = l.find? p := by
  induction l generalizing k with
  | nil => simp
  | cons x xs ih =>
    simp only [List.zipIdx_cons, List.find?_cons, hq]
    cases p x <;> simp [ih]

theorem zipIdx_find?_some {α : Type} (q : α × Nat → Bool) (p : α → Bool) (hq : ∀ x, q x = p x.1) (l : List α) (c : α) (i : Nat)
    (h : l.zipIdx.find? q = some (c, i)) : l.find? p = some c := by
  rw [← find?_zipIdx_fst q p hq l 0, h]; rfl

theorem zipIdx_find?_none {α : Type} (q : α × Nat → Bool) (p : α → Bool) (hq : ∀ x, q x = p x.1) (l : List α)
    (h : l.zipIdx.find? q = none) : l.find? p = none := by
  rw [← find?_zipIdx_fst q p hq l 0, h]; rfl

theorem match_find?_id {α : Type} (o : Option α) :
    (match o with | some x => some x | none => none) = o := by
  cases o <;> rfl

/-! ### `pop_column` -/

/-- `enumerate` + first match + `pop(idx)`, with any spelling `p` of the test "is named `k`" -/
theorem pop_of_zipIdx (k : ν) (p : Col ι ν × Nat → Bool) (hp : ∀ x, p x = decide (x.1.name = k))
    (cols : List (Col ι ν)) :
    (∀ c i, cols.zipIdx.find? p = some (c, i) →
        cols[i]? = some c ∧ popCol k cols = (some c, cols.eraseIdx i))
    ∧ (cols.zipIdx.find? p = none → popCol k cols = (none, cols)) := by
  cases (funext hp : p = fun x => decide (x.1.name = k))
  refine ⟨fun c i h => ⟨List.mk_mem_zipIdx_iff_getElem?.mp (List.mem_of_find?_eq_some h), ?_⟩, fun hn => ?_⟩
  · have hf := zipIdx_find?_some _ (fun d : Col ι ν => decide (d.name = k)) (fun _ => rfl) cols c i h
    have hi : cols.findIdx? (fun d => decide (d.name = k)) = some i := by
      rw [List.findIdx?_eq_fst_find?_zipIdx]
      exact congrArg (Option.map (·.2)) h
    rw [popCol_eq, hf, List.eraseP_eq_eraseIdx, hi]
  · exact popCol_of_find?_eq_none (zipIdx_find?_none _ (fun d : Col ι ν => decide (d.name = k)) (fun _ => rfl) cols hn)

/-- first match + `list.remove(column)`, with any spelling `p` of the test "is named `k`" -/
theorem pop_of_find (k : ν) (p : Col ι ν → Bool) (hp : ∀ c, p c = decide (c.name = k)) (cols : List (Col ι ν)) :
    (∀ c, cols.find? p = some c → popCol k cols = (some c, cols.erase c))
    ∧ (cols.find? p = none → popCol k cols = (none, cols)) := by
  cases (funext hp : p = fun c => decide (c.name = k))
  refine ⟨fun c hc => ?_, popCol_of_find?_eq_none⟩
  obtain ⟨hpc, pre, post, rfl, hpre⟩ := List.find?_eq_some_iff_append.mp hc
  have hk : c.name = k := of_decide_eq_true hpc
  have hpre' : ∀ d ∈ pre, d.name ≠ k := fun d hd hdk => by simpa [hdk] using hpre d hd
  -- `c` is named `k` and nothing in `pre` is, so the first occurrence of `c` is the match itself
  rw [(popCol_eq_some_iff k _ _ c).mpr ⟨pre, post, rfl, hk, hpre', rfl⟩,
    List.erase_append_right _ (fun hm => hpre' c hm hk), List.erase_cons_head]

/-! ### `__add__` -/

/-- The loop of `__add__` over any state that shows the identities seen (`seenOf`) and the columns collected (`colsOf`);
the three spellings of the state below are instances. -/
theorem foldl_news {σ : Type} (seenOf : σ → List ι) (colsOf : σ → List (Col ι ν)) (step : σ → Col ι ν → σ)
    (hstep : ∀ st c, (c.identity ∈ seenOf st → step st c = st) ∧
      (c.identity ∉ seenOf st → colsOf (step st c) = colsOf st ++ [c] ∧ seenOf (step st c) = seenOf st ++ [c.identity]))
    (cs : List (Col ι ν)) (st : σ) :
    seenOf (cs.foldl step st) = seenOf st ++ ids (news (seenOf st) cs)
    ∧ colsOf (cs.foldl step st) = colsOf st ++ news (seenOf st) cs := by
  induction cs generalizing st with
  | nil => simp [news, ids]
  | cons c cs ih =>
    rw [List.foldl_cons, news]
    by_cases h : c.identity ∈ seenOf st
    · rw [(hstep st c).1 h, if_pos h]
      exact ih st
    · obtain ⟨h2, h1⟩ := (hstep st c).2 h
      rw [if_neg h, (ih _).1, (ih _).2, h1, h2]
      simp [ids]

/-- the state written `(seen_identities, new_columns)`, the step as the source has it -/
theorem foldl_union (step : List ι × List (Col ι ν) → Col ι ν → List ι × List (Col ι ν))
    (hstep : ∀ st c, step st c = if c.identity ∈ st.1 then st else (st.1 ++ [c.identity], st.2 ++ [c]))
    (cs : List (Col ι ν)) (seen : List ι) (acc : List (Col ι ν)) :
    cs.foldl step (seen, acc) = (seen ++ ids (news seen cs), acc ++ news seen cs) :=
  have h := foldl_news Prod.fst Prod.snd step (fun st c => ⟨fun h => (hstep st c).trans (if_pos h), fun h =>
    have e := (hstep st c).trans (if_neg h)
    ⟨congrArg Prod.snd e, congrArg Prod.fst e⟩⟩) cs (seen, acc)
  Prod.ext h.1 h.2

theorem unionLoop_eq_foldl (cs : List (Col ι ν)) (seen : List ι) (acc : List (Col ι ν)) :
    (cs.foldl (fun (st : List ι × List (Col ι ν)) column =>
        if column.identity ∉ st.1 then (st.1 ++ [column.identity], st.2 ++ [column]) else (st.1, st.2))
      (seen, acc)).2 = unionLoop seen acc cs := by
  rw [foldl_union _ (fun st c => ite_not ..), unionLoop_eq]

/-- the same loop when the state is written (new_columns, seen) -/
theorem foldl_union_swapped (step : List (Col ι ν) × List ι → Col ι ν → List (Col ι ν) × List ι)
    (hstep : ∀ st c, step st c = if c.identity ∈ st.2 then st else (st.1 ++ [c], st.2 ++ [c.identity]))
    (cs : List (Col ι ν)) (seen : List ι) (acc : List (Col ι ν)) :
    cs.foldl step (acc, seen) = (acc ++ news seen cs, seen ++ ids (news seen cs)) :=
  have h := foldl_news Prod.snd Prod.fst step (fun st c => ⟨fun h => (hstep st c).trans (if_pos h), fun h =>
    have e := (hstep st c).trans (if_neg h)
    ⟨congrArg Prod.fst e, congrArg Prod.snd e⟩⟩) cs (acc, seen)
  Prod.ext h.2 h.1

/-- the loop when the seen identities are the *keys of a dict* (an association list, whatever the values): stated
through what a step does to the keys and to the columns, so that it holds for any value stored -/
theorem foldl_union_keyed {β : Type} (step : List (ι × β) × List (Col ι ν) → Col ι ν → List (ι × β) × List (Col ι ν))
    (hstep : ∀ st c, (c.identity ∈ st.1.map (·.1) → step st c = st) ∧
      (c.identity ∉ st.1.map (·.1) → (step st c).2 = st.2 ++ [c] ∧ (step st c).1.map (·.1) = st.1.map (·.1) ++ [c.identity]))
    (cs : List (Col ι ν)) (seen : List (ι × β)) (acc : List (Col ι ν)) :
    (cs.foldl step (seen, acc)).2 = acc ++ news (seen.map (·.1)) cs :=
  (foldl_news (fun st => st.1.map (·.1)) Prod.snd step hstep cs (seen, acc)).2

theorem union_eq (a b : Schema ι ν) :
    union a b = { name := a.name, aliases := a.aliases, columns := a.columns ++ news (ids a.columns) b.columns } :=
  congrArg (Schema.mk a.name a.aliases) (union_columns a b)

/-! ### accumulating loops that are maps -/

theorem foldl_append_singleton {α β : Type} (f : α → β) (step : List β → α → List β)
    (hstep : ∀ acc x, step acc x = acc ++ [f x]) (l : List α) (init : List β) :
    l.foldl step init = init ++ l.map f :=
  (l.foldl_eq_append_flatMap _ step hstep init).trans (congrArg _ List.map_eq_flatMap.symm)

theorem foldl_append_list {α β : Type} (f : α → List β) (step : List β → α → List β)
    (hstep : ∀ acc x, step acc x = acc ++ f x) (l : List α) (init : List β) :
    l.foldl step init = init ++ l.flatMap f :=
  l.foldl_eq_append_flatMap f step hstep init

end SchemaFnsLemmas
