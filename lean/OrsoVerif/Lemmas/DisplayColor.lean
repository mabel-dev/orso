import OrsoVerif.Lemmas.DisplayWidth
/-! `colorizer`: sequential `str.replace` over the colour table substitutes exactly the tokens of a string in token
form. -/
namespace Display

def NoMark (s : Str) : Prop := '\x01' ∉ s

/-- a colour token: the marker, a name containing neither the marker nor `m`, then `m` -/
def TokShape (k : Str) : Prop := ∃ name, k = '\x01' :: (name ++ ['m']) ∧ '\x01' ∉ name ∧ 'm' ∉ name

/-- decidable form of `TokShape` (used on the extracted table) -/
def tokShapeB : Str → Bool
  | [] => false
  | c :: rest => c == '\x01' && rest.getLast? == some 'm' && rest.dropLast.all (fun x => x != '\x01' && x != 'm')

theorem tokShape_of_B {k : Str} (h : tokShapeB k = true) : TokShape k := by
  cases k with
  | nil => simp [tokShapeB] at h
  | cons c rest =>
    simp only [tokShapeB, Bool.and_eq_true, beq_iff_eq, List.all_eq_true, bne_iff_ne, ne_eq] at h
    obtain ⟨⟨hc, hl⟩, ha⟩ := h
    refine ⟨rest.dropLast, ?_, fun hm => (ha _ hm).1 rfl, fun hm => (ha _ hm).2 rfl⟩
    have hne : rest ≠ [] := by intro e; simp [e] at hl
    have hlast : rest.getLast hne = 'm' := by
      rw [List.getLast?_eq_some_getLast hne] at hl; exact Option.some.inj hl
    rw [hc, ← hlast, List.dropLast_concat_getLast hne]

/-- A string in token form: text without markers, and tokens. -/
inductive Seg where
  | txt (s : Str)
  | tok (k : Str)

def Seg.flat : Seg → Str
  | .txt s => s
  | .tok k => k

def flat (segs : List Seg) : Str := segs.flatMap Seg.flat

def SegOk (keys : List Str) : Seg → Prop
  | .txt s => NoMark s
  | .tok k => k ∈ keys

/-- what one `replace(key, rep)` does to a segment -/
def expand (key rep : Str) : Seg → Seg
  | .txt s => .txt s
  | .tok k => if k = key then .txt rep else .tok k

theorem flat_cons (sg : Seg) (segs : List Seg) : flat (sg :: segs) = sg.flat ++ flat segs := by
  simp [flat]

theorem flat_append (a b : List Seg) : flat (a ++ b) = flat a ++ flat b := by simp [flat]

theorem replGo_noMark {key rep : Str} (hk : TokShape key) (s t : Str) (hs : NoMark s) :
    replGo key rep 0 (s ++ t) = s ++ replGo key rep 0 t := by
  obtain ⟨name, rfl, _, _⟩ := hk
  induction s with
  | nil => rfl
  | cons c cs ih =>
    have hc : c ≠ '\x01' := fun e => hs (by simp [e])
    have hcs : NoMark cs := fun h => hs (by simp [h])
    have hp : ('\x01' :: (name ++ ['m'])).isPrefixOf (c :: (cs ++ t)) = false := by
      simp only [List.isPrefixOf, Bool.and_eq_false_imp, beq_iff_eq]
      intro e; exact absurd e.symm hc
    simp only [List.cons_append, replGo, hp, Bool.false_eq_true, if_false, ih hcs]

theorem replGo_skip (key rep : Str) (xs t : Str) : replGo key rep xs.length (xs ++ t) = replGo key rep 0 t := by
  induction xs with
  | nil => rfl
  | cons x xs ih => simp only [List.length_cons, List.cons_append, replGo, ih]

theorem name_prefix_eq {n1 n2 t : Str} (h1 : 'm' ∉ n1) (h2 : 'm' ∉ n2)
    (h : (n1 ++ ['m']) <+: (n2 ++ 'm' :: t)) : n1 = n2 := by
  induction n1 generalizing n2 with
  | nil =>
    cases n2 with
    | nil => rfl
    | cons b n2 =>
      simp only [List.nil_append, List.cons_append, List.cons_prefix_cons] at h
      exact absurd (by rw [← h.1]; exact List.mem_cons_self) h2
  | cons a n1 ih =>
    cases n2 with
    | nil =>
      simp only [List.cons_append, List.nil_append, List.cons_prefix_cons] at h
      exact absurd (by rw [h.1]; exact List.mem_cons_self) h1
    | cons b n2 =>
      simp only [List.cons_append, List.cons_prefix_cons] at h
      rw [h.1, ih (fun hm => h1 (by simp [hm])) (fun hm => h2 (by simp [hm])) h.2]

theorem tok_prefix_iff {key k t : Str} (hkey : TokShape key) (hk : TokShape k) :
    key.isPrefixOf (k ++ t) = true ↔ k = key := by
  obtain ⟨n1, rfl, _, m1⟩ := hkey
  obtain ⟨n2, rfl, _, m2⟩ := hk
  rw [List.isPrefixOf_iff_prefix]
  constructor
  · intro h
    simp only [List.cons_append, List.cons_prefix_cons, true_and, List.append_assoc] at h
    rw [name_prefix_eq m1 m2 h]
  · intro h; rw [h]; exact List.prefix_append _ _

theorem replGo_tok {key k : Str} (hkey : TokShape key) (hk : TokShape k) (rep t : Str) :
    replGo key rep 0 (k ++ t) = (if k = key then rep else k) ++ replGo key rep 0 t := by
  by_cases he : k = key
  · subst he
    obtain ⟨name, rfl, _, _⟩ := hk
    have hp : ('\x01' :: (name ++ ['m'])).isPrefixOf ('\x01' :: (name ++ ['m']) ++ t) = true :=
      (tok_prefix_iff hkey hkey).mpr rfl
    rw [if_pos rfl]
    simp only [List.cons_append] at hp ⊢
    simp only [replGo, hp, if_true, List.length_cons, Nat.add_sub_cancel]
    rw [replGo_skip]
  · have hp : key.isPrefixOf (k ++ t) = false :=
      Bool.eq_false_iff.mpr fun h => he ((tok_prefix_iff hkey hk).mp h)
    rw [if_neg he]
    obtain ⟨name, rfl, hn1, _⟩ := hk
    simp only [List.cons_append] at hp ⊢
    simp only [replGo, hp, Bool.false_eq_true, if_false]
    -- after the marker, the rest of the token is text without a marker
    rw [replGo_noMark hkey _ _ (fun h => (List.mem_append.mp h).elim hn1 (by simp))]

theorem replaceAll_segs {keys : List Str} (hkeys : ∀ k ∈ keys, TokShape k) {key rep : Str} (hkey : TokShape key)
    (segs : List Seg) (hs : ∀ sg ∈ segs, SegOk keys sg) :
    replaceAll key rep (flat segs) = flat (segs.map (expand key rep)) := by
  unfold replaceAll
  induction segs with
  | nil => rfl
  | cons sg segs ih =>
    have ih' := ih (fun x hx => hs x (List.mem_cons_of_mem _ hx))
    have hsg := hs sg List.mem_cons_self
    rw [List.map_cons, flat_cons, flat_cons]
    cases sg with
    | txt s => exact (replGo_noMark hkey s _ hsg).trans (congrArg (s ++ ·) ih')
    | tok k =>
      rw [show (Seg.tok k).flat = k from rfl, replGo_tok hkey (hkeys k hsg), ih', expand]
      split <;> rfl

theorem expand_ok {keys : List Str} {key rep : Str} (hrep : NoMark rep) {sg : Seg} (h : SegOk keys sg) :
    SegOk keys (expand key rep sg) := by
  cases sg with
  | txt s => exact h
  | tok k => simp only [expand]; split; exact hrep; exact h

/-- what the whole loop does to a segment: the first table entry with that key decides -/
def resolve (table : List (Str × Str)) (on : Bool) : Seg → Seg
  | .txt s => .txt s
  | .tok k =>
    match table.find? (fun kv => kv.1 == k) with
    | some kv => .txt (if on then kv.2 else [])
    | none => .tok k

theorem resolve_key (table : List (Str × Str)) (on : Bool) {k : Str} (h : k ∈ table.map Prod.fst) :
    ∃ x ∈ table, resolve table on (.tok k) = .txt (if on then x.2 else []) := by
  obtain ⟨kv, hkv, rfl⟩ := List.mem_map.mp h
  cases hf : table.find? (fun x => x.1 == kv.1) with
  | some x => exact ⟨x, List.mem_of_find?_eq_some hf, by simp only [resolve, hf]⟩
  | none => exact absurd (List.find?_eq_none.mp hf kv hkv) (by simp)

theorem resolve_cons (kv : Str × Str) (rest : List (Str × Str)) (on : Bool) (sg : Seg) :
    resolve (kv :: rest) on sg = resolve rest on (expand kv.1 (if on then kv.2 else []) sg) := by
  cases sg with
  | txt s => rfl
  | tok k =>
    simp only [resolve, expand, List.find?_cons]
    by_cases he : k = kv.1
    · rw [if_pos he, beq_iff_eq.mpr he.symm]
    · rw [if_neg he, beq_eq_false_iff_ne.mpr (Ne.symm he)]

theorem colorize_segs (table : List (Str × Str)) (on : Bool)
    (hk : ∀ kv ∈ table, TokShape kv.1) (hv : ∀ kv ∈ table, NoMark kv.2)
    (keys : List Str) (hkeys : ∀ k ∈ keys, TokShape k)
    (segs : List Seg) (hs : ∀ sg ∈ segs, SegOk keys sg) :
    colorize table on (flat segs) = flat (segs.map (resolve table on)) := by
  induction table generalizing segs with
  | nil =>
    have : resolve [] on = id := funext fun sg => by cases sg <;> rfl
    rw [this, List.map_id]; rfl
  | cons kv rest ih =>
    have hrep : NoMark (if on then kv.2 else []) := by
      split
      · exact hv kv List.mem_cons_self
      · exact List.not_mem_nil
    -- one `replace` expands the segments; the rest of the loop runs on the expanded segments
    rw [colorize, List.foldl_cons, replaceAll_segs hkeys (hk kv List.mem_cons_self) segs hs, ← colorize,
      ih (fun x hx => hk x (List.mem_cons_of_mem _ hx)) (fun x hx => hv x (List.mem_cons_of_mem _ hx)) _
        (fun sg hsg => by obtain ⟨s0, h0, rfl⟩ := List.mem_map.mp hsg; exact expand_ok hrep (hs s0 h0)),
      List.map_map]
    exact congrArg flat (List.map_congr_left fun sg _ => (resolve_cons kv rest on sg).symm)

/-- printed width of a string in token form whose text has no escape at all: the text lengths -/
def segWidth : Seg → Nat
  | .txt s => s.length
  | .tok _ => 0

theorem W_flat_map (g : Seg → Seg) (wf : Seg → Nat) (segs : List Seg)
    (h : ∀ sg ∈ segs, W (g sg).flat (wf sg)) : W (flat (segs.map g)) ((segs.map wf).sum) := by
  induction segs with
  | nil => exact W_nil
  | cons sg segs ih =>
    rw [List.map_cons, flat_cons, List.map_cons, List.sum_cons]
    exact W_append (h sg (by simp)) (ih (fun x hx => h x (by simp [hx])))

end Display
