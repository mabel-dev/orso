import OrsoVerif.Model.Arrow
/-!
Helper lemmas for C11 (rows): the batches of a chunk flatten back to it, `fetch` finds the first row of
the remaining tables, one `next` call delivers the first of the rows still to come (`remaining` cut to
the size limit) and leaves the others (`next_spec`); `nextPinned` (the `__next__` from before the
repair) agrees with `next` while no table is empty.
-/
namespace Arrow

variable {α : Type}

theorem splitFuel_flatten (n : Nat) (hn : 0 < n) (f : Nat) (xs : List α) (h : xs.length ≤ f) :
    (splitFuel f n xs).flatten = xs := by
  induction f generalizing xs with
  | zero => rw [List.eq_nil_of_length_eq_zero (Nat.le_zero.mp h)]; rfl
  | succ f ih =>
    cases xs with
    | nil => rfl
    | cons x xs =>
      simp only [splitFuel, List.flatten_cons]
      rw [ih]
      · exact List.take_append_drop n (x :: xs)
      · simp only [List.length_drop, List.length_cons] at *
        omega

theorem splitEvery_flatten (n : Nat) (hn : 0 < n) (xs : List α) : (splitEvery n xs).flatten = xs := by
  cases xs with
  | nil => rfl
  | cons x xs => exact splitFuel_flatten n hn _ _ (Nat.le_refl _)

def pending (b : Nat) (ts : List (Table α)) : List α := (ts.map (processTable b)).flatten

theorem pending_cons (b : Nat) (t : Table α) (ts : List (Table α)) :
    pending b (t :: ts) = processTable b t ++ pending b ts := by
  simp [pending]

theorem fetch_none (b : Nat) (ts : List (Table α)) (h : pending b ts = []) : fetch b ts = none := by
  induction ts with
  | nil => rfl
  | cons t ts ih =>
    rw [pending_cons] at h
    obtain ⟨h1, h2⟩ := List.append_eq_nil_iff.mp h
    simp only [fetch, h1]
    split
    · exact ih h2
    · rfl

theorem fetch_some (L : Gen.ArrowExpr.fetchLoops = true) (b : Nat) :
    ∀ (ts : List (Table α)) (r : α) (rest : List α), pending b ts = r :: rest →
    ∃ cur ts', fetch b ts = some (r, cur, ts') ∧ cur ++ pending b ts' = rest := by
  intro ts
  induction ts with
  | nil => intro r rest h; simp [pending] at h
  | cons t ts ih =>
    intro r rest h
    rw [pending_cons] at h
    cases hp : processTable b t with
    | nil =>
      rw [hp, List.nil_append] at h
      obtain ⟨cur, ts', h1, h2⟩ := ih r rest h
      exact ⟨cur, ts', by simp only [fetch, hp, L, if_true, h1], h2⟩
    | cons r' cur =>
      rw [hp, List.cons_append] at h
      injection h with h1 h2
      subst h1
      exact ⟨cur, ts, by simp only [fetch, hp], h2⟩

/-- What the hand-written skeleton needs to know about the *generated* `__next__` expressions
(proved of the current source in `Props/C11.lean`: `next_guard_spec`, `next_bookkeeping_spec`,
`next_fetch_loop_spec`). -/
structure NextFacts : Prop where
  stop : ∀ p m : Nat, Gen.ArrowExpr.nextStopTest (p : Int) (m : Int) ↔ m ≤ p
  bump : ∀ p : Nat, bump p = p + 1
  loops : Gen.ArrowExpr.fetchLoops = true

theorem remaining_eq (s : It α) : s.remaining = s.current ++ pending s.batch s.tables := rfl

theorem next_some (N : NextFacts) (s : It α) (hf : s.full = false) (r : α) (rest : List α)
    (h : s.remaining = r :: rest) :
    ∃ s', next s = (some r, s') ∧ s'.remaining = rest ∧ s'.processed = s.processed + 1 ∧
      s'.maxSize = s.maxSize := by
  rw [remaining_eq] at h
  cases hc : s.current with
  | cons r' cur =>
    rw [hc, List.cons_append] at h
    injection h with h1 h2
    subst h1
    refine ⟨{ s with current := cur, processed := bump s.processed }, ?_, ?_, N.bump _, rfl⟩
    · simp [next, hf, hc]
    · simpa [It.remaining, pending] using h2
  | nil =>
    rw [hc, List.nil_append] at h
    obtain ⟨cur, ts', h1, h2⟩ := fetch_some N.loops _ _ r rest h
    refine ⟨{ s with tables := ts', current := cur, processed := bump s.processed }, ?_, ?_, N.bump _, rfl⟩
    · simp [next, hf, hc, h1]
    · simpa [It.remaining, pending] using h2

/-- How many more rows the size limit lets through. -/
def It.room (s : It α) : Nat :=
  match s.maxSize with
  | none => s.remaining.length
  | some m => m - s.processed

/-- The rows an iterator will still deliver: what is left, cut to what the size limit lets through. -/
def It.rowsLeft (s : It α) : List α := s.remaining.take s.room

theorem next_spec (N : NextFacts) (s : It α) :
    (next s).1 = s.rowsLeft.head? ∧ (next s).2.rowsLeft = s.rowsLeft.tail := by
  unfold It.rowsLeft
  cases hf : s.full with
  | true =>
    have h0 : s.room = 0 := by
      unfold It.full at hf
      unfold It.room
      cases hm : s.maxSize with
      | none => rw [hm] at hf; cases hf
      | some m =>
        rw [hm, decide_eq_true_eq, N.stop] at hf
        exact Nat.sub_eq_zero_of_le hf
    simp [next, hf, h0]
  | false =>
    cases hr : s.remaining with
    | nil =>
      rw [remaining_eq] at hr
      obtain ⟨h1, h2⟩ := List.append_eq_nil_iff.mp hr
      simp [next, hf, h1, fetch_none _ _ h2, It.remaining]
    | cons r rest =>
      obtain ⟨s', h1, h2, h3, h4⟩ := next_some N s hf r rest hr
      -- delivering a row uses up one unit of room
      have hroom : s.room = s'.room + 1 := by
        unfold It.full at hf
        unfold It.room
        rw [h4, h3, hr, h2]
        cases hs : s.maxSize with
        | none => rfl
        | some m =>
          rw [hs, decide_eq_false_iff_not, N.stop] at hf
          simp only
          omega
      rw [h1, hroom, h2]
      exact ⟨rfl, rfl⟩

def It.noEmptyTable (s : It α) : Prop := ∀ t ∈ s.tables, processTable s.batch t ≠ []

theorem nextPinned_eq_next (s : It α) (h : s.noEmptyTable) :
    nextPinned s = next s ∧ (next s).2.noEmptyTable := by
  obtain ⟨tables, current, processed, maxSize, batch⟩ := s
  unfold nextPinned next
  by_cases hf : It.full ⟨tables, current, processed, maxSize, batch⟩ = true
  · simp only [hf, if_true]; exact ⟨trivial, h⟩
  · simp only [hf]
    cases current with
    | cons r rest => exact ⟨rfl, h⟩
    | nil =>
      cases tables with
      | nil => simp only [fetch]; exact ⟨trivial, h⟩
      | cons t ts =>
        have hne := h t List.mem_cons_self
        simp only at hne
        cases hp : processTable batch t with
        | nil => exact absurd hp hne
        | cons r rest =>
          simp only [fetch, hp]
          exact ⟨trivial, fun t' ht' => h t' (List.mem_cons_of_mem _ ht')⟩

theorem drainWith_pinned_eq (f : Nat) (s : It α) (h : s.noEmptyTable) :
    drainWith nextPinned f s = drainWith next f s := by
  induction f generalizing s with
  | zero => rfl
  | succ f ih =>
    obtain ⟨h1, h2⟩ := nextPinned_eq_next s h
    simp only [drainWith, h1]
    cases hn : next s with
    | mk o s' =>
      cases o with
      | none => rfl
      | some r =>
        rw [hn] at h2
        simp only [ih s' h2]

end Arrow
