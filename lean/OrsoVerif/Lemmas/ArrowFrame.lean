import OrsoVerif.Lemmas.Arrow
import OrsoVerif.Model.ArrowFrame
/-!
Helper lemmas for C11 (one frame used more than once): `takeWith next k` delivers the first `k` of the
rows the iterator will still deliver and leaves the others; `drain` is `takeWith` run to the end; what each
call does to the list a frame materialises to, and what a history of calls answers.  Everything is parametric in
`NextFacts` (the facts about the generated `__next__` expressions proved in `Props/C11.lean`).
-/
namespace Arrow

variable {α : Type}

theorem drainWith_eq_takeWith (step : It α → Option α × It α) :
    ∀ (f : Nat) (s : It α), drainWith step f s = (takeWith step f s).1 := by
  intro f
  induction f with
  | zero => intro s; rfl
  | succ f ih =>
    intro s
    simp only [drainWith, takeWith]
    cases hn : step s with
    | mk o s' =>
      cases o with
      | none => rfl
      | some r => simp only [ih s']

theorem takeWith_next (N : NextFacts) (k : Nat) (s : It α) :
    (takeWith next k s).1 = s.rowsLeft.take k ∧ (takeWith next k s).2.rowsLeft = s.rowsLeft.drop k := by
  induction k generalizing s with
  | zero => exact ⟨rfl, rfl⟩
  | succ k ih =>
    obtain ⟨h1, h2⟩ := next_spec N s
    obtain ⟨i1, i2⟩ := ih (next s).2
    cases hn : next s with
    | mk o s' =>
      rw [hn] at h1 h2 i1 i2
      simp only [takeWith, hn]
      cases hl : s.rowsLeft with
      | nil =>
        rw [hl] at h1 h2
        cases h1
        exact ⟨rfl, h2⟩
      | cons r rest =>
        rw [hl] at h1 h2
        cases h1
        rw [List.tail_cons] at h2
        simp only [i1, i2, h2, List.take_succ_cons, List.drop_succ_cons, and_self]

theorem rowsLeft_length_le (s : It α) : s.rowsLeft.length ≤ s.remaining.length := by
  unfold It.rowsLeft
  rw [List.length_take]
  exact Nat.min_le_right _ _

theorem drain_eq (N : NextFacts) (s : It α) : drain s = s.rowsLeft := by
  unfold drain
  rw [drainWith_eq_takeWith, (takeWith_next N _ s).1]
  exact List.take_of_length_le (Nat.le_succ_of_le (rowsLeft_length_le s))

/-! ## frames -/

theorem materialize_listRows {ρ : Type} (f : Fr ρ) : f.materialize.listRows = f.listRows := by
  cases f <;> rfl

theorem materialize_not_lazy {ρ : Type} (f : Fr ρ) : f.materialize.isLazy = false := by
  cases f <;> rfl

/-- What a call does to the rows a frame holds, as a function of those rows alone: a fetch on a frame
that is still lazy takes its rows out of the frame (the cursor *is* the row source), `append` adds a
row (a lazy frame is materialised first), nothing else changes them. -/
def rowsAfter {ρ : Type} (wasLazy : Bool) (rows : List ρ) : Op ρ → List ρ
  | .fetch (some k) => if wasLazy then rows.drop k else rows
  | .fetch none => if wasLazy then [] else rows
  | .append r => rows ++ [r]
  | _ => rows

theorem step_listRows (N : NextFacts) (names : List String) (f : Fr (List α)) (op : Op (List α)) :
    (step names f op).1.listRows = rowsAfter f.isLazy f.listRows op := by
  cases op with
  | arrow size => exact materialize_listRows f
  | observe => exact materialize_listRows f
  | head k => exact materialize_listRows f
  | append r => cases f <;> rfl
  | fetch k =>
    cases f with
    | eager rows c => cases c <;> cases k <;> rfl
    | lazy s =>
      simp only [step, Fr.listRows, Fr.isLazy]
      rw [drain_eq N, drain_eq N, (takeWith_next N _ s).2]
      cases k with
      | some k => simp [rowsAfter]
      | none =>
        simp only [rowsAfter, Option.getD_none, if_true]
        apply List.drop_eq_nil_iff.mpr
        have := rowsLeft_length_le s
        omega

/-- A call that is not a fetch on a still-lazy frame and not an `append`. -/
def quietOp {ρ : Type} (f : Fr ρ) : Op ρ → Prop
  | .fetch _ => f.isLazy = false
  | .append _ => False
  | _ => True

/-- A history all of whose calls are quiet at the time they are made. -/
def Quiet (names : List String) : Fr (List α) → List (Op (List α)) → Prop
  | _, [] => True
  | f, op :: ops => quietOp f op ∧ Quiet names (step names f op).1 ops

theorem step_quiet_rows (N : NextFacts) (names : List String) (f : Fr (List α)) (op : Op (List α))
    (h : quietOp f op) : (step names f op).1.listRows = f.listRows := by
  rw [step_listRows N]
  cases op with
  | fetch k =>
    simp only [quietOp] at h
    cases k <;> simp [rowsAfter, h]
  | append r => exact absurd h (by simp [quietOp])
  | arrow size => rfl
  | observe => rfl
  | head k => rfl

theorem run_getElem? (names : List String) (ops : List (Op (List α))) (f : Fr (List α)) (i : Nat) :
    (run names f ops).1[i]? = ops[i]?.map fun op => (step names (run names f (ops.take i)).2 op).2 := by
  induction ops generalizing f i with
  | nil => rfl
  | cons op ops ih =>
    cases i with
    | zero => rfl
    | succ i =>
      simp only [run, List.getElem?_cons_succ, List.take_succ_cons]
      exact ih _ i

theorem quiet_run_rows (N : NextFacts) (names : List String) (ops : List (Op (List α)))
    (f : Fr (List α)) (i : Nat) (h : Quiet names f ops) :
    (run names f (ops.take i)).2.listRows = f.listRows := by
  induction ops generalizing f i with
  | nil => rw [List.take_nil]; rfl
  | cons op ops ih =>
    cases i with
    | zero => rfl
    | succ i =>
      obtain ⟨h1, h2⟩ := h
      simp only [List.take_succ_cons, run]
      rw [ih _ i h2, step_quiet_rows N names f op h1]

end Arrow
