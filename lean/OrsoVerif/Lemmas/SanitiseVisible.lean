import OrsoVerif.Model.Sanitise
import OrsoVerif.Lemmas.Sanitise
import OrsoVerif.Lemmas.SanitiseBarrier
/-! Helper lemmas for C20: a plain token inside a visible value survives every rendering step. -/
namespace Sanitise

/-! ## quote colouring, escaping and joining keep tokens -/

def Plain (t : Str) : Prop := ∀ a ∈ t, plainChar a = true

theorem plainChar_range (a : Char) (ha : plainChar a = true) :
    (48 ≤ a.toNat ∧ a.toNat ≤ 57) ∨ (65 ≤ a.toNat ∧ a.toNat ≤ 90) ∨ (97 ≤ a.toNat ∧ a.toNat ≤ 122) := by
  simp only [plainChar, Bool.or_eq_true, Bool.and_eq_true, decide_eq_true_eq] at ha
  rcases ha with (h | h) | h
  · exact Or.inl h
  · exact Or.inr (Or.inl h)
  · exact Or.inr (Or.inr h)

theorem plainChar_ne (a b : Char) (ha : plainChar a = true) (hb : plainChar b = false) : a ≠ b := by
  intro e; subst e; simp [ha] at hb

theorem quoteColour_around (c : Colors) : Around Plain (quoteColour c) :=
  ((quoteColourF_scans c).around (quoteStep_around _ _ true _ _)).mono fun B hB =>
    ⟨fun x hx => decide_eq_false
        (not_or.mpr ⟨plainChar_ne x _ (hB x hx) (by decide), plainChar_ne x _ (hB x hx) (by decide)⟩),
      fun _ hm => absurd (hB _ hm) (by decide)⟩

theorem pyEsc_plain (q a : Char) (hq : q = '"' ∨ q = '\'') (ha : plainChar a = true) : pyEsc q a = [a] := by
  have r := plainChar_range a ha
  have ne : ∀ b, plainChar b = false → a ≠ b := fun b hb => plainChar_ne a b ha hb
  have h1 : a ≠ q := by rcases hq with e | e <;> (subst e; exact ne _ (by decide))
  rw [pyEsc, if_neg (by simp [h1, ne '\\' (by decide)]), if_neg (ne _ (by decide)), if_neg (ne _ (by decide)),
    if_neg (ne _ (by decide)), if_neg (by omega), if_neg (by omega)]

theorem jsonEsc_plain (a : Char) (ha : plainChar a = true) : jsonEsc a = [a] := by
  have r := plainChar_range a ha
  have ne : ∀ b, plainChar b = false → a ≠ b := fun b hb => plainChar_ne a b ha hb
  rw [jsonEsc, if_neg (ne _ (by decide)), if_neg (ne _ (by decide)), if_neg (ne _ (by decide)),
    if_neg (ne _ (by decide)), if_neg (ne _ (by decide)), if_neg (by omega), if_neg (by omega), if_pos (by omega)]

theorem flatMap_plain (esc : Char → Str) : ∀ t : Str, (∀ a ∈ t, esc a = [a]) → t.flatMap esc = t := by
  intro t
  induction t with
  | nil => intro _; rfl
  | cons a t ih =>
    intro h
    simp [List.flatMap_cons, h a (by simp), ih (fun x hx => h x (List.mem_cons_of_mem _ hx))]

theorem flatMap_infix (esc : Char → Str) (t s : Str) (he : ∀ a ∈ t, esc a = [a]) (h : t <:+: s) :
    t <:+: s.flatMap esc := by
  obtain ⟨a, b, rfl⟩ := h
  simp only [List.flatMap_append, flatMap_plain esc t he]
  exact List.infix_append _ _ _

theorem pyReprStr_infix (t s : Str) (hp : Plain t) (h : t <:+: s) : t <:+: pyReprStr s := by
  simp only [pyReprStr]
  refine List.infix_cons_iff.mpr (Or.inr (List.infix_append_of_infix_left ?_))
  refine flatMap_infix _ t s (fun a ha => pyEsc_plain _ a ?_ (hp a ha)) h
  split <;> simp

theorem jsonStr_infix (t s : Str) (hp : Plain t) (h : t <:+: s) : t <:+: jsonStr s := by
  simp only [jsonStr]
  exact List.infix_cons_iff.mpr (Or.inr (List.infix_append_of_infix_left
    (flatMap_infix _ t s (fun a ha => jsonEsc_plain a (hp a ha)) h)))

theorem join_infix {J : List Str → Str} {sep : Str} (one : ∀ x, J [x] = x)
    (more : ∀ x y r, J (x :: y :: r) = x ++ (sep ++ J (y :: r))) : ∀ (xs : List Str) (x : Str), x ∈ xs → x <:+: J xs := by
  intro xs
  induction xs with
  | nil => intro x h; cases h
  | cons y ys ih =>
    intro x h
    cases ys with
    | nil => rw [List.mem_singleton.mp h, one]; exact List.infix_refl _
    | cons z zs =>
      rw [more]
      rcases List.mem_cons.mp h with rfl | h'
      · exact (List.prefix_append _ _).isInfix
      · exact List.infix_append_of_infix_right (List.infix_append_of_infix_right (ih x h'))

theorem commaSep_infix : ∀ (xs : List Str) (x : Str), x ∈ xs → x <:+: commaSep xs :=
  join_infix (sep := [',', ' ']) (fun _ => rfl) fun _ _ _ => rfl

theorem joinWith_infix (sep : Char) : ∀ (xs : List Str) (x : Str), x ∈ xs → x <:+: joinWith sep xs :=
  join_infix (sep := [sep]) (fun _ => rfl) fun _ _ _ => rfl

def TokenIn (t : Str) (kvs : List (Str × Str)) : Prop := ∃ k v, (k, v) ∈ kvs ∧ t <:+: v

/-- `pyReprDict` and `dumps` are this rendering of the members, with `g` = `pyReprStr` resp. `jsonStr`. -/
theorem members_infix {t : Str} (g : Str → Str) (hg : ∀ s, t <:+: s → t <:+: g s) (kvs : List (Str × Str))
    (h : TokenIn t kvs) :
    t <:+: '{' :: (commaSep (kvs.map fun p => g p.1 ++ ':' :: ' ' :: g p.2) ++ ['}']) := by
  obtain ⟨k, v, hm, hv⟩ := h
  refine List.infix_cons_iff.mpr (Or.inr (List.infix_append_of_infix_left ?_))
  refine List.IsInfix.trans ?_ (commaSep_infix _ _ (List.mem_map_of_mem hm))
  exact List.infix_append_of_infix_right
    (List.infix_cons_iff.mpr (Or.inr (List.infix_cons_iff.mpr (Or.inr (hg v hv)))))

/-! ## the cleaned record keeps visible tokens -/

theorem cleanVal_leaf (h : Json → Str) (c : Colors) (v : Json) (hv : ∀ kvs, v ≠ .obj kvs) :
    cleanVal h c v = quoteColour c (pyStr v) := by
  cases v with
  | obj kvs => exact absurd rfl (hv kvs)
  | _ => rfl

theorem visible_tokenIn (h : Json → Str) (c : Colors) (t : Str) (hp : Plain t) (d : List (Str × Json))
    (hv : VisibleAt t d) : TokenIn t (cleanObj h c d) := by
  induction hv with
  | leaf d k v hm hk hleaf ht =>
    refine ⟨_, _, cleanObj_mem h c d k v hm, ?_⟩
    rw [hk, if_neg Bool.false_ne_true, cleanVal_leaf h c v hleaf]
    exact List.infix_append_of_infix_left (List.infix_append_of_infix_right ((quoteColour_around c).infix hp ht))
  | inner d kvs k hm hk _ ih =>
    refine ⟨_, _, cleanObj_mem h c d k (.obj kvs) hm, ?_⟩
    rw [hk, if_neg Bool.false_ne_true, cleanVal]
    exact List.infix_append_of_infix_left
      (List.infix_append_of_infix_right (members_infix pyReprStr (fun s => pyReprStr_infix t s hp) _ ih))

/-! ## the colouriser keeps tokens -/

theorem color_heads_not_plain :
    Gen.Sanitise.displayColors.all (fun kv => match kv.1 with | [] => true | p :: _ => !plainChar p) = true := by decide +kernel

theorem colorizer_token (can : Bool) (c0 : Char) (t' s : Str) (hp : Plain (c0 :: t'))
    (hh : tokenHeadOK c0 = true) (h : c0 :: t' <:+: s) : c0 :: t' <:+: colorizer can s := by
  simp only [tokenHeadOK, Bool.and_eq_true, Bool.not_eq_true'] at hh
  have around : Around (· = c0 :: t') (colorizer can) := by
    refine colorizer_around can ?_ ?_
    · rintro _ rfl
      exact .of_class plainChar hp (fun p ps hk => by cases hk; decide) (by simpa using hh.1)
    · rintro kv hm _ rfl
      refine .of_class plainChar hp (fun p ps hk => ?_) (by simpa using List.all_eq_true.mp hh.2 kv hm)
      have := List.all_eq_true.mp color_heads_not_plain kv hm
      rw [hk] at this
      simpa using this
  exact around.infix rfl h

end Sanitise
