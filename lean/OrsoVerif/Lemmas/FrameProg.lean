import OrsoVerif.Model.FrameProg
import OrsoVerif.Model.Frame
import OrsoVerif.Lemmas.Basics
/-!
# C03 — the simulation between the lazy-state machine and the list specification

`Rel` relates a register of the implementation state to the register of the list specification it stands for; `Sim`
is `Rel` position by position, and `spendSet` and `materialise` keep it.  A step of the machine is a cascade of tests
whose leaves push one register: `Pushes` (for `Sim`) and `Holds` (for one register) walk it leaf by leaf.  A step of
the specification is taken apart by the cases of `SpecStep`.
-/
namespace Frame

variable {α : Type}

theorem lt_of_get {β : Type} {l : List β} {i : Nat} {a : β} (h : l[i]? = some a) : i < l.length :=
  (List.getElem?_eq_some_iff.mp h).1

theorem get_ite {β : Type} {c : Prop} [Decidable c] {l l' : List β} {a : β} {i : Nat}
    (h : l[i]? = some a) (h' : l'[i]? = some a) : (if c then l else l')[i]? = some a := by
  split
  · exact h
  · exact h'

/-- An implementation register stands for a specification register: a frame (materialised, lazily backed or a
deferred selection) for the frame with the same schema and listing; a *spent* frame for any frame (nothing is claimed
about it); values, errors and list iterators for themselves.  A `giter` stands for nothing: the `__iter__` of the
source as it is materialises and never hands one out. -/
inductive Rel : IReg α → SReg α → Prop
  | frame (sch : Schema) (l : Bool) (rows : List (List α)) : Rel (.frame sch l rows) (.frame sch rows)
  | defer (src : Nat) (sch : Schema) (rows : List (List α)) : Rel (.defer src sch rows) (.frame sch rows)
  | spent (sch : Schema) (rows : List (List α)) : Rel .spent (.frame sch rows)
  | val (v : Val α) : Rel (.val v) (.val v)
  | err (c : String) : Rel (.err c) (.err c)
  | iter (rows : List (List α)) (pos : Nat) : Rel (.iter rows pos) (.iter rows pos)

def Sim (st : List (IReg α)) (sp : List (SReg α)) : Prop :=
  st.length = sp.length ∧ ∀ (i : Nat) (a : IReg α) (b : SReg α), st[i]? = some a → sp[i]? = some b → Rel a b

theorem Sim.get {st : List (IReg α)} {sp : List (SReg α)} (h : Sim st sp) {i : Nat} {a : IReg α}
    (ha : st[i]? = some a) : ∃ b, sp[i]? = some b ∧ Rel a b := by
  have hi : i < sp.length := h.1 ▸ lt_of_get ha
  exact ⟨sp[i], List.getElem?_eq_getElem hi, h.2 i a _ ha (List.getElem?_eq_getElem hi)⟩

theorem Sim.view {st : List (IReg α)} {sp : List (SReg α)} (h : Sim st sp) {i : Nat} {a : IReg α} {v : SReg α}
    (ha : st[i]? = some a) (hv : a.view = some v) : sp[i]? = some v := by
  obtain ⟨b, hb, hr⟩ := h.get ha
  cases hr <;> cases hv <;> exact hb

theorem frameOf_cases {st : List (IReg α)} {s : Nat} {sch : Schema} {rows : List (List α)}
    (h : frameOf st s = some (sch, rows)) :
    (∃ l, st[s]? = some (.frame sch l rows)) ∨ (∃ src, st[s]? = some (.defer src sch rows)) := by
  revert h
  fun_cases frameOf st s with
  | case1 _ l _ hs => rintro ⟨⟩; exact .inl ⟨l, hs⟩
  | case2 src _ _ hs => rintro ⟨⟩; exact .inr ⟨src, hs⟩
  | case3 => exact nofun

theorem Sim.frameOf_of {st : List (IReg α)} {sp : List (SReg α)} (h : Sim st sp) {s : Nat} {sch : Schema}
    {rows : List (List α)} (hs : frameOf st s = some (sch, rows)) : sp[s]? = some (.frame sch rows) := by
  rcases frameOf_cases hs with ⟨l, h1⟩ | ⟨src, h1⟩ <;> exact h.view h1 rfl

theorem Sim.push {st : List (IReg α)} {sp : List (SReg α)} (h : Sim st sp) {a : IReg α} {b : SReg α}
    (hr : Rel a b) : Sim (st ++ [a]) (sp ++ [b]) := by
  refine ⟨by rw [List.length_append, List.length_append, h.1]; rfl, fun i x y hx hy => ?_⟩
  rcases Nat.lt_or_ge i st.length with hi | hi
  · rw [List.getElem?_append_left hi] at hx
    rw [List.getElem?_append_left (h.1 ▸ hi)] at hy
    exact h.2 i x y hx hy
  · rw [List.getElem?_append_right hi] at hx
    rw [List.getElem?_append_right (h.1 ▸ hi), ← h.1] at hy
    cases hk : i - st.length with
    | zero => rw [hk] at hx hy; cases hx; cases hy; exact hr
    | succ k => rw [hk] at hx; cases hx

theorem Sim.set2 {st : List (IReg α)} {sp : List (SReg α)} (h : Sim st sp) (s : Nat) {a' : IReg α} {b' : SReg α}
    (hr : Rel a' b') : Sim (st.set s a') (sp.set s b') := by
  refine ⟨by rw [List.length_set, List.length_set]; exact h.1, fun i x y hx hy => ?_⟩
  by_cases hi : s = i
  · subst hi
    rw [List.getElem?_set_self (by simpa using lt_of_get hx)] at hx
    rw [List.getElem?_set_self (by simpa using lt_of_get hy)] at hy
    cases hx; cases hy
    exact hr
  · rw [List.getElem?_set_ne hi] at hx hy
    exact h.2 i x y hx hy

theorem Sim.setL {st : List (IReg α)} {sp : List (SReg α)} (h : Sim st sp) (s : Nat) (a' : IReg α)
    (hr : ∀ b, sp[s]? = some b → Rel a' b) : Sim (st.set s a') sp := by
  by_cases hs : s < sp.length
  · have := h.set2 s (hr _ (List.getElem?_eq_getElem hs))
    rwa [List.set_getElem_self] at this
  · rw [List.set_eq_of_length_le (h.1 ▸ Nat.le_of_not_lt hs)]
    exact h

theorem rel_ofSpec (l : Bool) (x : SReg α) : Rel (ofSpec l x) x := by
  cases x <;> simp only [ofSpec] <;> constructor

theorem rel_deferOf (src : Nat) (x : SReg α) : Rel (deferOf src x) x := by
  cases x <;> simp only [deferOf] <;> constructor

theorem spendSet_get (D : List Nat) {st : List (IReg α)} {i : Nat} {a : IReg α} (h : st[i]? = some a) :
    (spendSet D st)[i]? = some (if spendable a && D.contains i then .spent else a) := by
  unfold spendSet
  rw [List.getElem?_mapIdx, h]; rfl

@[simp] theorem spendSet_length (D : List Nat) (st : List (IReg α)) : (spendSet D st).length = st.length := by
  unfold spendSet; simp

theorem spendSet_other (D : List Nat) {st : List (IReg α)} {i : Nat} {a : IReg α} (h : st[i]? = some a)
    (hn : spendable a = false) : (spendSet D st)[i]? = some a := by
  rw [spendSet_get D h]; simp [hn]

theorem Sim.spendSet {st : List (IReg α)} {sp : List (SReg α)} (h : Sim st sp) (D : List Nat) :
    Sim (spendSet D st) sp := by
  refine ⟨by rw [spendSet_length]; exact h.1, fun i x y hx hy => ?_⟩
  have hi : i < st.length := spendSet_length D st ▸ lt_of_get hx
  have ha := List.getElem?_eq_getElem hi
  rw [spendSet_get D ha] at hx
  cases hx
  have hr := h.2 i _ y ha hy
  split
  · rename_i hc
    generalize st[i] = a at hr hc
    -- only a register that stands for a frame can be spent
    cases hr with
    | frame | defer => exact Rel.spent _ _
    | spent | val | err | iter => cases hc
  · exact hr

theorem materialise_other {st : List (IReg α)} (s : Nat) {i : Nat} {a : IReg α} (h : st[i]? = some a)
    (hn : spendable a = false) : (materialise st s)[i]? = some a := by
  fun_cases materialise st s with
  | case1 sch l rows hs =>
    by_cases e : s = i
    · subst e
      rw [h] at hs; cases hs
      cases l
      · exact List.getElem?_set_self (lt_of_get h)
      · cases hn
    · exact (List.getElem?_set_ne e).trans h
  | case2 src sch rows hs =>
    by_cases e : s = i
    · subst e
      rw [h] at hs; cases hs; cases hn
    · exact (List.getElem?_set_ne e).trans (spendSet_other _ h hn)
  | case3 => exact h

theorem materialise_self {st : List (IReg α)} {s : Nat} {sch : Schema} {rows : List (List α)}
    (h : frameOf st s = some (sch, rows)) : (materialise st s)[s]? = some (.frame sch false rows) := by
  unfold materialise
  rcases frameOf_cases h with ⟨l, h1⟩ | ⟨src, h1⟩
  · rw [h1]; exact List.getElem?_set_self (lt_of_get h1)
  · rw [h1]; exact List.getElem?_set_self (by rw [spendSet_length]; exact lt_of_get h1)

theorem materialise_both {st : List (IReg α)} {s t : Nat} {sa sb : Schema} {ra rb : List (List α)}
    (ha : frameOf st s = some (sa, ra)) (hb : frameOf (materialise st s) t = some (sb, rb)) :
    (materialise (materialise st s) t)[s]? = some (.frame sa false ra)
    ∧ (materialise (materialise st s) t)[t]? = some (.frame sb false rb) :=
  ⟨materialise_other t (materialise_self ha) rfl, materialise_self hb⟩

@[simp] theorem materialise_length (st : List (IReg α)) (s : Nat) : (materialise st s).length = st.length := by
  unfold materialise
  split <;> simp

theorem Sim.materialise {st : List (IReg α)} {sp : List (SReg α)} (h : Sim st sp) (s : Nat) :
    Sim (materialise st s) sp := by
  fun_cases Frame.materialise st s with
  | case1 sch l rows hs => exact h.setL s _ fun b hb => by rw [h.view hs rfl] at hb; cases hb; constructor
  | case2 src sch rows hs =>
    exact (h.spendSet _).setL s _ fun b hb => by rw [h.view hs rfl] at hb; cases hb; constructor
  | case3 => exact h

theorem Sim.frameOf_before {st : List (IReg α)} {sp : List (SReg α)} (hs : Sim st sp) {s t : Nat} {sch : Schema}
    {rows : List (List α)} (h : frameOf (Frame.materialise st s) t = some (sch, rows)) :
    frameOf st t = some (sch, rows) := by
  have hlt : t < st.length := by
    rcases frameOf_cases h with ⟨l, h1⟩ | ⟨src, h1⟩ <;> exact materialise_length st s ▸ lt_of_get h1
  have hx : st[t]? = some st[t] := List.getElem?_eq_getElem hlt
  obtain ⟨b, hb, hrel⟩ := hs.get hx
  rw [(hs.materialise s).frameOf_of h] at hb; cases hb
  unfold frameOf; rw [hx]
  generalize st[t] = a at hrel hx
  -- it stands for a frame, so it was a frame, a deferred selection or spent; and a spent register stays spent
  cases hrel with
  | frame | defer => rfl
  | spent =>
    have := materialise_other s hx rfl
    unfold frameOf at h; rw [this] at h; cases h

theorem frameOf_eager (st : List (IReg α)) (s : Nat) (sch : Schema) (rows : List (List α))
    (h : st[s]? = some (.frame sch false rows)) : frameOf st s = some (sch, rows) := by
  simp [frameOf, h]

theorem rowsNow_eager {st : List (IReg α)} {s : Nat} {sch : Schema} {rows rows' : List (List α)}
    (h : st[s]? = some (.frame sch false rows)) : rowsNow st s rows' = rows' := by
  simp [rowsNow, h]

theorem isLazy_false_of {st : List (IReg α)} {s : Nat} {sch : Schema} {rows : List (List α)}
    (h : st[s]? = some (.frame sch false rows)) : isLazy st s = false := by
  simp [isLazy, h]

/-- Two successive `next` calls yield what one call for the sum would have yielded. -/
theorem next_chunks (rows : List α) (pos k k' : Nat) :
    (rows.drop pos).take k ++ (rows.drop (pos + ((rows.drop pos).take k).length)).take k'
      = (rows.drop pos).take (k + k') := by
  rw [List.take_add, ← List.drop_drop, List.length_take, List.drop_min_length]

theorem appended_cons (i : Nat) (op : Op α) (ops : List (Op α)) :
    appended i (op :: ops) = appended i [op] ++ appended i ops := by
  cases op with
  | append s r => simp only [appended]; split <;> rfl
  | _ => rfl

theorem handed_cons_snd (it : Nat) (rows : List (List α)) (pos : Nat) (op : Op α) (ops : List (Op α)) :
    (handed it rows pos (op :: ops)).2 = (handed it rows (handed it rows pos [op]).2 ops).2 := by
  cases op with
  | next j k => simp only [handed]; split <;> rfl
  | _ => rfl

theorem handed_prefix (it : Nat) (rows : List (List α)) (pos : Nat) (prog : List (Op α)) :
    (handed it rows pos prog).1.flatten <+: rows.drop pos
    ∧ (handed it rows pos prog).2 = pos + (handed it rows pos prog).1.flatten.length := by
  induction prog generalizing pos with
  | nil => exact ⟨List.nil_prefix, rfl⟩
  | cons op ops ih =>
    cases op with
    | next j k =>
      simp only [handed]
      split
      · obtain ⟨h1, h2⟩ := ih (pos + ((rows.drop pos).take k).length)
        refine ⟨?_, by rw [h2, List.flatten_cons, List.length_append, Nat.add_assoc]⟩
        -- what lay ahead is the chunk, then what lies ahead after the chunk
        rw [List.flatten_cons]
        refine ((List.prefix_append_right_inj _).mpr h1).trans ?_
        rw [← List.drop_drop, List.length_take, List.drop_min_length, List.take_append_drop]
        exact List.prefix_rfl
      · exact ih pos
    | _ => exact ih pos

theorem method_materialises (hm : MatTable) (u : UnOp α) (h : u.iterates = false) :
    Gen.Frame.materialisesFirst u.method = true := by
  obtain ⟨h1, h2, h3, h4, h5, h6, _⟩ := hm
  cases u with
  | head _ | tail _ | slice _ _ => exact h1
  | filter _ | take _ | query _ | select _ | distinct | hash => cases h
  | batches _ => exact h6
  | collect _ _ => exact h5
  | row _ => exact h2
  | len how =>
    cases how with
    | zero => exact h3
    | succ _ => exact h4

/-- The outcome of a step pushes a register that stands for `x` onto a state that still stands for `sp`: what every
leaf of the cascade of a one-source operator does.  `Pushes.ite` hands the test on, because the last leaf (`TypeError`)
is reached by no method of the table. -/
def Pushes (sp : List (SReg α)) (x : SReg α) (o : Option (List (IReg α))) : Prop :=
  ∃ st0 r, o = some (st0 ++ [r]) ∧ Sim st0 sp ∧ Rel r x

theorem Pushes.leaf {sp : List (SReg α)} {x : SReg α} {st0 : List (IReg α)} {r : IReg α} (h : Sim st0 sp)
    (hr : Rel r x) : Pushes sp x (some (st0 ++ [r])) :=
  ⟨st0, r, rfl, h, hr⟩

theorem Pushes.ite {sp : List (SReg α)} {x : SReg α} {c : Prop} [Decidable c] {t e : Option (List (IReg α))}
    (ht : c → Pushes sp x t) (he : ¬ c → Pushes sp x e) : Pushes sp x (if c then t else e) := by
  split
  · exact ht ‹c›
  · exact he ‹¬ c›

/-- The outcome `o` of a step — if the step is defined — holds `a` in register `i`.  A step is a cascade of tests whose
leaves push one register onto some state; `Holds.ite` and `Holds.push` walk it as it is written. -/
def Holds {β : Type} (i : Nat) (a : β) (o : Option (List β)) : Prop := ∀ l, o = some l → l[i]? = some a

theorem Holds.none {β : Type} {i : Nat} {a : β} : Holds i a none := fun _ e => nomatch e

theorem Holds.push {β : Type} {i : Nat} {a x : β} {l : List β} (h : l[i]? = some a) : Holds i a (some (l ++ [x])) := by
  rintro _ ⟨⟩
  exact List.getElem?_append_of_eq_some _ h

theorem Holds.ite {β : Type} {i : Nat} {a : β} {c : Prop} [Decidable c] {t e : Option (List β)}
    (ht : Holds i a t) (he : Holds i a e) : Holds i a (if c then t else e) := by
  split
  · exact ht
  · exact he

section
variable [DecidableEq α]

/-- One step never changes a materialised frame, except `append` to that very frame: every branch of
`implStep` pushes one register onto the state, after materialising, handing over or draining some
registers (which leave a materialised frame alone) or setting a register that is not a materialised
frame. -/
theorem implStep_materialised (st st' : List (IReg α)) (op : Op α) (h : implStep st op = some st')
    (i : Nat) (sch : Schema) (rows : List (List α)) (hi : st[i]? = some (.frame sch false rows)) :
    st'[i]? = some (.frame sch false (rows ++ appended i [op])) := by
  have hm : ∀ {st0 : List (IReg α)} s, st0[i]? = some (.frame sch false rows) →
      (materialise st0 s)[i]? = some (.frame sch false rows) := fun s h0 => materialise_other s h0 rfl
  -- `handOver` and `drain` spend a set of registers
  have hsp : ∀ {st0 : List (IReg α)} D, st0[i]? = some (.frame sch false rows) →
      (spendSet D st0)[i]? = some (.frame sch false rows) := fun D h0 => spendSet_other D h0 rfl
  refine (?_ : Holds i _ (implStep st op)) st' h
  cases op with
  | un u s =>
    simp only [appended, List.append_nil]
    rw [implStep]
    split
    · exact .ite (.push hi) (.ite (.push (hm s hi)) (.ite (.push hi) (.ite (.push (hsp _ hi)) (.push hi))))
    · exact .ite (.push (hm s hi)) (.ite (.push hi) (.ite (.push (hsp _ hi)) (.ite (.push (hsp _ hi)) (.push hi))))
    · exact .none
  | add s t =>
    simp only [appended, List.append_nil]
    rw [implStep]
    split
    · -- whatever the table says: each operand is materialised or left alone
      have h2 := get_ite (c := Gen.Frame.materialisesFirst "__add__.other" = true)
        (hm t (get_ite (c := Gen.Frame.materialisesFirst "__add__" = true) (hm s hi) hi))
        (get_ite (c := Gen.Frame.materialisesFirst "__add__" = true) (hm s hi) hi)
      exact .ite (.push hi) (.ite (.push h2) (.push h2))
    · exact .none
  | append s r =>
    rw [implStep]
    split
    · rename_i sch2 l2 rows2 hs
      refine .ite .none ?_
      by_cases e : s = i
      · subst e
        rw [hi] at hs; cases hs
        simp only [appended, if_true]
        rw [if_neg Bool.false_ne_true]
        exact .push (List.getElem?_set_self (lt_of_get hi))
      · simp only [appended, e, if_false, List.append_nil]
        exact .ite (.push hi) (.push ((List.getElem?_set_ne e).trans hi))
    · exact .none
  | iter s =>
    simp only [appended, List.append_nil]
    rw [implStep]
    split
    · exact .ite (.push (hm s hi)) (.ite (.push hi) (.push hi))
    · exact .ite (.push (hm s hi)) (.push hi)
    · exact .none
  | next it k =>
    simp only [appended, List.append_nil]
    rw [implStep]
    split
    · rename_i rows2 pos2 hs
      have : it ≠ i := by intro e; subst e; rw [hi] at hs; cases hs
      exact .push ((List.getElem?_set_ne this).trans hi)
    · rename_i src _
      split
      · rename_i sch2 rows2 hs2
        have : src ≠ i := by intro e; subst e; rw [hi] at hs2; cases hs2
        exact .push ((List.getElem?_set_ne this).trans hi)
      · exact .push hi
    · exact .none
  | zip s t =>
    simp only [appended, List.append_nil]
    rw [implStep]
    split
    · exact .ite (.push (hm t (hm s hi)))
        (.push (get_ite (hsp _ (get_ite (hsp _ hi) hi)) (get_ite (hsp _ hi) hi)))
    · exact .none

theorem implStep_select {st : List (IReg α)} {s : Nat} {sch : Schema} {rows : List (List α)} (attrs : List String)
    (hf : frameOf st s = some (sch, rows)) :
    implStep st (.un (.select attrs) s)
      = some (st ++ [if isLazy st s then deferOf s (selectOp sch rows attrs)
                     else ofSpec true (selectOp sch rows attrs)]) := by
  have hm : Gen.Frame.materialisesFirst (UnOp.select (α := α) attrs).method = false :=
    show Gen.Frame.materialisesFirst "select" = false by decide +kernel
  have hr : (UnOp.select (α := α) attrs).readsLate = true := rfl
  rcases frameOf_cases hf with ⟨l, h⟩ | ⟨src, h⟩
  · cases l <;>
      simp only [implStep, isLazy, h, hm, hr, Bool.not_true, Bool.not_false, Bool.false_eq_true, if_false,
        if_true] <;> rfl
  · simp only [implStep, isLazy, h, hm, hr, Bool.false_eq_true, if_false, if_true]; rfl

theorem implStep_materialising {st : List (IReg α)} {s : Nat} {sch : Schema} {rows : List (List α)} {u : UnOp α}
    (hm : Gen.Frame.materialisesFirst u.method = true) (hf : frameOf st s = some (sch, rows))
    (hl : isLazy st s = true) :
    implStep st (.un u s) = some (materialise st s ++ [ofSpec u.lazyResult (apply1 u sch rows)]) := by
  rcases frameOf_cases hf with ⟨l, h⟩ | ⟨src, h⟩
  · have : l = true := by simpa only [isLazy, h] using hl
    subst this
    simp only [implStep, h, hm, Bool.not_true, Bool.false_eq_true, if_false, if_true]
  · simp only [implStep, h, hm, if_true]

/-- What a step of the list specification does, operator by operator: `specStep` read as a relation
(`specStep_sound`), so that a proof about a step that is defined takes it apart by `cases`. -/
inductive SpecStep (sp : List (SReg α)) : Op α → List (SReg α) → Prop
  | un {u s sch rows} (hs : sp[s]? = some (.frame sch rows)) : SpecStep sp (.un u s) (sp ++ [apply1 u sch rows])
  | add {s t sa ra sb rb} (hs : sp[s]? = some (.frame sa ra)) (ht : sp[t]? = some (.frame sb rb)) :
      SpecStep sp (.add s t) (sp ++ [addOp sa ra sb rb])
  | append {s r sch rows} (hs : sp[s]? = some (.frame sch rows)) (hk : sch.kind ≠ .typed) :
      SpecStep sp (.append s r) (sp.set s (.frame sch (rows ++ [r])) ++ [.val .none])
  | iter {s sch rows} (hs : sp[s]? = some (.frame sch rows)) : SpecStep sp (.iter s) (sp ++ [.iter rows 0])
  | next {it k rows pos} (hs : sp[it]? = some (.iter rows pos)) :
      SpecStep sp (.next it k)
        (sp.set it (.iter rows (pos + ((rows.drop pos).take k).length)) ++ [.val (.table ((rows.drop pos).take k))])
  | zip {s t sa ra sb rb} (hs : sp[s]? = some (.frame sa ra)) (ht : sp[t]? = some (.frame sb rb)) :
      SpecStep sp (.zip s t) (sp ++ [.val (.pairs (ra.zip rb))])

theorem specStep_sound {sp sp' : List (SReg α)} {op : Op α} (h : specStep sp op = some sp') : SpecStep sp op sp' := by
  revert h
  -- one goal per arm of `specStep`, in the order it writes them, with the lookups of the arm as hypotheses
  fun_cases specStep sp op
  · rintro ⟨⟩; exact .un ‹_›
  · exact nofun
  · rintro ⟨⟩; exact .add ‹_› ‹_›
  · exact nofun
  · exact nofun
  · rintro ⟨⟩; exact .append ‹_› ‹_›
  · exact nofun
  · rintro ⟨⟩; exact .iter ‹_›
  · exact nofun
  · rintro ⟨⟩; exact .next ‹_›
  · exact nofun
  · rintro ⟨⟩; exact .zip ‹_› ‹_›
  · exact nofun

theorem specStep_iter (sp sp' : List (SReg α)) (op : Op α) (h : specStep sp op = some sp')
    (it : Nat) (rows : List (List α)) (pos : Nat) (hi : sp[it]? = some (.iter rows pos)) :
    sp'[it]? = some (.iter rows (handed it rows pos [op]).2) := by
  have push : ∀ {l : List (SReg α)} {a x : SReg α}, l[it]? = some a → (l ++ [x])[it]? = some a :=
    fun h => Holds.push h _ rfl
  cases specStep_sound h with
  | un _ | add _ _ | iter _ | zip _ _ => exact push hi
  | append hs _ =>
    -- the target of `append` holds a frame, so it is another register
    exact push ((List.getElem?_set_ne fun e => by rw [e, hi] at hs; cases hs).trans hi)
  | @next j k _ _ hs =>
    by_cases e : j = it
    · subst e
      rw [hi] at hs; cases hs
      simp only [handed, if_true]
      exact push (List.getElem?_set_self (lt_of_get hi))
    · simp only [handed, e, if_false]
      exact push ((List.getElem?_set_ne e).trans hi)

theorem specEval_iter (prog : List (Op α)) (sp sp' : List (SReg α)) (h : specEval sp prog = some sp')
    (it : Nat) (rows : List (List α)) (pos : Nat) (hi : sp[it]? = some (.iter rows pos)) :
    sp'[it]? = some (.iter rows (handed it rows pos prog).2) := by
  induction prog generalizing sp pos with
  | nil => cases h; exact hi
  | cons op ops ih =>
    obtain ⟨sp1, h1, h2⟩ := Option.bind_eq_some_iff.mp h
    rw [handed_cons_snd]
    exact ih sp1 h2 _ (specStep_iter sp sp1 op h1 it rows pos hi)

end

/-- `collect` and `row` never return a frame, whichever arm answers. -/
theorem collectOp_rect (sch : Schema) (rows : List (List α)) (cols : List ColRef) (limit : Option Int) :
    (collectOp sch rows cols limit).rect := by
  fun_cases collectOp sch rows cols limit <;> trivial

theorem rowOp_rect (rows : List (List α)) (i : Int) : (rowOp rows i).rect := by
  fun_cases rowOp rows i <;> trivial

theorem liveB_sound {st : List (IReg α)} {s : Nat} (h : liveB st s = true) : live st s := by
  unfold liveB at h
  obtain ⟨⟨sch, rows⟩, hx⟩ := Option.isSome_iff_exists.mp h
  exact ⟨sch, rows, hx⟩

theorem wfOpB_sound (st : List (IReg α)) (op : Op α) (h : wfOpB st op = true) : wfOp st op := by
  cases op with
  | un _ s | iter s => exact liveB_sound h
  | add s t | zip s t =>
    simp only [wfOpB, Bool.and_eq_true] at h
    exact ⟨liveB_sound h.1, liveB_sound h.2⟩
  | append s r =>
    simp only [wfOpB, Bool.and_eq_true, Bool.not_eq_true'] at h
    obtain ⟨h1, h2⟩ := h
    refine ⟨?_, h2⟩
    split at h1
    · rename_i sch rows hs
      exact ⟨sch, rows, hs, by simpa using h1⟩
    · cases h1
  | next it k =>
    simp only [wfOpB] at h
    split at h
    · rename_i rows pos hs; exact ⟨rows, pos, hs⟩
    · cases h

end Frame
