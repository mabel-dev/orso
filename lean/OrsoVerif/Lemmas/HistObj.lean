import OrsoVerif.Lemmas.DistogramState
import OrsoVerif.Model.HistObj
import OrsoVerif.Lemmas.EstimatorsTop
/-!
# Lemmas for C14: histogram objects

A stream of updates is a history of C13 (`stream_built`); a stream that never exceeds the bin limit (`fitsFrom`) keeps its
first bin at the minimum (`HeadMin`), so `count_at` has no left tail on it (`headMin_leftTailOK`).  `ObjHeap.get_put_same`
serves the refused call on the object heap.
-/
namespace Distogram

variable {K : Type} [Field K] [LinearOrder K]

theorem built_mergeRef {s : RState K} {L : List (K × K)} {B : List K} (h : Built s L B) :
    ∀ (us : List (K × K)), (∀ u ∈ us, 0 < u.2) → Built (mergeRef s us) (L ++ us) (B ++ us.map (·.1))
  | [], _ => by simpa [mergeRef] using h
  | u :: us, hp => by
    have h1 : Built (updateRef s u.1 u.2) (L ++ [(u.1, u.2)]) (B ++ [u.1]) :=
      Built.update u.1 u.2 h (hp u (by simp))
    have h2 := built_mergeRef h1 us (fun x hx => hp x (by simp [hx]))
    simpa [mergeRef, List.append_assoc] using h2

theorem stream_built [IsStrictOrderedRing K] (cap : Nat) (hcap : 1 ≤ cap) (vs : List (K × K)) (hne : vs ≠ [])
    (hpos : Pos vs) :
    Built (mergeRef (RState.init cap : RState K) vs) vs (vs.map (·.1)) ∧
    mass (mergeRef (RState.init cap : RState K) vs).bins = mass vs ∧
    (mergeRef (RState.init cap : RState K) vs).bins ≠ [] := by
  have hb : Built (mergeRef (RState.init cap : RState K) vs) vs (vs.map (·.1)) := by
    simpa using built_mergeRef (Built.init (K := K) cap hcap) vs hpos
  have hmass := (built_facts hb).2.1
  refine ⟨hb, hmass, fun h0 => ?_⟩
  rw [h0, mass_nil] at hmass
  exact (mass_pos hne hpos).ne hmass

/-- The first bin *is* the minimum (and an empty histogram reports none): what holds of a histogram
whose first bin was never merged. -/
def HeadMin (s : RState K) : Prop := s.min = s.bins.head?.map (·.1)

/-- No update of the stream `us`, started from `s`, ever exceeds the bin limit (so `_trim` never merges). -/
def fitsFrom (s : RState K) : List (K × K) → Prop
  | [] => True
  | u :: us => (insertRef u.1 u.2 s.bins).length ≤ s.cap ∧ fitsFrom (updateRef s u.1 u.2) us

theorem headMin_init {F : Type} (cap : Nat) : HeadMin (RState.init cap : RState F) := rfl

theorem updateRef_bins_of_fits (s : RState K) (v c : K) (h : (insertRef v c s.bins).length ≤ s.cap) :
    (updateRef s v c).bins = insertRef v c s.bins := by
  show trimRef s.cap _ _ = _
  exact trimRef_noop s.cap _ _ h

theorem insertRef_head (v c : K) (l : List (K × K)) :
    (insertRef v c l).head?.map (·.1) = some (minO (l.head?.map (·.1)) v) := by
  refine insertRef_induct v c (R := fun l l' => l'.head?.map (·.1) = some (minO (l.head?.map (·.1)) v)) rfl ?_ ?_ ?_ l
  · exact fun w f rest h => congrArg some (if_pos h).symm
  · exact fun w f rest l' h _ => congrArg some (if_neg h.not_gt).symm
  · exact fun f rest => congrArg some (if_neg (lt_irrefl v)).symm

theorem updateRef_headMin (s : RState K) (v c : K) (hm : HeadMin s)
    (h : (insertRef v c s.bins).length ≤ s.cap) : HeadMin (updateRef s v c) := by
  unfold HeadMin at hm ⊢
  rw [updateRef_bins_of_fits s v c h, updateRef_min, insertRef_head, hm]

theorem mergeRef_headMin [IsStrictOrderedRing K] : ∀ (us : List (K × K)) (s : RState K), HeadMin s → fitsFrom s us → HeadMin (mergeRef s us)
  | [], s, hm, _ => by rw [mergeRef_nil]; exact hm
  | u :: us, s, hm, hf => by
    rw [mergeRef_cons]
    exact mergeRef_headMin us _ (updateRef_headMin s u.1 u.2 hm hf.1) hf.2

theorem fitsFrom_of_length : ∀ (us : List (K × K)) (s : RState K), s.bins.length + us.length ≤ s.cap → fitsFrom s us
  | [], _, _ => trivial
  | u :: us, s, h => by
    have h1 := insertRef_length_le u.1 u.2 s.bins
    simp only [List.length_cons] at h
    have hfit : (insertRef u.1 u.2 s.bins).length ≤ s.cap := by omega
    refine ⟨hfit, fitsFrom_of_length us _ ?_⟩
    rw [updateRef_bins_of_fits s u.1 u.2 hfit, updateRef_cap]
    omega

theorem headMin_leftTailOK {s : RState K} (hm : HeadMin s) {lo : K} (hlo : s.min = some lo) :
    LeftTailOK s.bins lo := by
  intro v0 f0 hh
  unfold HeadMin at hm
  rw [hh, hlo] at hm
  exact Or.inl (Option.some.inj hm)

theorem ObjHeap.get_put_same {F : Type} (s : ObjHeap F) (r o : Nat) (h : Hist F) (hg : s.get r = some (o, h)) (r' : Nat) :
    (s.put o h).get r' = s.get r' := by
  unfold ObjHeap.get ObjHeap.put at *
  simp only
  cases hr : s.regs.find? (·.1 == r) with
  | none => simp [hr] at hg
  | some p =>
    obtain ⟨_, o0⟩ := p
    simp only [hr, Option.map_eq_some_iff] at hg
    obtain ⟨q, hq, hq2⟩ := hg
    obtain ⟨rfl, rfl⟩ : o0 = o ∧ q.2 = h := by simpa using hq2
    cases hr' : s.regs.find? (·.1 == r') with
    | none => rfl
    | some p' =>
      obtain ⟨_, o'⟩ := p'
      simp only
      by_cases ho : o' = o0
      · subst ho
        simp [hq]
      · have hf : (fun a : Nat × Hist F => !decide (a.1 = o0) && decide (a.1 = o')) = (fun x => x.1 == o') := by
          funext a
          by_cases ha : a.1 = o'
          · simp [ha, ho]
          · simp [ha]
        simp [List.find?_filter, Ne.symm ho, hf]

end Distogram
