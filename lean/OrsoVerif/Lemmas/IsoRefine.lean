import OrsoVerif.Lemmas.IsoExact
import OrsoVerif.Lemmas.IsoTimeOfDay
import OrsoVerif.Model.IsoCast
/-! Helper lemmas for C08: the Python primitives of the generated string branch (`Gen.IsoText`) and of the generated
cast programs (`Gen.IsoCast`) in terms of the primitives of the hand skeleton, the time-of-day reading of the renderings
`HH:MM` and `HH:MM:SS[.f…]`, and `parseIso` on each kind of input.  Nothing here unfolds anything generated. -/
namespace Iso

theorem pyIdx_nonneg (v : List Char) (i : Int) (h : 0 ≤ i) : pyIdx v i = idx v i.toNat := by
  unfold pyIdx; rw [if_neg (by omega)]

theorem pyIdx_neg_one (v : List Char) :
    pyIdx v (-1) = match v.getLast? with | some c => .ok c | none => .error .indexError := by
  unfold pyIdx
  rw [if_pos (by omega), List.getLast?_eq_getElem?]
  cases v with
  | nil => simp
  | cons a l =>
    have e : (-1 + ((a :: l).length : Int)).toNat = (a :: l).length - 1 := by simp; omega
    rw [if_neg (by simp; omega), e]
    unfold idx
    cases (a :: l)[(a :: l).length - 1]? <;> rfl

theorem pySlice_bounds (v : List Char) (a b : Int) (ha : 0 ≤ a) (hb : 0 ≤ b) :
    pySlice v (some a) (some b) = slice v (a.toNat, b.toNat) := by
  simp only [pySlice, pyBound]; rw [if_neg (by omega), if_neg (by omega)]

theorem pySlice_upto (v : List Char) (b : Int) (hb : 0 ≤ b) :
    pySlice v none (some b) = slice v (0, b.toNat) := by
  simp only [pySlice, pyBound]; rw [if_neg (by omega)]

theorem pySlice_dropLast (v : List Char) : pySlice v none (some (-1)) = v.dropLast := by
  simp only [pySlice, pyBound, slice]
  rw [if_pos (by omega)]
  have : (-1 + (v.length : Int)).toNat = v.length - 1 := by omega
  rw [this, List.dropLast_eq_take]
  simp

theorem intsOf_pySlices (v : List Char) (sl : List (Nat × Nat)) :
    intsOf (sl.map fun ab => pySlice v (some ab.1) (some ab.2)) = ints v sl := by
  induction sl with
  | nil => rfl
  | cons ab r ih =>
    simp only [List.map_cons, intsOf, ints, ih]
    rfl

/-- `datetime(*map(int, [v[a:b], …]))` with `a`, `b` literals (`v[:b]` is `v[0:b]`) is `fields`. -/
theorem datetimeOfStrs_pySlices (v : List Char) (sl : List (Nat × Nat)) :
    datetimeOfStrs (sl.map fun ab => pySlice v (some ab.1) (some ab.2)) = fields v sl := by
  unfold datetimeOfStrs fields; rw [intsOf_pySlices]

theorem pyOr_idx (v : List Char) (a : Nat) (p : Char → Bool) (y : Except Exc Bool) :
    pyOr ((idx v a).bind fun t => .ok (p t)) y = (idx v a).bind fun t => shortCircuit false (p t) y := by
  cases idx v a <;> rfl

theorem pyAnd_idx (v : List Char) (a : Nat) (p : Char → Bool) (y : Except Exc Bool) :
    pyAnd ((idx v a).bind fun t => .ok (p t)) y = (idx v a).bind fun t => shortCircuit true (p t) y := by
  cases idx v a <;> rfl

theorem pyAnd_ok (a : Bool) (y : Except Exc Bool) : pyAnd (.ok a) y = shortCircuit true a y := by
  cases a <;> rfl

theorem pyOr_ok (a : Bool) (y : Except Exc Bool) : pyOr (.ok a) y = shortCircuit false a y := by
  cases a <;> rfl

theorem excOfName_ValueError : excOfName "ValueError" = .valueError := by rw [excOfName]

theorem caughtBy_ValueError : caughtBy ["ValueError"] .valueError = true :=
  List.any_eq_true.2 ⟨"ValueError", List.mem_cons_self, List.contains_iff_mem.2 List.mem_cons_self⟩

/-- `try: return datetime.time.fromisoformat(s)` / `except ValueError: pass` (`fromisoformat` raises nothing else). -/
theorem try_timeFromIso (s : List Char) :
    pyTry (pyReturn ((timeFromIso s).bind fun t => .ok (.time t.hour t.minute t.second t.micro))) ["ValueError"] (.ok none) =
      match timeFromIso s with
      | .ok t => .ok (some (.time t.hour t.minute t.second t.micro))
      | .error _ => .ok none := by
  cases h : timeFromIso s with
  | ok t => rfl
  | error e =>
    cases timeFromIso_error s e h
    simp only [Except.bind, pyReturn, pyTry, caughtBy_ValueError, if_true]

theorem timeOfDay_render (H M S us : Nat) (hH : H ≤ 23) (hM : M ≤ 59) (hS : S ≤ 59) (hus : us ≤ 999999) (k : Nat) :
    timeOfDay (pad2 H ++ ':' :: pad2 M) = .time H M 0 0 ∧
    timeOfDay (renderTime H M S ++ fraction us k) = .time H M S (if k = 0 then 0 else truncMicro us k) := by
  have fin : ∀ s f, s ≤ 59 → f ≤ 999999 → finishTime ⟨H, M, s, f⟩ = .ok ⟨H, M, s, f⟩ := fun s f hs hf => if_pos ⟨hH, hM, hs, hf⟩
  have dg := isDigit_digit
  obtain ⟨_, p2, p3⟩ := timeFromIso_plain (digit (H / 10)) (digit H) (digit (M / 10)) (digit M) (digit (S / 10)) (digit S)
    (dg _) (dg _) (dg _) (dg _) (dg _) (dg _)
  have p4 := timeFromIso_fraction (digit (H / 10)) (digit H) (digit (M / 10)) (digit M) (digit (S / 10)) (digit S) '.'
    (dg _) (dg _) (dg _) (dg _) (dg _) (dg _) (Or.inl rfl) ((pad6 us).take k)
    (isDigit_of_mem_take_pad6 us k)
  rw [twoDigits_pad H (by omega), twoDigits_pad M (by omega)] at p2 p3 p4
  rw [twoDigits_pad S (by omega)] at p3 p4
  unfold timeOfDay fraction renderTime pad2
  refine ⟨by rw [List.cons_append, List.cons_append, List.nil_append, p2, fin 0 0 (by omega) (by omega)], ?_⟩
  cases k with
  | zero => simp only [if_true, List.cons_append, List.nil_append, List.append_nil, p3, fin S 0 hS (Nat.zero_le _)]
  | succ j =>
    simp only [Nat.succ_ne_zero, if_false, List.cons_append, List.nil_append, p4 (by simp [pad6]), fracMicro_pad6 us (j + 1) hus,
      fin S (truncMicro us (j + 1)) hS (Nat.le_trans (Nat.div_mul_le_self _ _) hus)]

/-! ## `parseIso` on each kind of input -/

theorem parseIso_int (hi : epochAdmits "int" = true) (n : Int) : parseIso (.int n) = match fromTimestamp n with
    | .ok dt => .value dt
    | .error e => if caughtBy Gen.Iso.caught e then .none else .raises e := by
  simp only [parseIso, parseIsoWith, body, epoch, hi, if_true, bind_ok]
  cases fromTimestamp n <;> rfl

/-- `A`: the class table of the Unix-seconds branch is the one the source has (`C08.epoch_classes_are_the_stated_ones`). -/
theorem read_as_int (A : ∀ ty, epochAdmits ty = true ↔ (ty = "int" ∨ ty = "numpy.int64" ∨ ty = "float" ∨ ty = "numpy.float64"))
    (n : Int) (o : Outcome) (hi : parseIso (.int n) = o) :
    parseIso (.npInt n) = o ∧ ∀ b, floatTrunc b = .fin n → parseIso (.float b) = o ∧ parseIso (.npFloat b) = o := by
  have a1 := (A "int").2 (.inl rfl)
  have a2 := (A "numpy.int64").2 (.inr (.inl rfl))
  have a3 := (A "float").2 (.inr (.inr (.inl rfl)))
  have a4 := (A "numpy.float64").2 (.inr (.inr (.inr rfl)))
  subst hi
  refine ⟨?_, fun b hb => ⟨?_, ?_⟩⟩
  · simp only [parseIso, parseIsoWith, body, epoch, a1, a2, if_true]
  · simp only [parseIso, parseIsoWith, body, epoch, a1, a3, if_true, intOfFloat, hb]
  · simp only [parseIso, parseIsoWith, body, epoch, a1, a4, if_true, intOfFloat, hb]

theorem parseIso_value_iff (i : Input) (dt : DateTime) : parseIso i = .value dt ↔ body i = .ok (some dt) := by
  unfold parseIso parseIsoWith
  cases body i with
  | error e => simp only []; split <;> simp
  | ok o => cases o <;> simp

theorem parseIso_layout_tail (E : Exact) (R : Refines) {a : List Char} {dt : DateTime}
    (ha : a.all plainC = true) (hl : Layout a dt) (h28 : a.length ≤ 28) (t : List Char) (hw : a.length + t.length ≤ 33) :
    (cutTail t = [] → parseIso (.str (a ++ t)) = .value dt) ∧
    (shaped (a ++ cutTail t) = .ok none → parseIso (.str (a ++ t)) = .none) := by
  obtain ⟨h10, c⟩ := hl.cols
  obtain ⟨-, ht⟩ := cutTail_append a t ha
  have hnd : isDigitStr (a ++ t) = false :=
    notDigit_of_dash ((List.getElem?_append_left (by omega)).trans c.dash4)
  rw [parseIso_str R _ hnd, textPath_closed E, ht]
  refine ⟨fun he => ?_, fun hs => ?_⟩
  · rw [he, List.append_nil, shaped_of_layout E hl, if_pos]
    exact ⟨by rw [List.length_append]; omega, by rw [List.length_append]; omega, fun _ => by rw [ht, he, List.append_nil]; omega⟩
  · rw [hs, ite_self]

theorem parseIso_digits (s : List Char) (hd : isDigitStr s = true) :
    parseIso (.str s) = match pyInt s with
      | .ok n => parseIso (.int n)
      | .error e => if caughtBy Gen.Iso.caught e then .none else .raises e := by
  simp only [parseIso, parseIsoWith, body, strBody, hd, if_true, epoch]
  cases pyInt s <;> rfl

end Iso
