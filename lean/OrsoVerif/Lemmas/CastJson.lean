import OrsoVerif.Model.CastJson
import OrsoVerif.Lemmas.CastDecimal
import OrsoVerif.Lemmas.Cast
/-!
# `readJson (render v) = v`: the JSON reader of `Model/CastJson.lean` inverts its writer

Strings by induction over the characters, numbers through the core digit lemmas, values and element
lists by mutual structural induction (the reader itself is fuel-recursive, not mutual).
-/
namespace Cast.Json

/-! ## white space, stops -/

theorem skipWs_append (w s : List Char) (hw : ∀ c ∈ w, isWs c = true) : skipWs (w ++ s) = skipWs s :=
  List.dropWhile_append_of_pos hw

theorem skipWs_cons (c : Char) (s : List Char) (hc : isWs c = false) : skipWs (c :: s) = c :: s := by
  simp [skipWs, hc]

/-- What may follow a number: nothing, or a character a number token cannot contain. -/
def Stop (rest : List Char) : Prop := ∀ c, rest.head? = some c → isNumChar c = false

/-! ## strings -/

theorem readStr_cons (fuel : Nat) (c : Char) (r : List Char) :
    readStr (fuel + 1) (c :: r) =
    if c = '"' then some ([], r)
    else if c = '\\' then
      match r with
      | [] => none
      | e :: r2 =>
        if e = 'u' then
          match hex4 r2 with
          | none => none
          | some (u, r3) =>
            if 0xD800 ≤ u ∧ u < 0xDC00 then
              match r3 with
              | b :: v :: r4 =>
                if b = '\\' ∧ v = 'u' then
                  match hex4 r4 with
                  | some (l, r5) =>
                    if 0xDC00 ≤ l ∧ l < 0xE000 then
                      consFst (Char.ofNat (0x10000 + (u - 0xD800) * 1024 + (l - 0xDC00))) (readStr fuel r5)
                    else none
                  | none => none
                else none
              | _ => none
            else if 0xDC00 ≤ u ∧ u < 0xE000 then none
            else consFst (Char.ofNat u) (readStr fuel r3)
        else
          match unescape e with
          | some ch => consFst ch (readStr fuel r2)
          | none => none
    else if c.toNat < 0x20 then none
    else consFst c (readStr fuel r) := rfl

theorem hexVal_hexDigit : ∀ k < 16, hexVal (hexDigit k) = some k := by decide

theorem hex4_00 (n : Nat) (hn : n < 32) (r : List Char) :
    hex4 ('0' :: '0' :: hexDigit (n / 16) :: hexDigit (n % 16) :: r) = some (n, r) := by
  have h1 := hexVal_hexDigit (n / 16) (by omega)
  have h2 := hexVal_hexDigit (n % 16) (by omega)
  have h0 : hexVal '0' = some 0 := by decide
  simp only [hex4, h0, h1, h2]
  congr 2; omega

theorem escChar_cases (c : Char) :
    (∃ e, unescape e = some c ∧ escChar c = ['\\', e]) ∨
    (c.toNat < 0x20 ∧ escChar c = ['\\', 'u', '0', '0', hexDigit (c.toNat / 16), hexDigit (c.toNat % 16)]) ∨
    (c ≠ '"' ∧ c ≠ '\\' ∧ ¬ c.toNat < 0x20 ∧ escChar c = [c]) := by
  unfold escChar
  by_cases h1 : c = '"'
  · exact .inl ⟨'"', by rw [h1]; rfl, if_pos h1⟩
  rw [if_neg h1]
  by_cases h2 : c = '\\'
  · exact .inl ⟨'\\', by rw [h2]; rfl, if_pos h2⟩
  rw [if_neg h2]
  by_cases h3 : c.toNat = 8
  · exact .inl ⟨'b', by rw [← Char.ofNat_toNat c, h3]; rfl, if_pos h3⟩
  rw [if_neg h3]
  by_cases h4 : c.toNat = 12
  · exact .inl ⟨'f', by rw [← Char.ofNat_toNat c, h4]; rfl, if_pos h4⟩
  rw [if_neg h4]
  by_cases h5 : c = '\n'
  · exact .inl ⟨'n', by rw [h5]; rfl, if_pos h5⟩
  rw [if_neg h5]
  by_cases h6 : c = '\r'
  · exact .inl ⟨'r', by rw [h6]; rfl, if_pos h6⟩
  rw [if_neg h6]
  by_cases h7 : c = '\t'
  · exact .inl ⟨'t', by rw [h7]; rfl, if_pos h7⟩
  rw [if_neg h7]
  by_cases h8 : c.toNat < 0x20
  · exact .inr (.inl ⟨h8, if_pos h8⟩)
  · exact .inr (.inr ⟨h1, h2, h8, if_neg h8⟩)

theorem readStr_escChar (fuel : Nat) (c : Char) (r : List Char) :
    readStr (fuel + 1) (escChar c ++ r) = consFst c (readStr fuel r) := by
  rcases escChar_cases c with ⟨e, he, h⟩ | ⟨hc, h⟩ | ⟨hq, hb, hc, h⟩ <;> rw [h, List.cons_append, readStr_cons]
  · have hu : e ≠ 'u' := by
      rintro rfl
      have : unescape 'u' = none := by decide
      rw [this] at he; cases he
    rw [if_neg (by decide), if_pos rfl]
    simp only [List.cons_append, List.nil_append, if_neg hu, he]
  · rw [if_neg (by decide), if_pos rfl]
    simp only [List.cons_append, List.nil_append, if_pos, hex4_00 _ hc]
    rw [if_neg (by omega), if_neg (by omega), Char.ofNat_toNat]
  · rw [if_neg hq, if_neg hb, if_neg hc, List.nil_append]

theorem length_escBody (s : List Char) : s.length ≤ (escBody s).length := by
  induction s with
  | nil => exact Nat.le_refl _
  | cons c s ih =>
    have : 0 < (escChar c).length := by
      rcases escChar_cases c with ⟨e, _, h⟩ | ⟨_, h⟩ | ⟨_, _, _, h⟩ <;> rw [h] <;> exact Nat.succ_pos _
    simp only [escBody, List.length_append, List.length_cons]; omega

theorem readStr_escBody (s : List Char) : ∀ (fuel : Nat) (rest : List Char), s.length < fuel →
    readStr fuel (escBody s ++ '"' :: rest) = some (s, rest) := by
  induction s with
  | nil =>
    intro fuel rest h
    obtain ⟨f, rfl⟩ := Nat.exists_eq_succ_of_ne_zero (Nat.ne_of_gt (Nat.zero_lt_of_lt h))
    rfl
  | cons c s ih =>
    intro fuel rest h
    obtain ⟨f, rfl⟩ := Nat.exists_eq_succ_of_ne_zero (Nat.ne_of_gt (Nat.zero_lt_of_lt h))
    rw [escBody, List.append_assoc, readStr_escChar, ih f rest (by rw [List.length_cons] at h; omega)]
    rfl

/-! ## numbers -/

theorem digit_facts {c : Char} (h : c.isDigit = true) :
    c ≠ '-' ∧ isWs c = false ∧ c ≠ ']' ∧ isNumChar c = true := by
  have ne : ∀ d : Char, d.isDigit = false → c ≠ d := fun _ => Iso.ne_of_isDigit h
  refine ⟨ne _ (by decide), ?_, ne _ (by decide), by simp [isNumChar, h]⟩
  simp only [isWs, Bool.or_eq_false_iff, beq_eq_false_iff_ne]
  exact ⟨⟨⟨ne _ (by decide), ne _ (by decide)⟩, ne _ (by decide)⟩, ne _ (by decide)⟩

theorem toDigits_head_ne_zero : ∀ n : Nat, 0 < n → (Nat.toDigits 10 n).head? ≠ some '0' := by
  intro n
  induction n using Nat.strongRecOn with
  | _ n ih =>
    intro hn
    rw [Nat.toDigits_eq_if (by decide)]
    split
    · next hlt =>
      have : ∀ d < 10, 0 < d → [d.digitChar].head? ≠ some '0' := by decide
      exact this n hlt hn
    · next hge =>
      have h1 := ih (n / 10) (by omega) (by omega)
      obtain ⟨a, t, hd⟩ := List.exists_cons_of_ne_nil (Nat.toDigits_ne_nil (b := 10) (n := n / 10))
      rw [hd] at h1 ⊢
      exact h1

theorem intPartOk_toDigits (n : Nat) : intPartOk (Nat.toDigits 10 n) = true := by
  obtain ⟨a, t, hd⟩ := List.exists_cons_of_ne_nil (Nat.toDigits_ne_nil (b := 10) (n := n))
  have hall := toDigits_isDigit n
  rw [hd] at hall ⊢
  have ha := hall a (List.mem_cons_self ..)
  have ht : allDigits t = true := (allDigits_iff t).2 fun c hc => hall c (List.mem_cons_of_mem _ hc)
  simp only [intPartOk, ha, ht, Bool.true_and, Bool.or_eq_true, bne_iff_ne, ne_eq, List.isEmpty_iff]
  by_cases hn : n = 0
  · subst hn
    rw [Nat.toDigits_zero] at hd
    right; injection hd with _ h2; exact h2.symm
  · left
    have := toDigits_head_ne_zero n (by omega)
    rw [hd] at this
    simpa using this

theorem splitMinus_toDigits (n : Nat) : splitMinus (Nat.toDigits 10 n) = (false, Nat.toDigits 10 n) := by
  obtain ⟨a, t, hd⟩ := List.exists_cons_of_ne_nil (Nat.toDigits_ne_nil (b := 10) (n := n))
  have hall := toDigits_isDigit n
  rw [hd] at hall ⊢
  exact if_neg (digit_facts (hall a (List.mem_cons_self ..))).1

theorem numberOk_digits (tok : List Char) (neg : Bool) (ds : List Char) (hsm : splitMinus tok = (neg, ds))
    (h : ∀ c ∈ ds, c.isDigit = true) (hi : intPartOk ds = true) : numberOk tok = true := by
  obtain ⟨h1, h2⟩ := takeWhile_all (p := notE) ds fun c hc => notE_of_isDigit (h c hc)
  obtain ⟨h3, h4⟩ := takeWhile_all (p := notDot) ds fun c hc => notDot_of_isDigit (h c hc)
  simp only [numberOk, hsm, h1, h2, h3, h4, hi, fracOk, expOk, Bool.and_self]

theorem numValue_renderInt (fot : List Char → Option UInt64) (n : Int)
    (h1 : -9223372036854775808 ≤ n) (h2 : n < 18446744073709551616) :
    numValue fot (renderInt n) = some (.int n) := by
  have hd := toDigits_isDigit n.natAbs
  have hnat : natOf (Nat.toDigits 10 n.natAbs) = n.natAbs := natOf_toDigits _
  have hint : isIntTok (renderInt n) = true := by
    simpa only [isIntTok, List.all_eq_true, Bool.or_eq_true, beq_iff_eq] using
      renderInt_forall (P := fun c => c.isDigit = true ∨ c = '-') (Or.inr rfl) (fun _ h => Or.inl h) n
  -- an integer token that splits into a sign and the digits of `|n|`
  have fin : ∀ (tok : List Char) (neg : Bool), splitMinus tok = (neg, Nat.toDigits 10 n.natAbs) → isIntTok tok = true →
      (if neg then -(n.natAbs : Int) else (n.natAbs : Int)) = n → numValue fot tok = some (.int n) := by
    intro tok neg hsm hint hv
    have hok := numberOk_digits tok neg _ hsm hd (intPartOk_toDigits n.natAbs)
    simp only [numValue, hok, hint, hsm, hnat, hv, Bool.not_true, Bool.false_eq_true, if_false,
      Bool.true_and, Bool.and_eq_true, decide_eq_true_eq]
    rw [if_pos ⟨h1, h2⟩]
  rcases renderInt_cases n with ⟨hn, hr⟩ | ⟨hn, hr⟩ <;> rw [hr] at hint ⊢
  · exact fin _ true (by simp [splitMinus]) hint (by simp only [if_true]; omega)
  · exact fin _ false (splitMinus_toDigits _) hint (by simp only [Bool.false_eq_true, if_false]; omega)

theorem renderInt_numChars (n : Int) : ∀ c ∈ renderInt n, isNumChar c = true :=
  renderInt_forall (by decide) (fun _ h => (digit_facts h).2.2.2) n

theorem numberOk_head (t : List Char) (h : numberOk t = true) : ∃ c r, t = c :: r ∧ (c = '-' ∨ c.isDigit = true) := by
  cases t with
  | nil => simp [numberOk, splitMinus, intPartOk] at h
  | cons c r =>
    refine ⟨c, r, rfl, ?_⟩
    by_cases hc : c = '-'
    · exact Or.inl hc
    · right
      simp only [numberOk, splitMinus, if_neg hc, Bool.and_eq_true] at h
      have h1 := h.1.1
      by_cases he : notE c = true
      · by_cases hdt : notDot c = true
        · simp only [List.takeWhile_cons, he, hdt, if_true, intPartOk, Bool.and_eq_true] at h1
          exact h1.1.1
        · simp [he, hdt, intPartOk] at h1
      · simp [he, intPartOk] at h1

theorem numberOk_of_numValue {fot : List Char → Option UInt64} {tok : List Char} {v : J}
    (h : numValue fot tok = some v) : numberOk tok = true := by
  cases hok : numberOk tok with
  | true => rfl
  | false => simp [numValue, hok] at h

theorem numValue_float (fot : List Char → Option UInt64) (rep : UInt64 → List Char) (b : UInt64)
    (h : FloatParam fot rep b) : numValue fot (rep b) = some (.float b) := by
  obtain ⟨_, hok, hint, hf, hinf⟩ := h
  simp [numValue, hok, hint, hf, hinf]

/-! ## values and element lists -/

theorem readValue_cons (fot : List Char → Option UInt64) (fuel : Nat) (c : Char) (r : List Char) :
    readValue fot (fuel + 1) (c :: r) =
    if c = '-' ∨ c.isDigit = true then
      match numValue fot ((c :: r).takeWhile isNumChar) with
      | some v => .ok (v, (c :: r).dropWhile isNumChar)
      | none => .error .bad
    else if c = '[' then
      if (skipWs r).head? = some ']' then .ok (.arr [], (skipWs r).tail)
      else
        match readItems (readValue fot fuel) (skipWs r).length (skipWs r) with
        | .ok (vs, r3) => .ok (.arr vs, r3)
        | .error e => .error e
    else if c = '"' then
      match readStr (r.length + 1) r with
      | some (t, r2) => .ok (.str t, r2)
      | none => .error .bad
    else if c = '{' then .error .unsupported
    else if c = 'n' then
      match lit ['u', 'l', 'l'] r with | some r2 => .ok (.null, r2) | none => .error .bad
    else if c = 't' then
      match lit ['r', 'u', 'e'] r with | some r2 => .ok (.bool true, r2) | none => .error .bad
    else if c = 'f' then
      match lit ['a', 'l', 's', 'e'] r with | some r2 => .ok (.bool false, r2) | none => .error .bad
    else .error .bad := by rw [readValue]; rfl

theorem readValue_open (fot : List Char → Option UInt64) (fuel : Nat) (r : List Char) :
    readValue fot (fuel + 1) ('[' :: r) =
    if (skipWs r).head? = some ']' then .ok (.arr [], (skipWs r).tail)
    else
      match readItems (readValue fot fuel) (skipWs r).length (skipWs r) with
      | .ok (vs, r3) => .ok (.arr vs, r3)
      | .error e => .error e := by
  rw [readValue_cons, if_neg (by decide), if_pos rfl]

theorem readItems_succ (rd : List Char → Except Err (J × List Char)) (fuel : Nat) (s : List Char) :
    readItems rd (fuel + 1) s =
    match rd s with
    | .error e => .error e
    | .ok (v, r) =>
      match skipWs r with
      | [] => .error .bad
      | d :: r2 =>
        if d = ']' then .ok ([v], r2)
        else if d = ',' then
          match readItems rd fuel (skipWs r2) with
          | .ok (vs, r3) => .ok (v :: vs, r3)
          | .error e => .error e
        else .error .bad := rfl

theorem readValue_number (fot : List Char → Option UInt64) (f : Nat) (tok rest : List Char) (v : J)
    (hn : ∀ c ∈ tok, isNumChar c = true) (hv : numValue fot tok = some v) (hs : Stop rest) :
    readValue fot (f + 1) (tok ++ rest) = .ok (v, rest) := by
  obtain ⟨c, r, rfl, hc⟩ := numberOk_head tok (numberOk_of_numValue hv)
  have := takeWhile_append_stop (p := isNumChar) (c :: r) rest hn hs
  rw [List.cons_append, readValue_cons, if_pos hc, ← List.cons_append, this.1, this.2, hv]

theorem isWs_not_numChar {c : Char} (h : isWs c = true) : isNumChar c = false := by
  simp only [isWs, Bool.or_eq_true, beq_iff_eq] at h
  rcases h with ((rfl | rfl) | rfl) | rfl <;> decide

theorem numHead_facts {c : Char} (hc : c = '-' ∨ c.isDigit = true) : isWs c = false ∧ c ≠ ']' := by
  rcases hc with rfl | hc
  · exact ⟨by decide, by decide⟩
  · exact ⟨(digit_facts hc).2.1, (digit_facts hc).2.2.1⟩

theorem WfL_iff (fot : List Char → Option UInt64) (rep : UInt64 → List Char) (xs : List J) :
    WfL fot rep xs ↔ ∀ x ∈ xs, Wf fot rep x := by
  induction xs with
  | nil => simp [WfL]
  | cons x xs ih => simp [WfL, ih]

theorem render_head (fot : List Char → Option UInt64) (rep : UInt64 → List Char) (w : Ws) (v : J) (hw : Wf fot rep v) :
    ∃ c r, render w rep v = c :: r ∧ isWs c = false ∧ c ≠ ']' := by
  -- a number begins with `-` or a digit; every other rendering with its own fixed character
  have key : ∀ t : List Char, numberOk t = true → ∃ c r, t = c :: r ∧ isWs c = false ∧ c ≠ ']' := fun t ht =>
    have ⟨c, r, hcr, hc⟩ := numberOk_head t ht
    ⟨c, r, hcr, numHead_facts hc⟩
  match v with
  | .int n =>
    rw [Wf] at hw
    exact key _ (numberOk_of_numValue (numValue_renderInt fot n hw.1 hw.2))
  | .float b =>
    rw [Wf] at hw
    exact key _ hw.2.1
  | .null | .bool true | .bool false | .str _ | .arr [] | .arr (_ :: _) =>
    rw [render]
    exact ⟨_, _, rfl, by decide, by decide⟩

theorem skipWs_render (fot : List Char → Option UInt64) (rep : UInt64 → List Char) (w : Ws) (v : J) (hw : Wf fot rep v)
    (ws rest : List Char) (hws : ∀ c ∈ ws, isWs c = true) :
    skipWs (ws ++ (render w rep v ++ rest)) = render w rep v ++ rest := by
  obtain ⟨c, r, hx, hc, _⟩ := render_head fot rep w v hw
  rw [skipWs_append _ _ hws, hx, List.cons_append, skipWs_cons _ _ hc]

theorem head_render (fot : List Char → Option UInt64) (rep : UInt64 → List Char) (w : Ws) (v : J) (hw : Wf fot rep v)
    (rest : List Char) : (render w rep v ++ rest).head? ≠ some ']' := by
  obtain ⟨c, r, hx, _, hc⟩ := render_head fot rep w v hw
  rw [hx]
  exact fun h => hc (Option.some.inj h)

theorem stop_ws (ws rest : List Char) (hws : ∀ c ∈ ws, isWs c = true) (hr : Stop rest) : Stop (ws ++ rest) := by
  cases ws with
  | nil => exact hr
  | cons a t =>
    intro c hc
    cases hc
    exact isWs_not_numChar (hws a (List.mem_cons_self ..))

theorem stop_renderTail (rep : UInt64 → List Char) (w : Ws) (hwok : w.ok) (xs : List J) (rest : List Char) :
    Stop (renderTail w rep xs ++ rest) := by
  cases xs with
  | nil =>
    rw [renderTail, List.append_assoc]
    exact stop_ws _ _ hwok.2.2 (fun c hc => by cases hc; decide)
  | cons x xs =>
    intro c hc
    rw [renderTail] at hc
    cases hc
    decide

theorem length_renderTail (rep : UInt64 → List Char) (w : Ws) : ∀ xs : List J, xs.length < (renderTail w rep xs).length := by
  intro xs
  induction xs with
  | nil => simp [renderTail]
  | cons x xs ih => simp only [renderTail, List.length_cons, List.length_append]; omega

mutual
theorem readValue_render (fot : List Char → Option UInt64) (rep : UInt64 → List Char) (w : Ws) (hwok : w.ok)
    (v : J) (f : Nat) (rest : List Char) (hw : Wf fot rep v) (hd : depth v ≤ f) (hs : Stop rest) :
    readValue fot (f + 1) (render w rep v ++ rest) = .ok (v, rest) := by
  match v with
  | .null => simp [render, readValue_cons, lit, List.isPrefixOf]
  | .bool true => simp [render, readValue_cons, lit, List.isPrefixOf]
  | .bool false => simp [render, readValue_cons, lit, List.isPrefixOf]
  | .int n =>
    simp only [Wf] at hw
    simp only [render]
    exact readValue_number fot f _ rest _ (renderInt_numChars n) (numValue_renderInt fot n hw.1 hw.2) hs
  | .float b =>
    simp only [Wf] at hw
    simp only [render]
    exact readValue_number fot f _ rest _ hw.1 (numValue_float fot rep b hw) hs
  | .str s =>
    have hl : s.length < (escBody s ++ '"' :: rest).length + 1 := by
      have := length_escBody s
      simp only [List.length_append, List.length_cons]; omega
    simp only [render, renderStr, List.cons_append, List.append_assoc, List.nil_append, readValue_cons]
    simp only [show ¬ (('"' : Char) = '-' ∨ ('"' : Char).isDigit = true) by decide, show ('"' : Char) ≠ '[' by decide,
      if_false, if_true, readStr_escBody s _ rest hl]
  | .arr [] =>
    simp only [render, List.cons_append, List.nil_append, readValue_open, skipWs_cons ']' rest (by decide),
      List.head?_cons, List.tail_cons, if_true]
  | .arr (x :: xs) =>
    simp only [Wf, WfL] at hw
    simp only [depth, depthL] at hd
    obtain ⟨g, rfl⟩ : ∃ g, f = g + 1 := ⟨f - 1, by omega⟩
    have hx1 := readValue_render fot rep w hwok x g (renderTail w rep xs ++ rest) hw.1 (by omega)
      (stop_renderTail rep w hwok xs rest)
    have hk : xs.length < (render w rep x ++ (renderTail w rep xs ++ rest)).length := by
      have := length_renderTail rep w xs
      simp only [List.length_append]; omega
    simp only [render, List.cons_append, List.append_assoc, readValue_open, skipWs_render fot rep w x hw.1 _ _ hwok.1,
      if_neg (head_render fot rep w x hw.1 _),
      readItems_tail fot rep w hwok xs g x _ _ rest hw.2 (by omega) hs hx1 hk]
/-- The element loop, entered with the first element `v` already known to read: it collects `v` and
the remaining rendered elements up to the closing bracket. -/
theorem readItems_tail (fot : List Char → Option UInt64) (rep : UInt64 → List Char) (w : Ws) (hwok : w.ok)
    (xs : List J) (g : Nat) (v : J) (s : List Char) (k : Nat) (rest : List Char)
    (hw : WfL fot rep xs) (hd : depthL xs ≤ g) (hs : Stop rest)
    (h : readValue fot (g + 1) s = .ok (v, renderTail w rep xs ++ rest)) (hk : xs.length < k) :
    readItems (readValue fot (g + 1)) k s = .ok (v :: xs, rest) := by
  obtain ⟨k', rfl⟩ : ∃ k', k = k' + 1 := ⟨k - 1, by omega⟩
  match xs with
  | [] =>
    have hsk : skipWs (w.beforeClose ++ (']' :: rest)) = ']' :: rest := by
      rw [skipWs_append _ _ hwok.2.2, skipWs_cons _ _ (by decide)]
    simp only [readItems_succ, h, renderTail, List.append_assoc, List.cons_append, List.nil_append, hsk, if_true]
  | x :: xs =>
    simp only [WfL] at hw
    simp only [depthL] at hd
    have hx1 := readValue_render fot rep w hwok x g (renderTail w rep xs ++ rest) hw.1 (by omega)
      (stop_renderTail rep w hwok xs rest)
    simp only [readItems_succ, h, renderTail, List.append_assoc, List.cons_append,
      skipWs_cons ',' _ (by decide), show (',' : Char) ≠ ']' by decide, if_false, if_true,
      skipWs_render fot rep w x hw.1 _ _ hwok.2.1,
      readItems_tail fot rep w hwok xs g x _ k' rest hw.2 (by omega) hs hx1 (by simp at hk; omega)]
end

mutual
/-- Every level of nesting writes at least its opening bracket: the depth never exceeds the length
of the text (so `readJson`'s fuel, the length of the input, always suffices). -/
theorem depth_le_length (rep : UInt64 → List Char) (w : Ws) (v : J) : depth v ≤ (render w rep v).length := by
  match v with
  | .null | .bool _ | .int _ | .float _ | .str _ => simp [depth]
  | .arr [] => simp [depth, depthL, render]
  | .arr (x :: xs) =>
    have h1 := depth_le_length rep w x
    have h2 := depthL_le_length rep w xs
    simp only [depth, depthL, render, List.length_cons, List.length_append]; omega
theorem depthL_le_length (rep : UInt64 → List Char) (w : Ws) (xs : List J) : depthL xs ≤ (renderTail w rep xs).length := by
  match xs with
  | [] => simp [depthL]
  | x :: xs =>
    have h1 := depth_le_length rep w x
    have h2 := depthL_le_length rep w xs
    simp only [depthL, renderTail, List.length_cons, List.length_append]; omega
end

/-- **`orjson.loads(dumps(v)) = v`** for the model's reader and writer: any white space around the
document, any JSON white space after `[`, after `,` and before `]`. -/
theorem readJson_render (fot : List Char → Option UInt64) (rep : UInt64 → List Char) (w : Ws) (hwok : w.ok)
    (v : J) (hw : Wf fot rep v) (pre post : List Char)
    (hpre : ∀ c ∈ pre, isWs c = true) (hpost : ∀ c ∈ post, isWs c = true) :
    readJson fot (pre ++ (render w rep v ++ post)) = .ok v := by
  have hstop : Stop post := by
    simpa only [List.append_nil] using stop_ws post [] hpost (fun _ h => nomatch h)
  have hpost' : skipWs post = [] := (takeWhile_all post hpost).2
  have hdepth : depth v ≤ (pre ++ (render w rep v ++ post)).length := by
    have := depth_le_length rep w v
    simp only [List.length_append]; omega
  simp only [readJson, skipWs_render fot rep w v hw pre post hpre,
    readValue_render fot rep w hwok v _ post hw hdepth hstop, hpost', List.isEmpty_nil, if_true]

/-! ## the array cast from text -/

theorem parseArrayText_arr (fot : List Char → Option UInt64) (elem : Option Ty) (s : List Char) (xs : List J)
    (h : readJson fot s = .ok (.arr xs)) :
    parseArrayText fot elem (.str s) = some (parseArray fot elem (xs.map J.toVal)) ∧
    ∀ b, Iso.decodeUtf8 b = some s → parseArrayText fot elem (.bytes b) = some (parseArray fot elem (xs.map J.toVal)) := by
  refine ⟨?_, fun b hb => ?_⟩
  · simp only [parseArrayText, loadElements, h, elementsOf, Option.map_some, Cast.bind_ok]
  · simp only [parseArrayText, loadElements, hb, h, elementsOf, Option.map_some, Cast.bind_ok]

/-! ## an integer token beyond 64 bits (open finding C07-K01) -/

/-- A well-formed number token that is not an integer inside `[-2^63, 2^64)` is read through `float()`. -/
theorem numValue_through_float (fot : List Char → Option UInt64) (tok : List Char) (b : UInt64)
    (hok : numberOk tok = true)
    (hbig : (isIntTok tok
      && decide (-9223372036854775808 ≤ (if (splitMinus tok).1 then -(natOf (splitMinus tok).2 : Int) else (natOf (splitMinus tok).2 : Int)))
      && decide ((if (splitMinus tok).1 then -(natOf (splitMinus tok).2 : Int) else (natOf (splitMinus tok).2 : Int)) < 18446744073709551616)) = false)
    (hf : fot tok = some b) (hinf : isInfBits b = false) : numValue fot tok = some (.float b) := by
  simp only [numValue, hok, hbig, hf, hinf, Bool.not_true, Bool.false_eq_true, if_false]

theorem readJson_single_number (fot : List Char → Option UInt64) (tok : List Char) (v : J)
    (hn : ∀ c ∈ tok, isNumChar c = true) (hv : numValue fot tok = some v) :
    readJson fot ('[' :: (tok ++ [']'])) = .ok (.arr [v]) := by
  obtain ⟨c, r, rfl, hc⟩ := numberOk_head tok (numberOk_of_numValue hv)
  obtain ⟨hcw, hcb⟩ := numHead_facts hc
  have hstop : Stop [']'] := fun d hd => by cases hd; decide
  simp only [readJson, skipWs_cons '[' _ (by decide), List.length_cons, List.length_append, List.length_nil, readValue_open,
    List.cons_append, skipWs_cons c _ hcw, List.head?_cons, Option.some.injEq, if_neg hcb, readItems_succ]
  have hnum : readValue fot (r.length + 3) (c :: (r ++ [']'])) = .ok (v, [']']) :=
    readValue_number fot (r.length + 2) (c :: r) [']'] v hn hv hstop
  rw [hnum]
  have e1 : skipWs [']'] = [']'] := skipWs_cons ']' [] (by decide)
  have e2 : skipWs ([] : List Char) = [] := rfl
  simp only [e1, if_true, e2, List.isEmpty_nil]

end Cast.Json
