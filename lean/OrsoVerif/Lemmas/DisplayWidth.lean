import OrsoVerif.Model.Display
import OrsoVerif.Lemmas.DisplaySpec
import OrsoVerif.Lemmas.DisplayLayout
/-! Printed width: the escape-skipping scan of `trunc_printable`, the colour tokens under it, and what
`trunc_printable` prints. -/
namespace Display

/-- printable ASCII -/
def Printable (c : Char) : Prop := 32 ≤ c.toNat ∧ c.toNat < 127
instance (c : Char) : Decidable (Printable c) := by unfold Printable; infer_instance

def boxChars : List Char := ['┌', '─', '┬', '┐', '│', '╞', '═', '╪', '╡', '└', '┴', '┘']

/-- characters a raw table line is made of when the content is printable ASCII -/
def Ok (c : Char) : Prop := Printable c ∨ c = '\x01' ∨ c ∈ boxChars
def OkStr (s : Str) : Prop := ∀ c ∈ s, Ok c
def PStr (s : Str) : Prop := ∀ c ∈ s, Printable c

/-- what the width lemmas need of a character: never a line break, and width 1 unless it opens an escape -/
def Good (cw : Char → Nat) (c : Char) : Prop := c ≠ '\n' ∧ c ≠ '\r' ∧ (isEsc c = true ∨ cw c = 1)

/-- `s` prints `w` characters and leaves no escape open -/
def W (s : Str) (w : Nat) : Prop := scan false s = (w, false)

theorem printable_not_esc {c : Char} (h : Printable c) : isEsc c = false ∧ c ≠ '\n' ∧ c ≠ '\r' := by
  unfold Printable at h
  refine ⟨?_, ?_, ?_⟩
  · simp only [isEsc, Bool.or_eq_false_iff, beq_eq_false_iff_ne, ne_eq]
    constructor <;> (intro e; subst e; simp at h)
  · intro e; subst e; simp at h
  · intro e; subst e; simp at h

theorem box_facts : ∀ c ∈ boxChars, isEsc c = false ∧ c ≠ '\n' ∧ c ≠ '\r' := by decide +kernel

/-- a character of a text segment: printable ASCII or a box character -/
def TxtC (c : Char) : Prop := Printable c ∨ c ∈ boxChars
instance (c : Char) : Decidable (TxtC c) := inferInstanceAs (Decidable (Printable c ∨ c ∈ boxChars))

theorem txtC_facts {c : Char} (h : TxtC c) : isEsc c = false ∧ c ≠ '\n' ∧ c ≠ '\r' :=
  h.elim printable_not_esc (box_facts c)

theorem ok_good (cw : Char → Nat) (hcw : ∀ c, TxtC c → cw c = 1) {c : Char} (h : Ok c) : Good cw c := by
  have txt : TxtC c → Good cw c := fun h => ⟨(txtC_facts h).2.1, (txtC_facts h).2.2, Or.inr (hcw c h)⟩
  rcases h with h | h | h
  · exact txt (Or.inl h)
  · subst h; exact ⟨by decide, by decide, Or.inl (by decide)⟩
  · exact txt (Or.inr h)

theorem scan_append (b : Bool) (x y : Str) :
    scan b (x ++ y) = ((scan b x).1 + (scan (scan b x).2 y).1, (scan (scan b x).2 y).2) := by
  induction x generalizing b with
  | nil => simp [scan]
  | cons c cs ih => simp [scan, ih, Nat.add_assoc]

theorem W_append {a b : Str} {m n : Nat} (ha : W a m) (hb : W b n) : W (a ++ b) (m + n) := by
  unfold W at *; rw [scan_append, ha]; simp [hb]

theorem W_nil : W [] 0 := by simp [W, scan]

theorem scan_noesc (s : Str) (h : ∀ c ∈ s, isEsc c = false) : scan false s = (s.length, false) := by
  induction s with
  | nil => simp [scan]
  | cons c cs ih =>
    have hc := h c (by simp)
    have := ih (fun c hc => h c (by simp [hc]))
    simp [scan, scanStep, hc, this, Nat.add_comm]

theorem W_noesc (s : Str) (h : ∀ c ∈ s, isEsc c = false) : W s s.length := scan_noesc s h

-- each colour token by its position in `usedTokens`
theorem T_OFF_mem : T_OFF ∈ usedTokens := List.getElem_mem (l := usedTokens) (n := 0) (by decide)
theorem T_NULL_mem : T_NULL ∈ usedTokens := List.getElem_mem (l := usedTokens) (n := 1) (by decide)
theorem T_CONST_mem : T_CONST ∈ usedTokens := List.getElem_mem (l := usedTokens) (n := 2) (by decide)
theorem T_INTEGER_mem : T_INTEGER ∈ usedTokens := List.getElem_mem (l := usedTokens) (n := 3) (by decide)
theorem T_FLOAT_mem : T_FLOAT ∈ usedTokens := List.getElem_mem (l := usedTokens) (n := 4) (by decide)
theorem T_VARCHAR_mem : T_VARCHAR ∈ usedTokens := List.getElem_mem (l := usedTokens) (n := 5) (by decide)
theorem T_DATE_mem : T_DATE ∈ usedTokens := List.getElem_mem (l := usedTokens) (n := 6) (by decide)
theorem T_TIME_mem : T_TIME ∈ usedTokens := List.getElem_mem (l := usedTokens) (n := 7) (by decide)
theorem T_BLOB_mem : T_BLOB ∈ usedTokens := List.getElem_mem (l := usedTokens) (n := 8) (by decide)
theorem T_PUNC_mem : T_PUNC ∈ usedTokens := List.getElem_mem (l := usedTokens) (n := 9) (by decide)
theorem T_KEY_mem : T_KEY ∈ usedTokens := List.getElem_mem (l := usedTokens) (n := 10) (by decide)
theorem T_VALUE_mem : T_VALUE ∈ usedTokens := List.getElem_mem (l := usedTokens) (n := 11) (by decide)
theorem T_INTERVAL_mem : T_INTERVAL ∈ usedTokens := List.getElem_mem (l := usedTokens) (n := 12) (by decide)
theorem T_HEAD_mem : T_HEAD ∈ usedTokens := List.getElem_mem (l := usedTokens) (n := 13) (by decide)
theorem T_TYPE_mem : T_TYPE ∈ usedTokens := List.getElem_mem (l := usedTokens) (n := 14) (by decide)

theorem tokens_scan : ∀ t ∈ usedTokens, ∀ b : Bool, scan b t = (0, false) := by decide +kernel

theorem W_tok {t : Str} (h : t ∈ usedTokens) : W t 0 := tokens_scan t h false

theorem tokens_ok : ∀ t ∈ usedTokens, ∀ c ∈ t, Printable c ∨ c = '\x01' := by decide +kernel

theorem okStr_tok {t : Str} (h : t ∈ usedTokens) : OkStr t := fun c hc =>
  (tokens_ok t h c hc).elim Or.inl (fun e => Or.inr (Or.inl e))

theorem okStr_append {a b : Str} (ha : OkStr a) (hb : OkStr b) : OkStr (a ++ b) := by
  intro c hc; rcases List.mem_append.mp hc with h | h; exact ha c h; exact hb c h

theorem okStr_forall_joinWith {sep : Str} (hs : OkStr sep) {xs : List Str} (hx : ∀ x ∈ xs, OkStr x) :
    OkStr (joinWith sep xs) :=
  joinWith_closed (fun _ hc => nomatch hc) okStr_append hs hx

theorem pstr_spaces (n : Nat) : PStr (spaces n) := by
  intro c hc; simp [spaces] at hc; rw [hc.2]; decide

theorem pstr_append {a b : Str} (ha : PStr a) (hb : PStr b) : PStr (a ++ b) := by
  intro c hc; rcases List.mem_append.mp hc with h | h; exact ha c h; exact hb c h

theorem pstr_take {a : Str} (n : Nat) (ha : PStr a) : PStr (a.take n) :=
  fun c hc => ha c (List.mem_of_mem_take hc)

theorem scanStep_counted {ign : Bool} {c : Char} (h : (scanStep ign c).2 = true) :
    (scanStep ign c).1 = false ∧ isEsc c = false := by
  cases ign <;> cases he : isEsc c <;> simp_all [scanStep]

theorem truncGo_skip (A : Arith) (cw : Char → Nat) (width : Nat) (full : Bool) {c : Char} (cs : Str)
    (off : Nat) {ign ign' : Bool} (hn : c ≠ '\n') (hr : c ≠ '\r') (hs : scanStep ign c = (ign', false)) :
    truncGo A cw width full (c :: cs) off ign =
      c :: if (!ign' && A.truncStop off width) = true then T_OFF else truncGo A cw width full cs off ign' := by
  rw [truncGo, if_neg hn, if_neg hr]
  cases h : (ign || isEsc c) <;> simp only [scanStep, h, Prod.mk.injEq] at hs
  · simp at hs
  · simp only [if_true, hs.1]; split <;> rfl

theorem truncGo_count (A : Arith) (cw : Char → Nat) (width : Nat) (full : Bool) {c : Char} (cs : Str)
    (off : Nat) {ign : Bool} (hn : c ≠ '\n') (hr : c ≠ '\r') (hs : (scanStep ign c).2 = true) :
    truncGo A cw width full (c :: cs) off ign =
      c :: if A.truncStop (off + cw c) width = true then T_OFF else truncGo A cw width full cs (off + cw c) false := by
  have h : (ign || isEsc c) = false := by simpa [scanStep] using hs
  rw [truncGo, if_neg hn, if_neg hr]
  simp only [h, Bool.false_and, Bool.false_eq_true, if_false, Bool.not_false, Bool.true_and]; split <;> rfl

theorem truncGo_ign_exact (A : Arith) (cw : Char → Nat) (w : Nat) (full : Bool) (rest : Str) (off : Nat) (name : Str)
    (h : ∀ c ∈ name, c ≠ 'm' ∧ c ≠ '\n' ∧ c ≠ '\r') :
    truncGo A cw w full (name ++ 'm' :: rest) off true
      = name ++ 'm' :: (if A.truncStop off w = true then T_OFF else truncGo A cw w full rest off false) := by
  induction name with
  | nil =>
    rw [List.nil_append, truncGo_skip A cw w full rest off (by decide) (by decide) (ign' := false) rfl]
    rfl
  | cons c cs ih =>
    obtain ⟨hm, hn, hr⟩ := h c (by simp)
    rw [List.cons_append, truncGo_skip A cw w full _ off hn hr (ign' := true) (by simp [scanStep, hm]),
      ih (fun x hx => h x (List.mem_cons_of_mem _ hx))]
    rfl

theorem truncGo_marker (A : Arith) (cw : Char → Nat) (w : Nat) (full : Bool) (name rest : Str) (off : Nat)
    (h : ∀ c ∈ name, c ≠ 'm' ∧ c ≠ '\n' ∧ c ≠ '\r') :
    truncGo A cw w full ('\x01' :: (name ++ 'm' :: rest)) off false
      = '\x01' :: (name ++ 'm' :: (if A.truncStop off w = true then T_OFF else truncGo A cw w full rest off false)) := by
  rw [truncGo_skip A cw w full _ off (by decide) (by decide) (ign' := true) rfl,
    truncGo_ign_exact A cw w full rest off name h]
  rfl

theorem scan_spaces (n : Nat) : scan false (spaces n) = (n, false) := by
  rw [scan_noesc _ (fun c hc => by rw [(List.mem_replicate.mp hc).2]; rfl), spaces, List.length_replicate]

/-- one counted character more: the printed width grows by one, up to the room left -/
theorem room_succ (full : Bool) (p r : Nat) :
    1 + (if full then r else min p r) = if full then 1 + r else min (1 + p) (1 + r) := by
  cases full
  · exact (Nat.add_min_add_left 1 p r).symm
  · rfl

/-- What `trunc_printable` prints from offset `off < width`, in any `ignoring` state, for text without line breaks
in which every character but the escape openers has width 1: with `full_line=True` the text is padded or cut to
exactly the room left, otherwise it is cut to it; either way no escape is left open. -/
theorem truncGo_width (cw : Char → Nat) (width : Nat) (full : Bool) (l : Str) (hl : ∀ c ∈ l, Good cw c)
    (off : Nat) (ign : Bool) (ho : off < width) :
    scan ign (truncGo specArith cw width full l off ign)
      = (if full then width - off else min (scan ign l).1 (width - off), false) := by
  have hoff : ∀ b, scan b T_OFF = (0, false) := tokens_scan T_OFF T_OFF_mem
  induction l generalizing off ign with
  | nil =>
    rw [truncGo, scan_append, hoff, spec_truncPad]
    cases full
    · simp [scan]
    · simp [scan_spaces]
  | cons c cs ih =>
    obtain ⟨h1, h2, h3⟩ := hl c (by simp)
    have ih := ih (fun c hc => hl c (List.mem_cons_of_mem _ hc))
    cases hc : (scanStep ign c).2 with
    | true =>
      obtain ⟨hi, he⟩ := scanStep_counted hc
      have hw : cw c = 1 := h3.resolve_left (by simp [he])
      rw [truncGo_count _ _ _ _ _ _ h1 h2 hc, hw]
      simp only [spec_truncStop]
      split
      · -- the last character that fits: room for exactly one
        simp only [scan, hc, hi, hoff, if_true]
        rw [show width - off = 1 by omega]
        cases full
        · exact congrArg (·, false) (Nat.min_eq_right (Nat.le_add_right 1 _)).symm
        · rfl
      · simp only [scan, hc, hi, ih (off + 1) false (by omega), if_true]
        rw [show width - off = 1 + (width - (off + 1)) by omega, room_succ]
    | false =>
      rw [truncGo_skip _ _ _ _ _ _ h1 h2 (Prod.ext rfl hc), spec_truncStop', decide_eq_false (Nat.not_le.mpr ho),
        Bool.and_false, if_neg Bool.false_ne_true]
      simp only [scan, hc, ih off _ ho, Bool.false_eq_true, if_false, Nat.zero_add]

end Display
