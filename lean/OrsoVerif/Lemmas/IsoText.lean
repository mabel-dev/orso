import OrsoVerif.Lemmas.IsoDigits
import OrsoVerif.Model.Iso
import OrsoVerif.Lemmas.Basics
/-! Helper lemmas for C08: `datetime(*map(int, columns))` as an iff (`fields_iff`), the canonical renderings as character
lists, the `Z` strip and the `+` split of the text path as `cutTail` (`textPath_eq`, `textPath_cut`), `parseIso` on text. -/
namespace Iso

theorem ite_ite_same {α : Type} (a b : Prop) [Decidable a] [Decidable b] (e x : α) :
    (if a then e else if b then e else x) = if a ∨ b then e else x := by
  by_cases a <;> by_cases b <;> simp [*]

theorem buildDatetime_eq (y m d H M S : Int) :
    buildDatetime y m d H M S =
      if !(cIntOk y && cIntOk m && cIntOk d && cIntOk H && cIntOk M && cIntOk S) then .error .overflowError
      else if (y < 1 ∨ y > 9999) ∨ (m < 1 ∨ m > 12) ∨ (d < 1 ∨ d > (daysInMonth y.toNat m.toNat : Nat)) ∨
          (H < 0 ∨ H > 23) ∨ (M < 0 ∨ M > 59) ∨ (S < 0 ∨ S > 59) then .error .valueError
      else .ok ⟨y.toNat, m.toNat, d.toNat, H.toNat, M.toNat, S.toNat, 0⟩ := by
  simp only [buildDatetime, ite_ite_same]

theorem buildDatetime_ok (y m d H M S : Int) (dt : DateTime) (h : buildDatetime y m d H M S = .ok dt) :
    validDateTime dt = true ∧ dt.micro = 0 ∧ (dt.year : Int) = y ∧ (dt.month : Int) = m ∧ (dt.day : Int) = d ∧
      (dt.hour : Int) = H ∧ (dt.minute : Int) = M ∧ (dt.second : Int) = S := by
  rw [buildDatetime_eq] at h
  split at h
  · cases h
  · split at h
    · cases h
    · injection h with h
      subst h
      dsimp only
      simp only [validDateTime, validDate, Bool.and_eq_true, decide_eq_true_eq, true_and]
      omega

theorem buildDatetime_valid (dt : DateTime) (h : validDateTime dt = true) :
    buildDatetime dt.year dt.month dt.day dt.hour dt.minute dt.second = .ok (truncSeconds dt) := by
  obtain ⟨h1, h2, h3, h4, h5, h6, h7, h8, h9, _⟩ := valid_bounds h
  have h6' := daysInMonth_le dt.year dt.month
  rw [buildDatetime_eq, if_neg, if_neg]
  · rfl
  · simp only [Int.toNat_natCast]; omega
  · simp only [cIntOk, Bool.not_eq_true', Bool.not_eq_false, Bool.and_eq_true, decide_eq_true_eq]; omega

theorem buildDatetime_iff (y m d H M S : Int) (dt : DateTime) :
    buildDatetime y m d H M S = .ok dt ↔
      validDateTime dt = true ∧ dt.micro = 0 ∧ (dt.year : Int) = y ∧ (dt.month : Int) = m ∧ (dt.day : Int) = d ∧
        (dt.hour : Int) = H ∧ (dt.minute : Int) = M ∧ (dt.second : Int) = S := by
  constructor
  · exact buildDatetime_ok y m d H M S dt
  · rintro ⟨hv, hm, rfl, rfl, rfl, rfl, rfl, rfl⟩
    rw [buildDatetime_valid dt hv, truncSeconds_of_micro hm]

theorem ints_eq_ok_iff (v : List Char) (sl : List (Nat × Nat)) (xs : List Int) :
    ints v sl = .ok xs ↔ sl.map (fun ab => pyInt (slice v ab)) = xs.map .ok := by
  induction sl generalizing xs with
  | nil => cases xs <;> simp [ints]
  | cons ab r ih =>
    constructor
    · intro h
      obtain ⟨x, h1, h⟩ := Except.bind_eq_ok h
      obtain ⟨ys, h2, h⟩ := Except.bind_eq_ok h
      cases h
      rw [List.map_cons, List.map_cons, h1, (ih ys).mp h2]
    · intro h
      cases xs with
      | nil => cases h
      | cons x ys =>
        injection h with h1 h2
        simp only [ints, h1, (ih ys).mpr h2, bind_ok]

theorem mkDatetime_iff (xs : List Int) (dt : DateTime) :
    mkDatetime xs = .ok dt ↔ validDateTime dt = true ∧ dt.micro = 0 ∧
      ([(dt.year : Int), dt.month, dt.day] = xs ∧ dt.hour = 0 ∧ dt.minute = 0 ∧ dt.second = 0 ∨
       [(dt.year : Int), dt.month, dt.day, dt.hour, dt.minute] = xs ∧ dt.second = 0 ∨
       [(dt.year : Int), dt.month, dt.day, dt.hour, dt.minute, dt.second] = xs) := by
  unfold mkDatetime
  split
  · simp only [buildDatetime_iff, List.cons.injEq, and_true, reduceCtorEq, and_false, false_and, or_false, and_assoc,
      Int.natCast_eq_zero]
  · simp only [buildDatetime_iff, List.cons.injEq, and_true, reduceCtorEq, and_false, false_and, or_false, false_or, and_assoc,
      Int.natCast_eq_zero]
  · simp only [buildDatetime_iff, List.cons.injEq, and_true, reduceCtorEq, and_false, false_and, false_or]
  · next h3 h5 h6 =>
    refine ⟨nofun, ?_⟩
    rintro ⟨-, -, ⟨rfl, -⟩ | ⟨rfl, -⟩ | rfl⟩
    · exact (h3 _ _ _ rfl).elim
    · exact (h5 _ _ _ _ _ rfl).elim
    · exact (h6 _ _ _ _ _ _ rfl).elim

theorem fields_iff (v : List Char) (sl : List (Nat × Nat)) (dt : DateTime) :
    fields v sl = .ok (some dt) ↔ validDateTime dt = true ∧ dt.micro = 0 ∧
      (sl.map (fun ab => pyInt (slice v ab)) = [(dt.year : Int), dt.month, dt.day].map .ok ∧
          dt.hour = 0 ∧ dt.minute = 0 ∧ dt.second = 0 ∨
       sl.map (fun ab => pyInt (slice v ab)) = [(dt.year : Int), dt.month, dt.day, dt.hour, dt.minute].map .ok ∧
          dt.second = 0 ∨
       sl.map (fun ab => pyInt (slice v ab)) =
          [(dt.year : Int), dt.month, dt.day, dt.hour, dt.minute, dt.second].map .ok) := by
  have ex : fields v sl = .ok (some dt) ↔
      ∃ xs, sl.map (fun ab => pyInt (slice v ab)) = xs.map .ok ∧ mkDatetime xs = .ok dt :=
    ⟨fun h => by
      obtain ⟨xs, hi, h⟩ := Except.bind_eq_ok h
      obtain ⟨dt', hm, h⟩ := Except.bind_eq_ok h
      cases h
      exact ⟨xs, (ints_eq_ok_iff v sl xs).mp hi, hm⟩,
     fun ⟨xs, hi, hm⟩ => by simp only [fields, (ints_eq_ok_iff v sl xs).mpr hi, hm, bind_ok]⟩
  simp only [ex, mkDatetime_iff]
  constructor
  · rintro ⟨xs, hi, hv, hm, ⟨rfl, a, b, c⟩ | ⟨rfl, c⟩ | rfl⟩
    · exact ⟨hv, hm, .inl ⟨hi, a, b, c⟩⟩
    · exact ⟨hv, hm, .inr (.inl ⟨hi, c⟩)⟩
    · exact ⟨hv, hm, .inr (.inr hi)⟩
  · rintro ⟨hv, hm, ⟨e, a, b, c⟩ | ⟨e, c⟩ | e⟩
    · exact ⟨_, e, hv, hm, .inl ⟨rfl, a, b, c⟩⟩
    · exact ⟨_, e, hv, hm, .inr (.inl ⟨rfl, c⟩)⟩
    · exact ⟨_, e, hv, hm, .inr (.inr rfl)⟩

/-- Pure value of Python's `a and b` / `a or b`. -/
def scb (j a b : Bool) : Bool := if j then a && b else a || b

theorem shortCircuit_ok (j a b : Bool) : shortCircuit j a (.ok b) = .ok (scb j a b) := by
  cases j <;> cases a <;> cases b <;> rfl

/-- **The generated guards and offsets (`Gen.Iso`) accept the canonical renderings**: one direction of each test.  Proved in
`Props/C08.lean` (`guards_accept_canonical_renderings`) against the expressions extracted from the source on this run.
`textPath_cut` and its corollaries need no more than this; the lemmas about `shaped` take both directions of every guard
from `Iso.Exact`. -/
structure Accepts : Prop where
  idx : Gen.Iso.dashA = 4 ∧ Gen.Iso.dashB = 7 ∧ Gen.Iso.sepIdx = 10 ∧ Gen.Iso.colonA = 13 ∧ Gen.Iso.colonB = 16
  slices : Gen.Iso.slicesDate = [(0, 4), (5, 7), (8, 10)] ∧
    Gen.Iso.slicesSec = [(0, 4), (5, 7), (8, 10), (11, 13), (14, 16), (17, 19)] ∧
    Gen.Iso.slicesMin = [(0, 4), (5, 7), (8, 10), (11, 13), (14, 16)]
  chars : Gen.Iso.zChar = 'Z' ∧ Gen.Iso.plusChar = '+'
  window : ∀ n : Int, 10 ≤ n → n ≤ 33 → Gen.Iso.lenWindow n
  plus : ∀ n : Int, 10 ≤ n → n ≤ 28 → ¬ Gen.Iso.plusReject n
  dash : scb Gen.Iso.dashJoinAnd (decide (Gen.Iso.dashTestA '-')) (decide (Gen.Iso.dashTestB '-')) = false
  sep : ∀ c, c = 'T' ∨ c = ' ' →
    scb Gen.Iso.sepJoinAnd (decide (Gen.Iso.sepTestA c)) (decide (Gen.Iso.sepTestB ':')) = false
  dateLen : Gen.Iso.dateLenTest 10
  timeLen : ∀ n : Int, 16 ≤ n → ¬ Gen.Iso.dateLenTest n ∧ Gen.Iso.timeLenTest n
  minLen : Gen.Iso.minLenTest 16 ∧ ¬ Gen.Iso.secLenTest 16
  secLen : ∀ n : Int, 19 ≤ n → Gen.Iso.secLenTest n
  secChar : Gen.Iso.secCharTest ':'

/-- The renderings as explicit character lists, one layer each: what stands at which offset is then read off by `rfl`
(on the renderers as defined every such `rfl` unfolds the three nested definitions again). -/
theorem renderDate_cons (y m d : Nat) (t : List Char) : renderDate y m d ++ t =
    digit (y / 1000) :: digit (y / 100) :: digit (y / 10) :: digit y :: '-' :: digit (m / 10) :: digit m :: '-' ::
      digit (d / 10) :: digit d :: t := rfl

theorem renderMinute_cons (dt : DateTime) (sep : Char) (t : List Char) : renderMinute dt sep ++ t =
    renderDate dt.year dt.month dt.day ++ sep :: digit (dt.hour / 10) :: digit dt.hour :: ':' :: digit (dt.minute / 10) ::
      digit dt.minute :: t := by
  simp only [renderMinute, pad2, List.append_assoc, List.cons_append, List.nil_append]

theorem renderSecond_cons (dt : DateTime) (sep : Char) (t : List Char) : renderSecond dt sep ++ t =
    renderMinute dt sep ++ ':' :: digit (dt.second / 10) :: digit dt.second :: t := by
  simp only [renderSecond, pad2, List.append_assoc, List.cons_append, List.nil_append]

theorem valid_truncSeconds {dt : DateTime} (h : validDateTime dt = true) : validDateTime (truncSeconds dt) = true := by
  simp only [validDateTime, Bool.and_eq_true] at h ⊢
  exact ⟨h.1, decide_eq_true (Nat.zero_le _)⟩

theorem pyInt_pads {dt : DateTime} (h : validDateTime dt = true) :
    pyInt (pad4 dt.year) = .ok (dt.year : Int) ∧
      pyInt (pad2 dt.month) = .ok (dt.month : Int) ∧ pyInt (pad2 dt.day) = .ok (dt.day : Int) ∧
      pyInt (pad2 dt.hour) = .ok (dt.hour : Int) ∧ pyInt (pad2 dt.minute) = .ok (dt.minute : Int) ∧
      pyInt (pad2 dt.second) = .ok (dt.second : Int) := by
  obtain ⟨h1, h2, h3, h4, h5, h6, h7, h8, h9, _⟩ := valid_bounds h
  have h6' := daysInMonth_le dt.year dt.month
  exact ⟨pyInt_pad4 _ (by omega), pyInt_pad2 _ (by omega), pyInt_pad2 _ (by omega), pyInt_pad2 _ (by omega),
    pyInt_pad2 _ (by omega), pyInt_pad2 _ (by omega)⟩

def plainC (c : Char) : Bool := c != 'Z' && c != '+'

theorem plainC_of_isDigit {c : Char} (h : c.isDigit = true) : plainC c = true := by
  have h1 : c ≠ 'Z' := ne_of_isDigit h (by decide)
  have h2 : c ≠ '+' := ne_of_isDigit h (by decide)
  simp [plainC, h1, h2]

theorem plainC_digit (n : Nat) : plainC (digit n) = true := plainC_of_isDigit (isDigit_digit n)

theorem plain_split {l : List Char} (h : l.all plainC = true) : l.getLast? ≠ some 'Z' ∧ l.contains '+' = false := by
  rw [List.all_eq_true] at h
  refine ⟨fun e => ?_, Bool.eq_false_iff.mpr fun e => ?_⟩
  · exact absurd (h 'Z' (List.mem_of_getLast? e)) (by decide)
  · exact absurd (h '+' (List.contains_iff_mem.mp e)) (by decide)

theorem zStrip_append (a t : List Char) (ha : a.getLast? ≠ some 'Z') : zStrip (a ++ t) = a ++ zStrip t := by
  unfold zStrip
  cases t using List.casesOn with
  | nil => simp [ha]
  | cons c r =>
    have hne : c :: r ≠ [] := by simp
    have hl : (a ++ c :: r).getLast? = (c :: r).getLast? := by
      rw [List.getLast?_append]
      cases h : (c :: r).getLast? with
      | none => exact absurd (List.getLast?_eq_none_iff.mp h) hne
      | some x => rfl
    rw [hl]
    split
    · exact List.dropLast_append_of_ne_nil hne
    · rfl

theorem zStrip_length_ge (s : List Char) : s.length - 1 ≤ (zStrip s).length := by
  unfold zStrip; split <;> simp

theorem cutTail_prefix (s : List Char) : cutTail s <+: s := by
  have hz : zStrip s <+: s := by
    unfold zStrip
    split
    · exact List.dropLast_prefix s
    · exact List.prefix_refl s
  unfold cutTail
  split
  · exact (List.takeWhile_prefix _).trans hz
  · exact hz

theorem cutTail_length_le (t : List Char) : (cutTail t).length ≤ t.length := (cutTail_prefix t).length_le

theorem cutTail_append (a t : List Char) (ha : a.all plainC = true) :
    (zStrip (a ++ t)).contains '+' = (zStrip t).contains '+' ∧ cutTail (a ++ t) = a ++ cutTail t := by
  obtain ⟨hz, hp⟩ := plain_split ha
  have hc : (a ++ zStrip t).contains '+' = (zStrip t).contains '+' := by rw [List.contains_append, hp, Bool.false_or]
  unfold cutTail
  rw [zStrip_append a t hz, hc]
  refine ⟨rfl, ?_⟩
  split
  · exact List.takeWhile_append_of_pos fun c hc => (Bool.and_eq_true _ _ ▸ List.all_eq_true.mp ha c hc).2
  · rfl

theorem tailRead_iff (t : List Char) :
    tailRead t = true ↔ t.length ≤ 14 ∧ ((zStrip t).contains '+' = true → (cutTail t).length ≤ 9) := by
  simp only [tailRead, cutTail, Bool.and_eq_true, Bool.or_eq_true, Bool.not_eq_true', decide_eq_true_eq]
  cases (zStrip t).contains '+'
  · simp only [true_or, Bool.false_eq_true, false_implies]
  · simp only [Bool.true_eq_false, false_or, if_true, true_implies]

theorem textPath_eq (hc : Gen.Iso.zChar = 'Z' ∧ Gen.Iso.plusChar = '+') (s : List Char) :
    textPath s =
      if Gen.Iso.lenWindow (s.length : Int) then
        if (zStrip s).contains '+' = true ∧ Gen.Iso.plusReject ((cutTail s).length : Int) then .ok none
        else shaped (cutTail s)
      else .ok none := by
  rw [textPath, hc.1, hc.2]
  show (if _ then (if (zStrip s).contains '+' = true then _ else shaped (zStrip s)) else _) = _
  unfold cutTail
  by_cases hp : (zStrip s).contains '+' = true
  · simp only [hp, if_true, true_and]
    rfl
  · simp only [hp, if_false, false_and, Bool.false_eq_true]

theorem textPath_cut (A : Accepts) (a t : List Char) (ha : a.all plainC = true) (h10 : 10 ≤ a.length + t.length)
    (hw : a.length + t.length ≤ 33) :
    textPath (a ++ t) =
      if (zStrip t).contains '+' = true ∧ Gen.Iso.plusReject ((a ++ cutTail t).length : Int) then .ok none
      else shaped (a ++ cutTail t) := by
  obtain ⟨hc, ht⟩ := cutTail_append a t ha
  rw [textPath_eq A.chars, if_pos (A.window _ (by simp; omega) (by simp; omega)), hc, ht]

theorem cutTail_plus (r : List Char) : cutTail ('+' :: r) = [] := by
  have h : ∃ r', zStrip ('+' :: r) = '+' :: r' := by
    unfold zStrip
    cases r with
    | nil => exact ⟨[], rfl⟩
    | cons c r => split; exact ⟨_, List.dropLast_cons_cons⟩; exact ⟨_, rfl⟩
  obtain ⟨r', h⟩ := h
  simp [cutTail, h]

theorem cutTail_plain {t : List Char} (h : t.all plainC = true) : (zStrip t).contains '+' = false ∧ cutTail t = t := by
  obtain ⟨hz, hp⟩ := plain_split h
  have e : zStrip t = t := if_neg hz
  rw [cutTail, e, hp]
  exact ⟨rfl, rfl⟩

theorem plain_renderSecond (dt : DateTime) (sep : Char) (hsep : sep = 'T' ∨ sep = ' ') :
    (renderSecond dt sep).all plainC = true ∧ (renderSecond dt sep).length = 19 := by
  have hs : plainC sep = true := by rcases hsep with rfl | rfl <;> decide
  have hd : plainC '-' = true := by decide
  have hc : plainC ':' = true := by decide
  simp [renderSecond, renderMinute, renderDate, pad4, pad2, plainC_digit, hs, hd, hc]

theorem plain_renderMinute (dt : DateTime) (sep : Char) (hsep : sep = 'T' ∨ sep = ' ') :
    (renderMinute dt sep).all plainC = true ∧ (renderMinute dt sep).length = 16 := by
  have hs : plainC sep = true := by rcases hsep with rfl | rfl <;> decide
  have hd : plainC '-' = true := by decide
  have hc : plainC ':' = true := by decide
  simp [renderMinute, renderDate, pad4, pad2, plainC_digit, hs, hd, hc]

theorem plain_renderDate (y m d : Nat) :
    (renderDate y m d).all plainC = true ∧ (renderDate y m d).length = 10 := by
  have hd : plainC '-' = true := by decide
  simp [renderDate, pad4, pad2, plainC_digit, hd]

theorem plain_fraction (micro k : Nat) :
    (fraction micro k).all plainC = true ∧ (fraction micro k).length ≤ 7 := by
  unfold fraction
  split
  · simp
  · have hdot : plainC '.' = true := by decide
    refine ⟨?_, ?_⟩
    · simp only [List.all_cons, hdot, Bool.true_and, List.all_eq_true]
      exact fun c hc => plainC_of_isDigit (isDigit_of_mem_take_pad6 micro k c hc)
    · simp only [List.length_cons, List.length_take, pad6, List.length_nil]
      omega

theorem decodeUtf8_toUTF8 (s : String) : decodeUtf8 s.toUTF8.data.toList = some s.toList := by
  unfold decodeUtf8
  have : (ByteArray.mk s.toUTF8.data.toList.toArray) = s.toUTF8 := by simp
  rw [this]
  simp only [String.fromUTF8?, String.toUTF8_eq_toByteArray]
  rw [dif_pos s.isValidUTF8]
  rfl

theorem notDigit_of_dash {s : List Char} (h : s[4]? = some '-') : isDigitStr s = false := by
  rw [isDigitStr, Bool.and_eq_false_iff]
  exact .inr (List.all_eq_false.mpr ⟨'-', List.mem_of_getElem? h, by decide⟩)

/-- **The generated string branch is the skeleton.**  `Gen.IsoText.textBranch` is the program
written by `harness/pystmt_text.py` from the statements of `parse_iso`'s string branch on this run and
is what `parseIso` runs; `textPath` is the hand-written skeleton the lemmas reason about.  Proved in
`Props/C08.lean` (`text_branch_refines_skeleton`) for every text. -/
structure Refines : Prop where
  text : ∀ v : List Char, Gen.IsoText.textBranch v = textPath v

theorem strBody_skel (R : Refines) (s : List Char) : strBody s = strBodySkel s := by
  unfold strBody strBodySkel; rw [R.text]

theorem parseIso_str (R : Refines) (v : List Char) (hd : isDigitStr v = false) :
    parseIso (.str v) = match textPath v with
      | .ok (some dt) => .value dt
      | .ok none => .none
      | .error e => if caughtBy Gen.Iso.caught e then .none else .raises e := by
  simp only [parseIso, parseIsoWith, body, strBody, hd, R.text, Bool.false_eq_true, if_false]
  rfl

theorem parseIso_text (R : Refines) (v : List Char) (hd : isDigitStr v = false) (dt : DateTime)
    (h : textPath v = .ok (some dt)) : parseIso (.str v) = .value dt := by
  rw [parseIso_str R v hd, h]

theorem parseIso_bytes {b : List UInt8} {s : List Char} (h : decodeUtf8 b = some s) :
    parseIso (.bytes b) = parseIso (.str s) := by
  simp only [parseIso, parseIsoWith, body, h]

theorem Suffix.cut (suf : Suffix) :
    suf.text.length ≤ 6 ∧ ((zStrip suf.text).contains '+' = true → cutTail suf.text = []) ∧
      (suf.dropped = true → cutTail suf.text = []) := by
  have hm : plainC '-' = true := by decide
  have hc : plainC ':' = true := by decide
  have minus : ∀ t : List Char, t.all plainC = true → (zStrip t).contains '+' = true → cutTail t = [] :=
    fun t h hp => absurd ((cutTail_plain h).1 ▸ hp) Bool.false_ne_true
  cases suf with
  | none => exact ⟨by decide, fun _ => rfl, fun _ => rfl⟩
  | z => exact ⟨by decide, fun _ => rfl, fun _ => rfl⟩
  | plus hh mm => exact ⟨by simp [Suffix.text, pad2], fun _ => cutTail_plus _, fun _ => cutTail_plus _⟩
  | plusBasic hh mm => exact ⟨by simp [Suffix.text, pad2], fun _ => cutTail_plus _, fun _ => cutTail_plus _⟩
  | plusHour hh => exact ⟨by simp [Suffix.text, pad2], fun _ => cutTail_plus _, fun _ => cutTail_plus _⟩
  | minus hh mm =>
    exact ⟨by simp [Suffix.text, pad2], minus _ (by simp [Suffix.text, pad2, plainC_digit, hm, hc]), nofun⟩
  | minusBasic hh mm =>
    exact ⟨by simp [Suffix.text, pad2], minus _ (by simp [Suffix.text, pad2, plainC_digit, hm]), nofun⟩
  | minusHour hh =>
    exact ⟨by simp [Suffix.text, pad2], minus _ (by simp [Suffix.text, pad2, plainC_digit, hm]), nofun⟩

/-- At most 13 characters; a suffix with a `+` is cut off whole, which leaves the fraction, at most 7. -/
theorem tailRead_fraction_suffix (micro k : Nat) (suf : Suffix) : tailRead (fraction micro k ++ suf.text) = true := by
  obtain ⟨p, l⟩ := plain_fraction micro k
  obtain ⟨ls, hc, -⟩ := suf.cut
  obtain ⟨hp, ht⟩ := cutTail_append _ suf.text p
  exact (tailRead_iff _).mpr
    ⟨by rw [List.length_append]; omega, fun hq => by rw [ht, hc (hp ▸ hq), List.append_nil]; omega⟩

theorem textPath_plain (A : Accepts) (v : List Char) (h : v.all plainC = true) (h1 : 10 ≤ v.length) (h2 : v.length ≤ 33) :
    textPath v = shaped v := by
  have hc := textPath_cut A v [] h h1 h2
  rw [List.append_nil] at hc
  rw [hc, if_neg (fun hp => Bool.false_ne_true hp.1)]
  exact congrArg shaped (List.append_nil v)

theorem textPath_z (A : Accepts) (v : List Char) (h : v.all plainC = true) (h1 : 9 ≤ v.length) (h2 : v.length ≤ 32) :
    textPath (v ++ ['Z']) = shaped v := by
  rw [textPath_cut A v ['Z'] h (Nat.succ_le_succ h1) (Nat.succ_le_succ h2), if_neg (fun hp => Bool.false_ne_true hp.1)]
  exact congrArg shaped (List.append_nil v)

set_option linter.unusedVariables false in
/-- Everything from the first `+` on is dropped (`hr` is not needed: a `Z` at the end of `r` goes with the rest). -/
theorem textPath_plus (A : Accepts) (v r : List Char) (h : v.all plainC = true) (hr : ∀ c ∈ r, c ≠ 'Z')
    (h1 : 10 ≤ v.length) (h2 : v.length ≤ 28) (h3 : v.length + 1 + r.length ≤ 33) :
    textPath (v ++ '+' :: r) = shaped v := by
  rw [textPath_cut A v ('+' :: r) h (Nat.le_add_right_of_le h1) (by rw [List.length_cons]; omega), cutTail_plus,
    List.append_nil, if_neg]
  exact fun hp => A.plus _ (by omega) (by omega) hp.2

theorem textPath_dropped (A : Accepts) (v : List Char) (hp : v.all plainC = true) (h1 : 10 ≤ v.length)
    (h2 : v.length ≤ 26) (suf : Suffix) (hs : suf.dropped = true) :
    textPath (v ++ suf.text) = shaped v := by
  obtain ⟨hl, -, hc⟩ := suf.cut
  rw [textPath_cut A v _ hp (by omega) (by omega), hc hs, List.append_nil, if_neg]
  exact fun hr => A.plus _ (by omega) (by omega) hr.2

end Iso
