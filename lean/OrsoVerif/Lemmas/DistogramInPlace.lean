import OrsoVerif.Lemmas.DistogramRefine
/-!
# The in-place shortcut against the reference

`_search_in_place_index` + `_trim_in_place` (a full histogram, a new value strictly between two
centres and closer to one of them than the closest pair of bins): the reference inserts the value
and merges the first closest pair of the longer list.  That pair is (left neighbour, new value) when
`diff1 < diff2`, and (new value, right neighbour) otherwise **provided the closest pair is unique**
(an equidistant new value is merged right by the code, left by the reference — the one place where
the property's uniqueness hypothesis is needed).
-/
namespace Distogram

variable {K : Type} [Field K] [LinearOrder K]

/-! ## the stored centre is the centroid the reference computes for (new value, neighbour), on either side -/

omit [LinearOrder K] in
/-- The centre computed by `_trim_in_place` is the one `_trim` computes for (neighbour, new value) — and for
(new value, neighbour): which side the neighbour is on does not matter. -/
theorem inPlace_centre_eq (cv cf v c : K) :
    Gen.DistogramExpr.inPlaceCentre cv cf v c = Gen.DistogramExpr.trimCentre cv cf v c ∧
    Gen.DistogramExpr.inPlaceCentre cv cf v c = Gen.DistogramExpr.trimCentre v c cv cf ∧
    Gen.DistogramExpr.inPlaceCount cv cf v c = Gen.DistogramExpr.trimCount cv cf v c ∧
    Gen.DistogramExpr.inPlaceCount cv cf v c = Gen.DistogramExpr.trimCount v c cv cf := by
  unfold Gen.DistogramExpr.inPlaceCentre Gen.DistogramExpr.inPlaceCount Gen.DistogramExpr.trimCentre
    Gen.DistogramExpr.trimCount
  refine ⟨rfl, ?_, rfl, ?_⟩
  · rw [add_comm (cv * cf), add_comm cf]
  · rw [add_comm]

/-- `_trim_in_place` clamps like `_trim`, to the pair (bin, new value) in whichever order they come -/
theorem inPlaceStored_eq (c sv nv : K) :
    Gen.DistogramOps.inPlaceStored c sv nv = Gen.DistogramOps.trimStored c (min sv nv) (max sv nv) := by
  unfold Gen.DistogramOps.inPlaceStored Gen.DistogramOps.trimStored
  rw [pyMin_eq_min sv nv, pyMax_eq_max sv nv]

/-- **The centre `_trim_in_place` stores lies between the bin and the new value, whatever was computed**
(`min(max(centre, low), high)` with `low, high = min/max(stored_value, new_value)`): no hypothesis on `c`. -/
theorem inPlaceStored_within (c sv nv : K) :
    min sv nv ≤ Gen.DistogramOps.inPlaceStored c sv nv ∧ Gen.DistogramOps.inPlaceStored c sv nv ≤ max sv nv := by
  rw [inPlaceStored_eq]
  exact trimStored_within c min_le_max

theorem inPlaceStored_of_between {c sv nv : K} (h1 : min sv nv ≤ c) (h2 : c ≤ max sv nv) :
    Gen.DistogramOps.inPlaceStored c sv nv = c := by
  rw [inPlaceStored_eq]
  exact trimStored_of_between h1 h2

theorem inPlace_stored_left {cv cf v c : K} (h : cv ≤ v) :
    Gen.DistogramOps.inPlaceStored (Gen.DistogramExpr.inPlaceCentre cv cf v c) cv v = centroid cv cf v c := by
  rw [inPlaceStored_eq, min_eq_left h, max_eq_right h, (inPlace_centre_eq cv cf v c).1]
  rfl

theorem inPlace_stored_right {cv cf v c : K} (h : v ≤ cv) :
    Gen.DistogramOps.inPlaceStored (Gen.DistogramExpr.inPlaceCentre cv cf v c) cv v = centroid v c cv cf := by
  rw [inPlaceStored_eq, min_eq_right h, max_eq_left h, (inPlace_centre_eq cv cf v c).2.1]
  rfl

/-! ## "the closest pair is unique" -/

/-- The smallest adjacent gap of `l` is attained at one position only. -/
def UniqueClosest (l : List (K × K)) : Prop :=
  ∀ (i j : Nat) (x : K), (gaps l)[i]? = some x → (gaps l)[j]? = some x → (∀ y ∈ gaps l, x ≤ y) → i = j

omit [Field K] [LinearOrder K] in
theorem filter_two {p : K → Bool} (g : List K) (i j : Nat) (a b : K) (hij : i < j) (ha : g[i]? = some a)
    (hb : g[j]? = some b) (pa : p a = true) (pb : p b = true) : 2 ≤ (g.filter p).length := by
  induction g generalizing i j with
  | nil => cases ha
  | cons x xs ih =>
    match i, j, hij with
    | 0, j + 1, _ =>
      cases ha
      rw [List.filter_cons_of_pos pa]
      exact Nat.succ_le_succ (List.length_pos_of_mem (List.mem_filter.mpr ⟨List.mem_of_getElem? hb, pb⟩))
    | i + 1, j + 1, hij =>
      exact le_trans (ih i j (Nat.lt_of_succ_lt_succ hij) ha hb) ((List.sublist_cons_self x xs).filter p).length_le

theorem uniqueClosest_of_tieIn {l : List (K × K)} (h : tieIn l = false) : UniqueClosest l := by
  intro i j x hi hj hmin
  by_contra hne
  obtain ⟨m, hm, hall, _⟩ := argminFirst_spec (List.ne_nil_of_mem (List.mem_of_getElem? hi))
  have hmx : m = x := le_antisymm (hall x (List.mem_of_getElem? hi)) (hmin m (List.mem_of_getElem? hm))
  subst hmx
  unfold tieIn at h
  simp only [hm, decide_eq_false_iff_not, not_lt] at h
  have pe : (fun y => eqK y m) m = true := (eqK_iff' m m).mpr rfl
  rcases Nat.lt_or_gt_of_ne hne with hlt | hlt
  · exact absurd (le_trans (filter_two (p := fun y => eqK y m) (gaps l) i j m m hlt hi hj pe pe) h) (by decide)
  · exact absurd (le_trans (filter_two (p := fun y => eqK y m) (gaps l) j i m m hlt hj hi pe pe) h) (by decide)

/-! ## the list after the insertion -/

theorem mergeAt_insertIdx_right (v c cv cf : K) (idx : Nat) (bins : List (K × K)) (h : bins[idx]? = some (cv, cf)) :
    mergeAt idx (bins.insertIdx idx (v, c)) =
      bins.set idx (centroid v c cv cf, Gen.DistogramExpr.trimCount v c cv cf) := by
  induction idx generalizing bins with
  | zero =>
    match bins, h with
    | _ :: _, h => cases h; rfl
  | succ idx ih =>
    match bins, h with
    | b :: rest, h => exact congrArg (b :: ·) (ih rest h)

theorem mergeAt_insertIdx_left (v c cv cf : K) (ib : Nat) (bins : List (K × K)) (h : bins[ib]? = some (cv, cf)) :
    mergeAt ib (bins.insertIdx (ib + 1) (v, c)) =
      bins.set ib (centroid cv cf v c, Gen.DistogramExpr.trimCount cv cf v c) := by
  induction ib generalizing bins with
  | zero =>
    match bins, h with
    | _ :: _, h => cases h; rfl
  | succ ib ih =>
    match bins, h with
    | b :: rest, h => exact congrArg (b :: ·) (ih rest h)

theorem gaps_insertIdx {bins : List (K × K)} {idx : Nat} {x bp bi : K × K} (h0 : 0 < idx)
    (hp : bins[idx - 1]? = some bp) (hi : bins[idx]? = some bi) :
    (gaps (bins.insertIdx idx x))[idx - 1]? = some (x.1 - bp.1) ∧
    (gaps (bins.insertIdx idx x))[idx]? = some (bi.1 - x.1) ∧
    ∀ k y, k ≠ idx - 1 → k ≠ idx → (gaps (bins.insertIdx idx x))[k]? = some y → y ∈ gaps bins := by
  have hlt : idx < bins.length := (List.getElem?_eq_some_iff.mp hi).1
  have l1 : (bins.insertIdx idx x)[idx - 1]? = some bp := by
    rw [List.getElem?_insertIdx, if_pos (Nat.sub_lt h0 one_pos), hp]
  have l2 : (bins.insertIdx idx x)[idx]? = some x := by
    rw [List.getElem?_insertIdx, if_neg (lt_irrefl idx), if_pos rfl, if_pos (le_of_lt hlt)]
  have l3 : (bins.insertIdx idx x)[idx + 1]? = some bi := by
    rw [List.getElem?_insertIdx, if_neg (Nat.not_lt.mpr (Nat.le_succ idx)), if_neg (Nat.succ_ne_self idx)]
    exact hi
  refine ⟨?_, ?_, ?_⟩
  · rw [gaps_getElem?]
    unfold gapAt
    rw [Nat.sub_add_cancel h0, l1, l2]
  · rw [gaps_getElem?]
    unfold gapAt
    rw [l2, l3]
  · intro k y hk1 hk2 hy
    rw [gaps_getElem?, ← insert_pt (x := x) hlt k (fun hP => hP.elim (fun a => hk1 a.2) (fun a => hk2 a.2)),
      List.getElem?_insertIdx] at hy
    by_cases h1 : k < idx
    · rw [if_pos h1] at hy; exact List.mem_of_getElem? hy
    · rw [if_neg h1, if_neg hk2] at hy; exact List.mem_of_getElem? hy

/-- The first closest pair of the list after inserting `x` between bins `idx - 1` and `idx`, when `x` is closer to
one of them than any two old bins are to each other (`m` bounds the old gaps): the left pair if `x` is strictly closer
to the left bin; otherwise the right pair **provided the closest pair is unique** — at equal distances the code merges
right and the reference left. -/
theorem argminFirst_insertIdx {bins : List (K × K)} {idx : Nat} {x bp bi : K × K} {m : K} (h0 : 0 < idx)
    (hp : bins[idx - 1]? = some bp) (hi : bins[idx]? = some bi) (hm : ∀ y ∈ gaps bins, m ≤ y) :
    (x.1 - bp.1 < bi.1 - x.1 → x.1 - bp.1 < m → argminFirst (gaps (bins.insertIdx idx x)) = idx - 1) ∧
    (bi.1 - x.1 ≤ x.1 - bp.1 → bi.1 - x.1 < m → UniqueClosest (bins.insertIdx idx x) →
      argminFirst (gaps (bins.insertIdx idx x)) = idx) := by
  obtain ⟨g1, g2, grest⟩ := gaps_insertIdx (x := x) h0 hp hi
  constructor
  · intro hpick hclose
    refine argminFirst_eq_of_lt g1 (fun k y hk hy => ?_)
    by_cases k2 : k = idx
    · rw [k2, g2] at hy; cases hy; exact hpick
    · exact lt_of_lt_of_le hclose (hm y (grest k y hk k2 hy))
  · intro hpick hclose huniq
    have hall : ∀ (k : Nat) (y : K), (gaps (bins.insertIdx idx x))[k]? = some y → bi.1 - x.1 ≤ y := by
      intro k y hy
      by_cases k1 : k = idx - 1
      · rw [k1, g1] at hy; cases hy; exact hpick
      · by_cases k2 : k = idx
        · rw [k2, g2] at hy; cases hy; exact le_refl _
        · exact le_of_lt (lt_of_lt_of_le hclose (hm y (grest k y k1 k2 hy)))
    -- an equal gap elsewhere would be a second closest pair
    refine argminFirst_eq_of_lt g2 (fun k y hk hy => lt_of_le_of_ne (hall k y hy) (fun e => hk ?_))
    rw [← e] at hy
    refine huniq k idx _ hy g2 (fun z hz => ?_)
    obtain ⟨j, hj⟩ := List.getElem?_of_mem hz
    exact hall j z hj

/-! ## the in-place merge is the reference's merge -/

theorem searchInPlaceIndex_some {h : Hist K} {v : K} {idx ib : Nat} (hs : searchInPlaceIndex h v idx = .ok (some ib)) :
    ∃ bp bi, h.bins[idx - 1]? = some bp ∧ h.bins[idx]? = some bi ∧
      ((ib = idx - 1 ∧ v - bp.1 < bi.1 - v ∧ ∀ m, h.minDiff = some m → v - bp.1 < m) ∨
       (ib = idx ∧ bi.1 - v ≤ v - bp.1 ∧ ∀ m, h.minDiff = some m → bi.1 - v < m)) := by
  unfold searchInPlaceIndex at hs
  split at hs
  · rename_i bp bi hp hi
    refine ⟨bp, bi, hp, hi, ?_⟩
    simp only [Except.ok.injEq, Gen.DistogramExpr.searchDiff1, Gen.DistogramExpr.searchDiff2,
      Gen.DistogramExpr.searchPickLeft] at hs
    by_cases hpick : v - bp.1 < bi.1 - v
    · simp only [hpick, decide_true, if_true] at hs
      split at hs
      · rename_i hclose
        refine Or.inl ⟨(Option.some.inj hs).symm, hpick, fun m hm => ?_⟩
        rw [hm] at hclose
        simpa [closerThanMin, Gen.DistogramExpr.searchInPlace] using hclose
      · cases hs
    · simp only [hpick, decide_false, Bool.false_eq_true, if_false] at hs
      split at hs
      · rename_i hclose
        refine Or.inr ⟨(Option.some.inj hs).symm, not_lt.mp hpick, fun m hm => ?_⟩
        rw [hm] at hclose
        simpa [closerThanMin, Gen.DistogramExpr.searchInPlace] using hclose
      · cases hs
  · cases hs

/-- **The in-place shortcut is a merge of an adjacent pair of the list after insertion** — the pair (left
neighbour, new value) or (new value, right neighbour) — **and that pair is the reference's first closest pair
whenever the closest pair is unique.**  In a coherent state with the new value between bins `idx - 1` and `idx`,
if `_search_in_place_index` answers bin `ib` then `_trim_in_place` stores `mergeAt p` of the inserted list. -/
theorem inPlace_shape {h h' : Hist K} {v c : K} {idx ib : Nat} {bp bi : K × K} (hc : Coherent h)
    (hd : h.diffs.isSome = true) (h0 : 0 < idx) (hp : h.bins[idx - 1]? = some bp) (hi : h.bins[idx]? = some bi)
    (hlo : bp.1 < v) (hhi : v < bi.1)
    (hs : searchInPlaceIndex h v idx = .ok (some ib)) (hok : trimInPlace h v c ib = .ok h') :
    ∃ p, (p = idx - 1 ∨ p = idx) ∧ h'.bins = mergeAt p (h.bins.insertIdx idx (v, c)) ∧
      (UniqueClosest (h.bins.insertIdx idx (v, c)) → argminFirst (gaps (h.bins.insertIdx idx (v, c))) = p) ∧
      h'.min = h.min ∧ h'.max = h.max ∧ h'.cap = h.cap := by
  obtain ⟨_, hmin', hmax', hcap', cv, cf, hb, hbins⟩ := (trimInPlace_spec hok).2 hc
  obtain ⟨d, hdd⟩ := Option.isSome_iff_exists.mp hd
  obtain ⟨_, hg, hm⟩ := hc d hdd
  -- `min_diff` is a lower bound of the old gaps, and there is at least one old gap
  have hgne : gaps h.bins ≠ [] := by
    apply List.ne_nil_of_length_pos
    rw [gaps_length]
    exact Nat.sub_pos_of_lt (Nat.lt_of_le_of_lt h0 (List.getElem?_eq_some_iff.mp hi).1)
  obtain ⟨m, hmd, hmall⟩ : ∃ m, h.minDiff = some m ∧ ∀ y ∈ gaps h.bins, m ≤ y := by
    cases hmd : h.minDiff with
    | none => rw [hmd] at hm; simp only [IsMinOpt] at hm; rw [hg] at hm; exact absurd hm hgne
    | some m => rw [hmd] at hm; exact ⟨m, rfl, by rw [← hg]; exact hm.2⟩
  obtain ⟨left, right⟩ := argminFirst_insertIdx (x := (v, c)) h0 hp hi hmall
  obtain ⟨bp', bi', hp', hi', hside⟩ := searchInPlaceIndex_some hs
  rw [hp] at hp'; rw [hi] at hi'
  cases hp'; cases hi'
  rcases hside with ⟨rfl, hpick, hclose⟩ | ⟨rfl, hpick, hclose⟩
  · -- the left neighbour
    rw [hp] at hb
    cases hb
    refine ⟨idx - 1, Or.inl rfl, ?_, fun _ => left hpick (hclose m hmd), hmin', hmax', hcap'⟩
    have hml := mergeAt_insertIdx_left v c cv cf (idx - 1) h.bins hp
    rw [Nat.sub_add_cancel h0] at hml
    rw [hbins, hml, inPlace_stored_left (le_of_lt hlo), (inPlace_centre_eq cv cf v c).2.2.1]
  · -- the right neighbour
    rw [hi] at hb
    cases hb
    refine ⟨ib, Or.inr rfl, ?_, right hpick (hclose m hmd), hmin', hmax', hcap'⟩
    rw [hbins, mergeAt_insertIdx_right v c cv cf ib h.bins hi, inPlace_stored_right (le_of_lt hhi),
      (inPlace_centre_eq cv cf v c).2.2.2]

end Distogram
