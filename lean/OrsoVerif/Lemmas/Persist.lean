import OrsoVerif.Model.PersistOps
import OrsoVerif.Lemmas.Basics
/-! C16: each interpreter of a generated list in closed form, evaluated once (`rawOf_eq`, `flatRaw_eq`, `colToDict_eq`,
`toDict_eq`, `fromDict_eq`, `init_eq`, `fill_eq_or`, `prepare_eq`): later proofs rewrite with these and look nothing up by
field name again.  Then the constructor on attributes that are already normalised, what a successful call establishes,
and what it makes of the type, element type and disposition that `to_dict` wrote and `FlatColumn.from_dict` handed on. -/
namespace Persist
open TypeName (Str Ty)
open Gen.Persist

variable {V : Type}

/-! ### the interpreters of the generated lists in closed form (each proof unfolds its list, so a changed list fails here) -/

theorem rawOf_eq (c : Col V) : rawOf c =
  { name := some c.name, default := some c.default, type := some (rawTy c.type),
    element_type := some (c.element_type.map rawTy), description := some c.description,
    disposition := some (c.disposition.map RawDisp.member), aliases := some c.aliases, nullable := some c.nullable,
    expectations := some c.expectations, identity := some c.identity, length := some c.length,
    precision := some c.precision, scale := some c.scale, origin := some c.origin,
    highest_value := some c.highest_value, lowest_value := some c.lowest_value, null_count := some c.null_count } := by
  rfl

/-- what `to_flatcolumn` passes: thirteen keywords; disposition, expectations, length and origin are not
forwarded -/
theorem flatRaw_eq (c : Col V) : rawVia flatKwargs c =
  { name := some c.name, default := some c.default, type := some (rawTy c.type),
    element_type := some (c.element_type.map rawTy), description := some c.description,
    aliases := some c.aliases, nullable := some c.nullable, identity := some c.identity,
    precision := some c.precision, scale := some c.scale,
    highest_value := some c.highest_value, lowest_value := some c.lowest_value, null_count := some c.null_count } := by
  rfl

theorem em_fields : ∀ k ∈ columnFields, ∀ {α : Type} (v : α), em k v = some v := fun _ h _ _ => if_pos h

theorem colToDict_eq (c : Col V) : colToDict c =
  { name := some c.name, default := some c.default, type := some (writeTy c.type),
    element_type := some (c.element_type.map writeTy), description := some c.description,
    disposition := some (c.disposition.map writeDisp), aliases := some c.aliases, nullable := some c.nullable,
    expectations := some c.expectations, identity := some c.identity, length := some c.length,
    precision := some c.precision, scale := some c.scale, origin := some c.origin,
    highest_value := some c.highest_value, lowest_value := some c.lowest_value, null_count := some c.null_count } := by
  -- every key `asdict` is asked for is a declared field: said of all of `columnFields` (`em_fields`) and read off at each of
  -- them, which compares no strings (deciding `k ∈ columnFields` key by key compares 150 pairs)
  have H := @em_fields
  simp only [columnFields, List.forall_mem_cons] at H
  simp only [colToDict, H]

/-- every keyword the attribute loop asks for is a declared field (`Gen.Persist.columnFields`), so each attribute is the
keyword's value or its declared default -/
theorem init_eq (K : Caster V) (fresh : String) (r : Raw V) : init K fresh r =
    match r.name with
    | none => .error .columnDefinition
    | some name =>
      match resolveType (r.type.getD (.member missingName)) (r.element_type.getD none) (r.length.getD none)
          (r.precision.getD none) (r.scale.getD none) with
      | .error e => .error e
      | .ok t =>
        match resolveElem t.elem with
        | .error e => .error e
        | .ok elem =>
          match resolveDisp (r.disposition.getD none) with
          | .error e => .error e
          | .ok disp =>
            match resolveDefault K t.ty (r.default.getD K.none) with
            | .error e => .error e
            | .ok dflt =>
              .ok { name := name, default := dflt, type := t.ty, element_type := elem,
                    description := r.description.getD none, disposition := disp, aliases := r.aliases.getD (some []),
                    nullable := r.nullable.getD true, expectations := r.expectations.getD [],
                    identity := r.identity.getD fresh, length := t.length,
                    precision := decimalPrecision t.ty t.precision,
                    scale := decimalScale t.ty (decimalPrecision t.ty t.precision) t.scale,
                    origin := r.origin.getD [], highest_value := r.highest_value.getD K.none,
                    lowest_value := r.lowest_value.getD K.none, null_count := r.null_count.getD none } := by
  -- read off at each declared field, as in `colToDict_eq`
  have H : ∀ k ∈ columnFields, (∀ {α : Type} (kw : Option α) (d : α), rd k kw d = kw.getD d)
      ∧ ∀ {α : Type} (kw : Option α), rdReq k kw = kw := fun _ h => ⟨fun _ _ => if_pos h, fun _ => if_pos h⟩
  simp only [columnFields, List.forall_mem_cons] at H
  simp only [init, H]
  rfl

/-- `RelationSchema.from_dict` loads a column through `FlatColumn.from_dict` (`Gen.Persist.columnLoader`), and so does
`from_json` (`jsonLoader`).  (`rfl` proves both too, slowly: it compares the two strings by unfolding.) -/
theorem load_columnLoader (K : Caster V) (fresh : String) : load columnLoader K fresh = colFromDict K fresh :=
  funext fun _ => if_pos (beq_self_eq_true _)

theorem load_jsonLoader (K : Caster V) (fresh : String) : load jsonLoader K fresh = colFromDict K fresh :=
  funext fun _ => if_pos (beq_self_eq_true _)

/-- `to_dict` emits every attribute of the schema the model carries (`Gen.Persist.schemaFields`, `toDictAsdict`) -/
theorem toDict_eq (s : Schema V) : toDict s =
    { name := some s.name, aliases := some s.aliases, columns := some (s.columns.map colToDict),
      primary_key := some s.primary_key } := by
  have H : ∀ k ∈ schemaFields, ∀ {α : Type} (v : α), emS k v = some v := fun k h _ _ => by
    unfold emS
    rw [decide_eq_true h]
    rfl
  simp only [schemaFields, List.forall_mem_cons] at H
  simp only [toDict, H]

/-- `RelationSchema.from_dict` restores each attribute from the key of the same name (`Gen.Persist.fromDictRestores`) -/
theorem fromDict_eq (K : Caster V) (fresh : String) (d : SDict V) : fromDict K fresh d =
    match d.name with
    | none => .error .key
    | some name =>
      match d.columns with
      | none => .error .key
      | some cols =>
        match mapE (colFromDict K fresh) cols with
        | .error e => .error e
        | .ok cs => .ok ⟨name, d.aliases.getD [], cs, d.primary_key.getD none⟩ := by
  rw [← load_columnLoader]
  rfl

/-! ### the steps of `init` on already-normalised attributes -/

theorem fromName_zeroText : TypeName.fromName zeroText = .ok { ty := .zero } := by decide

theorem resolveType_rawTy (ty : Ty) (e : Option RawTy) (l p s : Option Nat) :
    resolveType (rawTy ty) e l p s = .ok ⟨ty, e, l, p, s⟩ := by
  cases ty with
  | member m => rfl
  | zero => simp [rawTy, resolveType, fromNameRaw, fromName_zeroText]

theorem resolveElem_rawTy (e : Option Ty) : resolveElem (e.map rawTy) = .ok e := by
  cases e with
  | none => rfl
  | some t =>
    cases t with
    | member m => rfl
    | zero => simp [rawTy, resolveElem, fromNameRaw, fromName_zeroText]

theorem resolveDisp_member (d : Option String) : resolveDisp (d.map RawDisp.member) = .ok d := by
  cases d <;> rfl

theorem resolveDefault_fixed {K : Caster V} {ty : Ty} {v : V}
    (h : K.truthy v = true → ∃ m, ty = .member m ∧ K.parse m v = some v) :
    resolveDefault K ty v = .ok v := by
  unfold resolveDefault
  by_cases ht : K.truthy v = true
  · obtain ⟨m, rfl, hp⟩ := h ht
    simp [ht, hp]
  · simp [ht]

/-- the DECIMAL defaults are guarded by `is None` (`Gen.Persist.decimalFills`): a declared 0 stays -/
theorem decimalGuard_precision (p : Option Nat) : decimalGuard "precision" p = p.isNone := by
  cases p <;> rfl

theorem decimalGuard_scale (s : Option Nat) : decimalGuard "scale" s = s.isNone := by
  cases s <;> rfl

theorem decimalPrecision_fixed {ty : Ty} {p : Option Nat} (h : isDecimal ty = true → p.isSome = true) :
    decimalPrecision ty p = p := by
  unfold decimalPrecision
  rw [decimalGuard_precision]
  cases hd : isDecimal ty <;> cases p <;> simp_all

theorem decimalScale_fixed {ty : Ty} {p s : Option Nat} (h : isDecimal ty = true → s.isSome = true) :
    decimalScale ty p s = s := by
  unfold decimalScale
  rw [decimalGuard_scale]
  cases hd : isDecimal ty <;> cases s <;> simp_all

theorem init_rawOf (K : Caster V) (fresh : String) (c : Col V) (hc : Constructed K c) :
    init K fresh (rawOf c) = .ok c := by
  rw [rawOf_eq, init_eq]
  simp only [Option.getD_some, resolveType_rawTy, resolveElem_rawTy, resolveDisp_member, resolveDefault_fixed hc.1,
    decimalPrecision_fixed fun h => (hc.2 h).1, decimalScale_fixed fun h => (hc.2 h).2]

theorem toFlat_eq (K : Caster V) (fresh : String) (c : Col V) (hc : Constructed K c) :
    toFlat K fresh c = .ok { c with disposition := none, expectations := [], length := none, origin := [] } := by
  unfold toFlat
  rw [flatRaw_eq, init_eq]
  simp only [Option.getD_some, Option.getD_none, resolveType_rawTy, resolveElem_rawTy, resolveDisp,
    resolveDefault_fixed hc.1, decimalPrecision_fixed fun h => (hc.2 h).1, decimalScale_fixed fun h => (hc.2 h).2]

/-! ### what a successful `init` establishes -/

theorem resolveDefault_establishes {K : Caster V}
    (hIdem : ∀ m v w, K.parse m v = some w → K.truthy w = true → K.parse m w = some w)
    {ty : Ty} {v w : V} (h : resolveDefault K ty v = .ok w) :
    K.truthy w = true → ∃ m, ty = .member m ∧ K.parse m w = some w := by
  unfold resolveDefault at h
  split at h
  · split at h
    · cases h
    · split at h
      · rename_i hp
        cases h
        exact fun hw => ⟨_, rfl, hIdem _ v _ hp hw⟩
      · cases h
  · rename_i ht
    cases h
    exact fun hw => absurd hw ht

theorem decimal_defaults_some (ty : Ty) (p s : Option Nat) (h : isDecimal ty = true) :
    (decimalPrecision ty p).isSome = true ∧ (decimalScale ty (decimalPrecision ty p) s).isSome = true := by
  unfold decimalPrecision decimalScale
  simp only [decimalGuard_precision, decimalGuard_scale]
  cases p <;> cases s <;> simp [h]

theorem init_ok {K : Caster V} {fresh : String} {r : Raw V} {c : Col V} (h : init K fresh r = .ok c) :
    ∃ t, resolveType (r.type.getD (.member missingName)) (r.element_type.getD none) (r.length.getD none)
          (r.precision.getD none) (r.scale.getD none) = .ok t
      ∧ resolveElem t.elem = .ok c.element_type
      ∧ resolveDisp (r.disposition.getD none) = .ok c.disposition
      ∧ resolveDefault K t.ty (r.default.getD K.none) = .ok c.default
      ∧ c.type = t.ty
      ∧ c.precision = decimalPrecision t.ty t.precision ∧ c.scale = decimalScale t.ty c.precision t.scale := by
  rw [init_eq] at h
  split at h
  · cases h
  · split at h
    · cases h
    · rename_i t ht
      split at h
      · cases h
      · rename_i elem helem
        split at h
        · cases h
        · rename_i disp hdisp
          split at h
          · cases h
          · rename_i dflt hdflt
            cases h
            exact ⟨t, ht, helem, hdisp, hdflt, rfl, rfl, rfl⟩

theorem init_establishes (K : Caster V)
    (hIdem : ∀ m v w, K.parse m v = some w → K.truthy w = true → K.parse m w = some w)
    (fresh : String) (r : Raw V) (c : Col V) (h : init K fresh r = .ok c) : Constructed K c := by
  obtain ⟨t, -, -, -, hdflt, hty, hp, hs⟩ := init_ok h
  unfold Constructed
  rw [hs, hp, hty]
  exact ⟨resolveDefault_establishes hIdem hdflt, decimal_defaults_some _ _ _⟩

/-! ### the written forms read back -/

/-- what is written for a base type (its value in the generated table): it reads back as the member (a bare `ARRAY` with
VARCHAR elements), it is not what is written for the untyped marker, and it is what is written for ARRAY only if the type is
ARRAY.  (Stated together: each part evaluates the same look-ups in the table.) -/
theorem base_written : ∀ m ∈ TypeName.baseTypes,
    TypeName.fromName (TypeName.valueOf m)
      = .ok { ty := .member m, elem := if m = TypeName.litArray then some TypeName.litVarchar else none }
    ∧ (TypeName.valueOf m == TypeName.valueOf missingName) = false
    ∧ (TypeName.valueOf m == TypeName.valueOf TypeName.litArray) = (m == TypeName.litArray) := by
  decide +kernel

theorem disp_resolves : ∀ n ∈ dispositions.map Prod.fst, resolveDisp (some (writeDisp n)) = .ok (some n) := by
  decide +kernel

/-- the fills of the type-literal block are guarded by `is None` (`Gen.Persist.initFills`): a given value stays,
whatever it is (0 included), and only an absent one is taken from what the type name parsed to -/
theorem fill_eq_or {α : Type} (attr : String) {field : String}
    (h : initFills.find? (fun f => f.1 == attr) = some (attr, "isNone", field))
    (falsy : α → Bool) (parsed : String → Option α) (cur : Option α) :
    fill attr falsy parsed cur = cur.or (parsed field) := by
  unfold fill
  rw [h]
  cases cur <;> rfl

theorem resolveType_literal {t : RawTy} (ht : t.isMember = false) (e : Option RawTy) (l p s : Option Nat) :
    resolveType t e l p s =
      match fromNameRaw t with
      | .error x => .error (convErr x)
      | .ok d =>
        match d.ty with
        | .zero => .ok ⟨.zero, e, l, p, s⟩
        | .member m => .ok ⟨.member m, e.or (d.elem.map .member), l.or d.length, p.or d.precision, s.or d.scale⟩ := by
  unfold resolveType
  split
  · cases ht
  · simp only [fill_eq_or "element_type" rfl, fill_eq_or "length" rfl, fill_eq_or "precision" rfl, fill_eq_or "scale" rfl]
    rfl

theorem resolveType_written {m : Str} (hm : m ∈ TypeName.baseTypes) (e : Option RawTy) (l p s : Option Nat)
    (hA : m = TypeName.litArray → e.isSome = true) :
    resolveType (.text (TypeName.valueOf m)) e l p s = .ok ⟨.member m, e, l, p, s⟩ := by
  rw [resolveType_literal rfl]
  simp only [fromNameRaw, (base_written m hm).1, Option.or_none]
  -- only a bare `ARRAY` carries an element type of its own, and then one is given
  cases e with
  | some x => rfl
  | none =>
    have h : m ≠ TypeName.litArray := fun h => by simpa using hA h
    simp only [h, if_false, Option.map_none, Option.or_none]

/-! #### `FlatColumn.from_dict`'s statements on a written dictionary -/

theorem writeTy_member (m : Str) : writeTy (.member m) = .text (TypeName.valueOf m) := rfl

/-- what the second statement does to the element type: the value of `_MISSING_TYPE` becomes the member -/
def restoreElem (e : Option (Option RawTy)) : Option (Option RawTy) :=
  match e with
  | some (some t) => if tyEqValue t missingName then some (some (.member missingName)) else e
  | _ => e

def typeIs (d : Raw V) (m : Str) : Bool :=
  match d.type with
  | some t => tyEqValue t m
  | none => false

def elemIsNull (d : Raw V) : Bool :=
  match d.element_type with
  | some none => true
  | _ => false

/-- `from_dict`'s three statements in closed form (checked against `Gen.Persist.fromDictRules` by unfolding) -/
theorem prepare_eq (d : Raw V) : prepare d =
    (let d1 : Raw V := if typeIs d missingName then { d with type := some (.member missingName) } else d
     let d2 : Raw V := { d1 with element_type := restoreElem d1.element_type }
     if typeIs d2 TypeName.litArray && elemIsNull d2 then { d2 with type := some (.member TypeName.litArray) } else d2) := by
  have hmn : "_MISSING_TYPE".toList = missingName := by decide +kernel
  have har : "ARRAY".toList = TypeName.litArray := by decide +kernel
  -- in the words of the statement: the test on the type (first and third rule), the second rule as a whole, the two tests
  -- of the third rule on the element type
  have e1 : ∀ (x : Raw V) (m : String), evalCond x ("eqValue", "type", m) = typeIs x m.toList := fun _ _ => rfl
  have e2 : ∀ x : Raw V, applyRule x ([("eqValue", "element_type", "_MISSING_TYPE")], "element_type", "_MISSING_TYPE")
      = { x with element_type := restoreElem x.element_type } := by
    intro x
    cases x with
    | mk n df t e =>
      cases e with
      | none => rfl
      | some e =>
        cases e with
        | none => rfl
        | some t' => cases h : tyEqValue t' missingName <;> simp [applyRule, evalCond, assignMember, restoreElem, h, hmn]
  have e3 : ∀ x : Raw V, (evalCond x ("present", "element_type", "") && evalCond x ("isNone", "element_type", ""))
      = elemIsNull x := by
    intro x
    cases x with
    | mk n df t e =>
      cases e with
      | none => rfl
      | some e => cases e <;> rfl
  unfold prepare
  simp only [fromDictRules, List.foldl, e2]
  simp only [applyRule, List.all_cons, List.all_nil, Bool.and_true, assignMember, e1, e3, hmn, har]

/-- the element type as `from_dict` hands it to the constructor -/
def restoredElem (e : Option Ty) : Option RawTy :=
  match restoreElem (some (e.map writeTy)) with
  | some x => x
  | none => none

/-- a type the written forms carry: the int 0, or a member that is a base type or the untyped marker (what `Writable`
asks of the type and of the element type) -/
def WritableTy (t : Ty) : Prop := t = .zero ∨ ∃ m, t = .member m ∧ m ∈ persistableTypes

theorem restoreElem_written (e : Option Ty) :
    restoreElem (some (e.map writeTy)) = some (restoredElem e) := by
  unfold restoredElem restoreElem
  cases e with
  | none => rfl
  | some t => simp only [Option.map_some]; split <;> rfl

theorem resolveElem_written (e : Option Ty)
    (h : ∀ t, e = some t → WritableTy t) :
    resolveElem (restoredElem e) = .ok e := by
  cases e with
  | none => rfl
  | some t =>
    rcases h t rfl with rfl | ⟨m, rfl, hm⟩
    · rfl
    · simp only [persistableTypes, List.mem_cons] at hm
      rcases hm with rfl | hm
      · rfl
      · -- a base type's value is not `'0'`, so the second statement leaves it, and the value resolves to the member
        obtain ⟨hres, hmiss, -⟩ := base_written m hm
        simp [restoredElem, restoreElem, writeTy_member, tyEqValue, hmiss, resolveElem, fromNameRaw, hres]

theorem restoredElem_isSome (e : Option Ty) (h : e.isSome = true) : (restoredElem e).isSome = true := by
  cases e with
  | none => simp at h
  | some t =>
    by_cases hm : tyEqValue (writeTy t) missingName = true <;> simp [restoredElem, restoreElem, hm]

theorem restoredElem_none : restoredElem none = none := rfl

theorem resolveDisp_written (d : Option String) (h : ∀ n, d = some n → n ∈ dispositions.map Prod.fst) :
    resolveDisp (d.map writeDisp) = .ok d := by
  cases d with
  | none => rfl
  | some n => exact disp_resolves n (h n rfl)

/-- the type as `from_dict` hands it to the constructor, for a column of type `t` and element type `e`: the written
value, unless the first or the third statement puts the member in its place -/
def restoredTy (t : Ty) (e : Option Ty) : RawTy :=
  if tyEqValue (writeTy t) missingName then .member missingName
  else if tyEqValue (writeTy t) TypeName.litArray && e.isNone then .member TypeName.litArray
  else writeTy t

theorem prepare_written (d : Raw V) (t : Ty) (e : Option Ty) (ht : d.type = some (writeTy t))
    (he : d.element_type = some (e.map writeTy)) :
    prepare d = { d with type := some (restoredTy t e), element_type := some (restoredElem e) } := by
  have hn : tyEqValue (.member missingName) TypeName.litArray = false := by decide
  rw [prepare_eq]
  unfold restoredTy
  cases h1 : tyEqValue (writeTy t) missingName with
  | true => simp only [typeIs, ht, h1, if_true, he, restoreElem_written, hn, Bool.false_and, Bool.false_eq_true, if_false]
  | false =>
    simp only [typeIs, ht, h1, Bool.false_eq_true, if_false, he, restoreElem_written, elemIsNull]
    cases e with
    | none => cases tyEqValue (writeTy t) TypeName.litArray <;> rfl
    | some x =>
      have := restoredElem_isSome (some x) rfl
      cases h : restoredElem (some x) with
      | none => rw [h] at this; cases this
      | some y => simp only [Option.isNone_some, Bool.and_false, Bool.false_eq_true, if_false]

/-- the constructor reads the stored type back from what it is handed: the int 0 as written, the untyped member and a
bare ARRAY as members (so that nothing is filled in), any other base type from its value, with the element type it is
given -/
theorem resolveType_restored {t : Ty} (ht : WritableTy t) (e : Option Ty)
    (l p s : Option Nat) :
    resolveType (restoredTy t e) (restoredElem e) l p s = .ok ⟨t, restoredElem e, l, p, s⟩ := by
  rcases ht with rfl | ⟨m, rfl, hm⟩
  · exact resolveType_rawTy .zero _ _ _ _
  · unfold restoredTy
    rw [writeTy_member]
    simp only [persistableTypes, List.mem_cons] at hm
    rcases hm with rfl | hm
    · rfl
    · obtain ⟨-, hmiss, harr⟩ := base_written m hm
      simp only [tyEqValue, hmiss, harr, Bool.false_eq_true, if_false]
      cases e with
      | none =>
        by_cases hA : m = TypeName.litArray
        · subst hA; rfl
        · simp only [beq_false_of_ne hA, Bool.false_and, Bool.false_eq_true, if_false]
          exact resolveType_written hm _ _ _ _ (fun h => absurd h hA)
      | some x =>
        simp only [Option.isNone_some, Bool.and_false, Bool.false_eq_true, if_false]
        exact resolveType_written hm _ _ _ _ (fun _ => restoredElem_isSome _ rfl)

/-! ### decidable forms of the hypotheses (for concrete instances) -/

def persistableB (c : Col V) : Bool :=
  (match c.type with
    | .member m => persistableTypes.contains m
    | .zero => false)
  && (match c.element_type with
    | none => true
    | some (.member e) => persistableTypes.contains e
    | some .zero => false)
  && (match c.disposition with
    | none => true
    | some n => (dispositions.map Prod.fst).contains n)

theorem persistable_of_B (c : Col V) (h : persistableB c = true) : Persistable c := by
  simp only [persistableB, Bool.and_eq_true] at h
  obtain ⟨⟨h1, h2⟩, h4⟩ := h
  refine ⟨?_, ?_, ?_⟩
  · cases hty : c.type with
    | zero => simp [hty] at h1
    | member m => exact ⟨m, rfl, by simpa [hty] using h1⟩
  · intro e he
    rw [he] at h2
    cases e with
    | zero => simp at h2
    | member m => exact ⟨m, rfl, by simpa using h2⟩
  · intro n hn
    rw [hn] at h4
    simpa using h4

def constructedB [DecidableEq V] (K : Caster V) (c : Col V) : Bool :=
  (!K.truthy c.default ||
    (match c.type with
      | .member m => decide (K.parse m c.default = some c.default)
      | .zero => false))
  && (!isDecimal c.type || (c.precision.isSome && c.scale.isSome))

theorem constructed_of_B [DecidableEq V] (K : Caster V) (c : Col V) (h : constructedB K c = true) :
    Constructed K c := by
  simp only [constructedB, Bool.and_eq_true, Bool.or_eq_true, Bool.not_eq_true'] at h
  obtain ⟨h1, h2⟩ := h
  refine ⟨?_, ?_⟩
  · intro ht
    rcases h1 with h1 | h1
    · rw [ht] at h1; cases h1
    · cases hty : c.type with
      | zero => simp [hty] at h1
      | member m => exact ⟨m, rfl, by simpa [hty] using h1⟩
  · intro hd
    rcases h2 with h2 | h2
    · rw [hd] at h2; cases h2
    · exact h2

/-! ### `describeCol`: a member has a type code -/

theorem typeCode_member (d : TypeName.Desc) (m : Str) (h : d.ty = .member m) : ∃ code, TypeName.typeCode d = some code := by
  unfold TypeName.typeCode
  rw [h]
  simp only
  split <;> exact ⟨_, rfl⟩

end Persist
