import OrsoVerif.Lemmas.DistogramHistory
/-!
# Whole histories of the faithful machine

* `FLedger h L B` — the faithful state `h` was reached by a history (a tree of successful `update`s with counts ≥ 1,
  `+`, bulk loads, dump/load of at most the default number of bins) whose inserted (value, weight) pairs are `L` and
  whose data bounds are `B`.  `fledger_facts`: every such state has its `Ledger` (valid, mass and Σ v·f of `L`, exact
  bounds of `B`) — **ties or not, through the cached differences, the exact hit and the in-place shortcut**.
* `FHist h s L B` — the same history run on both machines, the reference never seeing a second closest pair.
  `fhist_sim`: then the faithful state *is* the reference state (bins, bounds, limit), and `Built s L B`.

`midpoints_within` makes a bulk load above the direct-insert threshold a step of such a history.
-/
namespace Distogram

variable {K : Type} [Field K] [LinearOrder K] [IsStrictOrderedRing K]

/-! ## folds of updates (merge, `+`, bulk load) -/

theorem fold_facts (bs : List (K × K)) {h h' : Hist K} {L : List (K × K)} {B : List K} (hc : Coherent h)
    (h1 : One1 h.bins) (hl : Ledger h.toR L B) (hb1 : One1 bs)
    (hok : bs.foldlM (fun acc b => update acc b.1 b.2) h = .ok h') :
    Coherent h' ∧ One1 h'.bins ∧ Ledger h'.toR (L ++ bs) (B ++ bs.map (fun b => b.1)) := by
  induction bs generalizing h L B with
  | nil =>
    cases hok
    rw [List.map_nil, List.append_nil, List.append_nil]
    exact ⟨hc, h1, hl⟩
  | cons b bs ih =>
    obtain ⟨hm, hu, hok⟩ := Except.bind_eq_ok hok
    obtain ⟨i1, o1, m1, w1, mn1, mx1, _⟩ := update_inv hc hl.1 h1 (hb1 b List.mem_cons_self) hu
    have l2 := ih ((update_spec hu).2 hc).1 o1 (hl.step i1 m1 w1 mn1 mx1)
      (fun x hx => hb1 x (List.mem_cons_of_mem _ hx)) hok
    rwa [List.append_assoc, List.append_assoc] at l2

theorem fold_sim (bs : List (K × K)) {h h' : Hist K} (hc : Coherent h) (hi : Inv h.toR) (h1 : One1 h.bins) (hb1 : One1 bs)
    (hok : bs.foldlM (fun acc b => update acc b.1 b.2) h = .ok h') (hnt : foldTie h.toR bs = false) :
    h'.toR = mergeRef h.toR bs := by
  induction bs generalizing h with
  | nil =>
    cases hok
    rfl
  | cons b bs ih =>
    obtain ⟨hm, hu, hok⟩ := Except.bind_eq_ok hok
    simp only [foldTie, Bool.or_eq_false_iff] at hnt
    have e := update_sim hc hi h1 hu hnt.1
    obtain ⟨i1, o1, _⟩ := update_inv hc hi h1 (hb1 b List.mem_cons_self) hu
    rw [mergeRef_cons, ← e]
    exact ih ((update_spec hu).2 hc).1 i1 o1 (fun x hx => hb1 x (List.mem_cons_of_mem _ hx)) hok (by rw [e]; exact hnt.2)

/-! ## histories of the faithful machine with their ledger -/

/-- `FLedger h L B`: the faithful state `h` is the result of a history of successful operations whose inserted
(value, weight) pairs are `L` and whose data bounds are `B` (cf. `Built` for the reference machine).  Counts are
integers ≥ 1 in the code; a dump/load keeps at most the default number of bins (beyond it: open finding K01). -/
inductive FLedger : Hist K → List (K × K) → List K → Prop
  | init (cap : Nat) (hcap : 1 ≤ cap) : FLedger (Hist.init cap) [] []
  | update {h h' : Hist K} {L B} (v c : K) : FLedger h L B → 1 ≤ c → update h v c = .ok h' →
      FLedger h' (L ++ [(v, c)]) (B ++ [v])
  | add {h t h' : Hist K} {L1 B1 L2 B2} : FLedger h L1 B1 → FLedger t L2 B2 → add h t = .ok h' →
      FLedger h' (L1 ++ L2) (B1 ++ B2)
  | bulk {h h' : Hist K} {L B} (pairs : List (K × K)) (lo hi : K) : FLedger h L B → lo ≤ hi →
      (∀ p ∈ pairs, 0 < p.2 → 1 ≤ p.2 ∧ lo ≤ p.1 ∧ p.1 ≤ hi) → bulk h pairs lo hi = .ok h' →
      FLedger h' (L ++ pairs.filter (fun p => decide (0 < p.2))) (B ++ [lo, hi])
  | dumpLoad {h : Hist K} {L B} : FLedger h L B → h.bins ≠ [] → h.bins.length ≤ Gen.Distogram.binCount →
      FLedger (load h.bins h.min h.max) L B

theorem fledger_facts {h : Hist K} {L : List (K × K)} {B : List K} (hb : FLedger h L B) :
    Coherent h ∧ One1 h.bins ∧ Ledger h.toR L B := by
  induction hb with
  | init cap hcap => exact ⟨coherent_init cap, (fun _ hb => nomatch hb), init_inv cap hcap, rfl, rfl, rfl, rfl⟩
  | update v c _ hc hok ih =>
    obtain ⟨cc, h1, hl⟩ := ih
    obtain ⟨i1, o1, m1, w1, mn1, mx1, _⟩ := update_inv cc hl.1 h1 hc hok
    exact ⟨((update_spec hok).2 cc).1, o1, hl.step i1 m1 w1 mn1 mx1⟩
  | @add h t h' L1 B1 L2 B2 _ _ hok ihs iht =>
    obtain ⟨sc, s1, sl⟩ := ihs
    obtain ⟨_, t1, tl⟩ := iht
    obtain ⟨m, a, b, hm, rfl, hab⟩ := add_spec hok
    obtain ⟨rfl, rfl⟩ := hab tl.bounds_none
    obtain ⟨cm, o2, l2⟩ := fold_facts t.bins sc s1 sl t1 hm
    exact ⟨cm, o2, Ledger.add tl l2⟩
  | @bulk h h' L B pairs lo hi _ hlh hp hok ih =>
    obtain ⟨sc, s1, sl⟩ := ih
    have hin := filter_pos hp
    obtain ⟨m, a, b, hm, rfl, hab⟩ := bulk_spec hok
    obtain ⟨cm, o2, l2⟩ := fold_facts _ sc s1 sl (fun b hb => (hin b hb).2.1) hm
    obtain ⟨rfl, rfl⟩ := hab l2.bounds_none
    exact ⟨cm, o2, Ledger.bulk l2 hlh (fun b hb => (hin b hb).2.2)⟩
  | dumpLoad _ hne hlen ih => exact ⟨coherent_load _ _ _ hne, ih.2.1, Ledger.dumpLoad ih.2.2 hlen⟩

/-! ## the same history on both machines -/

/-- `FHist h s L B`: a history run on the faithful machine (state `h`) and on the reference machine (state `s`),
in which no update of the reference — alone, or inside a `+` or a bulk load — saw a second closest pair. -/
inductive FHist : Hist K → RState K → List (K × K) → List K → Prop
  | init (cap : Nat) (hcap : 1 ≤ cap) : FHist (Hist.init cap) (RState.init cap) [] []
  | update {h h' : Hist K} {s : RState K} {L B} (v c : K) : FHist h s L B → 1 ≤ c → update h v c = .ok h' →
      updateTie s v c = false → FHist h' (updateRef s v c) (L ++ [(v, c)]) (B ++ [v])
  | add {h t h' : Hist K} {s u : RState K} {L1 B1 L2 B2} : FHist h s L1 B1 → FHist t u L2 B2 → add h t = .ok h' →
      foldTie s u.bins = false → FHist h' (addRef s u) (L1 ++ L2) (B1 ++ B2)
  | bulk {h h' : Hist K} {s : RState K} {L B} (pairs : List (K × K)) (lo hi : K) : FHist h s L B → lo ≤ hi →
      (∀ p ∈ pairs, 0 < p.2 → 1 ≤ p.2 ∧ lo ≤ p.1 ∧ p.1 ≤ hi) → bulk h pairs lo hi = .ok h' →
      foldTie s (pairs.filter (fun p => decide (0 < p.2))) = false →
      FHist h' (bulkRef s pairs lo hi) (L ++ pairs.filter (fun p => decide (0 < p.2))) (B ++ [lo, hi])
  | dumpLoad {h : Hist K} {s : RState K} {L B} : FHist h s L B → h.bins ≠ [] →
      h.bins.length ≤ Gen.Distogram.binCount → FHist (load h.bins h.min h.max) (dumpLoadRef s) L B

theorem fhist_sim {h : Hist K} {s : RState K} {L : List (K × K)} {B : List K} (hb : FHist h s L B) :
    h.toR = s ∧ Built s L B ∧ FLedger h L B := by
  induction hb with
  | init cap hcap => exact ⟨rfl, Built.init cap hcap, FLedger.init cap hcap⟩
  | update v c _ hc hok hnt ih =>
    obtain ⟨e, bs, fl⟩ := ih
    subst e
    obtain ⟨cc, h1, hi, _⟩ := fledger_facts fl
    exact ⟨update_sim cc hi h1 hok hnt, Built.update v c bs (lt_of_lt_of_le one_pos hc), FLedger.update v c fl hc hok⟩
  | @add h t h' s u L1 B1 L2 B2 _ _ hok hnt ihs iht =>
    obtain ⟨es, bs, fs⟩ := ihs
    obtain ⟨et, bt, ft⟩ := iht
    subst es et
    obtain ⟨sc, s1, si, _⟩ := fledger_facts fs
    obtain ⟨_, t1, tl⟩ := fledger_facts ft
    refine ⟨?_, Built.add bs bt, FLedger.add fs ft hok⟩
    obtain ⟨m, a, b, hm, rfl, hab⟩ := add_spec hok
    obtain ⟨rfl, rfl⟩ := hab tl.bounds_none
    show ({ m.toR with min := optMin m.toR.min t.min, max := optMax m.toR.max t.max } : RState K) = _
    rw [fold_sim t.bins sc si s1 t1 hm hnt]
    rfl
  | @bulk h h' s L B pairs lo hi _ hlh hp hok hnt ih =>
    obtain ⟨es, bs, fs⟩ := ih
    subst es
    obtain ⟨sc, s1, sl⟩ := fledger_facts fs
    have f1 : One1 (pairs.filter (fun p => decide (0 < p.2))) := fun b hb => (filter_pos hp b hb).2.1
    refine ⟨?_, Built.bulk pairs lo hi bs hlh (fun p hp' hpos => (hp p hp' hpos).2), FLedger.bulk pairs lo hi fs hlh hp hok⟩
    obtain ⟨m, a, b, hm, rfl, hab⟩ := bulk_spec hok
    obtain ⟨_, _, l2⟩ := fold_facts _ sc s1 sl f1 hm
    obtain ⟨rfl, rfl⟩ := hab l2.bounds_none
    show ({ m.toR with min := some (minO m.toR.min lo), max := some (maxO m.toR.max hi) } : RState K) = _
    rw [fold_sim _ sc sl.1 s1 f1 hm hnt]
    rfl
  | @dumpLoad h s L B _ hne hlen ih =>
    obtain ⟨e, bs, fl⟩ := ih
    subst e
    exact ⟨rfl, Built.dumpLoad bs hlen, FLedger.dumpLoad fl hne hlen⟩

/-! ## bulk load above the direct-insert threshold -/

omit [LinearOrder K] [IsStrictOrderedRing K] in
theorem midpoints_mem (edges : List K) (m : K) (h : m ∈ midpoints edges) :
    ∃ a b, a ∈ edges ∧ b ∈ edges ∧ m = Gen.DistogramExpr.bulkMid a b := by
  induction edges with
  | nil => cases h
  | cons a t ih =>
    cases t with
    | nil => cases h
    | cons b rest =>
      rcases List.mem_cons.mp h with rfl | h
      · exact ⟨a, b, List.mem_cons_self, List.mem_cons_of_mem _ List.mem_cons_self, rfl⟩
      · obtain ⟨x, y, hx, hy, e⟩ := ih h
        exact ⟨x, y, List.mem_cons_of_mem _ hx, List.mem_cons_of_mem _ hy, e⟩

/-- The value inserted for a numpy.histogram bin is inside the data's range when the edges are. -/
theorem midpoints_within {edges : List K} {lo hi : K} (he : ∀ e ∈ edges, lo ≤ e ∧ e ≤ hi) :
    ∀ m ∈ midpoints edges, lo ≤ m ∧ m ≤ hi := by
  intro m hm
  obtain ⟨a, b, ha, hb, rfl⟩ := midpoints_mem edges m hm
  exact bulkMid_within (he a ha) (he b hb)

end Distogram
