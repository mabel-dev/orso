import OrsoVerif.Model.SchemaOps
/-!
# C17 — iterators

A snapshot iterator answers like an iterator over a list of its own (`snap_ask`, `listIterRun_*`); what a successful
`irun` / `istep` was made of (`irun_cons_some`, `istep_*_some`), for the inductions over programs in `Props/C17.lean`.
-/
namespace SchemaOps

variable {ι ν : Type}

theorem snap_ask (regs : List (Schema ι ν)) (l : List ν) (q : ItOp) :
    (IterSt.snap l : IterSt ι ν).ask regs q = (.snap (listIterStep l q).1, (listIterStep l q).2) := by
  cases q <;> cases l <;> rfl

theorem listIterRun_yielded (l : List ν) (qs : List ItOp) :
    yielded (listIterRun l qs).2 ++ (listIterRun l qs).1 = l := by
  induction qs generalizing l with
  | nil => simp [listIterRun, yielded]
  | cons q qs ih =>
    cases q with
    | next =>
      cases l with
      | nil => simpa [listIterRun, listIterStep, yielded] using ih []
      | cons x xs => simpa [listIterRun, listIterStep, yielded] using ih xs
    | drain => simpa [listIterRun, listIterStep, yielded] using ih []

theorem listIterRun_stop (l : List ν) (qs : List ItOp) (h : ItOut.stop ∈ (listIterRun l qs).2) :
    (listIterRun l qs).1 = [] := by
  induction qs generalizing l with
  | nil => cases h
  | cons q qs ih =>
    rcases List.mem_cons.mp h with h | h
    · -- the first answer is `stop`: the question was `next` and the list empty, and what an empty list yields is empty
      cases q <;> cases l <;> cases h
      exact (List.append_eq_nil_iff.mp (listIterRun_yielded [] (.next :: qs))).2
    · exact ih _ h

section
variable [DecidableEq ι] [DecidableEq ν] {src : Schema ι ν → IterSrc ι ν} {lower : ν → ν} {st st' : ISt ι ν} {o : IOut ι ν}

theorem irun_cons_some {op : IOp ν} {ops : List (IOp ν)} {outs : List (IOut ι ν)}
    (h : irun src lower st (op :: ops) = some (st', outs)) :
    ∃ st1 o os, istep src lower st op = some (st1, o) ∧ irun src lower st1 ops = some (st', os) ∧ outs = o :: os := by
  simp only [irun] at h
  split at h
  · cases h
  · split at h
    · cases h
    · cases h
      exact ⟨_, _, _, ‹_›, ‹_›, rfl⟩

theorem istep_base_some {op : POp ν} (h : istep src lower st (.base op) = some (st', o)) :
    ∃ regs' po, pstep lower st.regs op = some (regs', po) ∧ st' = { st with regs := regs' } ∧ o = .base po := by
  simp only [istep] at h
  split at h
  · cases h
    exact ⟨_, _, ‹_›, rfl, rfl⟩
  · cases h

theorem istep_mk_some {r : Nat} (h : istep src lower st (.mk r) = some (st', o)) :
    ∃ s, st.regs[r]? = some s ∧ st' = { st with iters := st.iters ++ [(src s).start r] }
      ∧ o = .made st.iters.length := by
  simp only [istep] at h
  split at h
  · cases h
    exact ⟨_, ‹_›, rfl, rfl⟩
  · cases h

theorem istep_ask_some {k : Nat} {q : ItOp} (h : istep src lower st (.ask k q) = some (st', o)) :
    ∃ it, st.iters[k]? = some it ∧ st' = { st with iters := st.iters.set k (it.ask st.regs q).1 }
      ∧ o = .it (it.ask st.regs q).2 := by
  simp only [istep] at h
  split at h
  · cases h
    exact ⟨_, ‹_›, rfl, rfl⟩
  · cases h
end

end SchemaOps
