import OrsoVerif.Model.TypeName
import Batteries.Data.Char.AsciiCasing
/-!
Lemmas about `Model/TypeName.lean`.  What concerns parsing is stated for `fromNameU U` over arbitrary Unicode tables
`U : Chars`; the ASCII statements are the instances at `Chars.ascii`, whose assumptions are `Chars.ascii_sane`.  The
extracted patterns and control flow are evaluated once (`matchItems_*`, `tryKindU_*`, `parseTypeU_of_head`,
`fromNameU_eq`); the other lemmas are about the reference matchers and the resolvers.
-/
namespace TypeName
open Gen.TypeName

/-! ### upper-casing -/

theorem up_up (s : Str) : up (up s) = up s := by
  simp [up, List.map_map, Function.comp_def, Char.toUpper_toUpper_eq_toUpper]

theorem up_append (s t : Str) : up (s ++ t) = up s ++ up t := by simp [up]

theorem up_cons (c : Char) (s : Str) : up (c :: s) = c.toUpper :: up s := by simp [up]

theorem toUpper_of_isDigit {c : Char} (h : c.isDigit = true) : c.toUpper = c := by
  apply Char.toUpper_eq_of_not_isLower
  simp [Char.isDigit, Char.isLower, UInt32.le_iff_toNat_le] at *
  omega

theorem up_lower (s : Str) : up (s.map Char.toLower) = up s := by
  simp [up, List.map_map, Function.comp_def, Char.toUpper_toLower_eq_toUpper]

theorem up_eq_of_forall₂ {s t : Str} (h : List.Forall₂ (fun a b => a.toUpper = b.toUpper) s t) :
    up s = up t := by
  induction h with
  | nil => rfl
  | cons hab _ ih => simp [up_cons, hab, ih]

/-! ### digits -/

theorem digits_isD (n : Nat) : ∀ c ∈ digits n, isD c = true := by
  intro c hc
  exact Nat.isDigit_of_mem_toDigits (by decide) (by decide) hc

theorem digits_ne_nil (n : Nat) : digits n ≠ [] := Nat.toDigits_ne_nil

theorem up_digits (n : Nat) : up (digits n) = digits n :=
  (List.map_congr_left fun c hc => toUpper_of_isDigit (digits_isD n c hc)).trans (List.map_id _)

theorem parseInt_digits {n : Nat} (h : digitsFit n = true) : parseInt (digits n) = .ok n := by
  unfold parseInt
  have : ¬ (digits n = [] ∨ (intMaxStrDigits ≠ 0 ∧ intMaxStrDigits < (digits n).length)) := by
    simp [digitsFit] at h
    simp only [digits_ne_nil, false_or]
    omega
  rw [if_neg this]
  simp [digits, Nat.ofDigitChars_ten_toDigits]

theorem parseInt_err {ds : Str} {e : ExcClass} (h : parseInt ds = .error e) : e = .valueError := by
  unfold parseInt at h
  split at h
  · cases h; rfl
  · cases h

theorem parseInt_digits_err {n : Nat} (h : digitsFit n = false) : parseInt (digits n) = .error .valueError := by
  unfold parseInt
  have : intMaxStrDigits ≠ 0 ∧ intMaxStrDigits < (digits n).length := by
    simp [digitsFit] at h
    omega
  rw [if_pos (Or.inr this)]

theorem parseInt_ok {ds : Str} {n : Nat} (h : parseInt ds = .ok n) : n = Nat.ofDigitChars 10 ds 0 := by
  unfold parseInt at h
  split at h
  · cases h
  · cases h; rfl

/-! ### literal prefixes -/

theorem dropPrefix?_append (p s : Str) : dropPrefix? p (p ++ s) = some s := by
  induction p with
  | nil => cases s <;> rfl
  | cons c cs ih => simp [dropPrefix?, ih]

theorem dropPrefix?_eq_some {p s r : Str} (h : dropPrefix? p s = some r) : s = p ++ r := by
  induction p generalizing s with
  | nil => cases s <;> simp_all [dropPrefix?]
  | cons c cs ih =>
    cases s with
    | nil => simp [dropPrefix?] at h
    | cons d ds =>
      simp only [dropPrefix?] at h
      split at h
      · rename_i hcd; rw [hcd, ih h]; rfl
      · cases h

/-! ### greedy runs -/

theorem takeWhile_run {p : Char → Bool} {ds rest : Str} {c : Char}
    (hall : ∀ x ∈ ds, p x = true) (hc : p c = false) :
    (ds ++ c :: rest).takeWhile p = ds := by
  rw [List.takeWhile_append_of_pos hall, List.takeWhile_cons_of_neg (by simp [hc])]; simp

theorem dropWhile_run {p : Char → Bool} {ds rest : Str} {c : Char}
    (hall : ∀ x ∈ ds, p x = true) (hc : p c = false) :
    (ds ++ c :: rest).dropWhile p = c :: rest := by
  rw [List.dropWhile_append_of_pos hall, List.dropWhile_cons_of_neg (by simp [hc])]

/-! ### the Unicode tables -/

/-- what the rejection theorems assume of the Unicode tables: `>` is in none of the classes of the
ARRAY pattern; `,` and `)` are not digits; no digit is whitespace; upper-casing never loses a `<`; `int()`
raises nothing but `ValueError`. -/
structure Chars.Sane (U : Chars) : Prop where
  gt : isElemCharU U '>' = false
  comma : U.isD ',' = false
  paren : U.isD ')' = false
  digit_not_space : ∀ c, U.isD c = true → U.isS c = false
  keeps_lt : ∀ s : Str, '<' ∈ s → '<' ∈ U.upper s
  int_err : ∀ ds e, U.toInt ds = .error e → e = .valueError

theorem Chars.ascii_sane : Chars.Sane Chars.ascii where
  gt := by decide
  comma := by decide
  paren := by decide
  digit_not_space := by
    intro c h
    simp [Chars.ascii, TypeName.isD, TypeName.isS, Char.isDigit, UInt32.le_iff_toNat_le] at h ⊢
    omega
  keeps_lt := by
    intro s h
    simp only [Chars.ascii, up, List.mem_map]
    exact ⟨'<', h, by decide⟩
  int_err := fun _ _ h => parseInt_err h

/-! ### the matchers on text of the expected shape -/

theorem matchBracketU_spec {U : Chars} (hclose : U.isD ']' = false) (pre ds rest : Str) (hne : ds ≠ [])
    (hall : ∀ c ∈ ds, U.isD c = true) :
    matchBracketU U pre (pre ++ '[' :: (ds ++ ']' :: rest)) = some ds := by
  unfold matchBracketU
  rw [List.append_cons pre '[' (ds ++ _), dropPrefix?_append]
  simp only [takeWhile_run hall hclose, dropWhile_run hall hclose]
  cases ds with
  | nil => exact absurd rfl hne
  | cons d ds => rfl

theorem matchArray_spec (body rest : Str) (hne : body ≠ []) (hall : ∀ c ∈ body, isElemChar c = true) :
    matchArray (litArray ++ '<' :: (body ++ '>' :: rest)) = some body := by
  unfold matchArray
  rw [List.append_cons litArray '<' (body ++ _), dropPrefix?_append]
  simp only [takeWhile_run hall (show isElemChar '>' = false by decide),
    dropWhile_run hall (show isElemChar '>' = false by decide)]
  cases body with
  | nil => exact absurd rfl hne
  | cons d ds => rfl

theorem matchArrayU_eq_some {U : Chars} {s body : Str} (h : matchArrayU U s = some body) :
    ∃ rest, s = litArray ++ '<' :: (body ++ '>' :: rest) ∧ body ≠ [] ∧ ∀ c ∈ body, isElemCharU U c = true := by
  unfold matchArrayU at h
  split at h
  · cases h
  · rename_i r hr
    have hs := dropPrefix?_eq_some hr
    split at h
    · rename_i a as rest htw hdw
      cases h
      refine ⟨rest, ?_, by rw [htw]; simp, List.all_eq_true.mp (List.all_takeWhile (p := isElemCharU U) (l := r))⟩
      have := List.takeWhile_append_dropWhile (p := isElemCharU U) (l := r)
      rw [hdw] at this
      rw [hs, this]
      simp
    · cases h

theorem matchDecimalU_spec {U : Chars} (hU : U.Sane) (d1 ws d2 rest : Str) (h1 : d1 ≠ []) (h2 : d2 ≠ [])
    (hd1 : ∀ c ∈ d1, U.isD c = true) (hd2 : ∀ c ∈ d2, U.isD c = true) (hws : ∀ c ∈ ws, U.isS c = true) :
    matchDecimalU U (litDecimal ++ '(' :: (d1 ++ ',' :: (ws ++ (d2 ++ ')' :: rest)))) = some (d1, d2) := by
  unfold matchDecimalU
  rw [List.append_cons litDecimal '(' (d1 ++ _), dropPrefix?_append]
  simp only [takeWhile_run hd1 hU.comma, dropWhile_run hd1 hU.comma]
  obtain ⟨a, as, rfl⟩ := List.exists_cons_of_ne_nil h1
  obtain ⟨b, bs, rfl⟩ := List.exists_cons_of_ne_nil h2
  have hb : U.isS b = false := hU.digit_not_space b (hd2 b List.mem_cons_self)
  have hdrop : (ws ++ (b :: bs ++ ')' :: rest)).dropWhile U.isS = b :: bs ++ ')' :: rest := by
    rw [List.cons_append]; exact dropWhile_run hws hb
  simp only [hdrop, takeWhile_run hd2 hU.paren, dropWhile_run hd2 hU.paren]

/-! ### the alias chain -/

/-- what the statement allows a result of `from_name` to be: a well-formed description or `ValueError`. -/
def Total (r : Res) : Prop := (∃ d, r = .ok d ∧ wfOut d = true) ∨ r = .error .valueError

/-- an arm of the chain yields a well-formed description or `ValueError`; `_type = OrsoTypes[parsed]`
is only allowed behind the membership test. -/
def goodBranch (b : Cond × Outcome) : Bool :=
  match b.2 with
  | .ty t e => wfOut { ty := .member t, elem := e }
  | .self => b.1 == .isMember
  | .zero => true
  | .raise c => c == .valueError

theorem chain_good : ∀ b ∈ bareChain, goodBranch b = true := by decide +kernel

theorem else_good : goodBranch (.eqAny [], bareElse) = true := by decide

theorem runOutcome_total {parsed : Str} {b : Cond × Outcome} (hg : goodBranch b = true)
    (hc : b.1 = .isMember → isMember parsed = true) : Total (runOutcome parsed b.2) := by
  obtain ⟨c, o⟩ := b
  cases o with
  | ty t e => exact .inl ⟨_, rfl, by simpa [goodBranch] using hg⟩
  | self =>
    have : c = .isMember := by simpa [goodBranch] using hg
    exact .inl ⟨_, rfl, by simp [wfOut, hc this]⟩
  | zero => exact .inl ⟨_, rfl, by decide⟩
  | raise cls =>
    have : cls = .valueError := by simpa [goodBranch] using hg
    exact .inr (by simp [runOutcome, this])

theorem bareResolve_total (parsed : Str) : Total (bareResolve parsed) := by
  unfold bareResolve
  cases h : bareChain.find? (fun b => condHolds parsed b.1) with
  | some b =>
    have hm := List.mem_of_find?_eq_some h
    have hc := List.find?_some h
    refine runOutcome_total (chain_good b hm) ?_
    intro hb
    simpa [hb, condHolds] using hc
  | none =>
    -- the final `else`, taken as an arm whose test is not the membership test
    exact runOutcome_total (b := (.eqAny [], bareElse)) else_good (by intro h; cases h)

/-- A text that starts with `ARRAY<` and that the ARRAY pattern does not match reaches the chain as a bare name.  It is
rejected there because no name the chain tests, and no member name, contains `<`. -/
def condNoLt : Cond → Bool
  | .eqAny names => names.all (fun n => !n.contains '<')
  | .isMember => memberNames.all (fun n => !n.contains '<')

theorem chain_noLt : ∀ b ∈ bareChain, condNoLt b.1 = true := by decide +kernel

theorem bareElse_raises : bareElse = .raise .valueError := by decide

theorem bareResolve_of_lt {s : Str} (h : '<' ∈ s) : bareResolve s = .error .valueError := by
  unfold bareResolve
  have : bareChain.find? (fun b => condHolds s b.1) = none := by
    rw [List.find?_eq_none]
    intro b hb hc
    have hn := chain_noLt b hb
    obtain ⟨c, o⟩ := b
    have hs : ∀ names : List Str, names.all (fun n => !n.contains '<') = true → s ∉ names := by
      intro names hall hmem
      simpa [h] using List.all_eq_true.mp hall s hmem
    cases c with
    | eqAny names => exact hs names hn (List.contains_iff_mem.mp hc)
    | isMember => exact hs memberNames hn (List.contains_iff_mem.mp hc)
  rw [this, bareElse_raises]
  rfl

/-! ### ARRAY elements -/

theorem elem_raises : elemExcludedRaise = .valueError ∧ elemUnknownRaise = .valueError := by decide

theorem excluded_array_decimal : excludedElem litArray = true ∧ excludedElem litDecimal = true := by decide

theorem arrayResolve_eq (body : Str) : arrayResolve body =
    if excludedElem body = false ∧ isMember body = true then .ok { ty := .member litArray, elem := some body }
    else .error .valueError := by
  unfold arrayResolve
  rw [elem_raises.1, elem_raises.2]
  cases excludedElem body <;> cases isMember body <;> rfl

theorem arrayResolve_ok {body : Str} {d : Desc} (h : arrayResolve body = .ok d) :
    d = { ty := .member litArray, elem := some body } ∧ isMember body = true ∧ excludedElem body = false ∧
      body ≠ litArray ∧ body ≠ litDecimal := by
  rw [arrayResolve_eq] at h
  split at h
  · rename_i hc
    cases h
    refine ⟨rfl, hc.2, hc.1, ?_, ?_⟩
    · rintro rfl; exact Bool.noConfusion (excluded_array_decimal.1.symm.trans hc.1)
    · rintro rfl; exact Bool.noConfusion (excluded_array_decimal.2.symm.trans hc.1)
  · cases h

theorem arrayResolve_total (body : Str) : Total (arrayResolve body) := by
  cases h : arrayResolve body with
  | ok d =>
    obtain ⟨rfl, hm, _, h1, h2⟩ := arrayResolve_ok h
    have h3 : isMember litArray = true := by decide
    exact .inl ⟨_, rfl, by simp [wfOut, hm, h1, h2, h3]⟩
  | error e =>
    rw [arrayResolve_eq] at h
    split at h
    · cases h
    · cases h; exact .inr rfl

theorem arrayResolve_scalar {e : Str} (he : e ∈ scalarTypes) :
    arrayResolve e = .ok { ty := .member litArray, elem := some e } := by
  obtain ⟨hb, hx⟩ := List.mem_filter.mp he
  obtain ⟨p, hp, rfl⟩ := List.mem_map.mp hb
  rw [arrayResolve_eq, if_pos ⟨by simpa using hx,
    List.contains_iff_mem.mpr (List.mem_map_of_mem (List.mem_filter.mp hp).1)⟩]

/-! ### DECIMAL guards -/

theorem guards_raise : ∀ g ∈ decimalGuards, g.cls = .valueError := by decide

theorem guards_quiet (p s : Nat) : decimalGuards.find? (guardFires p s) = none ↔ (s ≤ p ∧ p ≤ 38) := by
  rw [List.find?_eq_none]
  simp only [decimalGuards, List.mem_cons, List.not_mem_nil, or_false, forall_eq_or_imp, forall_eq, guardFires,
    cmpHolds, operandVal, Bool.not_eq_true, decide_eq_false_iff_not]
  omega

theorem decimalResolve_ok {p s : Nat} (h : s ≤ p ∧ p ≤ 38) :
    decimalResolve p s = .ok { ty := .member litDecimal, precision := some p, scale := some s } := by
  unfold decimalResolve
  rw [(guards_quiet p s).mpr h]

theorem decimalResolve_err {p s : Nat} (h : ¬ (s ≤ p ∧ p ≤ 38)) : decimalResolve p s = .error .valueError := by
  unfold decimalResolve
  cases hf : decimalGuards.find? (guardFires p s) with
  | none => exact absurd ((guards_quiet p s).mp hf) h
  | some g => simp [guards_raise g (List.mem_of_find?_eq_some hf)]

theorem decimalResolve_total (p s : Nat) : Total (decimalResolve p s) := by
  by_cases h : s ≤ p ∧ p ≤ 38
  · refine .inl ⟨_, decimalResolve_ok h, ?_⟩
    have : isMember litDecimal = true := by decide
    simp [wfOut, this, h.1, h.2]
  · exact .inr (decimalResolve_err h)

/-! ### the generated patterns and control flow coincide with the reference -/

theorem anchors_atStart : anchorArray = .atStart ∧ anchorDecimal = .atStart ∧
    anchorVarchar = .atStart ∧ anchorBlob = .atStart := by decide

theorem matchItems_lits (U : Chars) (p : Str) (is : List RItem) (s : Str) :
    matchItems U (p.map RItem.lit ++ is) s = (dropPrefix? p s).bind (matchItems U is) := by
  induction p generalizing s with
  | nil => cases s <;> simp [dropPrefix?]
  | cons c cs ih =>
    cases s with
    | nil => simp [matchItems, dropPrefix?]
    | cons x xs =>
      by_cases h : c = x
      · simp [matchItems, dropPrefix?, h, ih]
      · simp [matchItems, dropPrefix?, h]

theorem cls_elem (U : Chars) :
    clsHolds U [.word, .space, .ch '[', .ch ']', .ch '(', .ch ')'] = isElemCharU U := by
  funext c
  simp [clsHolds, atomHolds, isElemCharU, Bool.or_assoc]

theorem cls_digit (U : Chars) : clsHolds U [.digit] = U.isD := by
  funext c; simp [clsHolds, atomHolds]

theorem cls_space (U : Chars) : clsHolds U [.space] = U.isS := by
  funext c; simp [clsHolds, atomHolds]

/-! An item `cls+` (captured) followed by a literal `c` matches exactly when the greedy run is non-empty and the text goes
on with `c`.  The negative lemma takes its hypothesis in the shape `split` gives for the fall-through alternative of a
reference matcher, each of which matches on a character literal of its own. -/

theorem matchItems_run_lit_some {U : Chars} {cls : List Atom} {c : Char} {is : List RItem} {r : Str} {a : Char}
    {as rest : Str} (ht : r.takeWhile (clsHolds U cls) = a :: as) (hd : r.dropWhile (clsHolds U cls) = c :: rest) :
    matchItems U (.run cls 1 true :: .lit c :: is) r =
      (matchItems U is rest).map (r.takeWhile (clsHolds U cls) :: ·) := by
  simp [matchItems, ht, hd]

theorem matchItems_run_lit_none {U : Chars} {cls : List Atom} {c : Char} {is : List RItem} {r : Str}
    (h : ∀ a as rest, r.takeWhile (clsHolds U cls) = a :: as → r.dropWhile (clsHolds U cls) = c :: rest → False) :
    matchItems U (.run cls 1 true :: .lit c :: is) r = none := by
  simp only [matchItems]
  cases ht : r.takeWhile (clsHolds U cls) with
  | nil => rfl
  | cons a as =>
    cases hd : r.dropWhile (clsHolds U cls) with
    | nil => rfl
    | cons x xs =>
      have : ¬ c = x := fun e => h a as xs ht (e ▸ hd)
      simp [this]

theorem matchItems_skip (U : Chars) (cls : List Atom) (is : List RItem) (s : Str) :
    matchItems U (.run cls 0 false :: is) s = matchItems U is (s.dropWhile (clsHolds U cls)) := by
  simp [matchItems]

theorem matchItems_array (U : Chars) (s : Str) : (matchItems U rxArray s).bind group1 = matchArrayU U s := by
  have hrx : rxArray = (litArray ++ ['<']).map RItem.lit ++
      [.run [.word, .space, .ch '[', .ch ']', .ch '(', .ch ')'] 1 true, .lit '>'] := rfl
  rw [hrx, matchItems_lits]
  unfold matchArrayU
  cases dropPrefix? (litArray ++ ['<']) s with
  | none => rfl
  | some r =>
    rw [← cls_elem]
    simp only [Option.bind_some]
    split
    · rename_i ht hd
      rw [matchItems_run_lit_some ht hd]; rfl
    · rename_i h
      rw [matchItems_run_lit_none h]; rfl

theorem matchItems_bracket (U : Chars) (pre : Str) (rx : List RItem)
    (hrx : rx = (pre ++ ['[']).map RItem.lit ++ [.run [.digit] 1 true, .lit ']']) (s : Str) :
    (matchItems U rx s).bind group1 = matchBracketU U pre s := by
  rw [hrx, matchItems_lits]
  unfold matchBracketU
  cases dropPrefix? (pre ++ ['[']) s with
  | none => rfl
  | some r =>
    rw [← cls_digit]
    simp only [Option.bind_some]
    split
    · rename_i ht hd
      rw [matchItems_run_lit_some ht hd]; rfl
    · rename_i h
      rw [matchItems_run_lit_none h]; rfl

theorem matchItems_varchar (U : Chars) (s : Str) :
    (matchItems U rxVarchar s).bind group1 = matchBracketU U litVarchar s :=
  matchItems_bracket U litVarchar rxVarchar rfl s

theorem matchItems_blob (U : Chars) (s : Str) :
    (matchItems U rxBlob s).bind group1 = matchBracketU U litBlob s :=
  matchItems_bracket U litBlob rxBlob rfl s

theorem matchItems_decimal (U : Chars) (s : Str) : (matchItems U rxDecimal s).bind group2 = matchDecimalU U s := by
  have hrx : rxDecimal = (litDecimal ++ ['(']).map RItem.lit ++
      [.run [.digit] 1 true, .lit ',', .run [.space] 0 false, .run [.digit] 1 true, .lit ')'] := rfl
  rw [hrx, matchItems_lits]
  unfold matchDecimalU
  cases dropPrefix? (litDecimal ++ ['(']) s with
  | none => rfl
  | some r1 =>
    rw [← cls_digit, ← cls_space]
    simp only [Option.bind_some]
    split
    · rename_i r2 ht hd
      rw [matchItems_run_lit_some ht hd, matchItems_skip]
      split
      · rename_i ht2 hd2
        rw [matchItems_run_lit_some ht2 hd2]; rfl
      · rename_i h
        rw [matchItems_run_lit_none h]; rfl
    · rename_i h
      rw [matchItems_run_lit_none h]; rfl

theorem tryKindU_array (U : Chars) (s : Str) :
    tryKindU U s .array = (matchArrayU U s).map (fun body => .ok (.array body)) := by
  simp [tryKindU, anchored, anchors_atStart, matchItems_array]

theorem tryKindU_decimal (U : Chars) (s : Str) :
    tryKindU U s .decimal = (matchDecimalU U s).map (fun pq =>
      match U.toInt pq.1 with
      | .error e => .error e
      | .ok p => match U.toInt pq.2 with
        | .error e => .error e
        | .ok q => .ok (.decimal p q)) := by
  simp [tryKindU, anchored, anchors_atStart, matchItems_decimal]
  rfl

theorem tryKindU_varchar (U : Chars) (s : Str) :
    tryKindU U s .varchar = (matchBracketU U litVarchar s).map (fun n => (U.toInt n).map .varchar) := by
  simp [tryKindU, anchored, anchors_atStart, matchItems_varchar]

theorem tryKindU_blob (U : Chars) (s : Str) :
    tryKindU U s .blob = (matchBracketU U litBlob s).map (fun n => (U.toInt n).map .blob) := by
  simp [tryKindU, anchored, anchors_atStart, matchItems_blob]

/-- The four patterns start with four different letters, so at most one of them matches a text and the order in which
they are tried does not matter (`findSome?_tryKindU`). -/
def kindLetter : PKind → Char
  | .array => 'A'
  | .decimal => 'D'
  | .varchar => 'V'
  | .blob => 'B'

theorem dropPrefix?_head {p s : Str} {c : Char} (hp : p.head? = some c) (hs : s.head? ≠ some c) :
    dropPrefix? p s = none := by
  cases p with
  | nil => cases hp
  | cons x xs =>
    cases s with
    | nil => rfl
    | cons y ys =>
      have : ¬ x = y := fun e => hs (by rw [← hp, e]; rfl)
      simp only [dropPrefix?, if_neg this]

theorem tryKindU_head {U : Chars} {s : Str} {k : PKind} (h : s.head? ≠ some (kindLetter k)) :
    tryKindU U s k = none := by
  cases k
  · rw [tryKindU_array, matchArrayU, dropPrefix?_head (p := litArray ++ ['<']) rfl h]; rfl
  · rw [tryKindU_decimal, matchDecimalU, dropPrefix?_head (p := litDecimal ++ ['(']) rfl h]; rfl
  · rw [tryKindU_varchar, matchBracketU, dropPrefix?_head (p := litVarchar ++ ['[']) rfl h]; rfl
  · rw [tryKindU_blob, matchBracketU, dropPrefix?_head (p := litBlob ++ ['[']) rfl h]; rfl

theorem findSome?_unique {α β : Type} {f : α → Option β} {l : List α} {a : α} (ha : a ∈ l)
    (h : ∀ b ∈ l, b ≠ a → f b = none) : l.findSome? f = f a := by
  induction l with
  | nil => cases ha
  | cons x xs ih =>
    rw [List.findSome?_cons]
    by_cases hx : x = a
    · subst hx
      cases hf : f x with
      | some r => rfl
      | none =>
        exact List.findSome?_eq_none_iff.mpr fun b hb =>
          (Classical.em (b = x)).elim (fun e => e ▸ hf) (h b (List.mem_cons_of_mem _ hb))
    · rw [h x List.mem_cons_self hx]
      exact ih ((List.mem_cons.mp ha).resolve_left (Ne.symm hx)) fun b hb => h b (List.mem_cons_of_mem _ hb)

theorem findSome?_tryKindU {U : Chars} {s : Str} {k : PKind} {l : List PKind} (hl : k ∈ l)
    (h : s.head? = some (kindLetter k)) : l.findSome? (tryKindU U s) = tryKindU U s k :=
  findSome?_unique hl fun b _ hb =>
    tryKindU_head (by rw [h]; revert hb; cases k <;> cases b <;> decide)

theorem findSome?_tryKindU_none {U : Chars} {s : Str} (h : ∀ k, s.head? ≠ some (kindLetter k)) (l : List PKind) :
    l.findSome? (tryKindU U s) = none :=
  List.findSome?_eq_none_iff.mpr fun k _ => tryKindU_head (h k)

theorem parseTypeU_of_head {U : Chars} {s : Str} {k : PKind} (h : s.head? = some (kindLetter k)) :
    parseTypeU U s = match tryKindU U s k with
      | some r => r
      | none => .ok (.bare (U.upper s)) := by
  have hb : upperBareReturn = true := by decide
  unfold parseTypeU
  rw [findSome?_tryKindU (by cases k <;> decide) h]
  simp only [hb, if_true]
  rfl

/-- Of `parseOrder` the proof uses only that the four blocks are in it. -/
theorem parseTypeU_eq_inOrder (U : Chars) (s : Str) :
    parseTypeU U s = match [PKind.array, .decimal, .varchar, .blob].findSome? (tryKindU U s) with
      | some r => r
      | none => .ok (.bare (U.upper s)) := by
  by_cases h : ∃ k, s.head? = some (kindLetter k)
  · obtain ⟨k, hk⟩ := h
    rw [parseTypeU_of_head hk, findSome?_tryKindU (by cases k <;> decide) hk]
  · have hn : ∀ k, s.head? ≠ some (kindLetter k) := fun k e => h ⟨k, e⟩
    have hb : upperBareReturn = true := by decide
    unfold parseTypeU
    rw [findSome?_tryKindU_none hn, findSome?_tryKindU_none hn]
    simp only [hb, if_true]

/-- `_parse_type` with the control flow written out by hand: the four patterns are tried at the start of the text in
the order ARRAY, DECIMAL, VARCHAR, BLOB, and a bare name is upper-cased.  `parseType` instead follows what the extractor
read from the source (`parseOrder`, `anchor*`, `upperBareReturn`). -/
def parseTypeCore (s : Str) : Except ExcClass Parsed :=
  match matchArray s with
  | some body => .ok (.array body)
  | none =>
  match matchDecimal s with
  | some (p, q) =>
    match parseInt p with
    | .error e => .error e
    | .ok p => match parseInt q with
      | .error e => .error e
      | .ok q => .ok (.decimal p q)
  | none =>
  match matchBracket litVarchar s with
  | some n => (parseInt n).map .varchar
  | none =>
  match matchBracket litBlob s with
  | some n => (parseInt n).map .blob
  | none => .ok (.bare (up s))

theorem parseType_eq_core (s : Str) : parseType s = parseTypeCore s := by
  -- at the ASCII tables the reference matchers are the ones `parseTypeCore` is written with
  have ha : matchArrayU Chars.ascii = matchArray := rfl
  have hd : matchDecimalU Chars.ascii = matchDecimal := rfl
  have hb : matchBracketU Chars.ascii = matchBracket := rfl
  rw [parseType, parseTypeU_eq_inOrder]
  unfold parseTypeCore
  simp only [List.findSome?_cons, List.findSome?_nil, tryKindU_array, tryKindU_decimal, tryKindU_varchar,
    tryKindU_blob, ha, hd, hb]
  cases matchArray s with
  | some _ => rfl
  | none =>
    cases matchDecimal s with
    | some _ => rfl
    | none =>
      cases matchBracket litVarchar s with
      | some _ => rfl
      | none => cases matchBracket litBlob s <;> rfl

theorem lengthResolve_varchar (n : Nat) :
    lengthResolve litVarchar n = .ok { ty := .member litVarchar, length := some n } := rfl

theorem lengthResolve_blob (n : Nat) :
    lengthResolve litBlob n = .ok { ty := .member litBlob, length := some n } := rfl

theorem decimalBind_id (p s : Nat) : decimalBind p s = (p, s) := by
  have : decimalTargets ≠ [.scale, .precision] := by decide
  simp [decimalBind, this]

/-- `from_name` for what the source says now (`upperInFromName`, `lengthBranches`, `decimalTargets`). -/
theorem fromNameU_eq (U : Chars) (name : Str) :
    fromNameU U name =
      match parseTypeU U (U.upper name) with
      | .error e => .error e
      | .ok (.bare b) => bareResolve b
      | .ok (.array body) => arrayResolve body
      | .ok (.decimal p s) => decimalResolve p s
      | .ok (.varchar n) => .ok { ty := .member litVarchar, length := some n }
      | .ok (.blob n) => .ok { ty := .member litBlob, length := some n } := by
  have hu : upperInFromName = true := by decide
  unfold fromNameU
  simp only [hu, if_true]
  cases parseTypeU U (U.upper name) with
  | error e => rfl
  | ok r => cases r <;> simp only [lengthResolve_varchar, lengthResolve_blob, decimalBind_id]

theorem fromNameU_of_upper_eq {U : Chars} {s t : Str} (h : U.upper s = U.upper t) :
    fromNameU U s = fromNameU U t := by
  rw [fromNameU_eq, fromNameU_eq, h]

/-- `OrsoTypes.from_name` written out by hand in the same way: the name is upper-cased first, VARCHAR[n] / BLOB[n] put
`n` into the length, precision comes before scale.  `fromName` instead follows `upperInFromName`, `lengthBranches`,
`decimalTargets`. -/
def fromNameCore (name : Str) : Res :=
  match parseTypeCore (up name) with
  | .error e => .error e
  | .ok (.bare b) => bareResolve b
  | .ok (.array body) => arrayResolve body
  | .ok (.decimal p s) => decimalResolve p s
  | .ok (.varchar n) => .ok { ty := .member litVarchar, length := some n }
  | .ok (.blob n) => .ok { ty := .member litBlob, length := some n }

theorem fromName_eq_core (name : Str) : fromName name = fromNameCore name := by
  rw [fromName, fromNameU_eq, fromNameCore, ← parseType_eq_core]; rfl

/-! ### totality over all of Unicode -/

/-- the branches for `VARCHAR[n]` / `BLOB[n]` name a member that may carry a length, and store `n` there. -/
def goodLengthBranch (b : Str × Str × Slot) : Bool :=
  isMember b.2.1 && (b.2.1 == litVarchar || b.2.1 == litBlob) && b.2.2 == .length

theorem lengthBranches_good : ∀ b ∈ lengthBranches, goodLengthBranch b = true := by decide

theorem lengthResolve_total (head : Str) (n : Nat) : Total (lengthResolve head n) := by
  unfold lengthResolve
  cases h : lengthBranches.find? (fun b => b.1 == head) with
  | none => exact .inr rfl
  | some b =>
    obtain ⟨hd, m, slot⟩ := b
    have hg := lengthBranches_good _ (List.mem_of_find?_eq_some h)
    simp only [goodLengthBranch, Bool.and_eq_true, Bool.or_eq_true, beq_iff_eq] at hg
    obtain ⟨⟨hm, hvb⟩, hs⟩ := hg
    subst hs
    refine .inl ⟨_, rfl, ?_⟩
    rcases hvb with rfl | rfl <;> simp [setNat, wfOut, hm]

theorem tryKindU_err {U : Chars} (hint : ∀ ds e, U.toInt ds = .error e → e = .valueError)
    {s : Str} {k : PKind} {e : ExcClass} (h : tryKindU U s k = some (.error e)) : e = .valueError := by
  have hmap : ∀ {n : Str} {mk : Nat → Parsed}, (U.toInt n).map mk = .error e → e = .valueError := by
    intro n mk h
    cases h1 : U.toInt n with
    | error e1 => rw [h1] at h; cases h; exact hint _ _ h1
    | ok v => rw [h1] at h; cases h
  cases k <;> simp only [tryKindU, Option.map_eq_some_iff] at h <;> obtain ⟨n, _, h⟩ := h
  · cases h
  · split at h
    · rename_i h1; cases h; exact hint _ _ h1
    · split at h
      · rename_i h2; cases h; exact hint _ _ h2
      · cases h
  · exact hmap h
  · exact hmap h

theorem parseTypeU_err {U : Chars} (hint : ∀ ds e, U.toInt ds = .error e → e = .valueError)
    {s : Str} {e : ExcClass} (h : parseTypeU U s = .error e) : e = .valueError := by
  unfold parseTypeU at h
  cases hf : parseOrder.findSome? (tryKindU U s) with
  | none => rw [hf] at h; cases h
  | some r =>
    rw [hf] at h
    subst h
    obtain ⟨k, _, hk⟩ := List.exists_of_findSome?_eq_some hf
    exact tryKindU_err hint hk

theorem parseType_err {s : Str} {e : ExcClass} (h : parseType s = .error e) : e = .valueError :=
  parseTypeU_err Chars.ascii_sane.int_err h

theorem fromNameU_total (U : Chars) (hint : ∀ ds e, U.toInt ds = .error e → e = .valueError)
    (name : Str) : Total (fromNameU U name) := by
  -- not through `fromNameU_eq`: totality holds whatever `upperInFromName`, `decimalTargets`, `parseOrder` and the anchors say
  unfold fromNameU
  cases h : parseTypeU U (if upperInFromName then U.upper name else name) with
  | error e => exact .inr (by rw [parseTypeU_err hint h])
  | ok r =>
    cases r with
    | bare b => exact bareResolve_total b
    | array body => exact arrayResolve_total body
    | decimal p s => exact decimalResolve_total _ _
    | varchar n => exact lengthResolve_total _ n
    | blob n => exact lengthResolve_total _ n

/-! ### names that start like a DECIMAL, over all of Unicode -/

theorem fromNameU_decimal_text {U : Chars} (hU : U.Sane) {name d1 ws d2 rest : Str}
    (hup : U.upper name = litDecimal ++ '(' :: (d1 ++ ',' :: (ws ++ (d2 ++ ')' :: rest))))
    (h1 : d1 ≠ []) (h2 : d2 ≠ []) (hd1 : ∀ c ∈ d1, U.isD c = true) (hd2 : ∀ c ∈ d2, U.isD c = true)
    (hws : ∀ c ∈ ws, U.isS c = true) :
    fromNameU U name =
      match U.toInt d1 with
      | .error e => .error e
      | .ok p => match U.toInt d2 with
        | .error e => .error e
        | .ok s => decimalResolve p s := by
  rw [fromNameU_eq, hup, parseTypeU_of_head (k := .decimal) rfl, tryKindU_decimal,
    matchDecimalU_spec hU d1 ws d2 rest h1 h2 hd1 hd2 hws]
  simp only [Option.map_some]
  cases U.toInt d1 with
  | error e => rfl
  | ok p => cases U.toInt d2 <;> rfl

theorem fromName_decimal_text {name d1 ws d2 rest : Str}
    (hup : up name = litDecimal ++ '(' :: (d1 ++ ',' :: (ws ++ (d2 ++ ')' :: rest))))
    (h1 : d1 ≠ []) (h2 : d2 ≠ []) (hd1 : ∀ c ∈ d1, isD c = true) (hd2 : ∀ c ∈ d2, isD c = true)
    (hws : ∀ c ∈ ws, isS c = true) :
    fromName name =
      match parseInt d1 with
      | .error e => .error e
      | .ok p => match parseInt d2 with
        | .error e => .error e
        | .ok s => decimalResolve p s :=
  fromNameU_decimal_text Chars.ascii_sane hup h1 h2 hd1 hd2 hws

/-! ### the table of base type names -/

/-- What the proofs use of `members`, `bareChain` and `excludedElemPrefixes` about the base type names, evaluated in one
pass over the table: a base name resolves to what it denotes and the column declared with it round-trips; the excluded
prefixes remove ARRAY and DECIMAL and nothing else; a name they leave is upper-case, made of element characters, and its
own value. -/
theorem base_table : ∀ m ∈ baseTypes,
    (fromName (render (.base m))).toOption.any
      (fun d => denotes (.base m) d && columnRoundTrips (.base m) (decimalDefaults d)) = true ∧
    ((!excludedElem m) = true ↔ (m ≠ litArray ∧ m ≠ litDecimal)) ∧
    (excludedElem m = false → up m = m ∧ m ≠ [] ∧ m.all isElemChar = true ∧ valueOf m = m) := by decide +kernel

theorem fromName_base {m : Str} (hm : m ∈ baseTypes) :
    ∃ d, fromName (render (.base m)) = .ok d ∧ denotes (.base m) d = true ∧
      columnRoundTrips (.base m) (decimalDefaults d) = true := by
  have h := (base_table m hm).1
  cases hr : fromName (render (.base m)) with
  | error e => rw [hr] at h; cases h
  | ok d => rw [hr] at h; exact ⟨d, rfl, Bool.and_eq_true_iff.mp h⟩

theorem scalar_elem {e : Str} (he : e ∈ scalarTypes) : up e = e ∧ e ≠ [] ∧ e.all isElemChar = true ∧ valueOf e = e := by
  obtain ⟨hb, hx⟩ := List.mem_filter.mp he
  exact (base_table e hb).2.2 (by simpa using hx)

/-! ### `fromName` on the rendered forms -/

theorem parseType_bracket {k : PKind} {pre : Str} {mk : Nat → Parsed}
    (hk : ∀ s, tryKindU Chars.ascii s k = (matchBracketU Chars.ascii pre s).map fun n => (parseInt n).map mk)
    (hpre : up pre = pre) (hh : pre.head? = some (kindLetter k)) (n : Nat) :
    parseType (up (pre ++ '[' :: (digits n ++ [']']))) = (parseInt (digits n)).map mk := by
  have hhead : (pre ++ '[' :: (digits n ++ [']'])).head? = some (kindLetter k) := by
    cases pre with
    | nil => cases hh
    | cons c cs => exact hh
  have hup : up (pre ++ '[' :: (digits n ++ [']'])) = pre ++ '[' :: (digits n ++ [']']) := by
    simp only [up_append, up_cons, up_digits, hpre]
    rfl
  rw [hup, parseType, parseTypeU_of_head hhead, hk,
    matchBracketU_spec (by decide) pre (digits n) [] (digits_ne_nil n) (digits_isD n)]
  rfl

theorem fromName_render_varchar (n : Nat) :
    fromName (render (.varchar n)) = (parseInt (digits n)).map fun v => { ty := .member litVarchar, length := some v } := by
  rw [fromName, fromNameU_eq, show parseTypeU Chars.ascii (Chars.ascii.upper (render (.varchar n))) = _ from
    parseType_bracket (tryKindU_varchar Chars.ascii) (by decide) rfl n]
  cases parseInt (digits n) <;> rfl

theorem fromName_render_blob (n : Nat) :
    fromName (render (.blob n)) = (parseInt (digits n)).map fun v => { ty := .member litBlob, length := some v } := by
  rw [fromName, fromNameU_eq, show parseTypeU Chars.ascii (Chars.ascii.upper (render (.blob n))) = _ from
    parseType_bracket (tryKindU_blob Chars.ascii) (by decide) rfl n]
  cases parseInt (digits n) <;> rfl

theorem fromName_varchar {n : Nat} (h : digitsFit n = true) :
    fromName (render (.varchar n)) = .ok { ty := .member litVarchar, length := some n } := by
  rw [fromName_render_varchar, parseInt_digits h]; rfl

theorem fromName_blob {n : Nat} (h : digitsFit n = true) :
    fromName (render (.blob n)) = .ok { ty := .member litBlob, length := some n } := by
  rw [fromName_render_blob, parseInt_digits h]; rfl

theorem digitsFit_iff (n : Nat) : digitsFit n = true ↔ intMaxStrDigits = 0 ∨ n < 10 ^ intMaxStrDigits := by
  simp only [digitsFit, Bool.or_eq_true, beq_iff_eq, decide_eq_true_eq]
  rcases Nat.eq_zero_or_pos intMaxStrDigits with h0 | hk
  · simp [h0]
  · rw [digits, Nat.length_toDigits_le_iff (by decide) hk]

theorem digitsFit_of_le_38 {p : Nat} (h : p ≤ 38) : digitsFit p = true :=
  (digitsFit_iff p).mpr <| (show intMaxStrDigits = 0 ∨ 2 ≤ intMaxStrDigits by decide).imp_right fun hk =>
    Nat.lt_of_lt_of_le (show p < 10 ^ 2 by omega) (Nat.pow_le_pow_right (by decide) hk)

/-- the canonical spelling of a DECIMAL, upper-cased, in the form `fromName_decimal_text` asks for. -/
theorem up_render_decimal (p s : Nat) :
    up (render (.decimal p s)) = litDecimal ++ '(' :: (digits p ++ ',' :: ([] ++ (digits s ++ ')' :: []))) := by
  simp only [render, up_append, up_cons, up_digits]
  rfl

theorem fromName_decimal {p s : Nat} (h : s ≤ p ∧ p ≤ 38) :
    fromName (render (.decimal p s)) = .ok { ty := .member litDecimal, precision := some p, scale := some s } := by
  rw [fromName_decimal_text (up_render_decimal p s) (digits_ne_nil p) (digits_ne_nil s) (digits_isD p) (digits_isD s) (by simp),
    parseInt_digits (digitsFit_of_le_38 h.2), parseInt_digits (digitsFit_of_le_38 (by omega))]
  exact decimalResolve_ok h

theorem fromName_array {e : Str} (hup : up e = e) (hne : e ≠ []) (hall : ∀ c ∈ e, isElemChar c = true) :
    fromName (render (.array e)) = arrayResolve e := by
  have hr : up (render (.array e)) = litArray ++ '<' :: (e ++ '>' :: []) := by
    simp only [render, up_append, up_cons, hup]
    rfl
  rw [fromName, fromNameU_eq, show Chars.ascii.upper (render (.array e)) = _ from hr,
    parseTypeU_of_head (k := .array) rfl, tryKindU_array, show matchArrayU Chars.ascii = matchArray from rfl,
    matchArray_spec e [] hne hall]
  rfl

theorem fromName_array_scalar {e : Str} (he : e ∈ scalarTypes) :
    fromName (render (.array e)) = .ok { ty := .member litArray, elem := some e } := by
  obtain ⟨hup, hne, hall, _⟩ := scalar_elem he
  rw [fromName_array hup hne (List.all_eq_true.mp hall), arrayResolve_scalar he]

/-! ### columns and type codes -/

theorem typeCode_decimal (p s : Nat) :
    typeCode { ty := .member litDecimal, precision := some p, scale := some s } = some (render (.decimal p s)) := by
  have h1 : valueOf litDecimal = litDecimal := by decide
  have h2 : (litDecimal = descDecimalKey) = True := by decide
  have h3 : decide (litDecimal = descArrayKey) = false := by decide
  simp only [typeCode, h1, h2, h3, if_true, fmtOpt, render]
  have : descDecimalPre = litDecimal ++ ['('] ∧ descDecimalMid = [','] ∧ descDecimalPost = [')'] := by decide
  rw [this.1, this.2.1, this.2.2]
  simp

theorem typeCode_array (e : Str) :
    typeCode { ty := .member litArray, elem := some e } = some (render (.array (valueOf e))) := rfl

theorem typeCode_plain {c : Desc} {m : Str} (h : c.ty = .member m) (hd : valueOf m ≠ descDecimalKey)
    (ha : valueOf m ≠ descArrayKey) : typeCode c = some (valueOf m) := by
  simp only [typeCode, h, if_neg hd, decide_eq_false ha]

theorem typeCode_varchar (n : Nat) :
    typeCode { ty := .member litVarchar, length := some n } = some litVarchar :=
  typeCode_plain (m := litVarchar) rfl (by decide) (by decide)

theorem typeCode_blob (n : Nat) :
    typeCode { ty := .member litBlob, length := some n } = some litBlob :=
  typeCode_plain (m := litBlob) rfl (by decide) (by decide)

theorem codeState_eq (c : Desc) (m : Str) (h : c.ty = .member m) :
    ∃ code, typeCode c = some code ∧
      codeState c = some { code := some code, params := decide (valueOf m = descDecimalKey) } := by
  obtain ⟨ty, len, p, s, e⟩ := c
  simp only at h
  subst h
  simp only [codeState, typeCode, descProgram, runGroups, runGroup, List.find?, armHolds, fmtCode, descDecimalKey,
    descArrayKey, descDecimalPre, descDecimalMid, descDecimalPost, descArrayPre, descArrayPost]
  generalize valueOf m = v
  -- for a DECIMAL or an ARRAY every test of the program is closed; for any other value both tests fail
  by_cases hd : v = ['D', 'E', 'C', 'I', 'M', 'A', 'L']
  · subst hd
    cases e <;> exact ⟨_, rfl, rfl⟩
  · by_cases ha : v = ['A', 'R', 'R', 'A', 'Y']
    · subst ha
      cases e <;> exact ⟨_, rfl, rfl⟩
    · simp only [hd, ha, decide_false, if_false, Bool.false_and]
      exact ⟨_, rfl, rfl⟩

theorem typeCodeP_eq (c : Desc) : typeCodeP c = typeCode c := by
  cases h : c.ty with
  | zero => simp [typeCodeP, codeState, typeCode, h]
  | member m =>
    obtain ⟨code, h1, h2⟩ := codeState_eq c m h
    simp [typeCodeP, h1, h2]

theorem columnRoundTrips_code {t : TName} {c : Desc} (h : columnRoundTrips t c = true) :
    (typeCode c).isSome = true := by
  unfold columnRoundTrips at h
  cases hc : typeCode c with
  | none => simp [hc] at h
  | some code => rfl

/-! ### `description` over a schema -/

theorem entryOf_name {n : Str} {d : Desc} {e : Entry} (h : entryOf n d = some e) :
    e.name = n ∧ some e.code = typeCode d := by
  cases hty : d.ty with
  | zero => simp [entryOf, codeState, hty] at h
  | member m =>
    obtain ⟨code, h1, h2⟩ := codeState_eq d m hty
    simp only [entryOf, h2] at h
    cases h
    exact ⟨rfl, h1.symm⟩

theorem entryOf_isSome {n : Str} {d : Desc} (h : (typeCode d).isSome = true) : (entryOf n d).isSome = true := by
  cases hty : d.ty with
  | zero => simp [typeCode, hty] at h
  | member m =>
    obtain ⟨code, _, h2⟩ := codeState_eq d m hty
    simp only [entryOf, h2, Option.isSome_some]

theorem entryOf_params {n : Str} {d : Desc} {e : Entry} {m : Str} (hm : d.ty = .member m)
    (h : entryOf n d = some e) :
    (valueOf m = descDecimalKey → e.precision = d.precision ∧ e.scale = d.scale) ∧
    (valueOf m ≠ descDecimalKey → e.precision = none ∧ e.scale = none) := by
  obtain ⟨code, _, h2⟩ := codeState_eq d m hm
  simp only [entryOf, h2] at h
  cases h
  constructor
  · intro hd; simp [hd]
  · intro hd; simp [hd]

/-- `pre`: the columns the loop has passed. -/
theorem describeFrom_byPosition (pre cs : List Col) (es : List Entry) :
    describeFrom .byPosition (pre ++ cs) pre.length cs = some es ↔
      List.Forall₂ (fun c e => entryOf c.name c.desc = some e) cs es := by
  induction cs generalizing pre es with
  | nil => exact ⟨fun h => by cases h; exact .nil, fun h => by cases h; rfl⟩
  | cons c cs ih =>
    have ih' := ih (pre ++ [c])
    rw [List.length_append, List.length_singleton, ← List.append_cons] at ih'
    simp only [describeFrom, entrySource, List.getElem?_append_right (Nat.le_refl _), Nat.sub_self,
      List.getElem?_cons_zero, Option.bind_some]
    constructor
    · intro h
      split at h
      · rename_i e es' he hr
        cases h
        exact .cons he ((ih' es').mp hr)
      · cases h
    · intro h
      cases h with
      | cons he hr => rw [he, (ih' _).mpr hr]

theorem descLookup_byPosition : descLookup = .byPosition := by decide

theorem describe_eq_some (cols : List Col) (es : List Entry) :
    describe cols = some es ↔ List.Forall₂ (fun c e => entryOf c.name c.desc = some e) cols es := by
  unfold describe describeWith
  rw [descLookup_byPosition]
  exact describeFrom_byPosition [] cols es

/-! ### columns declared with a name -/

/-- the two DECIMAL defaults, for the tests the source has now (`is None`). -/
theorem decimalDefaults_eq (c : Desc) : decimalDefaults c =
    if c.ty = .member litDecimal then
      { c with precision := some (c.precision.getD decimalDefaultPrecision),
               scale := some (c.scale.getD (scaleNum * c.precision.getD decimalDefaultPrecision / scaleDen)) }
    else c := by
  have h1 : decimalPrecisionTest = .isNone := by decide
  have h2 : decimalScaleTest = .isNone := by decide
  unfold decimalDefaults
  rw [h1, h2]
  obtain ⟨ty, l, p, s, e⟩ := c
  cases p <;> cases s <;> rfl

theorem decimalDefaults_keeps (c : Desc) :
    (∀ v, c.precision = some v → (decimalDefaults c).precision = some v) ∧
    (∀ v, c.scale = some v → (decimalDefaults c).scale = some v) ∧
    (decimalDefaults c).length = c.length ∧ (decimalDefaults c).elem = c.elem ∧ (decimalDefaults c).ty = c.ty := by
  rw [decimalDefaults_eq]
  split
  · exact ⟨fun v hv => by simp [hv], fun v hv => by simp [hv], rfl, rfl, rfl⟩
  · exact ⟨fun _ h => h, fun _ h => h, rfl, rfl, rfl⟩

theorem decimalDefaults_id {c : Desc} (h : c.ty ≠ .member litDecimal ∨ (c.precision.isSome ∧ c.scale.isSome)) :
    decimalDefaults c = c := by
  rw [decimalDefaults_eq]
  split
  · rename_i hty
    obtain ⟨ty, l, p, s, e⟩ := c
    rcases h with h | ⟨hp, hs⟩
    · exact absurd hty h
    · cases p <;> cases s <;> simp_all
  · rfl

theorem applyRule_isNone (d c : Desc) (sl : Slot) :
    applyRule d c (sl, .isNone, sl) = match sl with
      | .length => { c with length := c.length.or d.length }
      | .precision => { c with precision := c.precision.or d.precision }
      | .scale => { c with scale := c.scale.or d.scale }
      | .elem => { c with elem := c.elem.or d.elem } := by
  obtain ⟨ty, len, p, s, e⟩ := c
  cases sl
  · cases len <;> rfl
  · cases p <;> rfl
  · cases s <;> rfl
  · cases e <;> rfl

theorem merged_eq (d c0 : Desc) :
    mergeRules.foldl (applyRule d) c0 =
      { ty := c0.ty, length := c0.length.or d.length, precision := c0.precision.or d.precision,
        scale := c0.scale.or d.scale, elem := c0.elem.or d.elem } := by
  simp only [mergeRules, List.foldl, applyRule_isNone]

/-- the column before the DECIMAL defaults: what was given explicitly, completed from what the name says when the
name denotes a member. -/
def mergedCol (d : Desc) (x : Explicit) : Desc :=
  match d.ty with
  | .zero => { ty := d.ty, length := x.length, precision := x.precision, scale := x.scale, elem := x.elem }
  | .member _ =>
    { ty := d.ty, length := x.length.or d.length, precision := x.precision.or d.precision,
      scale := x.scale.or d.scale, elem := x.elem.or d.elem }

theorem declareWith_eq (name : Str) (x : Explicit) :
    declareWith name x = (fromName name).map fun d => decimalDefaults (mergedCol d x) := by
  unfold declareWith mergedCol
  cases fromName name with
  | error e => rfl
  | ok d => cases hty : d.ty <;> simp only [Except.map, hty, merged_eq]

theorem mergedCol_explicit (d : Desc) (x : Explicit) :
    (∀ v, x.precision = some v → (mergedCol d x).precision = some v) ∧
    (∀ v, x.scale = some v → (mergedCol d x).scale = some v) ∧
    (∀ v, x.length = some v → (mergedCol d x).length = some v) ∧
    (∀ e, x.elem = some e → (mergedCol d x).elem = some e) := by
  unfold mergedCol
  cases d.ty with
  | zero => exact ⟨fun _ h => h, fun _ h => h, fun _ h => h, fun _ h => h⟩
  | member _ =>
    exact ⟨fun _ h => by simp [h], fun _ h => by simp [h], fun _ h => by simp [h], fun _ h => by simp [h]⟩

theorem mergedCol_parsed {d : Desc} (hm : d.ty ≠ .zero) : mergedCol d {} = d := by
  obtain ⟨ty, l, p, s, e⟩ := d
  cases ty with
  | zero => exact absurd rfl hm
  | member m => rfl

theorem declare_of_member {name : Str} {d : Desc} (hn : fromName name = .ok d) (hm : d.ty ≠ .zero) :
    declare name = .ok (decimalDefaults d) := by
  rw [declare, declareWith_eq, hn]
  exact congrArg (fun c => Except.ok (decimalDefaults c)) (mergedCol_parsed hm)

theorem wf_resolves (t : TName) (h : wfName t = true) :
    ∃ d, fromName (render t) = .ok d ∧ denotes t d = true ∧ d.ty ≠ .zero ∧
      columnRoundTrips t (decimalDefaults d) = true := by
  have hnd : ∀ m : Str, m ≠ litDecimal → ∀ l e, decimalDefaults { ty := .member m, length := l, elem := e }
      = { ty := .member m, length := l, elem := e } :=
    fun m hm l e => decimalDefaults_id (.inl fun h => hm (Ty.member.inj h))
  cases t with
  | base m =>
    obtain ⟨d, hd, hden, hrt⟩ := fromName_base (m := m) (by simpa [wfName] using h)
    exact ⟨d, hd, hden, fun hz => by simp [denotes, hz] at hden, hrt⟩
  | decimal p s =>
    have hps : s ≤ p ∧ p ≤ 38 := by simpa [wfName] using h
    refine ⟨_, fromName_decimal hps, by simp [denotes], by simp, ?_⟩
    rw [decimalDefaults_id (.inr ⟨rfl, rfl⟩)]
    simp [columnRoundTrips, typeCode_decimal, fromName_decimal hps]
  | varchar n =>
    refine ⟨_, fromName_varchar (by simpa [wfName] using h), by simp [denotes], by simp, ?_⟩
    have : fromName litVarchar = .ok { ty := .member litVarchar } := by decide
    rw [hnd _ (by decide)]
    simp [columnRoundTrips, typeCode_varchar, this]
  | blob n =>
    refine ⟨_, fromName_blob (by simpa [wfName] using h), by simp [denotes], by simp, ?_⟩
    have : fromName litBlob = .ok { ty := .member litBlob } := by decide
    rw [hnd _ (by decide)]
    simp [columnRoundTrips, typeCode_blob, this]
  | array e =>
    have he : e ∈ scalarTypes := by simpa [wfName] using h
    have hd := fromName_array_scalar he
    refine ⟨_, hd, by simp [denotes], by simp, ?_⟩
    rw [hnd _ (by decide), columnRoundTrips, typeCode_array, (scalar_elem he).2.2.2]
    simp [hd]

/-! ### lists related entry by entry -/

theorem forall₂_getElem? {α β : Type} {R : α → β → Prop} {xs : List α} {ys : List β}
    (h : List.Forall₂ R xs ys) {i : Nat} {x : α} {y : β} (hx : xs[i]? = some x) (hy : ys[i]? = some y) : R x y := by
  induction h generalizing i with
  | nil => cases hx
  | cons hr _ ih =>
    cases i with
    | zero => cases hx; cases hy; exact hr
    | succ i => exact ih hx hy

theorem forall₂_length {α β : Type} {R : α → β → Prop} {xs : List α} {ys : List β}
    (h : List.Forall₂ R xs ys) : xs.length = ys.length := by
  induction h with
  | nil => rfl
  | cons _ _ ih => simp [ih]

theorem forall₂_of_isSome {α β : Type} {f : α → Option β} (xs : List α) (h : ∀ x ∈ xs, (f x).isSome = true) :
    ∃ ys, List.Forall₂ (fun x y => f x = some y) xs ys := by
  induction xs with
  | nil => exact ⟨[], .nil⟩
  | cons x xs ih =>
    rw [List.forall_mem_cons] at h
    obtain ⟨y, hy⟩ := Option.isSome_iff_exists.mp h.1
    obtain ⟨ys, hys⟩ := ih h.2
    exact ⟨y :: ys, .cons hy hys⟩

theorem forall₂_getElem?_right {α β : Type} {R : α → β → Prop} {xs : List α} {ys : List β}
    (h : List.Forall₂ R xs ys) {i : Nat} {y : β} (hy : ys[i]? = some y) : ∃ x, xs[i]? = some x :=
  ⟨_, List.getElem?_eq_getElem (forall₂_length h ▸ (List.getElem?_eq_some_iff.mp hy).1)⟩

theorem forall₂_getElem?_left {α β : Type} {R : α → β → Prop} {xs : List α} {ys : List β}
    (h : List.Forall₂ R xs ys) {i : Nat} {x : α} (hx : xs[i]? = some x) : ∃ y, ys[i]? = some y :=
  ⟨_, List.getElem?_eq_getElem (forall₂_length h ▸ (List.getElem?_eq_some_iff.mp hx).1)⟩

end TypeName
