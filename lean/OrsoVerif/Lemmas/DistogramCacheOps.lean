import OrsoVerif.Lemmas.Distogram
import OrsoVerif.Lemmas.DistogramCache
/-!
# What each operation of the faithful machine does to the cache, and to the bins of a state with a coherent cache

One `_spec` per operation.  Below `update` (`trimInPlace`, `insertBin`, `trimStep`, `trim`, `insertTrim`): the cache is left
set or unset as it was, whatever it holds; from a coherent cache the operation keeps it coherent and does to the bins
what the reference does (`trim_spec`: the faithful loop is `trimRef`, because `h.diffs.index(h.min_diff)` is the first
position of a minimum, `indexOf_min_eq_argminFirst`).  `update_spec` and the operations above it: no path un-sets a cache,
every path keeps a coherent cache coherent — the cases of `C13.cache_coherent`, the induction over `FBuilt`; the definition
of `FBuilt` closes the module.
-/
namespace Distogram
-- the lemmas on `gapAt` and `gaps` use nothing of the order
set_option linter.unusedSectionVars false

variable {K : Type} [Field K] [LinearOrder K]

/-! ## exact hit, in-place merge, insertion -/

theorem gapAt_set_same_fst {bins : List (K × K)} {idx : Nat} {vi fi g : K} (hb : bins[idx]? = some (vi, fi)) (k : Nat) :
    gapAt (bins.set idx (vi, g)) k = gapAt bins k := by
  have hlt : idx < bins.length := (List.getElem?_eq_some_iff.mp hb).1
  unfold gapAt
  rw [List.getElem?_set, List.getElem?_set]
  by_cases h1 : idx = k
  · subst h1
    rw [if_pos rfl, if_pos hlt, if_neg (Nat.ne_of_lt (Nat.lt_succ_self idx)), hb]
    cases bins[idx + 1]? <;> rfl
  · rw [if_neg h1]
    by_cases h2 : idx = k + 1
    · rw [if_pos h2, if_pos hlt, ← h2, hb]
      cases bins[k]? <;> rfl
    · rw [if_neg h2]

/-- exact hit: only a count changes -/
theorem coherent_exactHit {h : Hist K} {idx : Nat} {vi fi g : K} (hc : Coherent h) (hb : h.bins[idx]? = some (vi, fi)) :
    Coherent { h with bins := h.bins.set idx (vi, g) } := by
  intro d hd
  obtain ⟨hne, hg, hm⟩ := hc d hd
  refine ⟨by simpa using hne, ?_, hm⟩
  rw [eq_gaps_iff]
  intro k
  simp only
  rw [gapAt_set_same_fst hb, ← gaps_getElem?, ← hg]

theorem gaps_append_singleton : ∀ (bins : List (K × K)) (bl x : K × K), bins.getLast? = some bl →
    gaps (bins ++ [x]) = gaps bins ++ [x.1 - bl.1] := by
  intro bins
  induction bins with
  | nil => intro _ _ h; cases h
  | cons a l ih =>
    intro bl x h
    cases l with
    | nil => cases h; rfl
    | cons b rest =>
      rw [List.getLast?_cons_cons] at h
      have := ih bl x h
      simp only [List.cons_append] at this ⊢
      simp only [gaps, this, List.cons_append]

theorem gapAt_none_of_le {bins : List (K × K)} {k : Nat} (h : bins.length ≤ k + 1) : gapAt bins k = none := by
  unfold gapAt
  have : bins[k + 1]? = none := List.getElem?_eq_none_iff.mpr h
  rw [this]
  cases bins[k]? <;> rfl

theorem gapAt_set_notPend {bins : List (K × K)} {ib : Nat} {x : K × K} (k : Nat)
    (hk : ¬ Pend bins.length ib k) : gapAt (bins.set ib x) k = gapAt bins k := by
  have hl : ib ≠ k + 1 := fun e => by subst e; exact hk (Or.inl ⟨Nat.succ_pos k, rfl⟩)
  by_cases h1 : ib = k
  · subst h1
    have hlen : bins.length ≤ ib + 1 := Nat.le_of_not_lt fun a => hk (Or.inr ⟨a, rfl⟩)
    rw [gapAt_none_of_le hlen, gapAt_none_of_le (by rw [List.length_set]; exact hlen)]
  · unfold gapAt
    rw [List.getElem?_set, List.getElem?_set, if_neg h1, if_neg hl]

theorem trimInPlace_spec {h h' : Hist K} {v c : K} {ib : Nat} (hok : trimInPlace h v c ib = .ok h') :
    h'.diffs.isSome = h.diffs.isSome ∧
    (Coherent h → Coherent h' ∧ h'.min = h.min ∧ h'.max = h.max ∧ h'.cap = h.cap ∧
      ∃ cv cf, h.bins[ib]? = some (cv, cf) ∧
        h'.bins = h.bins.set ib (Gen.DistogramOps.inPlaceStored (Gen.DistogramExpr.inPlaceCentre cv cf v c) cv v,
          Gen.DistogramExpr.inPlaceCount cv cf v c)) := by
  unfold trimInPlace at hok
  split at hok
  · rename_i cv cf hb
    obtain ⟨e1, e2, e3, e4, es, _⟩ := updateDiffs_spec hok
    refine ⟨es, fun hc => ⟨?_, e2, e3, e4, cv, cf, hb, e1⟩⟩
    have hlt : ib < h.bins.length := (List.getElem?_eq_some_iff.mp hb).1
    have hne : h.bins ≠ [] := by intro e; rw [e] at hlt; simp at hlt
    refine updateDiffs_coherent hok (by simpa using hne) ?_
    intro d hd
    simp only at hd
    obtain ⟨_, hg, hm⟩ := hc d hd
    refine ⟨?_, track_of_isMin hm (fun k x _ hx => List.mem_of_getElem? hx) (fun x hx => hx)⟩
    intro k hk
    simp only [List.length_set] at hk
    simp only
    rw [gapAt_set_notPend k hk, ← gaps_getElem?, ← hg]
  · cases hok

/-- the cache after `diffs.insert(index, 0)` is right outside the two positions next to the new bin -/
theorem insert_pt {bins : List (K × K)} {idx : Nat} {x : K × K} (hidx : idx < bins.length) (k : Nat)
    (hk : ¬ Pend (bins.length + 1) idx k) :
    ((gaps bins).insertIdx idx (0 : K))[k]? = gapAt (bins.insertIdx idx x) k := by
  have hl : k + 1 ≠ idx := fun e => by subst e; exact hk (Or.inl ⟨Nat.succ_pos k, rfl⟩)
  have hr : k ≠ idx := fun e => hk (Or.inr ⟨Nat.succ_lt_succ hidx, e⟩)
  clear hk hidx
  unfold gapAt
  rw [List.getElem?_insertIdx, List.getElem?_insertIdx, List.getElem?_insertIdx, gaps_getElem?, gaps_getElem?]
  by_cases h1 : k < idx
  · rw [if_pos h1, if_pos h1, if_pos (Nat.lt_of_le_of_ne h1 hl)]
    rfl
  · rw [if_neg h1, if_neg h1, if_neg hr, if_neg hr, if_neg fun h => h1 (Nat.lt_of_succ_lt h), if_neg hl]
    obtain ⟨n, rfl⟩ : ∃ n, k = n + 1 := ⟨k - 1, by omega⟩
    rfl

/-- `diffs.insert(index, 0)` keeps `min_diff` tracking: the placeholder sits at a position still to be rewritten -/
theorem track_insert {P : Nat → Prop} {d : List K} {md : Option K} {idx : Nat} (h : IsMinOpt md d)
    (hidx : idx ≤ d.length) (hP : P idx) : Track P (d.insertIdx idx (0 : K), md, false) := by
  refine track_of_isMin h (fun k x hk hx => ?_) (fun x hx => (List.mem_insertIdx hidx).mpr (Or.inr hx))
  rw [List.getElem?_insertIdx] at hx
  split at hx
  · exact List.mem_of_getElem? hx
  · split at hx
    · rename_i e
      rw [e] at hk
      exact absurd hP hk
    · exact List.mem_of_getElem? hx

theorem insertBin_spec {h h' : Hist K} {neg : Bool} {idx : Nat} {v c : K} (hok : insertBin h neg idx v c = .ok h') :
    h'.diffs.isSome = h.diffs.isSome ∧
    (Coherent h → (neg = false → h.bins ≠ [] → idx < h.bins.length) →
      Coherent h' ∧ h'.bins = (if neg then h.bins ++ [(v, c)] else h.bins.insertIdx idx (v, c)) ∧
      h'.min = h.min ∧ h'.max = h.max ∧ h'.cap = h.cap) := by
  rw [insertBin_def] at hok
  cases neg with
  | true =>
    rw [if_pos rfl] at hok
    split at hok
    · rename_i d bl hd hl
      cases hok
      refine ⟨by rw [hd]; rfl, fun hc _ => ⟨fun d' hd' => ?_, rfl, rfl, rfl, rfl⟩⟩
      cases hd'
      obtain ⟨_, hg, hm⟩ := hc d hd
      refine ⟨List.append_ne_nil_of_right_ne_nil _ (List.cons_ne_nil _ _), ?_, isMinOf_minO hm (v - bl.1)⟩
      show d ++ [v - bl.1] = gaps (h.bins ++ [(v, c)])
      rw [gaps_append_singleton _ bl _ hl, hg]
    · rename_i hno
      cases hok
      refine ⟨rfl, fun hc _ => ⟨fun d hd => ?_, rfl, rfl, rfl, rfl⟩⟩
      obtain ⟨hne, _, _⟩ := hc d hd
      cases hl : h.bins.getLast? with
      | none => exact absurd (List.getLast?_eq_none_iff.mp hl) hne
      | some bl => exact absurd hl (hno d bl hd)
  | false =>
    rw [if_neg Bool.false_ne_true] at hok
    split at hok
    · rename_i d hd
      obtain ⟨e1, e2, e3, e4, es, _⟩ := updateDiffs_spec hok
      refine ⟨es.trans (by rw [hd]; rfl), fun hc hidx => ⟨?_, e1, e2, e3, e4⟩⟩
      obtain ⟨hne, hg, hm⟩ := hc d hd
      have hi := hidx rfl hne
      have hlen : (h.bins.insertIdx idx (v, c)).length = h.bins.length + 1 := by
        rw [List.length_insertIdx, if_pos (Nat.le_of_lt hi)]
      refine updateDiffs_coherent hok
        (fun e => by rw [show h.bins.insertIdx idx (v, c) = [] from e] at hlen; cases hlen) ?_
      intro d' hd'
      cases hd'
      show (∀ k, ¬ Pend (h.bins.insertIdx idx (v, c)).length idx k → _) ∧
        Track (Pend (h.bins.insertIdx idx (v, c)).length idx) _
      rw [hlen, hg]
      exact ⟨fun k hk => insert_pt hi k hk,
        track_insert (hg ▸ hm) (by rw [gaps_length]; exact Nat.le_sub_one_of_lt hi) (Or.inr ⟨Nat.succ_lt_succ hi, rfl⟩)⟩
    · rename_i hno
      cases hok
      exact ⟨rfl, fun _ _ => ⟨fun d hd => (nomatch hno.symm.trans hd), rfl, rfl, rfl, rfl⟩⟩

/-! ## `_trim`: the pair it picks -/

theorem indexOf_eq_idxOf? (m : K) (xs : List K) : indexOf m xs = xs.idxOf? m :=
  List.eq_idxOf?_of_cons (fun l a => indexOf a l) (fun _ => rfl) (fun n ns a => by simp only [indexOf, eqK_iff']) xs m

/-- `h.diffs.index(h.min_diff)` is the first closest pair — the reference's choice. -/
theorem indexOf_min_eq_argminFirst {d : List K} {m : K} (h : IsMinOpt (some m) d) :
    indexOf m d = some (argminFirst d) := by
  obtain ⟨hm, hall⟩ := h
  obtain ⟨m', hk, hmin, hfirst⟩ := argminFirst_spec (List.ne_nil_of_mem hm)
  cases le_antisymm (hmin m hm) (hall m' (List.mem_of_getElem? hk))
  exact (indexOf_eq_idxOf? m d).trans
    (List.idxOf?_eq_some_iff_getElem?.mpr ⟨hk, fun j hj hy => ne_of_gt (hfirst j m hj hy) rfl⟩)

/-! ## `_trim`: the merge it performs -/

theorem eraseSet_eq_mergeAt (i : Nat) (bins : List (K × K)) (v1 f1 v2 f2 : K)
    (h1 : bins[i]? = some (v1, f1)) (h2 : bins[i + 1]? = some (v2, f2)) :
    (bins.eraseIdx (i + 1)).set i (centroid v1 f1 v2 f2, Gen.DistogramExpr.trimCount v1 f1 v2 f2)
      = mergeAt i bins := by
  induction i generalizing bins with
  | zero =>
    match bins, h1, h2 with
    | _ :: _ :: _, h1, h2 => cases h1; cases h2; rfl
  | succ i ih =>
    match bins, h1, h2 with
    | a :: rest, h1, h2 => exact congrArg (a :: ·) (ih rest h1 h2)

/-- after `diffs.pop(i)` the cache is right outside the two positions next to the merged bin -/
theorem erase_pt {bins : List (K × K)} {i : Nat} (hi : i + 1 < bins.length) (k : Nat)
    (hk : ¬ Pend (mergeAt i bins).length i k) : ((gaps bins).eraseIdx i)[k]? = gapAt (mergeAt i bins) k := by
  have hlen : (mergeAt i bins).length = bins.length - 1 := Nat.eq_sub_of_add_eq (mergeAt_length i bins hi)
  rw [hlen] at hk
  rw [← eraseSet_eq_mergeAt i bins _ _ _ _ (List.getElem?_eq_getElem (Nat.lt_of_succ_lt hi)) (List.getElem?_eq_getElem hi)]
  have hl : i ≠ k + 1 := fun e => by subst e; exact hk (Or.inl ⟨Nat.succ_pos k, rfl⟩)
  rw [List.getElem?_eraseIdx, gaps_getElem?, gaps_getElem?]
  by_cases h2 : i = k
  · subst h2
    have hle : bins.length - 1 ≤ i + 1 := Nat.le_of_not_lt fun a => hk (Or.inr ⟨a, rfl⟩)
    rw [if_neg (Nat.lt_irrefl i), gapAt_none_of_le (Nat.sub_le_iff_le_add.mp hle),
      gapAt_none_of_le (by rw [List.length_set, List.length_eraseIdx, if_pos hi]; exact hle)]
  · unfold gapAt
    rw [List.getElem?_set, List.getElem?_set, if_neg h2, if_neg hl, List.getElem?_eraseIdx, List.getElem?_eraseIdx]
    by_cases h1 : k < i
    · rw [if_pos h1, if_pos (Nat.lt_succ_of_lt h1), if_pos (Nat.succ_lt_succ h1)]
    · rw [if_neg h1, if_neg fun h => h1 (Nat.lt_of_le_of_ne (Nat.le_of_lt_succ h) (Ne.symm h2)),
        if_neg fun h => h1 (Nat.lt_of_succ_lt_succ h)]

theorem trimIndex_eq {h : Hist K} {i : Nat} (hc : Coherent h) (hok : trimIndex h = .ok i) :
    i = argminFirst (gaps h.bins) := by
  rw [trimIndex_def] at hok
  split at hok
  · rename_i d hd
    obtain ⟨_, hg, hm⟩ := hc d hd
    split at hok
    · rename_i md hmd
      rw [hmd] at hm
      rw [indexOf_min_eq_argminFirst hm] at hok
      simp only [Except.ok.injEq] at hok
      rw [← hok, hg]
    · cases hok
  · split at hok
    · cases hok
    · simp only [Except.ok.injEq] at hok
      exact hok.symm

theorem trimStep_spec {h h' : Hist K} (hok : trimStep h = .ok h') :
    h'.diffs.isSome = h.diffs.isSome ∧
    (Coherent h → Coherent h' ∧ h'.bins = mergeAt (argminFirst (gaps h.bins)) h.bins ∧
      h'.min = h.min ∧ h'.max = h.max ∧ h'.cap = h.cap) := by
  rw [trimStep_def] at hok
  obtain ⟨i, hi, hok⟩ := Except.bind_eq_ok hok
  split at hok
  · rename_i v1 f1 v2 f2 hb1 hb2
    simp only at hok
    rw [eraseSet_eq_mergeAt i h.bins v1 f1 v2 f2 hb1 hb2] at hok
    have hlt : i + 1 < h.bins.length := (List.getElem?_eq_some_iff.mp hb2).1
    split at hok
    · rename_i d hd
      split at hok
      · cases hok
      · obtain ⟨h1, hu, hok⟩ := Except.bind_eq_ok hok
        obtain ⟨e1, e2, e3, e4, es, hs⟩ := updateDiffs_spec hu
        split at hok
        · rename_i m hm1
          cases hok
          refine ⟨by rw [hd]; exact es, fun hc => ?_⟩
          obtain ⟨_, hg, _⟩ := hc d hd
          obtain ⟨e5, _⟩ := hs (d.eraseIdx i) rfl (fun k hk => by rw [hg]; exact erase_pt hlt k hk)
          rw [e5] at hm1
          refine ⟨fun d' hd' => ?_, by rw [← trimIndex_eq hc hi]; exact e1, e2, e3, e4⟩
          cases e5.symm.trans hd'
          refine ⟨fun e => ?_, congrArg gaps e1.symm, ?_⟩
          · -- at least one bin is left
            have hlen := mergeAt_length i h.bins hlt
            rw [← show h1.bins = mergeAt i h.bins from e1, show h1.bins = [] from e] at hlen
            exact absurd hlen.symm (Nat.ne_of_gt (Nat.lt_of_le_of_lt (Nat.le_add_left 1 i) hlt))
          · show IsMinOpt (some m) _
            rw [← hm1]
            exact listMin_isMin _
        · cases hok
    · rename_i hd
      cases hok
      exact ⟨rfl, fun hc => ⟨fun d' hd' => (nomatch hd.symm.trans hd'), by rw [← trimIndex_eq hc hi], rfl, rfl, rfl⟩⟩
  · cases hok

/-- No hypothesis on ties: both loops merge the first closest pair. -/
theorem trim_spec (fuel : Nat) {h h' : Hist K} (hok : trim fuel h = .ok h') :
    h'.diffs.isSome = h.diffs.isSome ∧
    (Coherent h → Coherent h' ∧ h'.bins = trimRef h.cap fuel h.bins ∧ h'.min = h.min ∧ h'.max = h.max ∧ h'.cap = h.cap) := by
  induction fuel generalizing h with
  | zero =>
    cases hok
    exact ⟨rfl, fun hc => ⟨hc, rfl, rfl, rfl, rfl⟩⟩
  | succ fuel ih =>
    rw [trim_succ] at hok
    unfold trimRef
    split at hok
    · rename_i hlt
      obtain ⟨h1, hs, hok⟩ := Except.bind_eq_ok hok
      obtain ⟨s1, c1⟩ := trimStep_spec hs
      obtain ⟨s2, c2⟩ := ih hok
      refine ⟨s2.trans s1, fun hc => ?_⟩
      obtain ⟨hc1, b1, m1, x1, p1⟩ := c1 hc
      obtain ⟨hc2, b2, m2, x2, p2⟩ := c2 hc1
      rw [if_pos hlt]
      exact ⟨hc2, by rw [b2, p1, b1], m2.trans m1, x2.trans x1, p2.trans p1⟩
    · rename_i hge
      cases hok
      rw [if_neg hge]
      exact ⟨rfl, fun hc => ⟨hc, rfl, rfl, rfl, rfl⟩⟩

/-! ## `update` and the operations built on it -/

theorem bisectLeft_eq_findIdx (v : K) (bins : List (K × K)) : bisectLeft v bins =
    bins.findIdx (fun b => !(decide (b.1 < v) || (eqK b.1 v && decide (b.2 < 1)))) := by
  rw [bisectLeft_def, List.takeWhile_eq_take_findIdx_not, List.length_take, Nat.min_eq_left List.findIdx_le_length]

theorem locate_cases {bins : List (K × K)} (hne : bins ≠ []) (v : K) :
    ∃ b0 bl, bins.head? = some b0 ∧ bins.getLast? = some bl ∧
      ((v ≤ b0.1 ∧ locate bins v = (false, 0)) ∨ (bl.1 ≤ v ∧ locate bins v = (true, bins.length - 1)) ∨
       (v < bl.1 ∧ locate bins v = (false, bisectLeft v bins))) := by
  rw [locate_def]
  cases hh : bins.head? with
  | none => exact absurd (List.head?_eq_none_iff.mp hh) hne
  | some b0 =>
    cases hl : bins.getLast? with
    | none => exact absurd (List.getLast?_eq_none_iff.mp hl) hne
    | some bl =>
      refine ⟨b0, bl, rfl, rfl, ?_⟩
      simp only
      by_cases h1 : v ≤ b0.1
      · exact Or.inl ⟨h1, if_pos h1⟩
      · rw [if_neg h1]
        by_cases h2 : bl.1 ≤ v
        · exact Or.inr (Or.inl ⟨h2, if_pos h2⟩)
        · exact Or.inr (Or.inr ⟨not_le.mp h2, if_neg h2⟩)

theorem locate_idx_lt {bins : List (K × K)} {v : K} (hne : bins ≠ []) (hn : (locate bins v).1 = false) :
    (locate bins v).2 < bins.length := by
  obtain ⟨b0, bl, _, hl, ⟨_, e⟩ | ⟨_, e⟩ | ⟨hlt, e⟩⟩ := locate_cases hne v
  · rw [e]; exact List.length_pos_iff.mpr hne
  · rw [e] at hn; cases hn
  · -- the last bin is above the value: the search stops there at the latest
    rw [e, bisectLeft_eq_findIdx]
    refine List.findIdx_lt_length_of_exists ⟨bl, List.mem_of_getLast? hl, ?_⟩
    have he : eqK bl.1 v = false := Bool.eq_false_iff.mpr fun he => absurd ((eqK_iff' _ _).mp he) (ne_of_gt hlt)
    simp [he, not_lt.mpr (le_of_lt hlt)]

theorem insertTrim_spec {h h' : Hist K} {neg : Bool} {idx : Nat} {v c : K} (hok : insertTrim h neg idx v c = .ok h') :
    h'.diffs.isSome = h.diffs.isSome ∧
    (Coherent h → (neg = false → h.bins ≠ [] → idx < h.bins.length) →
      let l := if neg then h.bins ++ [(v, c)] else h.bins.insertIdx idx (v, c)
      Coherent h' ∧ h'.bins = trimRef h.cap l.length l ∧
      h'.min = some (minO h.min v) ∧ h'.max = some (maxO h.max v) ∧ h'.cap = h.cap) := by
  unfold insertTrim at hok
  obtain ⟨h2, hi, hok⟩ := Except.bind_eq_ok hok
  rw [trimTurns_eq] at hok
  obtain ⟨s2, c2⟩ := insertBin_spec hi
  -- `bumpBounds` rewrites `min` and `max` only, which neither `Coherent` nor the cache mentions
  obtain ⟨s3, c3⟩ := trim_spec _ (h := bumpBounds h2 v) hok
  refine ⟨s3.trans s2, fun hc hidx => ?_⟩
  intro l
  obtain ⟨hc2, b2, m2, x2, p2⟩ := c2 hc hidx
  obtain ⟨hc3, b3, m3, x3, p3⟩ := c3 hc2
  have hl : l = h2.bins := b2.symm
  exact ⟨hc3, by rw [b3, hl]; exact congrArg (trimRef · _ _) p2, by rw [m3, bumpBounds_min, m2],
    by rw [x3, bumpBounds_max, x2], p3.trans p2⟩

/-- `_search_in_place_index` first makes sure there is a cache (`if h.diffs is None: h.diffs = _compute_diffs(h)`). -/
theorem ensureDiffs_spec {h hd : Hist K} (hok : (if h.diffs.isNone then computeDiffs h else .ok h) = .ok hd) :
    hd.diffs.isSome = true ∧ hd.bins = h.bins ∧ hd.min = h.min ∧ hd.max = h.max ∧ hd.cap = h.cap ∧
    (Coherent h → Coherent hd) := by
  split at hok
  · rw [computeDiffs_def] at hok
    split at hok
    · rename_i m hm
      cases hok
      refine ⟨rfl, rfl, rfl, rfl, rfl, fun _ d hd => ?_⟩
      cases hd
      refine ⟨fun he => ?_, rfl, ?_⟩
      · -- no bin, no gap, no minimum
        rw [show h.bins = [] from he] at hm
        cases hm
      · show IsMinOpt (some m) _
        rw [← hm]
        exact listMin_isMin _
    · cases hok
  · rename_i hsome
    cases hok
    exact ⟨Option.isSome_iff_ne_none.mpr (by simpa using hsome), rfl, rfl, rfl, rfl, id⟩

theorem update_spec {h h' : Hist K} {v c : K} (hok : update h v c = .ok h') :
    (h.diffs.isSome = true → h'.diffs.isSome = true) ∧ (Coherent h → Coherent h' ∧ h'.cap = h.cap) := by
  have hidx : (locate h.bins v).1 = false → h.bins ≠ [] → (locate h.bins v).2 < h.bins.length :=
    fun hn hne => locate_idx_lt hne hn
  obtain ⟨_, ⟨vi, fi, hb, _, rfl⟩ | ⟨_, ha⟩⟩ := update_cases hok
  · exact ⟨id, fun hc => ⟨coherent_exactHit hc hb, rfl⟩⟩
  · rcases afterHit_cases ha with hx | ⟨_, hd, hcd, hx⟩
    · obtain ⟨s, sc⟩ := insertTrim_spec hx
      refine ⟨fun hs => s.trans hs, fun hc => ?_⟩
      obtain ⟨a, _, _, _, b⟩ := sc hc hidx
      exact ⟨a, b⟩
    · obtain ⟨sd, bd, _, _, pd, cd⟩ := ensureDiffs_spec hcd
      rcases hx with hx | ⟨ib, _, hx⟩
      · obtain ⟨s, sc⟩ := insertTrim_spec hx
        refine ⟨fun _ => s.trans sd, fun hc => ?_⟩
        obtain ⟨a, _, _, _, b⟩ := sc (cd hc) (by rw [bd]; exact hidx)
        exact ⟨a, b.trans pd⟩
      · obtain ⟨s, sc⟩ := trimInPlace_spec hx
        refine ⟨fun _ => s.trans sd, fun hc => ?_⟩
        obtain ⟨a, _, _, b, _⟩ := sc (cd hc)
        exact ⟨a, b.trans pd⟩

theorem foldUpdate_spec (bs : List (K × K)) {h h' : Hist K}
    (hok : bs.foldlM (fun acc b => update acc b.1 b.2) h = .ok h') :
    (h.diffs.isSome = true → h'.diffs.isSome = true) ∧ (Coherent h → Coherent h') :=
  foldUpdate_induct (P := fun x => (h.diffs.isSome = true → x.diffs.isSome = true) ∧ (Coherent h → Coherent x))
    (fun hp hu => ⟨fun hs => (update_spec hu).1 (hp.1 hs), fun hc => ((update_spec hu).2 (hp.2 hc)).1⟩) bs ⟨id, id⟩ hok

/-- `+` only rewrites the bounds of the state `m` the merge left: with the right operand's, when it has both or neither. -/
theorem add_spec {h t h' : Hist K} (hok : add h t = .ok h') :
    ∃ m a b, merge h t.bins = .ok m ∧ h' = { m with min := a, max := b } ∧
      ((t.min = none ↔ t.max = none) → a = optMin m.min t.min ∧ b = optMax m.max t.max) := by
  rw [add_def] at hok
  obtain ⟨m, hm, hok⟩ := Except.bind_eq_ok hok
  split at hok
  · rename_i a b c d ha hb hc hd
    cases hok
    exact ⟨m, _, _, hm, rfl, fun _ => by rw [ha, hb, hc, hd]; exact ⟨rfl, rfl⟩⟩
  · rename_i hc
    cases hok
    exact ⟨h', h'.min, h'.max, hm, rfl, fun ht => by
      rw [hc, ht.mp hc, optMin_none_right, optMax_none_right]; exact ⟨rfl, rfl⟩⟩
  · cases hok

/-- bulk load only rewrites the bounds of the state `m` the fold of updates left: widened by the data's, when `m` has
both or neither. -/
theorem bulk_spec {h h' : Hist K} {pairs : List (K × K)} {lo hi : K} (hok : bulk h pairs lo hi = .ok h') :
    ∃ m a b, (pairs.filter (fun p => decide (0 < p.2))).foldlM (fun acc b => update acc b.1 b.2) h = .ok m ∧
      h' = { m with min := a, max := b } ∧
      ((m.min = none ↔ m.max = none) → a = some (minO m.min lo) ∧ b = some (maxO m.max hi)) := by
  rw [bulk_def] at hok
  obtain ⟨m, hm, hok⟩ := Except.bind_eq_ok hok
  split at hok
  · rename_i a b ha hb
    cases hok
    exact ⟨m, _, _, hm, rfl, fun _ => by rw [ha, hb]; exact ⟨rfl, rfl⟩⟩
  · rename_i hmn
    cases hok
    exact ⟨m, _, _, hm, rfl, fun ht => by rw [hmn, ht.mp hmn]; exact ⟨rfl, rfl⟩⟩
  · cases hok

/-! ## the states the faithful machine reaches -/

theorem coherent_init (cap : Nat) : Coherent (Hist.init cap : Hist K) := by
  intro d hd; simp [Hist.init] at hd

theorem coherent_load (bins : List (K × K)) (mn mx : Option K) (hne : bins ≠ []) : Coherent (load bins mn mx) := by
  rw [load_def]
  intro d hd
  cases hd
  exact ⟨hne, rfl, listMin_isMin _⟩

/-- States the faithful machine reaches: any tree of successful `update`, `merge`, `+`, bulk load and
dump/load (of a non-empty histogram — `dump()` raises on an empty one). -/
inductive FBuilt : Hist K → Prop
  | init (cap : Nat) : FBuilt (Hist.init cap)
  | update {h h' : Hist K} (v c : K) : FBuilt h → update h v c = .ok h' → FBuilt h'
  | merge {h t h' : Hist K} : FBuilt h → FBuilt t → merge h t.bins = .ok h' → FBuilt h'
  | add {h t h' : Hist K} : FBuilt h → FBuilt t → add h t = .ok h' → FBuilt h'
  | bulk {h h' : Hist K} (pairs : List (K × K)) (lo hi : K) : FBuilt h → bulk h pairs lo hi = .ok h' → FBuilt h'
  | load {h : Hist K} : FBuilt h → h.bins ≠ [] → FBuilt (load h.bins h.min h.max)

end Distogram
