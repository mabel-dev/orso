import OrsoVerif.Model.Estimators
import OrsoVerif.Lemmas.DistogramBins
/-!
# Lemmas for C14: interpolation on one segment, and the interior trapezoid of `count_at`
over any linear ordered field, by induction over a strictly increasing list of bins.
`countBelow` and the gluing of two monotone pieces (`MonoOn.glue`) come first: they need the order alone.  The equations of
`mass` need a field as well; from `MonoOn.map_add` on the order has to be compatible with the arithmetic.
-/
namespace Distogram

variable {K : Type} [LinearOrder K]

theorem countBelow_cons (x : K) (b : K × K) (l : List (K × K)) :
    countBelow x (b :: l) = (if b.1 < x then 1 else 0) + countBelow x l := by
  unfold countBelow
  rw [List.filter_cons]
  by_cases h : b.1 < x
  · simp only [h, decide_true, if_true, List.length_cons]; omega
  · simp only [h, decide_false, Bool.false_eq_true, if_false, Nat.zero_add]

theorem countBelow_zero (x : K) (l : List (K × K)) (h : ∀ b ∈ l, x ≤ b.1) : countBelow x l = 0 :=
  List.length_eq_zero_iff.mpr (List.filter_eq_nil_iff.mpr fun b hb => by simpa using h b hb)

/-- On `D`, `f` answers, does not decrease and stays within `[a, b]`: the form in which definedness, monotonicity and range
of every piece of `count_at` and `quantile`, and of the two functions themselves, are carried together. -/
def MonoOn (D : K → Prop) (f : K → Option K) (a b : K) : Prop :=
  ∀ p q, D p → D q → p ≤ q → ∃ r1 r2, f p = some r1 ∧ f q = some r2 ∧ a ≤ r1 ∧ r1 ≤ r2 ∧ r2 ≤ b

theorem MonoOn.of_eq {D : K → Prop} {f : K → Option K} {a b p q r1 r2 : K} (h : MonoOn D f a b) (dp : D p) (dq : D q)
    (hpq : p ≤ q) (e1 : f p = some r1) (e2 : f q = some r2) : a ≤ r1 ∧ r1 ≤ r2 ∧ r2 ≤ b := by
  obtain ⟨_, _, e1', e2', h⟩ := h p q dp dq hpq
  cases e1'.symm.trans e1
  cases e2'.symm.trans e2
  exact h

theorem MonoOn.const {D : K → Prop} {a k b : K} (h1 : a ≤ k) (h2 : k ≤ b) : MonoOn D (fun _ => some k) a b :=
  fun _ _ _ _ _ => ⟨k, k, rfl, rfl, h1, le_rfl, h2⟩

theorem MonoOn.comp {D : K → Prop} {f : K → Option K} {a b : K} (h : MonoOn D f a b) (g : K → K)
    (hg : ∀ p q, p ≤ q → g p ≤ g q) : MonoOn (fun z => D (g z)) (fun z => f (g z)) a b :=
  fun p q dp dq hpq => h (g p) (g q) dp dq (hg p q hpq)

theorem MonoOn.glue {f A B : K → Option K} {c D DA DB : K → Prop} {a m b : K} (hc : ∀ p q, p ≤ q → c q → c p)
    (ham : a ≤ m) (hmb : m ≤ b) (mA : MonoOn DA A a m) (mB : MonoOn DB B m b)
    (hA : ∀ z, D z → c z → DA z ∧ f z = A z) (hB : ∀ z, D z → ¬ c z → DB z ∧ f z = B z) : MonoOn D f a b := by
  intro p q dp dq hpq
  by_cases cq : c q
  · obtain ⟨ap, ep⟩ := hA p dp (hc p q hpq cq)
    obtain ⟨aq, eq⟩ := hA q dq cq
    obtain ⟨r1, r2, e1, e2, l, k, u⟩ := mA p q ap aq hpq
    exact ⟨r1, r2, ep.trans e1, eq.trans e2, l, k, u.trans hmb⟩
  obtain ⟨bq, eq⟩ := hB q dq cq
  by_cases cp : c p
  · obtain ⟨ap, ep⟩ := hA p dp cp
    obtain ⟨r1, _, e1, _, l, k, u⟩ := mA p p ap ap le_rfl
    obtain ⟨_, r2, _, e2, l2, k2, u2⟩ := mB q q bq bq le_rfl
    exact ⟨r1, r2, ep.trans e1, eq.trans e2, l, (k.trans u).trans (l2.trans k2), u2⟩
  · obtain ⟨bp, ep⟩ := hB p dp cp
    obtain ⟨r1, r2, e1, e2, l, k, u⟩ := mB p q bp bq hpq
    exact ⟨r1, r2, ep.trans e1, eq.trans e2, ham.trans l, k, u⟩

variable [Field K]

theorem sumCounts_eq_mass : ∀ (l : List (K × K)), sumCounts l = mass l
  | [] => rfl
  | b :: rest => by rw [sumCounts, mass_cons, sumCounts_eq_mass rest]

theorem mass_dropLast (l : List (K × K)) (bl : K × K) (h : l.getLast? = some bl) : mass l = mass l.dropLast + bl.2 := by
  conv_lhs => rw [← List.dropLast_append_getLast? bl h]
  rw [mass_append, mass_cons, mass_nil, add_zero]

variable [IsStrictOrderedRing K]

theorem MonoOn.map_add {D : K → Prop} {f : K → Option K} {a b : K} (h : MonoOn D f a b) (k : K) :
    MonoOn D (fun z => (f z).map (fun r => k + r)) (k + a) (k + b) := by
  intro p q dp dq hpq
  obtain ⟨r1, r2, e1, e2, l, m, u⟩ := h p q dp dq hpq
  exact ⟨_, _, congrArg _ e1, congrArg _ e2, add_le_add_right l k, add_le_add_right m k, add_le_add_right u k⟩

theorem mass_nonneg {l : List (K × K)} (hp : Pos l) : 0 ≤ mass l :=
  List.sum_nonneg (List.forall_mem_map.mpr fun b hb => (hp b hb).le)

theorem mass_pos {l : List (K × K)} (hne : l ≠ []) (hp : Pos l) : 0 < mass l :=
  List.sum_pos _ (List.forall_mem_map.mpr hp) (mt List.map_eq_nil_iff.mp hne)

theorem mem_le_mass (l : List (K × K)) (b : K × K) (hp : Pos l) (h : b ∈ l) : b.2 ≤ mass l :=
  List.single_le_sum (List.forall_mem_map.mpr fun c hc => (hp c hc).le) _ (List.mem_map_of_mem h)

/-! Every branch of `quantile` and both tails of `count_at` are an interpolation `a + p / d * (b - a)` with `0 ≤ p ≤ d`
between the values at the two ends of a segment. -/

theorem lerp_between {a b p q d : K} (hab : a ≤ b) (hd : 0 < d) (h0 : 0 ≤ p) (hpq : p ≤ q) (h1 : q ≤ d) :
    a ≤ a + p / d * (b - a) ∧ a + p / d * (b - a) ≤ a + q / d * (b - a) ∧ a + q / d * (b - a) ≤ b :=
  ⟨le_add_of_nonneg_right (mul_nonneg (div_nonneg h0 hd.le) (sub_nonneg.mpr hab)),
    add_le_add_right (mul_le_mul_of_nonneg_right (div_le_div_of_nonneg_right hpq hd.le) (sub_nonneg.mpr hab)) a,
    le_sub_iff_add_le'.mp (mul_le_of_le_one_left (sub_nonneg.mpr hab) ((div_le_one hd).mpr h1))⟩

theorem lerp_monoOn {a b d : K} (g : K → K) (hg : ∀ p q, p ≤ q → g p ≤ g q) (hab : a ≤ b) (hd : 0 < d) :
    MonoOn (fun z => 0 ≤ g z ∧ g z ≤ d) (fun z => some (a + g z / d * (b - a))) a b :=
  fun p q dp dq hpq => ⟨_, _, rfl, rfl, lerp_between hab hd dp.1 (hg p q hpq) dq.2⟩

/-- The area under the line from height `fi` to height `fj` up to the fraction `t` of the segment grows with `t`:
the difference is `(u - t)` times the mean height over `[t, u]`, which is
`(fi * ((1 - t) + (1 - u)) + fj * (t + u)) / 2`. -/
theorem trapezoid_mono {fi fj t u : K} (hfi : 0 ≤ fi) (hfj : 0 ≤ fj) (h0 : 0 ≤ t) (htu : t ≤ u) (h1 : u ≤ 1) :
    fi * t + (fj - fi) * t ^ 2 / 2 ≤ fi * u + (fj - fi) * u ^ 2 / 2 := by
  have := mul_nonneg (sub_nonneg.mpr htu)
    (add_nonneg (mul_nonneg hfi (add_nonneg (sub_nonneg.mpr (htu.trans h1)) (sub_nonneg.mpr h1)))
      (mul_nonneg hfj (add_nonneg h0 (h0.trans htu))))
  linarith

theorem seg_eq (S vi fi vj fj x : K) :
    seg S vi fi vj fj x =
      S + fi / 2 + (fi * ((x - vi) / (vj - vi)) + (fj - fi) * ((x - vi) / (vj - vi)) ^ 2 / 2) := by
  unfold seg Gen.DistogramExpr.countInteriorResult Gen.DistogramExpr.countMb; ring

theorem seg_shift (a S vi fi vj fj x : K) : seg (a + S) vi fi vj fj x = a + seg S vi fi vj fj x := by
  rw [seg_eq, seg_eq]; ring

theorem seg_left (S vi fi vj fj : K) : seg S vi fi vj fj vi = S + fi / 2 := by
  rw [seg_eq, sub_self, zero_div]; ring

theorem seg_right (S vi fi vj fj : K) (h : vi < vj) : seg S vi fi vj fj vj = S + fi + fj / 2 := by
  rw [seg_eq, div_self (sub_pos.mpr h).ne']; ring

theorem seg_mono (S vi fi vj fj x y : K) (h : vi < vj) (hfi : 0 < fi) (hfj : 0 < fj)
    (hx : vi ≤ x) (hxy : x ≤ y) (hy : y ≤ vj) :
    seg S vi fi vj fj x ≤ seg S vi fi vj fj y := by
  have hd : 0 < vj - vi := sub_pos.mpr h
  rw [seg_eq, seg_eq]
  exact add_le_add_right (trapezoid_mono hfi.le hfj.le (div_nonneg (sub_nonneg.mpr hx) hd.le)
    (div_le_div_of_nonneg_right (sub_le_sub_right hxy vi) hd.le)
    ((div_le_one hd).mpr (sub_le_sub_right hy vi))) _

theorem seg_monoOn (S vi fi vj fj : K) (h : vi < vj) (hfi : 0 < fi) (hfj : 0 < fj) :
    MonoOn (fun z => vi ≤ z ∧ z ≤ vj) (fun z => some (seg S vi fi vj fj z)) (S + fi / 2) (S + fi + fj / 2) := by
  intro p q dp dq hpq
  refine ⟨_, _, rfl, rfl, ?_, seg_mono S vi fi vj fj p q h hfi hfj dp.1 hpq dq.2, ?_⟩
  · rw [← seg_left S vi fi vj fj]
    exact seg_mono S vi fi vj fj vi p h hfi hfj le_rfl dp.1 dp.2
  · rw [← seg_right S vi fi vj fj h]
    exact seg_mono S vi fi vj fj q vj h hfi hfj dq.1 dq.2 le_rfl

theorem mass_dropLast_half (l : List (K × K)) (bl : K × K) (h : l.getLast? = some bl) :
    mass l.dropLast + bl.2 / 2 = mass l - bl.2 / 2 := by
  rw [mass_dropLast l bl h, add_sub_assoc, sub_half]

/-- With two bins or more the level of the first centre (half its count) lies strictly below the level of the last (the total
less half its count). -/
theorem half_lt_top {b c bl : K × K} {rest : List (K × K)} (hp : Pos (b :: c :: rest)) (hl : (c :: rest).getLast? = some bl) :
    b.2 / 2 < mass (b :: c :: rest) - bl.2 / 2 := by
  have hmem := List.mem_of_getLast? hl
  rw [mass_cons, add_sub_assoc]
  exact (half_lt_self (pos_cons hp).1).trans_le (le_add_of_nonneg_right (sub_nonneg.mpr
    ((half_le_self ((pos_cons hp).2 _ hmem).le).trans (mem_le_mass _ bl (pos_cons hp).2 hmem))))

/-- With a single bin the two levels are the same. -/
theorem half_le_top {l : List (K × K)} {b bl : K × K} (hp : Pos l) (hh : l.head? = some b) (hl : l.getLast? = some bl) :
    b.2 / 2 ≤ mass l - bl.2 / 2 := by
  obtain ⟨rest, rfl⟩ := List.head?_eq_some_iff.mp hh
  cases rest with
  | nil =>
    obtain rfl : b = bl := Option.some.inj hl
    rw [mass_singleton, sub_half]
  | cons c rest => exact (half_lt_top hp hl).le

omit [IsStrictOrderedRing K] in
theorem interior_first (b0 b1 : K × K) (rest : List (K × K)) (x : K)
    (hi : Inc (b0 :: b1 :: rest)) (h0 : b0.1 < x) (h1 : x ≤ b1.1) :
    interior (b0 :: b1 :: rest) x = some (seg 0 b0.1 b0.2 b1.1 b1.2 x) := by
  have hc : countBelow x (b0 :: b1 :: rest) = 1 := by
    rw [countBelow_cons, if_pos h0,
      countBelow_zero x _ (fun b hb => le_trans h1 (pairwise_head_le Prod.fst (inc_cons_cons hi).2 b hb))]
  unfold interior
  simp only [hc, Nat.sub_self, List.getElem?_cons_zero, Nat.zero_add, List.getElem?_cons_succ, List.take_zero, sumCounts]

theorem interior_next (b0 b1 : K × K) (rest : List (K × K)) (x : K)
    (hi : Inc (b0 :: b1 :: rest)) (h1 : b1.1 < x) :
    interior (b0 :: b1 :: rest) x = (interior (b1 :: rest) x).map (fun r => b0.2 + r) := by
  have hc : countBelow x (b0 :: b1 :: rest) = 1 + countBelow x (b1 :: rest) := by
    rw [countBelow_cons, if_pos (lt_trans (inc_cons_cons hi).1 h1)]
  obtain ⟨c, hcc⟩ : ∃ c, countBelow x (b1 :: rest) = c + 1 := ⟨countBelow x rest, by
    rw [countBelow_cons, if_pos h1, Nat.add_comm]⟩
  unfold interior
  rw [hc, hcc]
  simp only [show 1 + (c + 1) - 1 = c + 1 by omega, Nat.add_sub_cancel, List.getElem?_cons_succ, List.take_succ_cons,
    sumCounts]
  rcases (b1 :: rest)[c]? with _ | ⟨vi, fi⟩
  · rfl
  · rcases rest[c]? with _ | ⟨vj, fj⟩
    · rfl
    · simp only [Option.map_some, seg_shift]

/-- On the first segment by `seg_monoOn`, across the second centre because the segments meet there, further right by
induction. -/
theorem interior_monoOn {l : List (K × K)} {b0 bl : K × K} (hh : l.head? = some b0) (hl : l.getLast? = some bl)
    (hi : Inc l) (hp : Pos l) :
    MonoOn (fun z => b0.1 < z ∧ z ≤ bl.1) (interior l) (b0.2 / 2) (mass l - bl.2 / 2) := by
  obtain ⟨tail, rfl⟩ := List.head?_eq_some_iff.mp hh
  clear hh
  induction tail generalizing b0 with
  | nil =>
    obtain rfl : b0 = bl := Option.some.inj hl
    exact fun p _ d => absurd d.1 (not_lt.mpr d.2)
  | cons b1 rest ih =>
    obtain ⟨hv, hi'⟩ := inc_cons_cons hi
    obtain ⟨hf0, hp'⟩ := pos_cons hp
    rw [List.getLast?_cons_cons] at hl
    have first := seg_monoOn 0 b0.1 b0.2 b1.1 b1.2 hv hf0 (pos_cons hp').1
    rw [zero_add, zero_add] at first
    rw [mass_cons, add_sub_assoc]
    refine MonoOn.glue (c := fun z => z ≤ b1.1) (fun _ _ => le_trans) ?_ ?_ first ((ih hl hi' hp').map_add b0.2)
      (fun z d c => ⟨⟨d.1.le, c⟩, interior_first b0 b1 rest z hi d.1 c⟩)
      (fun z d c => ⟨⟨not_le.mp c, d.2⟩, interior_next b0 b1 rest z hi (not_le.mp c)⟩)
    · exact (half_le_self hf0.le).trans (le_add_of_nonneg_right (half_pos (pos_cons hp').1).le)
    · exact add_le_add_right (half_le_top hp' rfl hl) _

end Distogram
