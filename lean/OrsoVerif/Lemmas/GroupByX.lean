import OrsoVerif.Model.GroupByX
import OrsoVerif.Model.GroupByCode
import OrsoVerif.Lemmas.GroupBy
/-! Float value columns (`Model/GroupByX.lean`).  Python's left fold of float additions is the order-free `sumOfFloats`
(`xtotal_eq`: the specification follows the fold one value at a time, `sumOfFloats_concat`); `xleast` / `xgreatest` are
`leastBy`, and `XVal.lt` is total where no NaN occurs; on finite values `xfold` is `fold` (`xfold_map_fin`), so `fold_perm`
is a case of `xfold_perm`.  The second part is `cls` of `Lemmas/GroupByCode.lean` again for the tests on a float value:
`bodyOkX`, decided on `xKinds`, determines the loop body on every value. -/
namespace GroupBy

theorem XVal.add_nan (a : XVal) : a.add .nan = .nan := by
  cases a <;> rfl

def finPart (vs : List XVal) : List Int := vs.filterMap fun | .fin i => some i | _ => none

/-- The sum of floats as usually defined (specification side): NaN as soon as a NaN is among the
values or both infinities are; otherwise the infinity that is among them; otherwise the (exact) sum
of the values.  Nothing in it depends on the order of the values. -/
def sumOfFloats (vs : List XVal) : XVal :=
  if XVal.nan ∈ vs ∨ (XVal.pinf ∈ vs ∧ XVal.ninf ∈ vs) then .nan
  else if XVal.pinf ∈ vs then .pinf
  else if XVal.ninf ∈ vs then .ninf
  else .fin (finPart vs).sum

theorem sumOfFloats_concat (vs : List XVal) (v : XVal) :
    sumOfFloats (vs ++ [v]) = (sumOfFloats vs).add v := by
  unfold sumOfFloats
  cases v with
  | nan => rw [if_pos (Or.inl (List.mem_append_right _ List.mem_cons_self)), XVal.add_nan]
  | fin i =>
    -- a finite value changes none of the tests and is added in the last branch
    simp only [List.mem_append, List.mem_singleton, reduceCtorEq, or_false, finPart, List.filterMap_append,
      List.filterMap_cons, List.filterMap_nil, List.sum_append, List.sum_cons, List.sum_nil, Int.add_zero,
      apply_ite (XVal.add · (.fin i))]
    rfl
  | pinf | ninf =>
    by_cases hn : XVal.nan ∈ vs
    · -- a NaN among the values already: both sides are NaN
      rw [if_pos (Or.inl hn), if_pos (Or.inl (List.mem_append_left _ hn))]
      rfl
    · -- otherwise by which infinities are among them
      by_cases hp : XVal.pinf ∈ vs <;> by_cases hm : XVal.ninf ∈ vs <;>
        simp only [XVal.add, hn, hp, hm, List.mem_append, List.mem_singleton, reduceCtorEq, and_self, or_self,
          or_true, or_false, and_true, and_false, ↓reduceIte]

theorem foldl_add_sumOfFloats (vs pre : List XVal) :
    vs.foldl XVal.add (sumOfFloats pre) = sumOfFloats (pre ++ vs) := by
  induction vs generalizing pre with
  | nil => rw [List.append_nil]; rfl
  | cons v vs ih => rw [List.foldl_cons, ← sumOfFloats_concat, ih, List.append_assoc, List.singleton_append]

theorem xtotal_eq (vs : List XVal) : xtotal vs = sumOfFloats vs :=
  foldl_add_sumOfFloats vs []

theorem sumOfFloats_perm {vs ws : List XVal} (h : vs.Perm ws) : sumOfFloats vs = sumOfFloats ws := by
  have hfin : (finPart vs).sum = (finPart ws).sum := by
    rw [← total_eq_sum, ← total_eq_sum]
    exact total_perm (h.filterMap _)
  unfold sumOfFloats
  simp only [h.mem_iff, hfin]

theorem xtotal_perm {vs ws : List XVal} (h : vs.Perm ws) : xtotal vs = xtotal ws := by
  rw [xtotal_eq, xtotal_eq, sumOfFloats_perm h]

theorem xfold_sum_eq (vs : List XVal) : xfold .sum vs = if vs = [] then .null else .val (xtotal vs) := by
  cases vs <;> rfl

theorem xfold_avg_eq (vs : List XVal) :
    xfold .avg vs = if vs = [] then .null else
      match xtotal vs with | .fin s => .ratio s vs.length | x => .val x := by
  cases vs <;> rfl

theorem xtotal_map_fin (vs : List Int) : xtotal (vs.map .fin) = .fin (total vs) := by
  unfold xtotal total
  rw [List.foldl_map]
  exact List.foldl_hom XVal.fin fun _ _ => rfl

theorem XVal.lt_fin (a b : Int) : (XVal.fin a).lt (.fin b) = decide (a < b) := rfl

theorem xleast_eq_leastBy (vs : List XVal) : xleast vs = leastBy XVal.lt vs := by
  cases vs <;> rfl

theorem xgreatest_eq_leastBy (vs : List XVal) : xgreatest vs = leastBy (fun a b => XVal.lt b a) vs := by
  cases vs <;> rfl

theorem xfold_map_fin (f : Func) (vs : List Int) : xfold f (vs.map .fin) = XAgg.ofAgg (fold f vs) := by
  cases f with
  | count => simp [xfold, fold, XAgg.ofAgg]
  | min =>
    simp only [xfold, fold, xleast_eq_leastBy, leastBy_map _ XVal.lt .fin XVal.lt_fin, ← least_eq_leastBy]
    cases least vs <;> rfl
  | max =>
    simp only [xfold, fold, xgreatest_eq_leastBy, leastBy_map _ (fun a b => XVal.lt b a) .fin fun a b => XVal.lt_fin b a,
      ← greatest_eq_leastBy]
    cases greatest vs <;> rfl
  | sum =>
    rw [xfold_sum_eq, fold_sum_eq, xtotal_map_fin, total_eq_sum]
    cases vs <;> rfl
  | avg =>
    rw [xfold_avg_eq, fold_avg_eq, xtotal_map_fin, total_eq_sum, List.length_map]
    cases vs <;> rfl

theorem nonNull_map_fin {ρ : Type} (cell : ρ → String → Option Int) (rs : List ρ) (c : String) :
    nonNull (fun r c => (cell r c).map XVal.fin) rs c = (nonNull cell rs c).map .fin :=
  (List.map_filterMap ..).symm

theorem XVal.lt_irrefl (a : XVal) : a.lt a = false := by
  cases a <;> first | rfl | exact int_lt_irrefl _

theorem XVal.lt_trans (a b c : XVal) (hab : a.lt b = true) (hbc : b.lt c = true) : a.lt c = true := by
  cases a <;> cases b <;> first | cases hab | skip
  all_goals cases c <;> first | rfl | cases hbc | exact int_lt_trans _ _ _ hab hbc

theorem XVal.lt_total {a b : XVal} (ha : a ≠ .nan) (hb : b ≠ .nan) (hab : a ≠ b) :
    a.lt b = true ∨ b.lt a = true := by
  cases a <;> cases b <;> simp_all [XVal.lt] <;> omega

theorem XVal.lt_total_on {vs : List XVal} (hn : XVal.nan ∉ vs) :
    ∀ a ∈ vs, ∀ b ∈ vs, a ≠ b → a.lt b = true ∨ b.lt a = true :=
  fun _ ha _ hb hab => XVal.lt_total (fun e => hn (e ▸ ha)) (fun e => hn (e ▸ hb)) hab

theorem xfold_perm (f : Func) {vs ws : List XVal} (hp : vs.Perm ws)
    (hn : (f = .min ∨ f = .max) → XVal.nan ∉ vs) : xfold f vs = xfold f ws := by
  have hnil : vs = [] ↔ ws = [] := by
    rw [← List.length_eq_zero_iff, hp.length_eq, List.length_eq_zero_iff]
  cases f with
  | count => simp [xfold, hp.length_eq]
  | min =>
    simp only [xfold, xleast_eq_leastBy,
      leastBy_perm XVal.lt XVal.lt_irrefl XVal.lt_trans (XVal.lt_total_on (hn (Or.inl rfl))) hp]
  | max =>
    simp only [xfold, xgreatest_eq_leastBy,
      leastBy_flip_perm XVal.lt XVal.lt_irrefl XVal.lt_trans (XVal.lt_total_on (hn (Or.inr rfl))) hp]
  | sum => simp only [xfold_sum_eq, xtotal_perm hp, hnil]
  | avg => simp only [xfold_avg_eq, xtotal_perm hp, hp.length_eq, hnil]

theorem XAgg.ofAgg_injective : Function.Injective XAgg.ofAgg := by
  intro a b h
  cases a <;> cases b <;> cases h <;> rfl

/-- The integer folds are the float folds on finite values, none of which is a NaN. -/
theorem fold_perm (f : Func) {vs ws : List Int} (h : vs.Perm ws) : fold f vs = fold f ws := by
  apply XAgg.ofAgg_injective
  rw [← xfold_map_fin, ← xfold_map_fin]
  refine xfold_perm f (h.map _) fun _ hm => ?_
  obtain ⟨_, _, h⟩ := List.mem_map.mp hm
  cases h

end GroupBy

namespace GroupByCode
open GroupBy GroupByIR

/-- The kind of a value, as far as the tests of `Guard` can tell. -/
def clsX : Option XVal → Option XVal
  | some (.fin i) => if i = 0 then some (.fin 0) else some (.fin 1)
  | v => v

theorem holdsX_cls (g : Guard) (v : Option XVal) : holdsX g v = holdsX g (clsX v) := by
  cases v with
  | none => rfl
  | some x =>
    cases x with
    | fin i =>
      by_cases hi : i = 0
      · subst hi; rfl
      · cases g <;> simp [holdsX, clsX, hi]
    | _ => rfl

theorem guardsHoldX_cls (gs : List Guard) (v : Option XVal) : guardsHoldX gs v = guardsHoldX gs (clsX v) :=
  congrArg gs.all (funext fun g => holdsX_cls g v)

theorem effectX_cls (body : List (List Guard × Action)) (v : Option XVal) :
    effectX body v = effectX body (clsX v) := by
  unfold effectX
  rw [funext fun ga : List Guard × Action => guardsHoldX_cls ga.1 v]

theorem clsX_mem (v : XVal) : ∃ k ∈ xKinds, clsX (some v) = some k := by
  cases v with
  | fin i =>
    by_cases hi : i = 0
    · exact ⟨.fin 0, List.mem_cons_self, if_pos hi⟩
    · exact ⟨.fin 1, List.mem_cons_of_mem _ List.mem_cons_self, if_neg hi⟩
  | pinf => exact ⟨.pinf, by decide, rfl⟩
  | ninf => exact ⟨.ninf, by decide, rfl⟩
  | nan => exact ⟨.nan, by decide, rfl⟩

theorem bodyOkX_sound {body : List (List Guard × Action)} (h : bodyOkX body = true) :
    (effectX body none ≠ [] ∧ ∀ a ∈ effectX body none, a = Action.touch)
    ∧ ∀ v : XVal, ((effectX body (some v)).filter isAppend).length = 1 := by
  unfold bodyOkX at h
  simp only [Bool.and_eq_true, bne_iff_ne, ne_eq, List.all_eq_true, beq_iff_eq] at h
  obtain ⟨⟨h1, h2⟩, h3⟩ := h
  refine ⟨⟨h1, h2⟩, fun v => ?_⟩
  obtain ⟨k, hk, hv⟩ := clsX_mem v
  rw [effectX_cls, hv]
  exact h3 k hk

theorem yieldOkX_sound {gs : List Guard} (h : yieldOkX gs = true) (v : Option XVal) :
    guardsHoldX gs v = true := by
  unfold yieldOkX at h
  simp only [Bool.and_eq_true, List.all_eq_true] at h
  cases v with
  | none => exact h.1
  | some x =>
    obtain ⟨k, hk, hv⟩ := clsX_mem x
    rw [guardsHoldX_cls, hv]
    exact h.2 k hk

end GroupByCode
