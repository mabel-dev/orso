import OrsoVerif.Lemmas.DistogramSource
import OrsoVerif.Lemmas.DistogramBounds
/-!
# The cache of adjacent differences of the faithful machine, through one `_update_diffs`

`Coherent h`: whenever `diffs` is set it is the list of adjacent differences of the bins and `min_diff` is its minimum.
`_update_diffs(h, i)` restores it (`updateDiffs_coherent`) from a cache that is right outside the positions `Pend` it
rewrites; `Track P st` is what is known of `min_diff` while the positions `P` are still stale.
-/
namespace Distogram
-- the lemmas on gaps use of the field only its subtraction and nothing of the order, those on `Track` only the order
set_option linter.unusedSectionVars false

variable {K : Type} [Field K] [LinearOrder K]

/-- The gap right of bin `k`, if both bins exist. -/
def gapAt (bins : List (K × K)) (k : Nat) : Option K :=
  match bins[k]?, bins[k + 1]? with
  | some a, some b => some (b.1 - a.1)
  | _, _ => none

theorem gaps_getElem? : ∀ (bins : List (K × K)) (k : Nat), (gaps bins)[k]? = gapAt bins k
  | [], _ => rfl
  | [_], 0 => rfl
  | [_], _ + 1 => rfl
  | _ :: _ :: _, 0 => rfl
  | _ :: b :: rest, k + 1 => gaps_getElem? (b :: rest) k

theorem eq_gaps_iff (d : List K) (bins : List (K × K)) : d = gaps bins ↔ ∀ k, d[k]? = gapAt bins k := by
  constructor
  · intro h k; rw [h, gaps_getElem?]
  · intro h; apply List.ext_getElem?; intro k; rw [h k, gaps_getElem?]

/-- `md` is the minimum of `d` (`none` = +∞ exactly when `d` is empty).  It unfolds to `IsMinOf md d` of the bounds
bookkeeping, so `isMinOf_minO` serves for the cached minimum as well. -/
def IsMinOpt (md : Option K) (d : List K) : Prop :=
  match md with
  | none => d = []
  | some m => m ∈ d ∧ ∀ x ∈ d, m ≤ x

/-- each step of the fold that is `min(d)` is the running minimum `minO` over one more entry -/
theorem foldl_min_isMin : ∀ (xs B : List K) (m : K), IsMinOpt (some m) B →
    IsMinOpt (some (xs.foldl (fun m y => if y < m then y else m) m)) (B ++ xs) := by
  intro xs
  induction xs with
  | nil => intro B m h; rw [List.append_nil]; exact h
  | cons z zs ih =>
    intro B m h
    rw [List.append_cons]
    exact ih (B ++ [z]) _ (isMinOf_minO (o := some m) (B := B) h z)

theorem listMin_isMin : ∀ d : List K, IsMinOpt (listMin d) d
  | [] => rfl
  | x :: xs => foldl_min_isMin xs [x] x (isMinOf_minO (o := none) (B := []) rfl x)

/-- `if new gap < min_diff: min_diff = new gap` takes the running minimum (`none` = +∞) -/
theorem lowerMinDiff_eq (x : K) (m : Option K) : (if ltMinDiff x m then some x else m) = some (minO m x) := by
  cases m with
  | none => rfl
  | some y =>
    show (if decide (x < y) = true then some x else some y) = some (if x < y then x else y)
    simp only [decide_eq_true_eq]
    split <;> rfl

theorem eqMinDiff_iff (x : K) (m : Option K) : eqMinDiff x m = true ↔ m = some x := by
  cases m with
  | none => exact ⟨fun h => (nomatch h), fun h => (nomatch h)⟩
  | some y =>
    show eqK x y = true ↔ some y = some x
    rw [eqK_iff', Option.some.injEq]
    exact eq_comm

/-- The cache of a faithful state: when `diffs` is set, the histogram is not empty, `diffs` are the
adjacent differences and `min_diff` is their minimum. -/
def Coherent (h : Hist K) : Prop :=
  ∀ d, h.diffs = some d → h.bins ≠ [] ∧ d = gaps h.bins ∧ IsMinOpt h.minDiff d

/-! ## one block of `_update_diffs` -/

/-- `min_diff` tracking while some positions `P` of the cache are still stale: unless a recomputation
is already scheduled, `min_diff` bounds every settled entry and is attained somewhere. -/
def Track (P : Nat → Prop) (st : List K × Option K × Bool) : Prop :=
  st.2.2 = false →
    (∀ k x, ¬ P k → st.1[k]? = some x → ∃ m, st.2.1 = some m ∧ m ≤ x) ∧
    (∀ m, st.2.1 = some m → ∃ k : Nat, st.1[k]? = some m)

/-- How tracking starts: `md` was the minimum of the cache `d` before it was edited into `d'`. -/
theorem track_of_isMin {P : Nat → Prop} {d d' : List K} {md : Option K} (h : IsMinOpt md d)
    (hsub : ∀ k x, ¬ P k → d'[k]? = some x → x ∈ d) (hsup : ∀ x ∈ d, x ∈ d') : Track P (d', md, false) := by
  intro _
  cases md with
  | none =>
    cases (show d = [] from h)
    exact ⟨fun k x hk hx => (nomatch hsub k x hk hx), fun m hm => (nomatch hm)⟩
  | some m =>
    obtain ⟨hm, hall⟩ := h
    refine ⟨fun k x hk hx => ⟨m, rfl, hall x (hsub k x hk hx)⟩, fun m' hm' => ?_⟩
    cases hm'
    exact List.getElem?_of_mem (hsup m hm)

theorem pointUpdate_ok {st st' : List K × Option K × Bool} {j : Nat} {nd : K}
    (h : pointUpdate st j nd = .ok st') :
    ∃ old, st.1[j]? = some old ∧ st'.1 = st.1.set j nd ∧
      st'.2.1 = some (minO st.2.1 nd) ∧
      st'.2.2 = (st.2.2 || eqMinDiff old st.2.1) := by
  unfold pointUpdate at h
  split at h
  · rename_i old ho
    cases h
    exact ⟨old, ho, rfl, lowerMinDiff_eq nd st.2.1, rfl⟩
  · cases h

theorem pointUpdate_track {P : Nat → Prop} {st st' : List K × Option K × Bool} {j : Nat} {nd : K}
    (ht : Track P st) (h : pointUpdate st j nd = .ok st') :
    Track (fun k => P k ∧ k ≠ j) st' := by
  obtain ⟨old, ho, hd, hm, hu⟩ := pointUpdate_ok h
  have hj : j < st.1.length := (List.getElem?_eq_some_iff.mp ho).1
  intro hf
  rw [hu] at hf
  obtain ⟨hf1, hf2⟩ := Bool.or_eq_false_iff.mp hf
  obtain ⟨lb, att⟩ := ht hf1
  rw [hm, hd]
  constructor
  · intro k x hk hx
    refine ⟨_, rfl, ?_⟩
    rw [List.getElem?_set] at hx
    by_cases hjk : j = k
    · rw [if_pos hjk, if_pos hj] at hx
      cases hx
      exact minO_le_val _ _
    · rw [if_neg hjk] at hx
      obtain ⟨m, hm1, hm2⟩ := lb k x (fun hp => hk ⟨hp, fun e => hjk e.symm⟩) hx
      rw [hm1]
      exact le_trans (minO_le_old m nd) hm2
  · intro m hm'
    cases hm'
    rcases minO_cases st.2.1 nd with e | e
    · rw [e]
      exact ⟨j, by rw [List.getElem?_set, if_pos rfl, if_pos hj]⟩
    · -- the old minimum stands, and it is not the replaced entry: that would have scheduled a recomputation
      obtain ⟨k, hk⟩ := att _ e
      have hkj : j ≠ k := by
        intro ejk
        rw [← ejk, ho] at hk
        cases hk
        rw [(eqMinDiff_iff _ _).mpr e] at hf2
        cases hf2
      exact ⟨k, by rw [List.getElem?_set, if_neg hkj]; exact hk⟩

theorem track_congr {P Q : Nat → Prop} {st : List K × Option K × Bool} (h : ∀ k, P k ↔ Q k) (ht : Track P st) :
    Track Q st := by
  unfold Track at ht ⊢
  intro hf
  obtain ⟨lb, att⟩ := ht hf
  exact ⟨fun k x hk hx => lb k x (fun hp => hk ((h k).mp hp)) hx, att⟩

theorem diffBlock_ok {bins : List (K × K)} {st st' : List K × Option K × Bool} {c : Bool} {j : Nat}
    (hb : diffBlock bins st c j = .ok st') :
    (c = false ∧ st' = st) ∨ (c = true ∧ ∃ nd, gapAt bins j = some nd ∧ pointUpdate st j nd = .ok st') := by
  rw [diffBlock_def] at hb
  cases c with
  | false => cases hb; exact Or.inl ⟨rfl, rfl⟩
  | true =>
    rw [if_pos rfl] at hb
    split at hb
    · rename_i bn bi hbn hbi
      exact Or.inr ⟨rfl, bn.1 - bi.1, by simp only [gapAt, hbn, hbi], hb⟩
    · cases hb

/-- a block that runs (`c`) settles position `j`: the stale positions shrink from `P` to `P` without `j` -/
theorem block_pt {bins : List (K × K)} {st st' : List K × Option K × Bool} {c : Bool}
    {j : Nat} {P : Nat → Prop}
    (hb : diffBlock bins st c j = .ok st') (hpt : ∀ k, ¬ P k → st.1[k]? = gapAt bins k) :
    ∀ k, ¬ (P k ∧ ¬ (c = true ∧ k = j)) → st'.1[k]? = gapAt bins k := by
  intro k hk
  rcases diffBlock_ok hb with ⟨hc, rfl⟩ | ⟨hc, nd, hnd, hpu⟩
  · exact hpt k fun hp => hk ⟨hp, fun e => by rw [hc] at e; cases e.1⟩
  · obtain ⟨old, ho, hd, _, _⟩ := pointUpdate_ok hpu
    have hj : j < st.1.length := (List.getElem?_eq_some_iff.mp ho).1
    rw [hd, List.getElem?_set]
    by_cases hjk : j = k
    · subst hjk
      rw [if_pos rfl, if_pos hj, hnd]
    · rw [if_neg hjk]
      exact hpt k fun hp => hk ⟨hp, fun e => hjk e.2.symm⟩

theorem block_track {bins : List (K × K)} {st st' : List K × Option K × Bool} {c : Bool}
    {j : Nat} {P : Nat → Prop}
    (hb : diffBlock bins st c j = .ok st') (ht : Track P st) :
    Track (fun k => P k ∧ ¬ (c = true ∧ k = j)) st' := by
  rcases diffBlock_ok hb with ⟨hc, rfl⟩ | ⟨hc, nd, _, hpu⟩
  · exact track_congr (fun k => by simp [hc]) ht
  · exact track_congr (fun k => by simp [hc]) (pointUpdate_track ht hpu)

/-! ## `_update_diffs` as a whole -/

/-- The cache positions `_update_diffs(h, i)` rewrites: the gap left of bin `i` and the gap right of it. -/
def Pend (len i : Nat) (k : Nat) : Prop := (0 < i ∧ k = i - 1) ∨ (i + 1 < len ∧ k = i)

/-- The two blocks of `_update_diffs(h, i)` leave no position of `Pend len i` unsettled. -/
theorem pend_done (len i k : Nat) :
    ((Pend len i k ∧ ¬ (decide (0 < i) = true ∧ k = i - 1)) ∧ ¬ (decide (i + 1 < len) = true ∧ k = i)) ↔ False :=
  ⟨fun ⟨⟨hp, hl⟩, hr⟩ => Or.elim hp (fun a => hl ⟨decide_eq_true a.1, a.2⟩) (fun b => hr ⟨decide_eq_true b.1, b.2⟩),
    False.elim⟩

theorem track_done {st : List K × Option K × Bool} {md : Option K} (ht : Track (fun _ => False) st)
    (hmd : finishMin st = .ok md) : IsMinOpt md st.1 := by
  unfold finishMin at hmd
  split at hmd
  · split at hmd
    · rename_i m hl
      cases hmd
      rw [← hl]
      exact listMin_isMin _
    · cases hmd
  · rename_i hu
    cases hmd
    obtain ⟨lb, att⟩ := ht ((Bool.not_eq_true _).mp hu)
    cases hm : st.2.1 with
    | none =>
      show st.1 = []
      cases hd : st.1 with
      | nil => rfl
      | cons x xs =>
        obtain ⟨m, h1, _⟩ := lb 0 x id (by rw [hd]; rfl)
        rw [hm] at h1
        cases h1
    | some m =>
      obtain ⟨k, hk⟩ := att m hm
      refine ⟨List.mem_of_getElem? hk, fun x hx => ?_⟩
      obtain ⟨k', hk'⟩ := List.getElem?_of_mem hx
      obtain ⟨m', h1, h2⟩ := lb k' x id hk'
      rw [hm] at h1
      cases h1
      exact h2

/-- `_update_diffs(h, i)` touches nothing but the cache and leaves it set or unset as it was.  On a cache that is right
outside the positions it rewrites, the differences are restored whatever `min_diff` was, and `min_diff` with them if it
was tracking the settled entries. -/
theorem updateDiffs_spec {h h' : Hist K} {i : Nat} (hok : updateDiffs h i = .ok h') :
    h'.bins = h.bins ∧ h'.min = h.min ∧ h'.max = h.max ∧ h'.cap = h.cap ∧ h'.diffs.isSome = h.diffs.isSome ∧
    ∀ d0, h.diffs = some d0 → (∀ k, ¬ Pend h.bins.length i k → d0[k]? = gapAt h.bins k) →
      h'.diffs = some (gaps h.bins) ∧
      (Track (Pend h.bins.length i) (d0, h.minDiff, false) → IsMinOpt h'.minDiff (gaps h.bins)) := by
  rw [updateDiffs_def] at hok
  split at hok
  · rename_i hd
    cases hok
    exact ⟨rfl, rfl, rfl, rfl, rfl, fun d0 hd0 => nomatch hd.symm.trans hd0⟩
  · rename_i d hd
    obtain ⟨s1, h1, hok⟩ := Except.bind_eq_ok hok
    obtain ⟨s2, h2, hok⟩ := Except.bind_eq_ok hok
    obtain ⟨md, h3, hok⟩ := Except.bind_eq_ok hok
    cases hok
    refine ⟨rfl, rfl, rfl, rfl, by rw [hd]; rfl, fun d0 hd0 hpt => ?_⟩
    cases hd.symm.trans hd0
    have hg : s2.1 = gaps h.bins :=
      (eq_gaps_iff _ _).mpr fun k => block_pt h2 (block_pt h1 hpt) k (fun hp => (pend_done _ _ _).mp hp)
    refine ⟨congrArg some hg, fun htr => ?_⟩
    rw [← hg]
    exact track_done (track_congr (pend_done _ _) (block_track h2 (block_track h1 htr))) h3

theorem updateDiffs_coherent {h h' : Hist K} {i : Nat} (hok : updateDiffs h i = .ok h')
    (hne : h.bins ≠ [])
    (hpre : ∀ d, h.diffs = some d →
      (∀ k, ¬ Pend h.bins.length i k → d[k]? = gapAt h.bins k) ∧
      Track (Pend h.bins.length i) (d, h.minDiff, false)) : Coherent h' := by
  obtain ⟨e1, _, _, _, es, hs⟩ := updateDiffs_spec hok
  intro d' hd'
  cases hd : h.diffs with
  | none => rw [hd, hd'] at es; cases es
  | some d0 =>
    obtain ⟨e5, e6⟩ := hs d0 hd (hpre d0 hd).1
    cases e5.symm.trans hd'
    rw [e1]
    exact ⟨hne, rfl, e6 (hpre d0 hd).2⟩

end Distogram
