import OrsoVerif.Model.GroupByCode
/-! Sessions in which the caller edits the key-column list it handed to `group_by`: when `__init__`
stored a new object, the edits are invisible — the session is the sequence of its calls. -/
namespace GroupByCode
open GroupBy GroupByIR

theorem runSessionC_copied (P : Program) (fr : Frame) (objs : List (List String)) (idxs : List (List Nat))
    (evs : List Ev)
    (hidx : ∀ c ∈ callsOf evs, (objs.getD c.1 []).mapM (fun n => index n fr.columns) = some (idxs.getD c.1 []))
    (src : Source (List PyVal)) (sts : Nat → ObjState (List PyVal) (List PyVal)) (cur : Nat → List String) :
    runSessionC P true fr objs src sts cur evs =
      ((callsOf evs).zip (runCallsC P (identOf pyHashKey P.key) (fun g => keyAt (idxs.getD g []))
          (cellOfC P.value P.colIndex fr.columns) src sts (callsOf evs))).map fun co =>
        render P (objs.getD co.1.1 []) co.1.2 co.2 := by
  induction evs generalizing src sts cur with
  | nil => rfl
  | cons ev rest ih =>
    cases ev with
    | edit g ks =>
      simp only [runSessionC, callsOf]
      exact ih hidx _ _ _
    | call g op =>
      have hrest : ∀ c ∈ callsOf rest, (objs.getD c.1 []).mapM (fun n => index n fr.columns) = some (idxs.getD c.1 []) :=
        fun c hc => hidx c (by simp [callsOf, hc])
      have hg := hidx (g, op) (by simp [callsOf])
      simp only at hg
      simp only [runSessionC, callsOf, keyColsAt, if_true, hg, runCallsC, List.zip_cons_cons, List.map_cons]
      rw [ih hrest]

theorem runSessionF_copied (P : Program) (fr : Frame) (lazy : Bool) (objs : List (List String))
    (idxs : List (List Nat)) (evs : List Ev)
    (hidx : ∀ c ∈ callsOf evs, (objs.getD c.1 []).mapM (fun n => index n fr.columns) = some (idxs.getD c.1 [])) :
    runSessionF P true fr lazy objs evs = runCallsF P fr lazy objs idxs (callsOf evs) := by
  unfold runSessionF runCallsF
  exact runSessionC_copied P fr objs idxs evs hidx _ _ _

end GroupByCode
