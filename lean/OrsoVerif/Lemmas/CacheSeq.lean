import OrsoVerif.Model.Cache
import OrsoVerif.Lemmas.Basics
/-! C19: the sequential machines (`singleRun`, `lruRun`) and what their traces satisfy. -/
namespace Cache
variable {K : Type} [DecidableEq K]

/-- The specification of the single-item cache as a predicate on the observable trace
(`last` = the previous call's event) and the final invocation log:
* every call returns a value the function produced for equal arguments no longer ago than
  the validity period;
* the function is NOT invoked iff the previous call was for equal arguments and what it
  returned is still within the validity period ("the last call only");
* a call that does not invoke the function returns what the previous call returned;
* an invocation is logged with this call's key at this call's time and its value is returned. -/
def SingleSpec (valid : Option Int) (log : List (K × Int)) : Option (Ev K) → List (Ev K) → Prop
  | _, [] => True
  | last, e :: es =>
    (∃ tm, log[e.ret]? = some (e.key, tm) ∧ fresh valid e.now tm = true) ∧
    (e.invoked = false ↔
      ∃ p tm, last = some p ∧ p.key = e.key ∧ log[p.ret]? = some (p.key, tm) ∧ fresh valid e.now tm = true) ∧
    (e.invoked = false → ∃ p, last = some p ∧ e.ret = p.ret) ∧
    (e.invoked = true → log[e.ret]? = some (e.key, e.now)) ∧
    SingleSpec valid log (some e) es

/-- the state holds exactly what the last call returned -/
def Held (s : SState K) : Option (Ev K) → Prop
  | none => s.entry = none
  | some p => ∃ tm, s.entry = some { key := p.key, res := p.ret, time := tm } ∧ s.log[p.ret]? = some (p.key, tm)

theorem singleCall_cases (valid : Option Int) (cost : K → Int) (s : SState K) (k : K) :
    (∃ e, s.entry = some e ∧ e.key = k ∧ fresh valid s.now e.time = true ∧
        singleCall valid cost s k = (s, { key := k, now := s.now, ret := e.res, invoked := false })) ∨
    ((¬ ∃ e, s.entry = some e ∧ e.key = k ∧ fresh valid s.now e.time = true) ∧
        singleCall valid cost s k = singleMiss cost s k) := by
  unfold singleCall
  cases hs : s.entry with
  | none => right; exact ⟨by simp, rfl⟩
  | some e =>
    by_cases h : e.key = k ∧ fresh valid s.now e.time = true
    · left; exact ⟨e, rfl, h.1, h.2, by simp [h]⟩
    · right
      refine ⟨?_, by simp [h]⟩
      rintro ⟨e', he', hk, hf⟩
      cases he'; exact h ⟨hk, hf⟩

theorem singleCall_ev (valid : Option Int) (cost : K → Int) (s : SState K) (k : K) :
    (singleCall valid cost s k).2.key = k ∧ (singleCall valid cost s k).2.now = s.now := by
  unfold singleCall singleMiss
  cases s.entry with
  | none => exact ⟨rfl, rfl⟩
  | some e => by_cases h : e.key = k ∧ fresh valid s.now e.time = true <;> simp [h]

theorem singleRun_log (valid : Option Int) (cost : K → Int) (ops : List (Op K)) : ∀ s : SState K,
    (singleRun valid cost s ops).1.log =
      s.log ++ ((singleRun valid cost s ops).2.filter (·.invoked)).map (fun e => (e.key, e.now)) := by
  induction ops with
  | nil => intro s; exact (List.append_nil _).symm
  | cons op ops ih =>
    intro s
    cases op with
    | advance d => exact ih { s with now := s.now + d }
    | call k =>
      simp only [singleRun]
      rcases singleCall_cases valid cost s k with ⟨e, _, _, _, hc⟩ | ⟨_, hc⟩ <;> rw [hc]
      · exact ih s
      · exact (ih _).trans (List.append_assoc ..)

theorem fresh_self (valid : Option Int) (hv : ∀ v, valid = some v → 0 ≤ v) (now : Int) :
    fresh valid now now = true := by
  cases valid with
  | none => rfl
  | some v => exact decide_eq_true ((Int.sub_self now).symm ▸ hv v rfl)

theorem single_trace (valid : Option Int) (hv : ∀ v, valid = some v → 0 ≤ v) (cost : K → Int)
    (ops : List (Op K)) : ∀ (s : SState K) (last : Option (Ev K)), Held s last →
    SingleSpec valid (singleRun valid cost s ops).1.log last (singleRun valid cost s ops).2 := by
  induction ops with
  | nil => intro s last _; trivial
  | cons op ops ih =>
    intro s last hheld
    cases op with
    | advance d => exact ih { s with now := s.now + d } last (by cases last <;> exact hheld)
    | call k =>
      simp only [singleRun]
      have hl := singleRun_log valid cost ops (singleCall valid cost s k).1
      rcases singleCall_cases valid cost s k with ⟨e, hent, hk, hf, hc⟩ | ⟨hno, hc⟩
      · -- hit: the state holds what the previous call returned
        cases last with
        | none => exact nomatch hent.symm.trans hheld
        | some p =>
          obtain ⟨tm, hpe, hplog⟩ := hheld
          cases hent.symm.trans hpe
          obtain rfl : p.key = k := hk
          rw [hc] at hl ⊢
          have hfin : (singleRun valid cost s ops).1.log[p.ret]? = some (p.key, tm) := hl ▸ List.getElem?_append_of_eq_some _ hplog
          exact ⟨⟨tm, hfin, hf⟩, ⟨fun _ => ⟨p, tm, rfl, rfl, hfin, hf⟩, fun _ => rfl⟩, fun _ => ⟨p, rfl, rfl⟩, nofun,
            ih s _ ⟨tm, hpe, hplog⟩⟩
      · -- miss: the new invocation is logged and held; a previous call for the same key would have been a hit
        rw [hc] at hl ⊢
        have hnew : (singleRun valid cost (singleMiss cost s k).1 ops).1.log[s.log.length]? = some (k, s.now) :=
          hl ▸ List.getElem?_append_of_eq_some _ List.getElem?_concat_length
        refine ⟨⟨s.now, hnew, fresh_self valid hv s.now⟩, ⟨nofun, ?_⟩, nofun, fun _ => hnew,
          ih _ (some (singleMiss cost s k).2) ⟨s.now, rfl, List.getElem?_concat_length⟩⟩
        rintro ⟨p, tm, rfl, hpk, hplog, hpf⟩
        obtain ⟨tm', hent, hslog⟩ := hheld
        have h2 : (singleRun valid cost (singleMiss cost s k).1 ops).1.log[p.ret]? = some (p.key, tm') :=
          hl ▸ List.getElem?_append_of_eq_some _ (List.getElem?_append_of_eq_some [(k, s.now)] hslog)
        cases h2.symm.trans hplog
        exact absurd ⟨_, hent, hpk, hpf⟩ hno

/-! ### LRU cache, sequential -/

/-- a loop of deletions is one filter (`q e k`: entry `e` stays when key `k` is deleted) -/
theorem foldl_filter {ε κ : Type} (q : ε → κ → Bool) (ks : List κ) : ∀ c : List ε,
    ks.foldl (fun c k => c.filter (q · k)) c = c.filter (fun e => ks.all (q e)) := by
  induction ks with
  | nil => intro c; exact (List.filter_eq_self.mpr (fun _ _ => rfl)).symm
  | cons k ks ih =>
    intro c
    rw [List.foldl_cons, ih, List.filter_filter]
    exact List.filter_congr (fun _ _ => by rw [List.all_cons, Bool.and_comm])

/-- The expiry sweep of both LRU wrappers, for any entry type: delete the keys of the entries that `x` marks as
expired.  Provided an entry goes when its own key is deleted, what survives was there and is not expired. -/
theorem mem_sweepBy {ε κ : Type} (key : ε → κ) (q : ε → κ → Bool) (hq : ∀ e, q e (key e) = false) (x : ε → Bool)
    (c : List ε) {e : ε} (he : e ∈ ((c.filter x).map key).foldl (fun c k => c.filter (q · k)) c) :
    e ∈ c ∧ x e = false := by
  rw [foldl_filter] at he
  obtain ⟨hm, hall⟩ := List.mem_filter.mp he
  refine ⟨hm, Bool.eq_false_iff.mpr fun hx => ?_⟩
  -- an expired entry has its own key among the deleted ones
  have hk := List.all_eq_true.mp hall (key e) (List.mem_map.mpr ⟨e, List.mem_filter.mpr ⟨hm, hx⟩, rfl⟩)
  rw [hq] at hk
  cases hk

theorem mem_sweep {valid : Option Int} {now : Int} {c : List (LEntry K)} {e : LEntry K}
    (h : e ∈ sweep valid now c) : e ∈ c ∧ fresh valid now e.time = true := by
  have hx := mem_sweepBy LEntry.key (fun e k => decide (e.key ≠ k)) (fun e => decide_eq_false (fun h => h rfl))
    (fun e => !fresh valid now e.time) c (e := e) h
  exact ⟨hx.1, Bool.not_inj (y := true) hx.2⟩

/-- every stored entry is the logged invocation it claims to be -/
def LInv (s : LState K) : Prop := ∀ e ∈ s.cache, s.log[e.res]? = some (e.key, e.time)

theorem lruCall_cases (maxSize : Nat) (valid : Option Int) (cost : K → Int) (s : LState K) (k : K) :
    (∃ e, e ∈ sweep valid s.now s.cache ∧ e.key = k ∧
        lruCall maxSize valid cost s k =
          ({ s with cache := delKey (sweep valid s.now s.cache) k ++ [e] },
           { key := k, now := s.now, ret := e.res, invoked := false })) ∨
    ((∀ e ∈ sweep valid s.now s.cache, e.key ≠ k) ∧
      (lruCall maxSize valid cost s k).2 = { key := k, now := s.now, ret := s.log.length, invoked := true } ∧
      (lruCall maxSize valid cost s k).1.log = s.log ++ [(k, s.now)] ∧
      ∀ e ∈ (lruCall maxSize valid cost s k).1.cache,
        e ∈ sweep valid s.now s.cache ∨ e = { key := k, time := s.now, res := s.log.length }) := by
  cases hfind : (sweep valid s.now s.cache).find? (fun e => decide (e.key = k)) with
  | some e =>
    left
    exact ⟨e, List.mem_of_find?_eq_some hfind, by simpa using List.find?_some hfind, by simp only [lruCall, hfind]⟩
  | none =>
    right
    refine ⟨?_, by simp only [lruCall, hfind], by simp only [lruCall, hfind], ?_⟩
    · intro e he; simpa using List.find?_eq_none.mp hfind e he
    · intro e he
      simp only [lruCall, hfind] at he
      have he' : e ∈ sweep valid s.now s.cache ++ [{ key := k, time := s.now, res := s.log.length }] := by
        split at he
        · exact List.mem_of_mem_tail he
        · exact he
      rcases List.mem_append.mp he' with h | h
      · exact Or.inl h
      · exact Or.inr (by simpa using h)

theorem lruCall_ev (maxSize : Nat) (valid : Option Int) (cost : K → Int) (s : LState K) (k : K) :
    (lruCall maxSize valid cost s k).2.key = k ∧ (lruCall maxSize valid cost s k).2.now = s.now := by
  unfold lruCall
  simp only
  cases (sweep valid s.now s.cache).find? (fun e => decide (e.key = k)) <;> exact ⟨rfl, rfl⟩

theorem lruRun_log (maxSize : Nat) (valid : Option Int) (cost : K → Int) (ops : List (Op K)) : ∀ s : LState K,
    (lruRun maxSize valid cost s ops).1.log =
      s.log ++ ((lruRun maxSize valid cost s ops).2.filter (·.invoked)).map (fun e => (e.key, e.now)) := by
  induction ops with
  | nil => intro s; exact (List.append_nil _).symm
  | cons op ops ih =>
    intro s
    cases op with
    | advance d => exact ih { s with now := s.now + d }
    | call k =>
      simp only [lruRun]
      rcases lruCall_cases maxSize valid cost s k with ⟨e, _, _, hc⟩ | ⟨_, hev, hlog, _⟩
      · rw [hc]; exact ih _
      · rw [hev, ih, hlog]; exact List.append_assoc ..

theorem lruCall_ok (maxSize : Nat) (valid : Option Int) (hv : ∀ v, valid = some v → 0 ≤ v) (cost : K → Int)
    (s : LState K) (k : K) (hinv : LInv s) {r : LState K × Ev K} (hr : lruCall maxSize valid cost s k = r) :
    LInv r.1 ∧ (∃ tm, r.1.log[r.2.ret]? = some (r.2.key, tm) ∧ fresh valid r.2.now tm = true) ∧
    (r.2.invoked = true → r.1.log[r.2.ret]? = some (r.2.key, r.2.now)) := by
  subst hr
  rcases lruCall_cases maxSize valid cost s k with ⟨e, hmem, hk, hc⟩ | ⟨hno, hev, hlog, hcache⟩
  · obtain ⟨hm, hf⟩ := mem_sweep hmem
    rw [hc]
    refine ⟨fun e' he' => ?_, ⟨e.time, hk ▸ hinv e hm, hf⟩, nofun⟩
    rcases List.mem_append.mp he' with h | h
    · exact hinv e' (mem_sweep (List.mem_filter.mp h).1).1
    · rw [List.mem_singleton.mp h]; exact hinv e hm
  · have hnew : (s.log ++ [(k, s.now)])[s.log.length]? = some (k, s.now) := List.getElem?_concat_length
    rw [hev, hlog]
    refine ⟨fun e' he' => ?_, ⟨s.now, hnew, fresh_self valid hv s.now⟩, fun _ => hnew⟩
    rw [hlog]
    rcases hcache e' he' with h | rfl
    · exact List.getElem?_append_of_eq_some _ (hinv e' (mem_sweep h).1)
    · exact hnew

theorem lruRun_trace (maxSize : Nat) (valid : Option Int) (hv : ∀ v, valid = some v → 0 ≤ v)
    (cost : K → Int) (ops : List (Op K)) : ∀ s : LState K, LInv s →
    ∀ e ∈ (lruRun maxSize valid cost s ops).2,
      (∃ tm, (lruRun maxSize valid cost s ops).1.log[e.ret]? = some (e.key, tm) ∧ fresh valid e.now tm = true) ∧
      (e.invoked = true → (lruRun maxSize valid cost s ops).1.log[e.ret]? = some (e.key, e.now)) := by
  induction ops with
  | nil => intro s _; exact nofun
  | cons op ops ih =>
    intro s hinv
    cases op with
    | advance d => exact ih { s with now := s.now + d } hinv
    | call k =>
      obtain ⟨hinv', ⟨tm, htm, hf⟩, hinvk⟩ := lruCall_ok maxSize valid hv cost s k hinv rfl
      have hl := lruRun_log maxSize valid cost ops (lruCall maxSize valid cost s k).1
      rw [lruRun]
      intro e he
      rcases List.mem_cons.mp he with rfl | h
      · exact ⟨⟨tm, hl ▸ List.getElem?_append_of_eq_some _ htm, hf⟩, fun hi => hl ▸ List.getElem?_append_of_eq_some _ (hinvk hi)⟩
      · exact ih _ hinv' e h

end Cache
