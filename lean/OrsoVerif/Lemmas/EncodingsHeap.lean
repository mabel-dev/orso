import OrsoVerif.Model.Np

/-! Reading, writing and allocating on the heap of arrays (`Enc.Heap`): what a write to one address leaves
alone, what a new array leaves alone and what leaves it alone (`Heap.alloc_spec`, `Heap.alloc_survives_writes`). -/
namespace Enc
variable {α : Type}

theorem heap_read_write (h : Heap α) (a b : Nat) (xs : List α) :
    (h.write a xs).read b = if b = a ∧ a < h.cells.length then xs else h.read b := by
  simp only [Heap.write, Heap.read, List.getElem?_set]
  by_cases hab : a = b
  · subst hab; by_cases hl : a < h.cells.length <;> simp [hl]
  · simp [hab, Ne.symm hab]

theorem heap_write_length (h : Heap α) (a : Nat) (xs : List α) : (h.write a xs).cells.length = h.cells.length := by
  simp [Heap.write]

theorem heap_writes_length (h : Heap α) (ws : List (Nat × List α)) : (h.writes ws).cells.length = h.cells.length := by
  induction ws generalizing h with
  | nil => rfl
  | cons w ws ih => rw [Heap.writes, ih, heap_write_length]

theorem heap_read_writes_off (h : Heap α) (ws : List (Nat × List α)) (b : Nat) (hb : ∀ w ∈ ws, w.1 ≠ b) :
    (h.writes ws).read b = h.read b := by
  induction ws generalizing h with
  | nil => rfl
  | cons w ws ih =>
    rw [Heap.writes, ih _ fun w hw => hb w (List.mem_cons_of_mem _ hw), heap_read_write,
      if_neg fun e => hb _ List.mem_cons_self e.1.symm]

theorem heap_read_alloc (h : Heap α) (xs : List α) (a : Nat) :
    (h.alloc xs).1.read a = if a = h.cells.length then xs else h.read a := by
  unfold Heap.alloc Heap.read
  rcases Nat.lt_trichotomy a h.cells.length with hlt | rfl | hgt
  · rw [if_neg (Nat.ne_of_lt hlt), List.getElem?_append_left hlt]
  · simp
  · rw [if_neg (Nat.ne_of_gt hgt), List.getElem?_eq_none (by simp; omega), List.getElem?_eq_none (by omega)]

theorem heap_alloc_length (h : Heap α) (xs : List α) : (h.alloc xs).1.cells.length = h.cells.length + 1 := by
  simp [Heap.alloc]

theorem Heap.alloc_spec (h : Heap α) (xs : List α) :
    (∀ a, a < h.cells.length → (h.alloc xs).1.read a = h.read a) ∧ (h.alloc xs).1.read (h.alloc xs).2 = xs :=
  ⟨fun a ha => (heap_read_alloc h xs a).trans (if_neg (Nat.ne_of_lt ha)), (heap_read_alloc h xs _).trans (if_pos rfl)⟩

theorem Heap.alloc_survives_writes (h : Heap α) (xs : List α) (ws : List (Nat × List α))
    (hws : ∀ w ∈ ws, w.1 < h.cells.length) : ((h.alloc xs).1.writes ws).read (h.alloc xs).2 = xs :=
  (heap_read_writes_off _ ws _ fun w hw => Nat.ne_of_lt (hws w hw)).trans (Heap.alloc_spec h xs).2

theorem materializeAt_fresh (decode : List α → List α) (h : Heap α) (s : Nat) :
    materializeAt .fresh decode h s = ((h.alloc (decode (h.read s))).1, .owned h.cells.length) := rfl

theorem constructAt_own (encode : List α → List α) (h : Heap α) (i : Nat) :
    constructAt .own encode h i = ((h.alloc (encode (h.read i))).1, h.cells.length) := rfl

theorem constructAt_alias (encode : List α → List α) (h : Heap α) (i : Nat) :
    constructAt .aliasInput encode h i = (h, i) := rfl

end Enc
