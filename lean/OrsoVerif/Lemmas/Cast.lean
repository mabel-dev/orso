import OrsoVerif.Model.Cast
import OrsoVerif.Lemmas.IsoDigits
import OrsoVerif.Lemmas.Basics
/-! Lemmas about the cast model of C07 (`Model/Cast.lean`), parser by parser. -/
namespace Cast

@[simp] theorem bind_ok {ε α β : Type} (a : α) (f : α → Except ε β) : (Except.ok a : Except ε α).bind f = f a := rfl
@[simp] theorem bind_error {ε α β : Type} (e : ε) (f : α → Except ε β) :
    (Except.error e : Except ε α).bind f = .error e := rfl

theorem toDigits_isDigit (n : Nat) : ∀ c ∈ Nat.toDigits 10 n, c.isDigit = true :=
  fun _ hc => Nat.isDigit_of_mem_toDigits (by decide) (by decide) hc

theorem renderInt_cases (n : Int) :
    (n < 0 ∧ renderInt n = '-' :: Nat.toDigits 10 n.natAbs) ∨ (0 ≤ n ∧ renderInt n = Nat.toDigits 10 n.natAbs) := by
  unfold renderInt renderNat
  by_cases h : n < 0
  · left; exact ⟨h, by rw [if_pos h]⟩
  · right; exact ⟨by omega, by rw [if_neg h]⟩

theorem renderInt_forall {P : Char → Prop} (hm : P '-') (hd : ∀ c : Char, c.isDigit = true → P c) (n : Int) :
    ∀ c ∈ renderInt n, P c := by
  intro c hc
  rcases renderInt_cases n with ⟨_, hr⟩ | ⟨_, hr⟩ <;> rw [hr] at hc
  · rcases List.mem_cons.mp hc with rfl | hc
    · exact hm
    · exact hd c (toDigits_isDigit _ c hc)
  · exact hd c (toDigits_isDigit _ c hc)

theorem renderInt_no_ws (n : Int) : ∀ c ∈ renderInt n, Iso.isWs c = false :=
  renderInt_forall (by decide) (fun _ => Iso.isWs_of_isDigit) n

theorem pyInt_renderInt (n : Int) (h : (Nat.toDigits 10 n.natAbs).length ≤ Iso.maxStrDigits) :
    Iso.pyInt (renderInt n) = .ok n := by
  have hd := toDigits_isDigit n.natAbs
  have hne : Nat.toDigits 10 n.natAbs ≠ [] := Nat.toDigits_ne_nil
  rcases renderInt_cases n with ⟨hn, hr⟩ | ⟨hn, hr⟩
  · unfold Iso.pyInt
    rw [Iso.strip_of_no_ws _ (renderInt_no_ws n), hr]
    simp only [if_true, Iso.pyNat_digits _ hne hd h, Nat.ofDigitChars_ten_toDigits, Iso.bind_ok]
    congr 1
    omega
  · rw [hr, Iso.pyInt_digits _ hne hd h, Nat.ofDigitChars_ten_toDigits]
    congr 1
    omega

theorem pyPrefix_prefix {α : Type} (xs : List α) (stop : Int) : pyPrefix xs stop <+: xs := by
  unfold pyPrefix
  split <;> exact List.take_prefix _ _

theorem limitWith_prefix {α : Type} (test : Int → Bool) (stop : Int → Int) (n : Option Nat) (xs : List α) :
    limitWith test stop n xs <+: xs := by
  unfold limitWith
  split
  · exact List.prefix_refl _
  · split
    · exact pyPrefix_prefix _ _
    · exact List.prefix_refl _

/-- What the prefix theorems need from the generated `if <test>:` and `[:<stop>]`. -/
structure LimitFacts (test : Int → Bool) (stop : Int → Int) : Prop where
  zero : test 0 = false
  pos : ∀ k : Nat, test ((k + 1 : Nat) : Int) = true ∧ stop ((k + 1 : Nat) : Int) = ((k + 1 : Nat) : Int)

theorem limitWith_longest {α : Type} {test : Int → Bool} {stop : Int → Int} (L : LimitFacts test stop)
    (n : Option Nat) (xs : List α) :
    (match n with
     | none => limitWith test stop n xs = xs
     | some 0 => limitWith test stop n xs = xs
     | some (k + 1) => (limitWith test stop n xs).length ≤ k + 1 ∧
        ∀ q, q <+: xs → q.length ≤ k + 1 → q <+: limitWith test stop n xs) := by
  match n with
  | none => rfl
  | some 0 =>
    show (if test ((0 : Nat) : Int) = true then _ else xs) = xs
    have : test ((0 : Nat) : Int) = false := L.zero
    rw [this]; rfl
  | some (k + 1) =>
    obtain ⟨h1, h2⟩ := L.pos k
    have e : limitWith test stop (some (k + 1)) xs = xs.take (k + 1) := by
      simp only [limitWith, h1, if_true, h2, pyPrefix]
      rw [if_pos (by omega)]
      congr 1
    simp only [e, List.length_take]
    refine ⟨Nat.min_le_left _ _, ?_⟩
    intro q hq hl
    rw [List.prefix_take_iff]
    exact ⟨hq, hl⟩

/-- What the property needs from the early `return None` of `OrsoTypes.parse` (test extracted from
the source): it is taken for `None`, and for nothing else (whatever the value's truthiness). -/
structure NullFacts : Prop where
  onNone : Gen.Cast.nullGuard True True
  onlyNone : ∀ falsy : Prop, ¬ Gen.Cast.nullGuard False falsy

theorem parseVia_none (N : NullFacts) (run : Val → Except Exc Val) : parseVia run none = .ok none := by
  simp only [parseVia, N.onNone, if_true]

theorem parseVia_some (N : NullFacts) (run : Val → Except Exc Val) (v : Val) :
    parseVia run (some v) = (run v).bind fun r => .ok (some r) := by
  simp only [parseVia, N.onlyNone, if_false]

theorem parseVia_ok_some (N : NullFacts) (run : Val → Except Exc Val) (x : Option Val) (r : Val)
    (h : parseVia run x = .ok (some r)) : ∃ v, x = some v ∧ run v = .ok r := by
  cases x with
  | none => rw [parseVia_none N] at h; cases h
  | some v =>
    rw [parseVia_some N] at h
    obtain ⟨r', hr, h⟩ := Except.bind_eq_ok h
    cases h
    exact ⟨v, rfl, hr⟩

theorem parseArray_none (fot : List Char → Option UInt64) (xs : List (Option Val)) : parseArray fot none xs = .ok xs := by
  cases xs <;> rfl

theorem parseArray_ok (fot : List Char → Option UInt64) (t : Ty)
    (xs rs : List (Option Val)) (h : parseArray fot (some t) xs = .ok rs) :
    rs.length = xs.length ∧ ∀ i (h : i < xs.length) (h' : i < rs.length), parse fot t xs[i] = .ok rs[i] := by
  induction xs generalizing rs with
  | nil => cases h; exact ⟨rfl, fun i hi => absurd hi (Nat.not_lt_zero _)⟩
  | cons x xs ih =>
    obtain ⟨r, hx, h⟩ := Except.bind_eq_ok h
    obtain ⟨rs', hr, h⟩ := Except.bind_eq_ok h
    cases h
    obtain ⟨hl, hi⟩ := ih rs' hr
    refine ⟨congrArg (· + 1) hl, fun i h1 h2 => ?_⟩
    cases i with
    | zero => exact hx
    | succ j => exact hi j (Nat.lt_of_succ_lt_succ h1) (Nat.lt_of_succ_lt_succ h2)

theorem parseArray_map {α : Type} (fot : List Char → Option UInt64) (t : Ty) (g h : α → Option Val)
    (as : List α) (hp : ∀ a ∈ as, parse fot t (g a) = .ok (h a)) :
    parseArray fot (some t) (as.map g) = .ok (as.map h) := by
  induction as with
  | nil => rfl
  | cons a as ih =>
    simp only [List.map_cons, parseArray, hp a (List.mem_cons_self ..), bind_ok,
      ih (fun y hy => hp y (List.mem_cons_of_mem _ hy))]

theorem parseArray_identity (fot : List Char → Option UInt64) (t : Ty) (xs : List (Option Val))
    (h : ∀ x ∈ xs, parse fot t x = .ok x) : parseArray fot (some t) xs = .ok xs := by
  simpa only [List.map_id] using parseArray_map fot t id id xs h

/-! ### result classes -/

/-- The class table `ORSO_TO_PYTHON_MAP` (extracted on this run), type by type. -/
theorem Ty.cls_eq (t : Ty) :
    t.cls = match t with
      | .boolean => "bool" | .integer => "int" | .double => "float" | .decimal _ _ => "decimal.Decimal"
      | .varchar _ => "str" | .blob _ => "bytes" | .date => "datetime.date" | .timestamp => "datetime.datetime" := by
  cases t <;> simp [Ty.cls, Ty.name, Gen.Cast.pythonClass, List.lookup]

theorem parseBoolean_cls (v r : Val) (h : parseBoolean v = .ok r) : r.cls = "bool" := by
  cases v <;> simp only [parseBoolean] at h <;> cases h <;> rfl

theorem parseInteger_cls (v r : Val) (h : parseInteger v = .ok r) : r.cls = "int" := by
  have key : ∀ x : Except Exc Int, (x.bind fun n => Except.ok (Val.int n)) = .ok r → r.cls = "int" := by
    intro x hx
    obtain ⟨n, _, hn⟩ := Except.bind_eq_ok hx
    cases hn; rfl
  cases v <;> simp only [parseInteger] at h
  case bool b => cases h; rfl
  case int n => cases h; rfl
  case float b => exact key _ h
  case str s => exact key _ h
  case bytes b =>
    split at h
    · exact key _ h
    · cases h
  all_goals cases h

theorem parseDouble_cls (fot : List Char → Option UInt64) (v r : Val) (h : parseDouble fot v = .ok r) :
    r.cls = "float" := by
  cases v <;> simp only [parseDouble] at h
  case bool b => cases h; rfl
  case int n => split at h <;> cases h; rfl
  case float b => cases h; rfl
  case str s => split at h <;> cases h; rfl
  case bytes b =>
    split at h
    · split at h <;> cases h; rfl
    · cases h
  all_goals cases h

theorem parseVarchar_cls (n : Option Nat) (v r : Val) (h : parseVarchar n v = .ok r) : r.cls = "str" := by
  unfold parseVarchar at h
  split at h
  · split at h <;> cases h; rfl
  · split at h <;> cases h; rfl

theorem parseBlob_cls (n : Option Nat) (v r : Val) (h : parseBlob n v = .ok r) : r.cls = "bytes" := by
  unfold parseBlob at h
  split at h
  · cases h; rfl
  · split at h <;> cases h; rfl

theorem parseTemporal_cls (k : Iso.CastKind) (v r : Val) (h : parseTemporal k v = .ok r) (hk : k ≠ .time) :
    r.cls = match k with | .date => "datetime.date" | _ => "datetime.datetime" := by
  unfold parseTemporal at h
  cases k with
  | time => exact absurd rfl hk
  | date | timestamp =>
    unfold Iso.cast at h
    cases hp : Iso.parseIso (isoInput v) <;> rw [hp] at h <;> simp at h
    subst h; rfl

theorem factory_cls (p s : Nat) (x : Sum (List Char) Dec) (r : Val) (h : factory p s x = .ok r) :
    r.cls = "decimal.Decimal" := by
  unfold factory at h
  split at h
  · cases h
  · dsimp only at h
    split at h
    · cases h
    · split at h <;> cases h <;> rfl

theorem parseDecimal_cls (p s : Option Nat) (v r : Val) (h : parseDecimal p s v = .ok r) :
    r.cls = "decimal.Decimal" := by
  unfold parseDecimal at h
  dsimp only at h
  split at h
  · exact factory_cls _ _ _ _ h
  · exact factory_cls _ _ _ _ h
  · exact factory_cls _ _ _ _ h
  · split at h
    · exact factory_cls _ _ _ _ h
    · cases h
  · exact factory_cls _ _ _ _ h
  · cases h

/-! ### the decimal factory -/

/-- What the decimal theorems need from the generated factory expressions (`Gen.Cast`). -/
structure FactoryFacts : Prop where
  prec : ∀ p : Nat, Gen.Cast.contextPrec p = p
  scale : ∀ s : Nat, s ≤ 28 → Gen.Cast.quantExp (Gen.Cast.quantScale s) = -(s : Int)
  /-- the mode `roundQuot` implements; no proof reads this field, it is there for `C07.factory_expressions` to demand -/
  rounding : Gen.Cast.rounding = "ROUND_HALF_EVEN"
  pad : ∀ s : Nat, 0 ≤ Gen.Cast.padCount s ∧ Gen.Cast.padCount s ≤ s
  /-- every call builds its own context: the precision one cast rounds with is never written by another cast
  (which is what makes the model's `factory` a function of its arguments alone) -/
  privateContext : Gen.Cast.contextScope = "call"
  /-- the factory reads nothing of the interpreter's ambient state — not the calling thread's decimal context (its precision,
  rounding mode, exponent range, traps), no locale, environment or `sys` setting: everything it rounds or quantises with is
  the private context above and `self.scale` / `self.precision` (which is what lets the model's `factory` take no context argument) -/
  ambientFree : Gen.Cast.factoryAmbient = []

theorem roundTo_id (p : Nat) (neg : Bool) (c : Nat) (e : Int) (h : numDigits c ≤ p) :
    roundTo p (.fin neg c e) = .fin neg c e := by
  simp [roundTo, h]

theorem quantize_up (p : Nat) (q : Nat) (neg : Bool) (c : Nat) (e : Int) (he : -(q : Int) ≤ e)
    (hd : numDigits (c * 10 ^ (e + q).toNat) ≤ p) :
    quantize p (-(q : Int)) (.fin neg c e) = some (.fin neg (c * 10 ^ (e + q).toNat) (-(q : Int))) := by
  have e1 : (e - -(q : Int)).toNat = (e + q).toNat := by congr 1; omega
  have e2 : rescale c e (-(q : Int)) = c * 10 ^ (e + q).toNat := by
    simp only [rescale, ge_iff_le, he, if_true, e1]
  simp only [quantize, e2]
  rw [if_neg (by omega)]

theorem factory_eq (F : FactoryFacts) (p s : Nat) (hp : 1 ≤ p) (x : Sum (List Char) Dec) :
    factory p s x =
      match created p s x with
      | none => .error .invalidOperation
      | some d =>
        match quantize p (Gen.Cast.quantExp (Gen.Cast.quantScale s)) d with
        | some r => .ok (.dec r)
        | none => .ok (.dec d) := by
  unfold factory
  rw [F.prec p, if_neg (by omega)]
  rfl

theorem factory_quantized (F : FactoryFacts) (p s q : Nat)
    (hq : Gen.Cast.quantExp (Gen.Cast.quantScale s) = -(q : Int)) (neg : Bool) (c : Nat) (e : Int) (hp : 1 ≤ p)
    (he : -(q : Int) ≤ e) (hc : numDigits c ≤ p) (hd : numDigits (c * 10 ^ (e + q).toNat) ≤ p) :
    factory p s (.inr (.fin neg c e)) = .ok (.dec (.fin neg (c * 10 ^ (e + q).toNat) (-(q : Int)))) := by
  rw [factory_eq F p s hp]
  simp only [created, roundTo_id p neg c e hc, hq, quantize_up p q neg c e he hd]

theorem factory_fits (F : FactoryFacts) (p s : Nat) (neg : Bool) (c : Nat) (e : Int) (hp : 1 ≤ p)
    (hs : s ≤ 28) (he : -(s : Int) ≤ e) (hc : numDigits c ≤ p)
    (hd : numDigits (c * 10 ^ (e + s).toNat) ≤ p) :
    factory p s (.inr (.fin neg c e)) = .ok (.dec (.fin neg (c * 10 ^ (e + s).toNat) (-(s : Int)))) :=
  factory_quantized F p s s (F.scale s hs) neg c e hp he hc hd

theorem factory_congr (p s : Nat) {x y : Sum (List Char) Dec}
    (h : ∀ prec, created prec s x = created prec s y) : factory p s x = factory p s y := by
  simp only [factory, h]

theorem created_text (prec s : Nat) (t : List Char) (d : Dec) (h : decOfText (stripD (padText s t)) = some d) :
    created prec s (.inl t) = created prec s (.inr d) := by
  simp only [created, h, Option.map_some]

theorem factory_text (p s : Nat) (t : List Char)
    (hnd : (!t.isEmpty && allDigits t) = false) (d : Dec) (ht : decOfText (stripD t) = some d) :
    factory p s (.inl t) = factory p s (.inr d) :=
  factory_congr p s fun prec => created_text prec s t d (by
    rw [padText, if_neg (by rw [hnd]; exact Bool.false_ne_true)]; exact ht)

end Cast
