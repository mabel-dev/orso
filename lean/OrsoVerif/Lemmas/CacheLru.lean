import OrsoVerif.Lemmas.Cache
/-! C19, concurrent LRU wrapper: what is true of the dictionary (`AllOwn`, unique keys) and of a thread
at its program point (`Know`, `ThrOk`). -/
namespace Cache
variable {K : Type}

/-- every stored entry holds a result the wrapped function produced for the entry's key -/
def AllOwn (log : List (K × Int)) (items : List (LEntry K)) : Prop := ∀ e ∈ items, Own log e.key e.res

theorem AllOwn.mono {log log' : List (K × Int)} {items : List (LEntry K)} (hl : log <+: log') (h : AllOwn log items) :
    AllOwn log' items := fun e he => (h e he).mono hl

theorem AllOwn.tail {log : List (K × Int)} {x : LEntry K} {rest : List (LEntry K)}
    (h : AllOwn log (x :: rest)) : AllOwn log rest := fun e he => h e (List.mem_cons_of_mem _ he)

variable [DecidableEq K]

theorem AllOwn.delKey {log : List (K × Int)} {items : List (LEntry K)} (k : K) (h : AllOwn log items) :
    AllOwn log (delKey items k) := fun e he => h e (List.mem_filter.mp he).1

set_option linter.unusedSectionVars false in
theorem AllOwn.append {log : List (K × Int)} {items : List (LEntry K)} {e : LEntry K}
    (h : AllOwn log items) (he : Own log e.key e.res) : AllOwn log (items ++ [e]) := by
  intro e' hm
  rcases List.mem_append.mp hm with h1 | h1
  · exact h e' h1
  · cases List.mem_singleton.mp h1; exact he

theorem AllOwn.replace {log : List (K × Int)} {items : List (LEntry K)} {e : LEntry K} (k : K)
    (h : AllOwn log items) (he : Own log e.key e.res) :
    AllOwn log (items.map (fun e' => if e'.key = k then e else e')) := by
  intro e' hm
  obtain ⟨x, hx, rfl⟩ := List.mem_map.mp hm
  split
  · exact he
  · exact h x hx

def keysOf (items : List (LEntry K)) : List K := items.map (·.key)

theorem keysOf_delKey (items : List (LEntry K)) (k : K) :
    keysOf (delKey items k) = (keysOf items).filter (fun x => x ≠ k) := by
  unfold keysOf delKey
  rw [List.filter_map]
  rfl

theorem any_key_iff (items : List (LEntry K)) (k : K) :
    items.any (fun e => e.key = k) = true ↔ k ∈ keysOf items := by
  simp only [keysOf, List.any_eq_true, List.mem_map, decide_eq_true_eq]

theorem find_key_some (items : List (LEntry K)) (k : K) (h : k ∈ keysOf items) :
    ∃ e, items.find? (fun e => e.key = k) = some e ∧ e.key = k := by
  cases hf : items.find? (fun e => e.key = k) with
  | none =>
    obtain ⟨e, he, hk⟩ := List.mem_map.mp h
    exact absurd (by simpa using hk) (List.find?_eq_none.mp hf e he)
  | some e => exact ⟨e, rfl, by simpa using List.find?_some hf⟩

theorem keysOf_replace (items : List (LEntry K)) (e : LEntry K) :
    keysOf (items.map (fun e' => if e'.key = e.key then e else e')) = keysOf items := by
  unfold keysOf
  rw [List.map_map]
  apply List.map_congr_left
  intro e' _
  show (if e'.key = e.key then e else e').key = e'.key
  split
  · rename_i h; exact h.symm
  · rfl

omit [DecidableEq K] in
theorem nodup_insert {items : List (LEntry K)} {e : LEntry K} (hnd : (keysOf items).Nodup)
    (hn : e.key ∉ keysOf items) : (keysOf (items ++ [e])).Nodup := by
  have : keysOf (items ++ [e]) = keysOf items ++ [e.key] := List.map_append
  rw [this]
  refine List.nodup_append.mpr ⟨hnd, by simp, ?_⟩
  intro a ha b hb hab
  cases List.mem_singleton.mp hb
  exact hn (hab ▸ ha)

theorem nextKey_spec (pre : List K) (items : List (LEntry K)) (k : K) (post : List K)
    (h : keysOf items = pre ++ k :: post) (hn : k ∉ pre) : nextKey items k = post.head? := by
  obtain ⟨l1, r, rfl, rfl, hr⟩ := List.map_eq_append_iff.mp h
  obtain ⟨e, l2, rfl, rfl, rfl⟩ := List.map_eq_cons_iff.mp hr
  -- the scan skips the entries before `e` and stops at `e`
  have hdrop : (l1 ++ e :: l2).dropWhile (fun x => decide (x.key ≠ e.key)) = e :: l2 := by
    rw [List.dropWhile_append_of_pos (p := fun x => decide (x.key ≠ e.key))
        (fun x hx => decide_eq_true (fun hk => hn (List.mem_map.mpr ⟨x, hx, hk⟩))),
      List.dropWhile_cons_of_neg (by simp)]
  unfold nextKey
  rw [hdrop]
  cases l2 <;> rfl

/-- What a running thread knows at each program point.  Inside a `with lock:` block: what it has learnt
about the dictionary since it acquired the lock (nobody else can have changed it) - this is what rules
out every failure branch of the dictionary operations in `lstepThr`, and the exception paths are never
reached.  Outside: only that the result of the wrapped function is there once it has been called. -/
def Know (od : OD K) (log : List (K × Int)) (t : LThr K) : Prop :=
  match t.pc with
  | .iterNext (some k) ver acc =>
    ver = od.ver ∧ ∃ pre post, keysOf od.items = pre ++ k :: post ∧ acc.Sublist pre
  | .iterNext none _ acc => acc.Sublist (keysOf od.items)
  | .del todo => todo.Sublist (keysOf od.items)
  | .move | .get => t.key ∈ keysOf od.items
  | .rel1Hit v => Own log t.key v
  | .acq2 | .store | .len | .rel2 => t.res.isSome = true
  | .pop => t.res.isSome = true ∧ od.items ≠ []
  | .cleanup _ | .relErr _ => False
  | _ => True

/-- The invariant of one thread: the result it holds is its own; while it runs it knows what `Know` says;
when it has ended it has returned, and returned a result of its own. -/
def ThrOk (od : OD K) (log : List (K × Int)) (t : LThr K) : Prop :=
  (∀ v, t.res = some v → Own log t.key v) ∧
  match t.out with
  | none => Know od log t
  | some (.ok v) => Own log t.key v
  | some (.err _) => False

omit [DecidableEq K] in
theorem ThrOk.of_out {od : OD K} {log : List (K × Int)} {t : LThr K} {o : Outcome} (h : ThrOk od log t)
    (ho : t.out = some o) : ∃ v, o = .ok v ∧ Own log t.key v := by
  rw [ThrOk, ho] at h
  cases o with
  | ok v => exact ⟨v, rfl, h.2⟩
  | err cls => exact h.2.elim

omit [DecidableEq K] in
theorem ThrOk.no_exception {od : OD K} {log : List (K × Int)} {t : LThr K} (h : ThrOk od log t) (ho : t.out = none)
    (cls : String) : t.pc ≠ .relErr cls ∧ t.pc ≠ .cleanup cls := by
  rw [ThrOk, ho] at h
  constructor <;> intro hpc <;> rw [Know, hpc] at h <;> exact h.2

omit [DecidableEq K] in
/-- A thread's invariant survives what the others do: they only append to the log, and they do not touch
the dictionary while this thread is inside a `with lock:` block. -/
theorem ThrOk.frame {od od' : OD K} {log log' : List (K × Int)} {t : LThr K} (hl : log <+: log')
    (h : ThrOk od log t) (hod : t.crit = true → od' = od) : ThrOk od' log' t := by
  obtain ⟨key, pc, now, res, out⟩ := t
  refine ⟨fun v hv => (h.1 v hv).mono hl, ?_⟩
  cases out with
  | some o =>
    cases o with
    | ok v => exact Own.mono hl h.2
    | err _ => exact h.2
  | none =>
    cases pc with
    | rel1Hit v => exact Own.mono hl h.2
    | clk | acq1 | call | acq2 => exact h.2
    | iterNext cur _ _ => cases hod rfl; cases cur <;> exact h.2
    | _ => cases hod rfl; exact h.2

theorem iterStep_key (valid : Option Int) (w : LWorld K) (t : LThr K) (k : K) (ver : Nat) (acc : List K) :
    (iterStep valid w t k ver acc).key = t.key := by
  unfold iterStep
  split
  · rfl
  · split <;> rfl

theorem iterStep_ok (valid : Option Int) (w : LWorld K) (t : LThr K) (k : K) (acc pre post : List K)
    (hnd : (keysOf w.od.items).Nodup) (hk : keysOf w.od.items = pre ++ k :: post) (ha : acc.Sublist pre)
    (hres : ∀ v, t.res = some v → Own w.log t.key v) (ho : t.out = none) :
    ThrOk w.od w.log (iterStep valid w t k w.od.ver acc) ∧
    (iterStep valid w t k w.od.ver acc).crit = true := by
  obtain ⟨e, hf, _⟩ := find_key_some w.od.items k (by rw [hk]; exact List.mem_append_right _ List.mem_cons_self)
  have hnp : k ∉ pre := by
    rw [hk] at hnd
    exact fun hm => (List.nodup_append.mp hnd).2.2 k hm k List.mem_cons_self rfl
  obtain ⟨key, pc, now, res, out⟩ := t
  cases ho
  simp only [iterStep, ne_eq, not_true_eq_false, if_false, hf, nextKey_spec pre w.od.items k post hk hnp]
  refine ⟨⟨hres, ?_⟩, rfl⟩
  have hacc : (if fresh valid now e.time = true then acc else acc ++ [k]).Sublist (pre ++ [k]) := by
    split
    · exact ha.trans (List.sublist_append_left _ _)
    · exact ha.append (List.Sublist.refl _)
  cases post with
  | nil => show List.Sublist _ (keysOf w.od.items); rw [hk]; exact hacc
  | cons k2 post2 => exact ⟨rfl, pre ++ [k], post2, by rw [hk, List.append_assoc]; rfl, hacc⟩

end Cache
