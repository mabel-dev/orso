import OrsoVerif.Model.RowClass
import OrsoVerif.Lemmas.Family
/-!
Facts about the process machine of `Model/RowClass.lean` that hold for *any* configuration satisfying `Cfg.sound`;
that the working tree's configuration does is `C05.row_classes_sound` in `Props/C05.lean`.
-/
namespace RowClass
open Validate
open Gen.RowClass (NewKind)
open Gen.ValidateFlow (Step)

theorem find_mem (k : Key) (c : Cls) : ∀ (cache : Cache), find k cache = some c → (k, c) ∈ cache := by
  intro cache
  induction cache with
  | nil => simp [find]
  | cons p ps ih =>
    obtain ⟨k', c'⟩ := p
    intro h
    simp only [find] at h
    by_cases hk : k' = k
    · simp only [hk, if_true, Option.some.injEq] at h
      subst h; subst hk
      exact List.mem_cons_self
    · simp only [hk, if_false] at h
      exact List.mem_cons_of_mem _ (ih h)

/-- Every class kept in the cache is the class any request that maps to its key would have been given afresh. -/
def CacheOk (cfg : Cfg) (cache : Cache) : Prop :=
  ∀ spec, cfg.cacheKey = some spec → ∀ p ∈ cache, ∀ fields flag, keyOf spec fields flag = p.1 → p.2 = ⟨fields, cfg.classNew flag⟩

theorem cacheOk_nil (cfg : Cfg) : CacheOk cfg [] := by
  intro spec _ p hp
  cases hp

theorem createClass_sound (cfg : Cfg) (h : cfg.sound = true) (cache : Cache) (hc : CacheOk cfg cache)
    (fields : List String) (flag : Bool) :
    (createClass cfg cache fields flag).1 = ⟨fields, cfg.classNew flag⟩ ∧ CacheOk cfg (createClass cfg cache fields flag).2 := by
  unfold createClass
  cases hk : cfg.cacheKey with
  | none => exact ⟨rfl, hc⟩
  | some spec =>
    simp only []
    cases hf : find (keyOf spec fields flag) cache with
    | some c =>
      refine ⟨?_, hc⟩
      exact hc spec hk _ (find_mem _ _ _ hf) fields flag rfl
    | none =>
      refine ⟨rfl, ?_⟩
      intro spec' hk' p hp fields' flag' hkey
      rw [hk] at hk'
      cases hk'
      rcases List.mem_cons.mp hp with rfl | hp
      · -- the new entry: the key tells the requests apart
        obtain ⟨f, t⟩ := spec
        simp only [Cfg.sound, hk, Bool.and_eq_true, Bool.or_eq_true, beq_iff_eq] at h
        obtain ⟨_, hf1, ht⟩ := h
        subst hf1
        simp only [keyOf, if_true, Prod.mk.injEq, Option.some.injEq] at hkey
        obtain ⟨hfs, hfl⟩ := hkey
        subst hfs
        rcases ht with ht | ht
        · subst ht
          simp only [if_true, Option.some.injEq] at hfl
          subst hfl; rfl
        · cases flag <;> cases flag' <;> simp [ht]
      · exact hc spec hk p hp fields' flag' hkey

theorem buildRow_names (s : List Column) (k : Kind) (r : Record) :
    buildRow ⟨names s, NewKind.rowNew⟩ k r = if rowReads k then rowOf s r else keysRow r := by
  simp [buildRow, rowOf, names, List.map_map, Function.comp_def]

theorem runStepsF_eq (s : List Column) (r : Record) (z : Bool) (steps : List Step) :
    ∀ (k : Kind) (rows : List (List Value)) (row : Option (List Value)),
      runStepsF s ⟨names s, NewKind.rowNew⟩ r z k steps rows row = runStepsK s r z k steps rows row := by
  induction steps with
  | nil => intro k rows row; simp [runStepsF, runStepsK]
  | cons st rest ih =>
    intro k rows row
    -- the two interpreters differ only in `build`, where the class is Row's own for the column names
    cases st with
    | size | store => cases row <;> simp only [runStepsF, runStepsK, ih]
    | _ => simp only [runStepsF, runStepsK, ih, buildRow_names]

theorem appendF_eq (s : List Column) (rows : List (List Value)) (k : Kind) (r : Record) (z : Bool) :
    appendF s ⟨names s, NewKind.rowNew⟩ rows k r z = appendK s rows k r z := by
  simp [appendF, appendK, runStepsF_eq]

/-- The cache is good and every frame has Row's own constructor for its columns' names. -/
def Good (cfg : Cfg) (s : List Column) (st : PSt) : Prop :=
  CacheOk cfg st.cache ∧ ∀ f ∈ st.frames, f.cls = ⟨names s, NewKind.rowNew⟩

theorem good_empty (cfg : Cfg) (s : List Column) : Good cfg s ⟨[], []⟩ :=
  ⟨cacheOk_nil cfg, by intro f hf; cases hf⟩

theorem sound_frame (cfg : Cfg) (h : cfg.sound = true) : cfg.classNew cfg.frameFlag = NewKind.rowNew := by
  simp only [Cfg.sound, Bool.and_eq_true, beq_iff_eq] at h
  exact h.1

theorem newFrame_good (cfg : Cfg) (h : cfg.sound = true) (s : List Column) (st : PSt) (hg : Good cfg s st)
    (rows : List Family.Row) :
    (newFrame cfg s st rows).regs = st.regs ++ [rows] ∧ Good cfg s (newFrame cfg s st rows) := by
  obtain ⟨h1, h2⟩ := createClass_sound cfg h st.cache hg.1 (names s) cfg.frameFlag
  refine ⟨by simp [newFrame, PSt.regs], ?_, ?_⟩
  · exact h2
  · intro f hf
    simp only [newFrame, List.mem_append, List.mem_singleton] at hf
    rcases hf with hf | hf
    · exact hg.2 f hf
    · subst hf
      simp only [h1, sound_frame cfg h]

theorem regs_getElem? (st : PSt) (i : Nat) : st.regs[i]? = (st.frames[i]?).map (·.rows) := by
  simp [PSt.regs]

theorem step_refinesP (cfg : Cfg) (h : cfg.sound = true) (s : List Column) (st : PSt) (hg : Good cfg s st) (op : POp) :
    (stepP cfg s st op).regs = stepRP s st.regs op ∧ Good cfg s (stepP cfg s st op) := by
  cases op with
  | feature fields who =>
    exact ⟨rfl, (createClass_sound cfg h st.cache hg.1 fields (flagOf cfg who)).2, hg.2⟩
  | frame arrow rows =>
    simp only [stepP, stepRP]
    cases arrow with
    | false => exact newFrame_good cfg h s st hg rows
    | true =>
      have hg' : Good cfg s ⟨(createClass cfg st.cache (names s) cfg.arrowFlag).2, st.frames⟩ :=
        ⟨(createClass_sound cfg h st.cache hg.1 (names s) cfg.arrowFlag).2, hg.2⟩
      simpa [PSt.regs] using newFrame_good cfg h s _ hg' rows
  | fop fo =>
    cases fo with
    | append i k r z =>
      simp only [stepP, stepRP, Family.stepR, regs_getElem?]
      cases hi : st.frames[i]? with
      | none => exact ⟨rfl, hg⟩
      | some f =>
        have hf : f.cls = ⟨names s, NewKind.rowNew⟩ := hg.2 f (List.mem_of_getElem? hi)
        simp only [Option.map_some]
        refine ⟨?_, hg.1, ?_⟩
        · simp only [PSt.regs, List.map_set, hf, appendF_eq]
        · intro f' hf'
          rcases List.mem_or_eq_of_mem_set hf' with hf' | hf'
          · exact hg.2 f' hf'
          · subst hf'; exact hf
    | derive i d =>
      simp only [stepP, stepRP, Family.stepR, regs_getElem?]
      cases hi : st.frames[i]? with
      | none => exact ⟨rfl, hg⟩
      | some f =>
        simp only [Option.map_some]
        generalize Family.derive f.rows _ d = out
        cases out with
        | shared => exact newFrame_good cfg h s st hg f.rows
        | fresh rows' => exact newFrame_good cfg h s st hg rows'
        | raises | nothing => exact ⟨rfl, hg⟩

/-- **The process machine refines the register machine** for every program, as long as the configuration is sound. -/
theorem run_refinesP (cfg : Cfg) (h : cfg.sound = true) (s : List Column) (ops : List POp) :
    ∀ (st : PSt), Good cfg s st → (runP cfg s st ops).regs = runRP s st.regs ops ∧ Good cfg s (runP cfg s st ops) := by
  induction ops with
  | nil => intro st hg; exact ⟨rfl, hg⟩
  | cons op ops ih =>
    intro st hg
    obtain ⟨hv, hi⟩ := step_refinesP cfg h s st hg op
    simp only [runP, runRP]
    rw [← hv]
    exact ih _ hi

theorem runP_append (cfg : Cfg) (s : List Column) (a b : List POp) :
    ∀ st, runP cfg s st (a ++ b) = runP cfg s (runP cfg s st a) b :=
  Family.run_append (runP cfg s) (stepP cfg s) (fun _ => rfl) (fun _ _ _ => rfl) a b

theorem runRP_frame (s : List Column) (j : Nat) (ops : List POp) :
    ∀ (regs : List (List Family.Row)) (rows : List Family.Row), regs[j]? = some rows →
      (runRP s regs ops)[j]? = some (appendsK s rows (Family.appendsTo j (fopsOf ops))) := by
  induction ops with
  | nil => intro regs rows h; exact h
  | cons op ops ih =>
    intro regs rows h
    have hj : j < regs.length := (List.getElem?_eq_some_iff.mp h).1
    cases op with
    | feature fields who => exact ih regs rows h
    | frame arrow rows' =>
      simp only [runRP, stepRP, fopsOf]
      apply ih
      simp [List.getElem?_append_left hj, h]
    | fop fo =>
      simp only [runRP, stepRP, fopsOf]
      rw [Family.appendsTo_cons, Family.appendsK_append]
      exact ih _ _ (Family.stepR_frame s j fo regs rows h)

theorem runP_features_frames (cfg : Cfg) (s : List Column) (fs : List (List String × Who)) :
    ∀ st, (runP cfg s st (fs.map fun p => POp.feature p.1 p.2)).frames = st.frames := by
  induction fs with
  | nil => intro st; rfl
  | cons p ps ih => intro st; simp only [List.map_cons, runP, ih]; rfl

end RowClass
