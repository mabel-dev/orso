import OrsoVerif.Lemmas.DistogramBins
/-!
# Lemmas about the reference histogram machine

The clamp of the stored centre (`trimStored_within`), one-step lemmas for "merge any valid adjacent pair" and "insert",
`argminFirst_spec` (the first position of a minimum), and their lifting through `trimRef` (`trimRef_induct`; one bin over
the limit, with its tie flag: `trimRef_succ_cap`).  All of it is over a field with a linear order; the section
`OrderedField` assumes that the order agrees with the arithmetic.
-/
namespace Distogram
-- many of the equations below use only the field, only the order, or neither
set_option linter.unusedSectionVars false

variable {K : Type} [Field K] [LinearOrder K]

/-! ## the stored centre `min(max(centre, v1), v2)` -/

theorem pyMin_def (a b : K) : Gen.DistogramOps.pyMin a b = if b < a then b else a := rfl
theorem pyMax_def (a b : K) : Gen.DistogramOps.pyMax a b = if a < b then b else a := rfl

theorem pyMin_eq_min (a b : K) : Gen.DistogramOps.pyMin a b = min a b := by
  rw [pyMin_def]
  split
  · rename_i h; exact (min_eq_right (le_of_lt h)).symm
  · rename_i h; exact (min_eq_left (not_lt.mp h)).symm

theorem pyMax_eq_max (a b : K) : Gen.DistogramOps.pyMax a b = max a b := by
  rw [pyMax_def]
  split
  · rename_i h; exact (max_eq_right (le_of_lt h)).symm
  · rename_i h; exact (max_eq_left (not_lt.mp h)).symm

theorem trimStored_eq (c v1 v2 : K) : Gen.DistogramOps.trimStored c v1 v2 = min (max c v1) v2 := by
  unfold Gen.DistogramOps.trimStored
  rw [pyMin_eq_min, pyMax_eq_max]

/-- **The stored centre lies within the pair, whatever was computed** (`min(max(centre, v1), v2)`): no hypothesis on
`c` — this is what keeps the centres strictly increasing and inside the bounds when the division is rounded. -/
theorem trimStored_within (c : K) {v1 v2 : K} (h : v1 ≤ v2) :
    v1 ≤ Gen.DistogramOps.trimStored c v1 v2 ∧ Gen.DistogramOps.trimStored c v1 v2 ≤ v2 := by
  rw [trimStored_eq]
  exact ⟨le_min (le_max_right c v1) h, min_le_right _ v2⟩

theorem trimStored_of_between {c v1 v2 : K} (h1 : v1 ≤ c) (h2 : c ≤ v2) : Gen.DistogramOps.trimStored c v1 v2 = c := by
  rw [trimStored_eq, max_eq_left h1, min_eq_left h2]

/-! ## merging one adjacent pair -/

theorem mergeAt_induct {R : List (K × K) → List (K × K) → Prop}
    (hpair : ∀ v1 f1 v2 f2 rest, R ((v1, f1) :: (v2, f2) :: rest) ((centroid v1 f1 v2 f2, f1 + f2) :: rest))
    (hcons : ∀ b l l', R l l' → R (b :: l) (b :: l')) (hrefl : ∀ l, R l l) :
    ∀ (i : Nat) (l : List (K × K)), R l (mergeAt i l)
  | 0, (v1, f1) :: (v2, f2) :: rest => hpair v1 f1 v2 f2 rest
  | 0, [] => hrefl _
  | 0, [_] => hrefl _
  | _ + 1, [] => hrefl _
  | n + 1, b :: rest => hcons b rest _ (mergeAt_induct hpair hcons hrefl n rest)

theorem mergeAt_counts {Q : K → Prop} (hadd : ∀ f1 f2, Q f1 → Q f2 → Q (f1 + f2)) (i : Nat) (l : List (K × K)) :
    (∀ b ∈ l, Q b.2) → ∀ b ∈ mergeAt i l, Q b.2 := by
  refine mergeAt_induct (R := fun l l' => (∀ b ∈ l, Q b.2) → ∀ b ∈ l', Q b.2) ?_ ?_ (fun _ h => h) i l
  · intro v1 f1 v2 f2 rest h b hb
    rcases List.mem_cons.mp hb with rfl | hb
    · exact hadd f1 f2 (h (v1, f1) List.mem_cons_self) (h (v2, f2) (List.mem_cons_of_mem _ List.mem_cons_self))
    · exact h b (List.mem_cons_of_mem _ (List.mem_cons_of_mem _ hb))
  · intro b l l' ih h x hx
    rcases List.mem_cons.mp hx with rfl | hx
    · exact h x List.mem_cons_self
    · exact ih (fun y hy => h y (List.mem_cons_of_mem _ hy)) x hx

theorem mergeAt_mass (i : Nat) (l : List (K × K)) : mass (mergeAt i l) = mass l :=
  mergeAt_induct (R := fun l l' => mass l' = mass l) (fun _ f1 _ f2 rest => add_assoc f1 f2 (mass rest))
    (fun b _ _ ih => congrArg (b.2 + ·) ih) (fun _ => rfl) i l

theorem mergeAt_length : ∀ (i : Nat) (l : List (K × K)), i + 1 < l.length → (mergeAt i l).length + 1 = l.length
  | 0, _ :: _ :: _, _ => rfl
  | n + 1, _ :: rest, h => congrArg (· + 1) (mergeAt_length n rest (Nat.lt_of_succ_lt_succ h))
  | 0, [], h => nomatch h
  | 0, [_], h => absurd h (Nat.lt_irrefl 1)
  | _ + 1, [], h => nomatch h

/-! ## the first closest pair

`argminFirst_spec`: `argminFirst` answers the first position of a minimum — the reference's choice of the pair to merge,
against which `_trim`, the in-place shortcut and the tie detection are compared. -/

theorem lt_before_cons {m y : K} {ys : List K} {k : Nat} (hy : m < y) (h : ∀ j x, j < k → ys[j]? = some x → m < x) :
    ∀ j x, j < k + 1 → (y :: ys)[j]? = some x → m < x
  | 0, _, _, hx => by cases hx; exact hy
  | j + 1, x, hj, hx => h j x (Nat.lt_of_succ_lt_succ hj) hx

/-- What `argminFrom` returns: either the incumbent (nothing strictly smaller follows) or the position of the
first strict improvement that nothing later beats. -/
theorem argminFrom_spec (xs : List K) (i bi : Nat) (bv : K) :
    (argminFrom i bi bv xs = bi ∧ ∀ x ∈ xs, bv ≤ x) ∨
    (∃ k m, argminFrom i bi bv xs = i + k ∧ xs[k]? = some m ∧ m < bv ∧ (∀ x ∈ xs, m ≤ x) ∧
      ∀ j x, j < k → xs[j]? = some x → m < x) := by
  induction xs generalizing i bi bv with
  | nil => exact Or.inl ⟨rfl, fun _ h => nomatch h⟩
  | cons y ys ih =>
    unfold argminFrom
    by_cases hy : y < bv
    · rw [if_pos hy]
      rcases ih (i + 1) i y with ⟨e, hall⟩ | ⟨k, m, e, hk, hm, hall, hfirst⟩
      · exact Or.inr ⟨0, y, e, rfl, hy, List.forall_mem_cons.mpr ⟨le_refl _, hall⟩, fun j x hj => absurd hj (Nat.not_lt_zero j)⟩
      · exact Or.inr ⟨k + 1, m, by rw [e, Nat.add_right_comm, Nat.add_assoc], hk, lt_trans hm hy,
          List.forall_mem_cons.mpr ⟨le_of_lt hm, hall⟩, lt_before_cons hm hfirst⟩
    · rw [if_neg hy]
      have hy' : bv ≤ y := not_lt.mp hy
      rcases ih (i + 1) bi bv with ⟨e, hall⟩ | ⟨k, m, e, hk, hm, hall, hfirst⟩
      · exact Or.inl ⟨e, List.forall_mem_cons.mpr ⟨hy', hall⟩⟩
      · exact Or.inr ⟨k + 1, m, by rw [e, Nat.add_right_comm, Nat.add_assoc], hk, hm,
          List.forall_mem_cons.mpr ⟨le_trans (le_of_lt hm) hy', hall⟩, lt_before_cons (lt_of_lt_of_le hm hy') hfirst⟩

theorem argminFirst_spec {g : List K} (hne : g ≠ []) :
    ∃ m, g[argminFirst g]? = some m ∧ (∀ y ∈ g, m ≤ y) ∧ ∀ j y, j < argminFirst g → g[j]? = some y → m < y := by
  cases g with
  | nil => exact absurd rfl hne
  | cons x xs =>
    simp only [argminFirst]
    rcases argminFrom_spec xs 1 0 x with ⟨e, hx⟩ | ⟨k, m, e, hk, hm, hall, hfirst⟩
    · rw [e]
      exact ⟨x, rfl, List.forall_mem_cons.mpr ⟨le_refl _, hx⟩, fun j y hj => absurd hj (Nat.not_lt_zero j)⟩
    · rw [e, Nat.add_comm]
      exact ⟨m, hk, List.forall_mem_cons.mpr ⟨le_of_lt hm, hall⟩, lt_before_cons hm hfirst⟩

theorem argminFirst_eq_of_lt {g : List K} {p : Nat} {x : K} (hp : g[p]? = some x)
    (hlt : ∀ k y, k ≠ p → g[k]? = some y → x < y) : argminFirst g = p := by
  obtain ⟨m, hk, hmin, _⟩ := argminFirst_spec (List.ne_nil_of_mem (List.mem_of_getElem? hp))
  by_contra hne
  exact absurd (hlt _ m hne hk) (not_lt.mpr (hmin x (List.mem_of_getElem? hp)))

theorem argminFirst_lt (g : List K) (h : g ≠ []) : argminFirst g < g.length := by
  obtain ⟨m, hm, _⟩ := argminFirst_spec h
  exact (List.getElem?_eq_some_iff.mp hm).1

/-! ## trimming -/

theorem trimRef_length (cap : Nat) (hc : 1 ≤ cap) : ∀ (fuel : Nat) (l : List (K × K)),
    l.length ≤ cap + fuel → (trimRef cap fuel l).length ≤ cap := by
  intro fuel
  induction fuel with
  | zero => intro _ h; exact h
  | succ n ih =>
    intro l h
    unfold trimRef
    split
    · rename_i hlt
      apply ih
      have h1 := argminFirst_lt (gaps l) (List.ne_nil_of_length_pos
        (by rw [gaps_length]; exact Nat.sub_pos_of_lt (Nat.lt_of_le_of_lt hc hlt)))
      rw [gaps_length] at h1
      have := mergeAt_length (argminFirst (gaps l)) l (Nat.add_lt_of_lt_sub h1)
      rw [← this] at h
      exact Nat.le_of_succ_le_succ h
    · rename_i hge
      exact Nat.le_of_not_lt hge

theorem trimRef_noop (cap : Nat) : ∀ (fuel : Nat) (l : List (K × K)), l.length ≤ cap → trimRef cap fuel l = l
  | 0, _, _ => rfl
  | fuel + 1, l, h => by unfold trimRef; rw [if_neg (Nat.not_lt.mpr h)]

theorem trimTie_noop (cap : Nat) : ∀ (fuel : Nat) (l : List (K × K)), l.length ≤ cap → trimTie cap fuel l = false
  | 0, _, _ => rfl
  | fuel + 1, l, h => by unfold trimTie; rw [if_neg (Nat.not_lt.mpr h)]

/-- One bin over the limit — what an update of a full histogram leaves: the reference merges the first closest pair and
stops, and its tie flag is that list's. -/
theorem trimRef_succ_cap {cap : Nat} (hc : 1 ≤ cap) {l : List (K × K)} (hl : l.length = cap + 1) :
    trimRef cap l.length l = mergeAt (argminFirst (gaps l)) l ∧ trimTie cap l.length l = tieIn l := by
  have hlt : cap < l.length := by rw [hl]; exact Nat.lt_succ_self _
  have hg : argminFirst (gaps l) + 1 < l.length := by
    have := argminFirst_lt (gaps l) (List.ne_nil_of_length_pos (by rw [gaps_length, hl]; exact hc))
    rw [gaps_length] at this
    exact Nat.add_lt_of_lt_sub this
  have hm : (mergeAt (argminFirst (gaps l)) l).length ≤ cap :=
    Nat.le_of_eq (Nat.succ.inj ((mergeAt_length _ l hg).trans hl))
  rw [hl]
  unfold trimRef trimTie
  rw [if_pos hlt, if_pos hlt, trimRef_noop cap cap _ hm, trimTie_noop cap cap _ hm, Bool.or_false]
  exact ⟨rfl, rfl⟩

/-! ## insertion -/

theorem insertRef_induct (v c : K) {R : List (K × K) → List (K × K) → Prop}
    (hnil : R [] [(v, c)])
    (hlt : ∀ w f rest, v < w → R ((w, f) :: rest) ((v, c) :: (w, f) :: rest))
    (hgt : ∀ w f rest l', w < v → R rest l' → R ((w, f) :: rest) ((w, f) :: l'))
    (heq : ∀ f rest, R ((v, f) :: rest) ((v, f + c) :: rest)) :
    ∀ l : List (K × K), R l (insertRef v c l) := by
  intro l
  induction l with
  | nil => exact hnil
  | cons b rest ih =>
    obtain ⟨w, f⟩ := b
    unfold insertRef
    split
    · rename_i h
      exact hlt w f rest h
    · split
      · rename_i h
        exact hgt w f rest _ h ih
      · rename_i h1 h2
        cases le_antisymm (not_lt.mp h2) (not_lt.mp h1)
        exact heq f rest

theorem insertRef_counts {Q : K → Prop} (hadd : ∀ f1 f2, Q f1 → Q f2 → Q (f1 + f2)) (v : K) {c : K} (hc : Q c)
    (l : List (K × K)) : (∀ b ∈ l, Q b.2) → ∀ b ∈ insertRef v c l, Q b.2 := by
  refine insertRef_induct v c (R := fun l l' => (∀ b ∈ l, Q b.2) → ∀ b ∈ l', Q b.2) ?_ ?_ ?_ ?_ l
  · intro _ b hb
    rw [List.mem_singleton.mp hb]; exact hc
  · intro w f rest _ h b hb
    rcases List.mem_cons.mp hb with rfl | hb
    · exact hc
    · exact h b hb
  · intro w f rest l' _ ih h b hb
    rcases List.mem_cons.mp hb with rfl | hb
    · exact h _ List.mem_cons_self
    · exact ih (fun y hy => h y (List.mem_cons_of_mem _ hy)) b hb
  · intro f rest h b hb
    rcases List.mem_cons.mp hb with rfl | hb
    · exact hadd f c (h (v, f) List.mem_cons_self) hc
    · exact h b (List.mem_cons_of_mem _ hb)

/-- What holds of the new centre and of every old one holds of every centre after the insertion; with `w < ·` for the
bin `w` in front this is what keeps the centres increasing. -/
theorem insertRef_centres_inc (v c : K) (l : List (K × K)) :
    (∀ Q : K → Prop, Q v → (∀ y ∈ l, Q y.1) → ∀ x ∈ insertRef v c l, Q x.1) ∧ (Inc l → Inc (insertRef v c l)) := by
  refine insertRef_induct v c
    (R := fun l l' => (∀ Q : K → Prop, Q v → (∀ y ∈ l, Q y.1) → ∀ x ∈ l', Q x.1) ∧ (Inc l → Inc l')) ?_ ?_ ?_ ?_ l
  · exact ⟨fun Q hv _ => List.forall_mem_cons.mpr ⟨hv, fun _ h => nomatch h⟩, fun _ => List.pairwise_singleton _ _⟩
  · intro w f rest hvw
    refine ⟨fun Q hv h => List.forall_mem_cons.mpr ⟨hv, h⟩, fun hi => List.pairwise_cons.mpr ⟨?_, hi⟩⟩
    exact List.forall_mem_cons.mpr ⟨hvw, fun x hx => lt_trans hvw ((List.pairwise_cons.mp hi).1 x hx)⟩
  · intro w f rest l' hwv ih
    refine ⟨fun Q hv h => ?_, fun hi => ?_⟩
    · obtain ⟨hw, hr⟩ := List.forall_mem_cons.mp h
      exact List.forall_mem_cons.mpr ⟨hw, ih.1 Q hv hr⟩
    · obtain ⟨hw, hr⟩ := List.pairwise_cons.mp hi
      exact List.pairwise_cons.mpr ⟨ih.1 (w < ·) hwv hw, ih.2 hr⟩
  · intro f rest
    exact ⟨fun Q hv h => List.forall_mem_cons.mpr ⟨hv, (List.forall_mem_cons.mp h).2⟩,
      fun hi => List.pairwise_cons.mpr (List.pairwise_cons.mp hi)⟩

theorem insertRef_centres {Q : K → Prop} {v : K} (hv : Q v) (c : K) {l : List (K × K)} (h : ∀ y ∈ l, Q y.1) :
    ∀ x ∈ insertRef v c l, Q x.1 :=
  (insertRef_centres_inc v c l).1 Q hv h

theorem insertRef_inc (v c : K) (l : List (K × K)) : Inc l → Inc (insertRef v c l) :=
  (insertRef_centres_inc v c l).2

theorem insertRef_mass (v c : K) (l : List (K × K)) : mass (insertRef v c l) = mass l + c := by
  refine insertRef_induct v c (R := fun l l' => mass l' = mass l + c) ?_ ?_ ?_ ?_ l
  · rw [mass_cons]; exact add_comm c _
  · intro w f rest _; rw [mass_cons, add_comm]
  · intro w f rest l' _ ih; rw [mass_cons, mass_cons, ih, add_assoc]
  · intro f rest; rw [mass_cons, mass_cons, add_right_comm]

theorem insertRef_wsum (v c : K) (l : List (K × K)) : wsum (insertRef v c l) = wsum l + v * c := by
  refine insertRef_induct v c (R := fun l l' => wsum l' = wsum l + v * c) ?_ ?_ ?_ ?_ l
  · rw [wsum_cons]; exact add_comm (v * c) _
  · intro w f rest _; rw [wsum_cons, add_comm]
  · intro w f rest l' _ ih; rw [wsum_cons, wsum_cons, ih, add_assoc]
  · intro f rest; rw [wsum_cons, wsum_cons, mul_add, add_right_comm]

theorem insertRef_length_le (v c : K) (l : List (K × K)) : (insertRef v c l).length ≤ l.length + 1 :=
  insertRef_induct v c (R := fun l l' => l'.length ≤ l.length + 1) (Nat.le_refl _)
    (fun _ _ _ _ => Nat.le_refl _) (fun _ _ _ _ _ ih => Nat.succ_le_succ ih) (fun _ _ => Nat.le_succ _) l

/-! ## where the order has to agree with the arithmetic -/
section OrderedField
variable [IsStrictOrderedRing K]

/-- the centre `_trim` computes lies strictly inside the pair: against `v1 * (f1 + f2)` the sum `v1 * f1 + v2 * f2` has
`v2 * f2` for `v1 * f2`, against `v2 * (f1 + f2)` it has `v1 * f1` for `v2 * f1` -/
theorem trimCentre_between {v1 f1 v2 f2 : K} (hv : v1 < v2) (h1 : 0 < f1) (h2 : 0 < f2) :
    v1 < Gen.DistogramExpr.trimCentre v1 f1 v2 f2 ∧ Gen.DistogramExpr.trimCentre v1 f1 v2 f2 < v2 := by
  unfold Gen.DistogramExpr.trimCentre
  have hpos := add_pos h1 h2
  rw [lt_div_iff₀ hpos, div_lt_iff₀ hpos, mul_add, mul_add]
  exact ⟨add_lt_add_right (mul_lt_mul_of_pos_right hv h2) _, add_lt_add_left (mul_lt_mul_of_pos_right hv h1) _⟩

/-- in exact arithmetic the stored centre is the computed one -/
theorem centroid_eq {v1 f1 v2 f2 : K} (hv : v1 < v2) (h1 : 0 < f1) (h2 : 0 < f2) :
    centroid v1 f1 v2 f2 = Gen.DistogramExpr.trimCentre v1 f1 v2 f2 :=
  trimStored_of_between (le_of_lt (trimCentre_between hv h1 h2).1) (le_of_lt (trimCentre_between hv h1 h2).2)

theorem centroid_gt {v1 f1 v2 f2 : K} (hv : v1 < v2) (h1 : 0 < f1) (h2 : 0 < f2) :
    v1 < centroid v1 f1 v2 f2 := by
  rw [centroid_eq hv h1 h2]; exact (trimCentre_between hv h1 h2).1

theorem centroid_lt {v1 f1 v2 f2 : K} (hv : v1 < v2) (h1 : 0 < f1) (h2 : 0 < f2) :
    centroid v1 f1 v2 f2 < v2 := by
  rw [centroid_eq hv h1 h2]; exact (trimCentre_between hv h1 h2).2

theorem centroid_mul {v1 f1 v2 f2 : K} (hv : v1 < v2) (h1 : 0 < f1) (h2 : 0 < f2) :
    centroid v1 f1 v2 f2 * (f1 + f2) = v1 * f1 + v2 * f2 := by
  rw [centroid_eq hv h1 h2]
  exact div_mul_cancel₀ _ (ne_of_gt (add_pos h1 h2))

@[simp] theorem trimCount_eq (v1 f1 v2 f2 : K) : Gen.DistogramExpr.trimCount v1 f1 v2 f2 = f1 + f2 := rfl

theorem mergeAt_pos (i : Nat) (l : List (K × K)) (hp : Pos l) : Pos (mergeAt i l) :=
  mergeAt_counts (fun _ _ => add_pos) i l hp

theorem mergeAt_inc_mem (i : Nat) (l : List (K × K)) : Inc l → Pos l →
    Inc (mergeAt i l) ∧ ∀ x ∈ mergeAt i l, (∃ y ∈ l, y.1 ≤ x.1) ∧ (∃ z ∈ l, x.1 ≤ z.1) := by
  refine mergeAt_induct (R := fun l l' => Inc l → Pos l →
    Inc l' ∧ ∀ x ∈ l', (∃ y ∈ l, y.1 ≤ x.1) ∧ (∃ z ∈ l, x.1 ≤ z.1)) ?_ ?_ ?_ i l
  · intro v1 f1 v2 f2 rest hi hp
    have h1 : 0 < f1 := hp (v1, f1) List.mem_cons_self
    have h2 : 0 < f2 := hp (v2, f2) (List.mem_cons_of_mem _ List.mem_cons_self)
    have hrest := List.pairwise_cons.mp (List.pairwise_cons.mp hi).2
    have hv : v1 < v2 := (List.pairwise_cons.mp hi).1 (v2, f2) List.mem_cons_self
    refine ⟨List.pairwise_cons.mpr ⟨fun x hx => lt_trans (centroid_lt hv h1 h2) (hrest.1 x hx), hrest.2⟩, ?_⟩
    intro x hx
    rcases List.mem_cons.mp hx with rfl | hx
    · exact ⟨⟨(v1, f1), List.mem_cons_self, le_of_lt (centroid_gt hv h1 h2)⟩,
        ⟨(v2, f2), List.mem_cons_of_mem _ List.mem_cons_self, le_of_lt (centroid_lt hv h1 h2)⟩⟩
    · have hx' : x ∈ (v1, f1) :: (v2, f2) :: rest := List.mem_cons_of_mem _ (List.mem_cons_of_mem _ hx)
      exact ⟨⟨x, hx', le_refl _⟩, ⟨x, hx', le_refl _⟩⟩
  · intro b l l' ih hi hp
    have hc := List.pairwise_cons.mp hi
    obtain ⟨hi', hm⟩ := ih hc.2 (fun x hx => hp x (List.mem_cons_of_mem _ hx))
    refine ⟨List.pairwise_cons.mpr ⟨fun x hx => ?_, hi'⟩, ?_⟩
    · obtain ⟨⟨y, hy, hyx⟩, _⟩ := hm x hx
      exact lt_of_lt_of_le (hc.1 y hy) hyx
    · intro x hx
      rcases List.mem_cons.mp hx with rfl | hx
      · exact ⟨⟨x, List.mem_cons_self, le_refl _⟩, ⟨x, List.mem_cons_self, le_refl _⟩⟩
      · obtain ⟨⟨y, hy, hyx⟩, ⟨z, hz, hxz⟩⟩ := hm x hx
        exact ⟨⟨y, List.mem_cons_of_mem _ hy, hyx⟩, ⟨z, List.mem_cons_of_mem _ hz, hxz⟩⟩
  · intro l hi _
    exact ⟨hi, fun x hx => ⟨⟨x, hx, le_refl _⟩, ⟨x, hx, le_refl _⟩⟩⟩

theorem mergeAt_inc (i : Nat) (l : List (K × K)) (hi : Inc l) (hp : Pos l) : Inc (mergeAt i l) :=
  (mergeAt_inc_mem i l hi hp).1

theorem mergeAt_mem (i : Nat) (l : List (K × K)) (hi : Inc l) (hp : Pos l) :
    ∀ x ∈ mergeAt i l, (∃ y ∈ l, y.1 ≤ x.1) ∧ (∃ z ∈ l, x.1 ≤ z.1) :=
  (mergeAt_inc_mem i l hi hp).2

theorem mergeAt_within (i : Nat) (l : List (K × K)) (hi : Inc l) (hp : Pos l) {lo hi' : K}
    (hw : Within lo hi' l) : Within lo hi' (mergeAt i l) := by
  intro x hx
  obtain ⟨⟨y, hy, hyx⟩, ⟨z, hz, hxz⟩⟩ := mergeAt_mem i l hi hp x hx
  exact ⟨le_trans (hw y hy).1 hyx, le_trans hxz (hw z hz).2⟩

theorem mergeAt_wsum (i : Nat) (l : List (K × K)) : Inc l → Pos l → wsum (mergeAt i l) = wsum l := by
  refine mergeAt_induct (R := fun l l' => Inc l → Pos l → wsum l' = wsum l) ?_ ?_ (fun _ _ _ => rfl) i l
  · intro v1 f1 v2 f2 rest hi hp
    have hv : v1 < v2 := (List.pairwise_cons.mp hi).1 (v2, f2) List.mem_cons_self
    have h1 : 0 < f1 := hp (v1, f1) List.mem_cons_self
    have h2 : 0 < f2 := hp (v2, f2) (List.mem_cons_of_mem _ List.mem_cons_self)
    rw [wsum_cons, wsum_cons, wsum_cons, centroid_mul hv h1 h2, add_assoc]
  · intro b l l' ih hi hp
    rw [wsum_cons, wsum_cons, ih (List.pairwise_cons.mp hi).2 (fun x hx => hp x (List.mem_cons_of_mem _ hx))]

/-- Anything preserved by merging an arbitrary adjacent pair of a valid list is preserved by the trim. -/
theorem trimRef_induct (P : List (K × K) → Prop)
    (hstep : ∀ i l, Inc l → Pos l → P l → P (mergeAt i l)) (cap : Nat) :
    ∀ (fuel : Nat) (l : List (K × K)), Inc l → Pos l → P l →
      Inc (trimRef cap fuel l) ∧ Pos (trimRef cap fuel l) ∧ P (trimRef cap fuel l) := by
  intro fuel
  induction fuel with
  | zero => intro l hi hp h; exact ⟨hi, hp, h⟩
  | succ n ih =>
    intro l hi hp h
    unfold trimRef
    split
    · exact ih _ (mergeAt_inc _ l hi hp) (mergeAt_pos _ l hp) (hstep _ l hi hp h)
    · exact ⟨hi, hp, h⟩

theorem bulkMid_within {lo hi a b : K} (ha : lo ≤ a ∧ a ≤ hi) (hb : lo ≤ b ∧ b ≤ hi) :
    lo ≤ Gen.DistogramExpr.bulkMid a b ∧ Gen.DistogramExpr.bulkMid a b ≤ hi := by
  unfold Gen.DistogramExpr.bulkMid
  have h2 : (0 : K) < 2 := two_pos
  rw [le_div_iff₀ h2, div_le_iff₀ h2, mul_two, mul_two]
  exact ⟨add_le_add ha.1 hb.1, add_le_add ha.2 hb.2⟩

theorem insertRef_pos (v c : K) (hcpos : 0 < c) (l : List (K × K)) : Pos l → Pos (insertRef v c l) :=
  insertRef_counts (fun _ _ => add_pos) v hcpos l

end OrderedField

end Distogram
