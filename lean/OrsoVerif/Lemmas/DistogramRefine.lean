import OrsoVerif.Lemmas.DistogramCacheOps
/-!
# The faithful machine against the reference: where a value is inserted

The reference insertion by position (`insertRef_set`, `insertRef_insertIdx`) and `update`'s `index` as that position
(`locate_spec`, for counts `One1`); together with `insertTrim_spec`: insert + `_trim` is the reference update
(`insertTrim_sim`).
-/
namespace Distogram

variable {K : Type} [Field K] [LinearOrder K]

/-! ## where the reference inserts: into the bin with an equal centre, else between the bins below and the bin above -/

theorem insertRef_set (v c : K) (bins : List (K × K)) (k : Nat) (f : K) (hi : Inc bins) (h : bins[k]? = some (v, f)) :
    insertRef v c bins = bins.set k (v, f + c) := by
  induction bins generalizing k with
  | nil => cases h
  | cons a rest ih =>
    unfold insertRef
    cases k with
    | zero =>
      cases h
      rw [if_neg (lt_irrefl v), if_neg (lt_irrefl v)]
      rfl
    | succ k =>
      have hlt : a.1 < v := (List.pairwise_cons.mp hi).1 (v, f) (List.mem_of_getElem? h)
      rw [if_neg (not_lt.mpr (le_of_lt hlt)), if_pos hlt, ih k (List.pairwise_cons.mp hi).2 h]
      rfl

theorem insertRef_insertIdx (v c : K) (bins : List (K × K)) (k : Nat) (hk : k ≤ bins.length)
    (hb : ∀ j b, j < k → bins[j]? = some b → b.1 < v) (ha : ∀ b, bins[k]? = some b → v < b.1) :
    insertRef v c bins = bins.insertIdx k (v, c) := by
  induction bins generalizing k with
  | nil =>
    cases k with
    | zero => rfl
    | succ k => exact absurd hk (Nat.not_succ_le_zero k)
  | cons a rest ih =>
    unfold insertRef
    cases k with
    | zero =>
      rw [if_pos (ha a rfl)]
      rfl
    | succ k =>
      have hlt : a.1 < v := hb 0 a (Nat.succ_pos k) rfl
      rw [if_neg (not_lt.mpr (le_of_lt hlt)), if_pos hlt, ih k (Nat.le_of_succ_le_succ hk)
        (fun j b hj => hb (j + 1) b (Nat.succ_lt_succ hj)) ha]
      rfl

/-! ## `update`'s `index` is where the reference inserts -/

/-- Counts of at least one (Python: integer counts ≥ 1), so that `bisect_left` on `(value, 1)` compares centres only. -/
def One1 (l : List (K × K)) : Prop := ∀ b ∈ l, 1 ≤ b.2

theorem bisectLeft_spec {bins : List (K × K)} (v : K) (h1 : One1 bins) :
    (∀ j b, j < bisectLeft v bins → bins[j]? = some b → b.1 < v) ∧
    ∀ b, bins[bisectLeft v bins]? = some b → v ≤ b.1 := by
  have key : ∀ b ∈ bins, (!(decide (b.1 < v) || (eqK b.1 v && decide (b.2 < 1)))) = !decide (b.1 < v) := fun b hb => by
    rw [decide_eq_false (not_lt.mpr (h1 b hb)), Bool.and_false, Bool.or_false]
  rw [bisectLeft_eq_findIdx]
  refine ⟨fun j b hj hb => ?_, fun b hb => ?_⟩
  · obtain ⟨hjl, rfl⟩ := List.getElem?_eq_some_iff.mp hb
    have := List.not_of_lt_findIdx hj
    rw [key _ (List.getElem_mem hjl)] at this
    simpa using this
  · obtain ⟨hl, rfl⟩ := List.getElem?_eq_some_iff.mp hb
    have := List.findIdx_getElem (w := hl)
    rw [key _ (List.getElem_mem hl)] at this
    simpa using this

theorem locate_spec {bins : List (K × K)} {v : K} (hne : bins ≠ []) (h1 : One1 bins) :
    ((locate bins v).1 = false → (∀ j b, j < (locate bins v).2 → bins[j]? = some b → b.1 < v) ∧
      ∀ b, bins[(locate bins v).2]? = some b → v ≤ b.1) ∧
    ((locate bins v).1 = true → (locate bins v).2 = bins.length - 1 ∧ ∃ bl, bins.getLast? = some bl ∧ bl.1 ≤ v) := by
  obtain ⟨b0, bl, hh, hl, ⟨c1, e⟩ | ⟨c2, e⟩ | ⟨_, e⟩⟩ := locate_cases hne v <;> rw [e]
  · refine ⟨fun _ => ⟨fun j b hj => absurd hj (Nat.not_lt_zero j), fun b hb => ?_⟩, fun h => nomatch h⟩
    rw [List.head?_eq_getElem?] at hh
    cases hh.symm.trans hb
    exact c1
  · exact ⟨(fun h => nomatch h), fun _ => ⟨rfl, bl, hl, c2⟩⟩
  · exact ⟨fun _ => bisectLeft_spec v h1, fun h => nomatch h⟩

theorem insertRef_interior {bins : List (K × K)} {v c : K} (hne : bins ≠ []) (h1 : One1 bins)
    (hn : (locate bins v).1 = false)
    (hnohit : ∀ vi fi, bins[(locate bins v).2]? = some (vi, fi) → vi ≠ v) :
    insertRef v c bins = bins.insertIdx (locate bins v).2 (v, c) ∧
    (∀ j b, j < (locate bins v).2 → bins[j]? = some b → b.1 < v) ∧
    ∀ b, bins[(locate bins v).2]? = some b → v < b.1 := by
  obtain ⟨hbelow, hle⟩ := (locate_spec hne h1).1 hn
  have habove : ∀ b, bins[(locate bins v).2]? = some b → v < b.1 := fun b hb =>
    lt_of_le_of_ne (hle b hb) (Ne.symm (hnohit b.1 b.2 hb))
  exact ⟨insertRef_insertIdx v c bins _ (le_of_lt (locate_idx_lt hne hn)) hbelow habove, hbelow, habove⟩

theorem insertRef_append {bins : List (K × K)} {v c : K} (hne : bins ≠ []) (hi : Inc bins) (h1 : One1 bins)
    (hn : (locate bins v).1 = true)
    (hnohit : ∀ vi fi, bins[(locate bins v).2]? = some (vi, fi) → vi ≠ v) :
    insertRef v c bins = bins ++ [(v, c)] := by
  obtain ⟨e, bl, hl, hle⟩ := (locate_spec hne h1).2 hn
  have hbl : bins[(locate bins v).2]? = some bl := by rw [e, ← List.getLast?_eq_getElem?]; exact hl
  have hlt : bl.1 < v := lt_of_le_of_ne hle (hnohit bl.1 bl.2 hbl)
  rw [← List.insertIdx_length_self]
  refine insertRef_insertIdx v c bins _ (le_refl _)
    (fun j b _ hb => lt_of_le_of_lt (inc_le_last bins bl hi hl b (List.mem_of_getElem? hb)) hlt) (fun b hb => ?_)
  rw [List.getElem?_eq_none (le_refl _)] at hb
  cases hb

omit [Field K] [LinearOrder K] in
theorem toR_eq {h : Hist K} {s : RState K} (hb : h.bins = s.bins) (hmin : h.min = s.min) (hmax : h.max = s.max)
    (hcap : h.cap = s.cap) : h.toR = s := by
  cases s
  simp only [Hist.toR] at *
  simp [hb, hmin, hmax, hcap]

/-- No tie hypothesis: both machines merge the first closest pair (`trim_spec`). -/
theorem insertTrim_sim {h h' : Hist K} {v c : K} (hc : Coherent h) (hi : Inc h.bins) (h1 : One1 h.bins)
    (hnohit : ∀ vi fi, h.bins[(locate h.bins v).2]? = some (vi, fi) → vi ≠ v)
    (hok : insertTrim h (locate h.bins v).1 (locate h.bins v).2 v c = .ok h') :
    h'.toR = updateRef h.toR v c := by
  obtain ⟨_, hb, mn, mx, p⟩ := (insertTrim_spec hok).2 hc (fun hn hne => locate_idx_lt hne hn)
  have hins : (if (locate h.bins v).1 then h.bins ++ [(v, c)] else h.bins.insertIdx (locate h.bins v).2 (v, c)) =
      insertRef v c h.bins := by
    by_cases hne : h.bins = []
    · rw [hne]; rfl
    · cases hn : (locate h.bins v).1 with
      | false => exact (insertRef_interior hne h1 hn hnohit).1.symm
      | true => exact (insertRef_append hne hi h1 hn hnohit).symm
  rw [hins] at hb
  exact toR_eq hb mn mx p

end Distogram
