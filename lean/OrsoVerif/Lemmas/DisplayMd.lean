import OrsoVerif.Lemmas.DisplayCell
/-! The Markdown renderer: lengths of its index and columns parts. -/
namespace Display

theorem length_take_rjust (w : Nat) (s : Str) : ((rjust w s).take w).length = w := by
  rw [List.length_take, length_rjust]; omega
theorem length_take_ljust (w : Nat) (s : Str) : ((ljust w s).take w).length = w := by
  rw [List.length_take, length_ljust]; omega

theorem mdColWidthsGo_length (A : Arith) (maxCol : Nat) (t : List (List MdCell)) (i : Nat) (ns : List Str) :
    (mdColWidthsGo A maxCol t i ns).length = ns.length := by
  induction ns generalizing i with
  | nil => rfl
  | cons n ns ih => exact congrArg (· + 1) (ih (i + 1))

/-- width of the columns part of every Markdown line -/
def mdColsWidth (ws : List Nat) : Nat := totalW ws + 3 * (ws.length - 1) + 2

theorem length_mdCols {sep right : Str} (hs : sep.length = 3) (hr : right.length = 2) {xs : List Str} {ws : List Nat}
    (h : Cols (fun s n => s.length = n) xs ws) : (joinWith sep xs ++ right).length = mdColsWidth ws :=
  length_measure.append (length_measure.join hs h) hr

theorem mdRowsGo_cols (A : Arith) (iw : Nat) (ws : List Nat) (i : Nat) (rows : List (List MdCell))
    (h : ∀ r ∈ rows, r.length = ws.length) : ∀ l ∈ mdRowsGo A iw ws i rows, l.cols.length = mdColsWidth ws := by
  induction rows generalizing i with
  | nil => intro l hl; cases hl
  | cons row rest ih =>
    intro l hl
    rcases List.mem_cons.mp hl with rfl | hl
    · exact length_mdCols rfl rfl
        (Cols.zipWithTrunc _ row ws (fun c _ w _ => length_take_rjust w c.text) (h row List.mem_cons_self))
    · exact ih (i + 1) (fun r hr => h r (List.mem_cons_of_mem _ hr)) l hl

theorem mdRowsGo_length (A : Arith) (iw : Nat) (ws : List Nat) (i : Nat) (rows : List (List MdCell)) :
    (mdRowsGo A iw ws i rows).length = rows.length := by
  induction rows generalizing i with
  | nil => rfl
  | cons _ rest ih => exact congrArg (· + 1) (ih (i + 1))

theorem mdRowsGo_idx (A : Arith) (iw : Nat) (ws : List Nat) (i : Nat) (rows : List (List MdCell)) (k : Nat) (l : MdLine)
    (h : (mdRowsGo A iw ws i rows)[k]? = some l) :
    l.idx = ['|'] ++ rjust (A.mdLabelPad iw) (natStr (A.mdLabel (i + k))) ++ [' ', '|', ' '] := by
  induction rows generalizing i k with
  | nil => cases h
  | cons row rest ih =>
    cases k with
    | zero => cases h; rfl
    | succ k => rw [ih (i + 1) k h, Nat.add_assoc, Nat.add_comm 1 k]

end Display
