import OrsoVerif.Lemmas.DisplayCell
import OrsoVerif.Lemmas.DisplaySel
/-! The decoder is total in replace mode; every line of the table is in token form and every box line has the
table's printed width. -/
namespace Display

/-- Replace mode: whatever the bytes, a step emits one character (a decoded one or U+FFFD) and goes on
with a shorter input — each leaf of the decoder's case tree is an `emit`. -/
theorem utf8Go_step (fuel : Nat) (b0 : UInt8) (rest : List UInt8) :
    ∃ c r, utf8Go false (fuel + 1) (b0 :: rest) = consOk c (utf8Go false fuel r) := by
  have ite : ∀ {p : Prop} [Decidable p] {x y : Except Err Str},
      (∃ c r, x = consOk c (utf8Go false fuel r)) → (∃ c r, y = consOk c (utf8Go false fuel r)) →
      ∃ c r, (if p then x else y) = consOk c (utf8Go false fuel r) := by
    intro p _ x y hx hy; split; exact hx; exact hy
  simp only [utf8Go, Bool.false_eq_true, if_false]
  refine ite ⟨_, _, rfl⟩ (ite ⟨_, _, rfl⟩ (ite ?two (ite ?three (ite ?four ⟨_, _, rfl⟩))))
  case two =>
    cases rest with
    | nil => exact ⟨_, _, rfl⟩
    | cons b1 r1 => exact ite ⟨_, _, rfl⟩ ⟨_, _, rfl⟩
  case three =>
    cases rest with
    | nil => exact ⟨_, _, rfl⟩
    | cons b1 r1 =>
      refine ite ⟨_, _, rfl⟩ ?_
      cases r1 with
      | nil => exact ⟨_, _, rfl⟩
      | cons b2 r2 => exact ite ⟨_, _, rfl⟩ ⟨_, _, rfl⟩
  case four =>
    cases rest with
    | nil => exact ⟨_, _, rfl⟩
    | cons b1 r1 =>
      refine ite ⟨_, _, rfl⟩ ?_
      cases r1 with
      | nil => exact ⟨_, _, rfl⟩
      | cons b2 r2 =>
        refine ite ⟨_, _, rfl⟩ ?_
        cases r2 with
        | nil => exact ⟨_, _, rfl⟩
        | cons b3 r3 => exact ite ⟨_, _, rfl⟩ ⟨_, _, rfl⟩

theorem utf8Go_total (fuel : Nat) (b : List UInt8) : ∃ s, utf8Go false fuel b = .ok s := by
  induction fuel generalizing b with
  | zero => exact ⟨[], rfl⟩
  | succ fuel ih =>
    cases b with
    | nil => exact ⟨[], utf8Go_nil false _⟩
    | cons b0 rest =>
      obtain ⟨c, r, h⟩ := utf8Go_step fuel b0 rest
      obtain ⟨s, hs⟩ := ih r
      exact ⟨c :: s, by rw [h, hs]; rfl⟩

theorem formatter_total_any (A : Arith) (cw : Char → Nat) (c : Cell) (w : Nat) : ∃ s, formatCell A cw false c w = .ok s := by
  cases c with
  | bytes b n =>
    obtain ⟨s, hs⟩ := utf8Go_total (b.length + 1) b
    exact ⟨T_BLOB ++ truncPrintable A cw (ljust w s) w true ++ T_OFF, by simp [formatCell, utf8Decode, hs]⟩
  | _ => exact ⟨_, rfl⟩

theorem formatRow_ok {A : Arith} {cw : Char → Nat} {strict : Bool} {M : Str → Nat → Prop} (row : List Cell)
    (ws : List Nat) (h : ∀ c ∈ row, ∀ w ∈ ws, ∃ s, formatCell A cw strict c w = .ok s ∧ M s w) :
    ∃ cells, formatRow A cw strict row ws = .ok cells ∧ (row.length = ws.length → Cols M cells ws) := by
  induction row generalizing ws with
  | nil =>
    refine ⟨[], rfl, fun hlen => ?_⟩
    cases ws with
    | nil => exact .nil
    | cons _ _ => cases hlen
  | cons c cs ih =>
    cases ws with
    | nil => exact ⟨[], rfl, fun hlen => by cases hlen⟩
    | cons w ws =>
      obtain ⟨s, hs, hM⟩ := h c List.mem_cons_self w List.mem_cons_self
      obtain ⟨rest, hr, hC⟩ := ih ws fun x hx v hv => h x (List.mem_cons_of_mem _ hx) v (List.mem_cons_of_mem _ hv)
      exact ⟨s :: rest, by simp only [formatRow, hs, hr], fun hlen => .cons hM (hC (Nat.succ.inj hlen))⟩

theorem bodyLines_ok (A : Arith) (cw : Char → Nat) (p : Params) (iw : Nat) (ws : List Nat) {Q : Tagged → Prop}
    (hell : Q (false, ellipsisLine p.lazy)) (ls : List (Line (List Cell)))
    (h : ∀ label row, Line.data label row ∈ ls →
      ∃ cells, formatRow A cw p.strict row ws = .ok cells ∧ Q (true, dataLine A iw label cells)) :
    ∃ out, bodyLines A cw p iw ws ls = .ok out ∧ ∀ l ∈ out, Q l := by
  induction ls with
  | nil => exact ⟨[], rfl, fun _ hl => by cases hl⟩
  | cons line rest ih =>
    obtain ⟨out, ho, hQ⟩ := ih fun l r hm => h l r (List.mem_cons_of_mem _ hm)
    cases line with
    | ellipsis => exact ⟨_ :: out, by simp only [bodyLines, ho], List.forall_mem_cons.mpr ⟨hell, hQ⟩⟩
    | data label row =>
      obtain ⟨cells, hc, hq⟩ := h label row List.mem_cons_self
      exact ⟨_ :: out, by simp only [bodyLines, ho, hc], List.forall_mem_cons.mpr ⟨hq, hQ⟩⟩

theorem render_total_any (A : Arith) (cw : Char → Nat) (p : Params) (f : Frame) (hp : p.strict = false) :
    ∃ lines, renderLines A cw p f = .ok lines := by
  have hrow : ∀ row ws, ∃ cells, formatRow A cw p.strict row ws = .ok cells := fun row ws =>
    (formatRow_ok (M := fun _ _ => True) row ws fun c _ w _ =>
      (hp ▸ formatter_total_any A cw c w).imp fun _ hs => ⟨hs, trivial⟩).imp fun _ h => h.1
  obtain ⟨body, hb, _⟩ := bodyLines_ok A cw p (idxWidth A p f) (colWidths A p f) (Q := fun _ => True) trivial
    (visibleRows A f.rows p.limit p.tt p.lazy) fun _ row _ => (hrow row _).imp fun _ h => ⟨h, trivial⟩
  exact ⟨_, by simp only [renderLines, rawLines, hb]; rfl⟩

theorem border_prints {l m r fill : Char} (iw : Nat) (ws : List Nat) (hl : TxtC l) (hm : TxtC m) (hr : TxtC r)
    (hf : TxtC fill) : Prints (border l m r fill iw ws) (tableWidth iw ws) := by
  have one : ∀ {c}, TxtC c → Prints [c] 1 := fun h => Prints.replicate h 1
  -- left end `[l] ++ fill… ++ [m, fill]`, separator `[fill, m, fill]`, right end `[fill, r]`
  exact prints_measure.row ((one hl).append (Prints.replicate hf iw) |>.append ((one hm).append (one hf)))
    ((one hf).append (one hm) |>.append (one hf)) ((one hf).append (one hr)) (Cols.map _ (Prints.replicate hf) ws)

theorem sep_prints : Prints [' ', '│', ' '] 3 := Prints.txt (by decide)
theorem end_prints : Prints [' ', '│'] 2 := Prints.txt (by decide)

theorem headerLine_prints (token : Str) (ht : token ∈ usedTokens) (iw : Nat) (vs : List Str) (ws : List Nat)
    (hv : ∀ v ∈ vs, PStr v) (hlen : vs.length = ws.length) :
    Prints (headerLine token iw vs ws) (tableWidth iw ws) :=
  prints_measure.row (((Prints.txt (s := ['│']) (by decide)).append (Prints.replicate (by decide) iw)).append
    (Prints.txt (s := ['│', ' ']) (by decide))) sep_prints end_prints
    (Cols.zipWithTrunc _ vs ws (fun v hv' w _ => Prints.wrap ht
      (Prints.take w (pstr_center w (hv v hv')) (by rw [length_center]; exact Nat.le_max_left _ _))) hlen)

theorem formatRow_prints (cw : Char → Nat) (hcw : ∀ c, TxtC c → cw c = 1) (strict : Bool) (row : List Cell)
    (ws : List Nat) (hc : ∀ c ∈ row, CellAscii c) (hw : ∀ w ∈ ws, 1 ≤ w) (hlen : row.length = ws.length) :
    ∃ cells, formatRow specArith cw strict row ws = .ok cells ∧ Cols Prints cells ws :=
  (formatRow_ok row ws fun c hc' w hw' => formatCell_prints cw hcw strict c w (hc c hc') (hw w hw')).imp
    fun _ h => ⟨h.1, h.2 hlen⟩

theorem dataLine_prints (iw label : Nat) (cells : List Str) (ws : List Nat) (hC : Cols Prints cells ws)
    (hlab : (natStr label).length + 1 ≤ iw) : Prints (dataLine specArith iw label cells) (tableWidth iw ws) := by
  have hlabel : Prints (rjust (iw - 1) (natStr label)) (iw - 1) := by
    have := Prints.pstr (pstr_rjust (iw - 1) (pstr_natStr label))
    rwa [length_rjust, Nat.max_eq_left (by omega)] at this
  have left := ((((Prints.replicate (c := '│') (by decide) 1).append (Prints.tok T_TYPE_mem)).append hlabel).append
    (Prints.tok T_OFF_mem)).append sep_prints
  rw [show 1 + 0 + (iw - 1) + 0 + 3 = 1 + iw + 2 by omega] at left
  exact prints_measure.row left sep_prints end_prints hC

theorem TF_ellipsis (lazy : Bool) : TF (ellipsisLine lazy) := by
  unfold ellipsisLine
  split
  · exact TF_txt (by decide)
  · exact (Prints.wrap T_PUNC_mem (Prints.txt (s := ['.', '.', '.']) (by decide))).1

theorem natStr_len_mono {a b : Nat} (h : a ≤ b) : (natStr a).length ≤ (natStr b).length := by
  unfold natStr
  have hb : 0 < (Nat.toDigits 10 b).length := Nat.length_toDigits_pos
  rw [Nat.length_toDigits_le_iff (by decide) hb]
  have := (Nat.length_toDigits_le_iff (b := 10) (n := b) (k := (Nat.toDigits 10 b).length) (by decide) hb).mp (Nat.le_refl _)
  omega

theorem label_fits {α : Type} (rows : List α) (limit : Nat) (tt lazy : Bool) (hl : 0 < limit) (label : Nat) (row : α)
    (h : Line.data label row ∈ visibleRows specArith rows limit tt lazy) :
    (natStr label).length + 1 ≤ indexWidth specArith rows.length limit tt lazy rows := by
  obtain ⟨i, hi, rfl, hhead⟩ := visibleRows_position rows limit tt lazy hl label row h
  have hlt : i < rows.length := (List.getElem?_eq_some_iff.mp hi).1
  unfold indexWidth
  cases lazy with
  | false =>
    simp only [Bool.false_eq_true, if_false, spec_idxEager]
    have := natStr_len_mono (show i + 1 ≤ rows.length from hlt); omega
  | true =>
    simp only [if_true, spec_idxLazy]
    suffices hb : i + 1 ≤ (lazySelect specArith rows limit tt).2 + 1 by have := natStr_len_mono hb; omega
    cases tt with
    | false =>
      have := hhead rfl
      rw [lazySelect_ff rows limit hl, List.length_take]; omega
    | true =>
      rw [lazySelect_tt rows limit hl]
      dsimp only
      split <;> omega

theorem foldl_max_ge (f : Cell → Nat) (col : List Cell) : ∀ (m : Nat),
    m ≤ col.foldl (fun m c => max m (f c)) m ∧ ∀ c ∈ col, f c ≤ col.foldl (fun m c => max m (f c)) m := by
  induction col with
  | nil => intro m; simp
  | cons x xs ih =>
    intro m
    have := ih (max m (f x))
    simp only [List.foldl_cons, List.mem_cons]
    refine ⟨by omega, ?_⟩
    rintro c (rfl | hc)
    · omega
    · exact this.2 c hc

theorem dataWidth_ge (col : List Cell) : 4 ≤ dataWidth col := (foldl_max_ge cellSlen col 4).1

theorem colWidthsGo_spec (showTypes : Bool) (maxCol : Nat) (t : List (List Cell)) (hm : 1 ≤ maxCol) (i : Nat)
    (ns tys : List Str) (h : ns.length = tys.length) :
    (colWidthsGo specArith showTypes maxCol t i ns tys).length = ns.length
      ∧ ∀ w ∈ colWidthsGo specArith showTypes maxCol t i ns tys, 1 ≤ w := by
  induction ns generalizing i tys with
  | nil => exact ⟨rfl, fun w hw => by cases hw⟩
  | cons n ns ih =>
    cases tys with
    | nil => cases h
    | cons ty tys =>
      have ih := ih (i + 1) tys (Nat.succ.inj h)
      simp only [colWidthsGo, spec_colWidth, List.length_cons, ih.1, List.mem_cons, true_and]
      rintro w (rfl | hw)
      · have := dataWidth_ge (column t i); omega
      · exact ih.2 w hw

/-- A frame with printable-ASCII content: as many type names as column names, rectangular rows,
every name, type name, text parameter and byte printable ASCII (0x20–0x7E). -/
structure FrameAscii (f : Frame) : Prop where
  types_len : f.names.length = f.types.length
  rect : ∀ r ∈ f.rows, r.length = f.names.length
  names : ∀ s ∈ f.names, PStr s
  types : ∀ s ∈ f.types, PStr s
  cells : ∀ r ∈ f.rows, ∀ c ∈ r, CellAscii c

/-- a line of the table is in token form and, if it is a box line, prints `w` characters -/
structure LinePrints (w : Nat) (l : Tagged) : Prop where
  tf : TF l.2
  width : l.1 = true → W l.2 w

theorem Prints.boxLine {s : Str} {w : Nat} (h : Prints s w) : LinePrints w (true, s) := ⟨h.1, fun _ => h.2⟩

theorem rawLines_prints (cw : Char → Nat) (hcw : ∀ c, TxtC c → cw c = 1) (p : Params) (f : Frame) (hf : FrameAscii f)
    (hl : 1 ≤ p.limit) (hm : 1 ≤ p.maxCol) :
    ∃ lines, rawLines specArith cw p f = .ok lines
      ∧ ∀ l ∈ lines, LinePrints (tableWidth (idxWidth specArith p f) (colWidths specArith p f)) l := by
  obtain ⟨hwlen, hws⟩ := colWidthsGo_spec p.showTypes p.maxCol (measuredRows specArith p f) hm 0 f.names f.types
    hf.types_len
  obtain ⟨body, hb, hP⟩ := bodyLines_ok specArith cw p (idxWidth specArith p f) (colWidths specArith p f)
    (Q := LinePrints (tableWidth (idxWidth specArith p f) (colWidths specArith p f)))
    ⟨TF_ellipsis p.lazy, fun hb => nomatch hb⟩ (visibleRows specArith f.rows p.limit p.tt p.lazy) (by
      intro label row hmem
      obtain ⟨i, hi, _⟩ := visibleRows_position f.rows p.limit p.tt p.lazy hl label row hmem
      have hrow := List.mem_of_getElem? hi
      obtain ⟨cells, hc, hC⟩ := formatRow_prints cw hcw p.strict row _ (hf.cells row hrow) hws
        (by rw [hf.rect row hrow]; exact hwlen.symm)
      exact ⟨cells, hc,
        (dataLine_prints _ label cells _ hC (label_fits f.rows p.limit p.tt p.lazy hl label row hmem)).boxLine⟩)
  have bord : ∀ {l m r fill : Char}, l ∈ boxChars → m ∈ boxChars → r ∈ boxChars → fill ∈ boxChars →
      Prints (border l m r fill (idxWidth specArith p f) (colWidths specArith p f)) _ :=
    fun h1 h2 h3 h4 => border_prints _ _ (Or.inr h1) (Or.inr h2) (Or.inr h3) (Or.inr h4)
  refine ⟨_, by simp only [rawLines, hb]; rfl, ?_⟩
  intro l hl
  simp only [List.mem_append, List.mem_cons, List.not_mem_nil, or_false] at hl
  rcases hl with ((((rfl | rfl) | hl) | rfl) | hl) | rfl
  · exact (bord (by decide) (by decide) (by decide) (by decide)).boxLine
  · exact (headerLine_prints T_HEAD T_HEAD_mem _ f.names _ hf.names hwlen.symm).boxLine
  · split at hl
    · cases List.mem_singleton.mp hl
      exact (headerLine_prints T_TYPE T_TYPE_mem _ f.types _ hf.types
        (by rw [← hf.types_len]; exact hwlen.symm)).boxLine
    · cases hl
  · exact (bord (by decide) (by decide) (by decide) (by decide)).boxLine
  · exact hP l hl
  · exact (bord (by decide) (by decide) (by decide) (by decide)).boxLine

theorem renderLines_prints (cw : Char → Nat) (hcw : ∀ c, TxtC c → cw c = 1) (p : Params) (f : Frame) (hf : FrameAscii f)
    (hl : 1 ≤ p.limit) (hm : 1 ≤ p.maxCol) (hd : 1 ≤ p.displayWidth) :
    ∃ lines, renderLines specArith cw p f = .ok lines
      ∧ ∀ l ∈ lines,
          LinePrints (min (tableWidth (idxWidth specArith p f) (colWidths specArith p f)) p.displayWidth) l := by
  obtain ⟨raw, hr, hP⟩ := rawLines_prints cw hcw p f hf hl hm
  refine ⟨_, by simp only [renderLines, hr]; rfl, ?_⟩
  intro l hl
  obtain ⟨l0, hl0, rfl⟩ := List.mem_map.mp hl
  have := Prints.trunc cw hcw (hP l0 hl0).tf hd false
  refine ⟨this.1, fun hb => ?_⟩
  have hw : pwidth l0.2 = tableWidth (idxWidth specArith p f) (colWidths specArith p f) :=
    congrArg Prod.fst ((hP l0 hl0).width hb)
  rw [← hw]; exact this.2

end Display
