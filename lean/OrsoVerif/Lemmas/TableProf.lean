import OrsoVerif.Model.TableProf
import OrsoVerif.Lemmas.ProfileEst
/-!
# Lemmas for C14: table-level sums (`TableProfile.__add__`)

Every column of a table profile reachable by building, estimating and adding **tables** (different column sets, different
row counts, sums of sums) is a column profile reachable in the sense of `Lemmas/ProfileEst.lean` (`treach_cols`) — provided
the stand-in the source builds for a column one of the tables lacks holds no values (`PlaceholderEmpty`).  The two loops of
`__add__` are one `sumLoop`, used through `sumLoop_spec`; `tsum_col` says what a column of a sum is the sum of.
-/
namespace Distogram
open Gen.ProfileEst (addDropsCache addCount addMissing)
open Gen.TableProf (placeholderCount placeholderMissing leftPlaceholderCount leftPlaceholderMissing sumLeftFirst keepsRightOnly
  rightOnlyLeftFirst)

variable {K : Type}

theorem column_mem {t : TProf K} {n : String} {l : EProf K} (h : t.column n = some l) : (n, l) ∈ t.cols := by
  unfold TProf.column at h
  split at h
  · rename_i c hf
    cases h
    have hp := List.find?_some hf
    rw [beq_iff_eq] at hp
    subst hp
    exact List.mem_of_find?_eq_some hf
  · cases h

theorem column_none_of_not_mem {t : TProf K} {n : String} (h : t.names.contains n = false) : t.column n = none := by
  cases hc : t.column n with
  | none => rfl
  | some l =>
    have hn : n ∈ t.names := List.mem_map_of_mem (f := (·.1)) (column_mem hc)
    rw [List.contains_iff_mem.mpr hn] at h
    cases h

/-- What the two loops of `TableProfile.__add__` share: for each name look the column up (`AttributeError` without one), form
the column sum, collect. -/
def sumLoop (col : String → Option (EProf K)) (sum : String → EProf K → Except String (EProf K)) :
    List String → Except String (List (String × EProf K))
  | [] => .ok []
  | n :: rest =>
    match col n with
    | none => .error "AttributeError"
    | some x =>
      match sum n x with
      | .error e => .error e
      | .ok s =>
        match sumLoop col sum rest with
        | .error e => .error e
        | .ok t => .ok ((n, s) :: t)

theorem sumLoop_spec (col : String → Option (EProf K)) (sum : String → EProf K → Except String (EProf K)) :
    ∀ (ns : List String) (cs : List (String × EProf K)), sumLoop col sum ns = .ok cs →
      cs.map (·.1) = ns ∧ ∀ c ∈ cs, ∃ x, col c.1 = some x ∧ sum c.1 x = .ok c.2
  | [], cs, h => by
    cases h
    exact ⟨rfl, fun c hc => absurd hc List.not_mem_nil⟩
  | n :: rest, cs, h => by
    unfold sumLoop at h
    split at h
    · cases h
    · rename_i x hx
      split at h
      · cases h
      · rename_i s hs
        split at h
        · cases h
        · rename_i t ht
          cases h
          obtain ⟨hn, hc⟩ := sumLoop_spec col sum rest t ht
          refine ⟨by rw [List.map_cons, hn], fun c hc' => ?_⟩
          rcases List.mem_cons.mp hc' with rfl | hc'
          · exact ⟨x, hx, hs⟩
          · exact hc c hc'

variable [Field K]

theorem addColumns_eq (add : EProf K → EProf K → Except String (EProf K)) (a b : TProf K) (ns : List String) :
    addColumns add a b ns = sumLoop a.column (fun n l =>
      if sumLeftFirst then add l ((b.column n).getD (placeholder l a.rows b.rows))
      else add ((b.column n).getD (placeholder l a.rows b.rows)) l) ns := by
  induction ns with
  | nil => rfl
  | cons n rest ih => rw [addColumns, sumLoop, ih]; rfl

theorem addRightOnly_eq (add : EProf K → EProf K → Except String (EProf K)) (a b : TProf K) (ns : List String) :
    addRightOnly add a b ns = sumLoop b.column (fun _ r =>
      if rightOnlyLeftFirst then add (placeholderL r a.rows b.rows) r else add r (placeholderL r a.rows b.rows))
      (ns.filter fun n => !a.names.contains n) := by
  induction ns with
  | nil => rfl
  | cons n rest ih =>
    rw [addRightOnly, List.filter_cons]
    by_cases hm : a.names.contains n = true
    · rw [if_pos hm, ih, hm]; rfl
    · rw [if_neg hm, ih, (Bool.not_eq_true _).mp hm]; rfl

theorem tAddWith_ok {add : EProf K → EProf K → Except String (EProf K)} {a b s : TProf K}
    (h : TProf.addWith add a b = .ok s) :
    ∃ cs ds, addColumns add a b a.names = .ok cs ∧
      (if keepsRightOnly then addRightOnly add a b b.names else .ok []) = .ok ds ∧ s.cols = cs ++ ds := by
  unfold TProf.addWith at h
  split at h
  · cases h
  · rename_i cs hc
    rcases hd : (if keepsRightOnly then addRightOnly add a b b.names else .ok []) with e | ds <;> rw [hd] at h
    · cases h
    · cases h
      exact ⟨cs, ds, hc, rfl, rfl⟩

/-- The second loop's columns, whether the source has the loop or not. -/
theorem rightOnly_cols {add : EProf K → EProf K → Except String (EProf K)} {a b : TProf K} {ds : List (String × EProf K)}
    (h : (if keepsRightOnly then addRightOnly add a b b.names else .ok []) = .ok ds) :
    ds.map (·.1) = (if keepsRightOnly then b.names.filter (fun n => !a.names.contains n) else []) ∧
    ∀ c ∈ ds, ∃ r, a.column c.1 = none ∧ b.column c.1 = some r ∧
      (if rightOnlyLeftFirst then add (placeholderL r a.rows b.rows) r else add r (placeholderL r a.rows b.rows)) = .ok c.2 := by
  by_cases k : keepsRightOnly = true
  · rw [if_pos k, addRightOnly_eq] at h
    rw [if_pos k]
    obtain ⟨hn, hc⟩ := sumLoop_spec _ _ _ _ h
    refine ⟨hn, fun c hc' => ?_⟩
    obtain ⟨r, hr, hsum⟩ := hc c hc'
    have hm : c.1 ∈ b.names.filter fun n => !a.names.contains n := hn ▸ List.mem_map_of_mem (f := (·.1)) hc'
    exact ⟨r, column_none_of_not_mem (by simpa using (List.mem_filter.mp hm).2), hr, hsum⟩
  · rw [if_neg k] at h
    rw [if_neg k]
    simp only [Except.ok.injEq] at h
    subst h
    exact ⟨rfl, by intro c hc; simp at hc⟩

theorem tsum_col {add : EProf K → EProf K → Except String (EProf K)} {a b s : TProf K}
    (h : TProf.addWith add a b = .ok s) {c : String × EProf K} (hc : c ∈ s.cols) :
    ∃ l r, (add l r = .ok c.2 ∨ add r l = .ok c.2) ∧
      ((a.column c.1 = some l ∧ (b.column c.1 = some r ∨ b.column c.1 = none ∧ r = placeholder l a.rows b.rows)) ∨
        (a.column c.1 = none ∧ b.column c.1 = some r ∧ l = placeholderL r a.rows b.rows)) := by
  obtain ⟨cs, ds, h1, h2, hs⟩ := tAddWith_ok h
  rw [hs] at hc
  rcases List.mem_append.mp hc with hc | hc
  · rw [addColumns_eq] at h1
    obtain ⟨l, hl, hsum⟩ := (sumLoop_spec _ _ _ _ h1).2 c hc
    refine ⟨l, (b.column c.1).getD (placeholder l a.rows b.rows), ?_, Or.inl ⟨hl, ?_⟩⟩
    · by_cases lf : sumLeftFirst = true
      · rw [if_pos lf] at hsum; exact Or.inl hsum
      · rw [if_neg lf] at hsum; exact Or.inr hsum
    · cases b.column c.1 with
      | none => exact Or.inr ⟨rfl, rfl⟩
      | some r' => exact Or.inl rfl
  · obtain ⟨r, hl, hr, hsum⟩ := (rightOnly_cols h2).2 c hc
    refine ⟨_, r, ?_, Or.inr ⟨hl, hr, rfl⟩⟩
    by_cases lf : rightOnlyLeftFirst = true
    · rw [if_pos lf] at hsum; exact Or.inl hsum
    · rw [if_neg lf] at hsum; exact Or.inr hsum

variable [LinearOrder K]

def EProf.nonNull (p : EProf K) : K := p.count - p.missing

theorem nonNull_add {drop : Bool} {mrg : View K → List (K × K) → Except String (List (K × K))} {a b c : EProf K}
    (h : EProf.addWith drop mrg a b = .ok c) : c.nonNull = a.nonNull + b.nonNull := by
  obtain ⟨hh, _, rfl⟩ := addWith_ok h
  unfold EProf.nonNull
  exact addCount_eq _ _ _ _

/-- What the table theorems need of the source: a stand-in — for a column the right table lacks, and for one the left table
lacks — reports as many missing values as rows, whatever the present column and the row counts of the two tables are. -/
def PlaceholderEmpty (K : Type) [Field K] : Prop :=
  ∀ c m lr rr : K, placeholderCount c m lr rr - placeholderMissing c m lr rr = 0 ∧
    leftPlaceholderCount c m lr rr - leftPlaceholderMissing c m lr rr = 0

/-- Table profiles reachable from freshly built ones (every column well formed, nothing estimated yet) by estimating on a
column and by adding tables. -/
inductive TReach : TProf K → Prop
  | base {t} : (∀ c ∈ t.cols, ProfOK c.2 ∧ c.2.cache = none) → TReach t
  | touch {t} (n : String) : TReach t → TReach (t.touch n)
  | add {a b s} : TReach a → TReach b → TProf.addRef a b = .ok s → TReach s

theorem touchFirst_reach (n : String) : ∀ (cs : List (String × EProf K)),
    (∀ c ∈ cs, Reach refMerge ProfOK c.2) → ∀ c ∈ touchFirst n cs, Reach refMerge ProfOK c.2
  | [], _, c, hc => by simp [touchFirst] at hc
  | d :: rest, h, c, hc => by
    unfold touchFirst at hc
    by_cases e : (d.1 == n) = true
    · rw [if_pos e] at hc
      rcases List.mem_cons.mp hc with rfl | hc
      · exact Reach.touch (h d List.mem_cons_self)
      · exact h c (List.mem_cons_of_mem _ hc)
    · rw [if_neg e] at hc
      rcases List.mem_cons.mp hc with rfl | hc
      · exact h c List.mem_cons_self
      · exact touchFirst_reach n rest (fun x hx => h x (List.mem_cons_of_mem _ hx)) c hc

theorem profOK_of_hist_nil {p : EProf K} (hh : p.hist = []) (h0 : p.nonNull = 0) : ProfOK p where
  inc := by rw [hh]; exact List.Pairwise.nil
  pos := by rw [hh]; exact fun _ h => absurd h List.not_mem_nil
  len := by rw [hh]; exact Nat.zero_le _
  mass := by rw [hh, mass_nil]; exact h0.symm
  bounds := fun h => absurd hh h

theorem treach_cols (hp : PlaceholderEmpty K) {t : TProf K} (h : TReach t) :
    ∀ c ∈ t.cols, Reach refMerge ProfOK c.2 := by
  induction h with
  | base hb => intro c hc; exact Reach.base (hb c hc).1 (hb c hc).2
  | touch n _ ih => exact touchFirst_reach n _ ih
  | @add a b s _ _ hadd iha ihb =>
    intro c hc
    obtain ⟨l, r, hsum, hlr⟩ := tsum_col hadd hc
    have hr : Reach refMerge ProfOK l ∧ Reach refMerge ProfOK r := by
      rcases hlr with ⟨hl, hr | ⟨_, rfl⟩⟩ | ⟨_, hr, rfl⟩
      · exact ⟨iha _ (column_mem hl), ihb _ (column_mem hr)⟩
      · exact ⟨iha _ (column_mem hl), Reach.base (profOK_of_hist_nil rfl (hp l.count l.missing a.rows b.rows).1) rfl⟩
      · exact ⟨Reach.base (profOK_of_hist_nil rfl (hp r.count r.missing a.rows b.rows).2) rfl, ihb _ (column_mem hr)⟩
    rcases hsum with h | h
    · exact Reach.add hr.1 hr.2 h
    · exact Reach.add hr.2 hr.1 h

end Distogram
