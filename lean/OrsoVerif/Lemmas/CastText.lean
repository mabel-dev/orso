import OrsoVerif.Model.CastPrim
import OrsoVerif.Lemmas.Cast
/-!
# C07 — padded renderings: `int()` / `float()` skip white space around the text

Padding made of the white space `int()` skips, on both sides of a text that contains none, is removed by the model's
`strip`, so `int(pre + str(n) + post) = n`; `int()` and `float()` read ASCII bytes as the text they spell.
`FloatTextParam` is the record of what the DOUBLE theorems assume about CPython's `float(text)` (all of it sampled on
every run).
-/
open Cast

namespace Iso
theorem rstrip_all_ws (l : List Char) (h : ∀ c ∈ l, isWs c = true) : rstrip l = [] := by
  induction l with
  | nil => rfl
  | cons c r ih =>
    unfold rstrip
    rw [ih (fun x hx => h x (List.mem_cons_of_mem _ hx))]
    simp [h c List.mem_cons_self]

theorem rstrip_append_ws (s post : List Char) (hs : ∀ c ∈ s, isWs c = false) (hp : ∀ c ∈ post, isWs c = true) :
    rstrip (s ++ post) = s := by
  induction s with
  | nil => exact rstrip_all_ws post hp
  | cons c r ih =>
    have hc := hs c List.mem_cons_self
    rw [List.cons_append]
    unfold rstrip
    rw [ih (fun x hx => hs x (List.mem_cons_of_mem _ hx))]
    cases r with
    | nil => simp [hc]
    | cons a t => rfl

theorem strip_padded (pre s post : List Char) (hs : ∀ c ∈ s, isWs c = false)
    (hpre : ∀ c ∈ pre, isWs c = true) (hpost : ∀ c ∈ post, isWs c = true) :
    strip (pre ++ (s ++ post)) = s := by
  unfold strip
  rw [List.dropWhile_append_of_pos hpre]
  cases s with
  | nil =>
    rw [List.nil_append, ← List.append_nil post, List.dropWhile_append_of_pos hpost]
    rfl
  | cons a t =>
    rw [List.cons_append, List.dropWhile_cons, if_neg (by simp [hs a List.mem_cons_self])]
    exact rstrip_append_ws (a :: t) post hs hpost
end Iso

theorem pyInt_pad (pre s post : List Char) (hs : ∀ c ∈ s, Iso.isWs c = false)
    (hpre : ∀ c ∈ pre, Iso.isWs c = true) (hpost : ∀ c ∈ post, Iso.isWs c = true) :
    Iso.pyInt (pre ++ (s ++ post)) = Iso.pyInt s := by
  unfold Iso.pyInt
  rw [Iso.strip_padded pre s post hs hpre hpost, Iso.strip_of_no_ws s hs]

theorem pyInt_padded (n : Int) (h : (Nat.toDigits 10 n.natAbs).length ≤ Iso.maxStrDigits) (pre post : List Char)
    (hpre : ∀ c ∈ pre, Iso.isWs c = true) (hpost : ∀ c ∈ post, Iso.isWs c = true) :
    Iso.pyInt (pre ++ (renderInt n ++ post)) = .ok n :=
  (pyInt_pad pre _ post (renderInt_no_ws n) hpre hpost).trans (pyInt_renderInt n h)

/-- **Parameter record for `float(text)`** (`fot`) and `repr` (`rep`) — exactly what the DOUBLE theorems assume:
`reprInverse`: `float(repr(f))` is `f`, bit for bit; `padding`: white space around a text does not change what it reads
as; `specials`: the boundary table `Cast.floatSpecials`.  Each field is sampled / compared on every run. -/
structure FloatTextParam (fot : List Char → Option UInt64) (rep : UInt64 → List Char) : Prop where
  reprInverse : ∀ f, fot (rep f) = some f
  padding : ∀ pre s post : List Char, (∀ c ∈ pre, Iso.isWs c = true) → (∀ c ∈ post, Iso.isWs c = true) →
    fot (pre ++ (s ++ post)) = fot s
  specials : ∀ p ∈ Cast.floatSpecials, fot p.1.toList = some p.2

namespace Cast

/-! ### ASCII text as bytes

Each bytes clause of the INTEGER and DOUBLE theorems is its text clause. -/

def asciiBytes (s : List Char) : List UInt8 := s.map fun c => UInt8.ofNat c.toNat

theorem asciiBytes_all (s : List Char) (h : ∀ c ∈ s, c.toNat < 128) :
    (asciiBytes s).all (· < 128) = true := by
  simp only [asciiBytes, List.all_map, List.all_eq_true, Function.comp]
  intro c hc
  have := h c hc
  simp only [decide_eq_true_eq, UInt8.lt_iff_toNat_lt, UInt8.toNat_ofNat']
  have e : (128 : UInt8).toNat = 128 := rfl
  omega

theorem asciiChars_asciiBytes (s : List Char) (h : ∀ c ∈ s, c.toNat < 128) :
    asciiChars (asciiBytes s) = s := by
  simp only [asciiChars, asciiBytes, List.map_map]
  conv => rhs; rw [← List.map_id s]
  apply List.map_congr_left
  intro c hc
  have := h c hc
  simp only [Function.comp, id, UInt8.toNat_ofNat']
  have e : c.toNat % 2 ^ 8 = c.toNat := Nat.mod_eq_of_lt (by omega)
  rw [e]
  exact Char.ofNat_toNat c

theorem isDigit_ascii (c : Char) (h : c.isDigit = true) : c.toNat < 128 :=
  Nat.lt_of_le_of_lt (Char.toNat_of_isDigit h).2 (by decide)

theorem renderInt_ascii (n : Int) : ∀ c ∈ renderInt n, c.toNat < 128 :=
  renderInt_forall (by decide) isDigit_ascii n

theorem parseInteger_asciiBytes (s : List Char) (h : ∀ c ∈ s, c.toNat < 128) :
    parseInteger (.bytes (asciiBytes s)) = parseInteger (.str s) := by
  simp only [parseInteger, asciiBytes_all s h, if_true, asciiChars_asciiBytes s h]

theorem parseDouble_asciiBytes (fot : List Char → Option UInt64) (s : List Char) (h : ∀ c ∈ s, c.toNat < 128) :
    parseDouble fot (.bytes (asciiBytes s)) = parseDouble fot (.str s) := by
  simp only [parseDouble, asciiBytes_all s h, if_true, asciiChars_asciiBytes s h]

theorem parseInteger_str (s : List Char) (n : Int) (h : Iso.pyInt s = .ok n) : parseInteger (.str s) = .ok (.int n) := by
  simp only [parseInteger, h, liftIso, Cast.bind_ok]

theorem parseDouble_str (fot : List Char → Option UInt64) (s : List Char) (f : UInt64) (h : fot s = some f) :
    parseDouble fot (.str s) = .ok (.float f) := by
  simp only [parseDouble, h]

end Cast
