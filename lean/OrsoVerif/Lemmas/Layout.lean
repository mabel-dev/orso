import OrsoVerif.Model.Layout
import OrsoVerif.Model.RowClass
import OrsoVerif.Lemmas.Family
/-!
Lemmas about the bound machine (`Model/Layout.lean`) for *any* configuration that is `sound` and any statement order of
`append` for which one append lays the row out by the current columns (`AppendOk`, proved of the generated order in
`Props/C05.lean`).
-/
namespace Layout
open Validate RowClass

theorem sound_parts (cfg : LCfg) (h : cfg.sound = true) :
    cfg.relayout = .current ∧ cfg.beforeBuild = true ∧ (cfg.fieldsFrom = .columns ∨ cfg.iter = .each) ∧ cfg.new = .rowNew := by
  simp only [LCfg.sound, Bool.and_eq_true, Bool.or_eq_true, beq_iff_eq] at h
  exact ⟨h.1.1.1, h.1.1.2, h.1.2, h.2⟩

theorem classFields_sound (cfg : LCfg) (h : cfg.sound = true) (s : List Column) : classFields cfg s = names s := by
  obtain ⟨_, _, h3, _⟩ := sound_parts cfg h
  unfold classFields iterNames
  rcases h3 with h3 | h3
  · simp [h3]
  · cases hf : cfg.fieldsFrom <;> simp [h3]

theorem relaid_sound (cfg : LCfg) (h : cfg.sound = true) (s : List Column) (f seen : List String) :
    relaid cfg s f seen = names s := by
  obtain ⟨h1, _, _, _⟩ := sound_parts cfg h
  unfold relaid
  rw [h1]
  by_cases hf : f = names s
  · simp [hf]
  · simp [hf, classFields_sound cfg h]

/-- One append on the bound machine leaves the rows `appendK` on the current columns leaves, for every class the frame
may have been left with and whatever the names helper remembers. -/
def AppendOk (cfg : LCfg) : Prop :=
  ∀ (s : List Column) (seen f : List String) (rows : List Row) (k : Kind) (r : Record) (z : Bool),
    (appendL cfg s seen f rows k r z).1 = (appendK s rows k r z).1

theorem step_refinesB (cfg : LCfg) (h : AppendOk cfg) (st : BSt) (op : BOp) :
    ((stepB cfg st op).cols, (stepB cfg st op).regs) = stepBR (st.cols, st.regs) op := by
  cases op with
  | edit _ | bind _ | read _ => simp [stepB, stepBR, BSt.regs]
  | append i k r z =>
    simp only [stepB, stepBR, BSt.regs, List.getElem?_map]
    cases hf : st.frames[i]? with
    | none => simp
    | some f =>
      simp only [Option.map_some, List.map_set]
      rw [h st.cols _ f.fields f.rows k r z]

theorem run_refinesB (cfg : LCfg) (h : AppendOk cfg) (ops : List BOp) :
    ∀ (st : BSt), ((runB cfg st ops).cols, (runB cfg st ops).regs) = runBR (st.cols, st.regs) ops := by
  induction ops with
  | nil => intro st; rfl
  | cons op ops ih =>
    intro st
    simp only [runB, runBR]
    rw [ih, step_refinesB cfg h]

theorem results_lengthB (cfg : LCfg) (ops : List BOp) :
    ∀ (st : BSt), (resultsB cfg st ops).length = (ops.filter fun o => match o with | .append .. => true | _ => false).length := by
  induction ops with
  | nil => intro st; rfl
  | cons op ops ih =>
    intro st
    cases op <;> simp only [resultsB, List.filter_cons, List.length_cons, ih] <;> rfl

theorem runB_append (cfg : LCfg) (a b : List BOp) : ∀ (st : BSt), runB cfg st (a ++ b) = runB cfg (runB cfg st a) b :=
  Family.run_append (runB cfg) (stepB cfg) (fun _ => rfl) (fun _ _ _ => rfl) a b

theorem runBR_append (a b : List BOp) : ∀ p, runBR p (a ++ b) = runBR (runBR p a) b :=
  Family.run_append runBR stepBR (fun _ => rfl) (fun _ _ _ => rfl) a b

/-- The rows the appends of a program add to frame `j`: each accepted record laid out by the columns *of its moment*. -/
def acceptedRows (j : Nat) : List Column → List BOp → List Row
  | _, [] => []
  | s, .edit op :: ops => acceptedRows j (mutate s op) ops
  | s, .append i k r z :: ops =>
    (if i = j ∧ (appendK s [] k r z).2 = .ok then [rowOf s r] else []) ++ acceptedRows j s ops
  | s, _ :: ops => acceptedRows j s ops

/-- What `appendK` adds does not depend on the rows already there: nothing, or `rowOf` of the current columns. -/
def KSpec : Prop :=
  ∀ (s : List Column) (rows : List Row) (k : Kind) (r : Record) (z : Bool), k.wf = true →
    (appendK s rows k r z).1 = (if (appendK s [] k r z).2 = .ok then rows ++ [rowOf s r] else rows)

/-- the record objects of a program are objects CPython can make -/
def BOp.wf : BOp → Bool
  | .append _ k _ _ => k.wf
  | _ => true

theorem runBR_frame (hk : KSpec) (j : Nat) (ops : List BOp) :
    (∀ op ∈ ops, op.wf = true) →
    ∀ (s : List Column) (regs : List (List Row)) (rows : List Row), regs[j]? = some rows →
      (runBR (s, regs) ops).2[j]? = some (rows ++ acceptedRows j s ops) := by
  induction ops with
  | nil => intro _ s regs rows h; simp [runBR, acceptedRows, h]
  | cons op ops ih =>
    intro hwf s regs rows h
    have hop : op.wf = true := hwf op (by simp)
    have ih := ih (fun o ho => hwf o (by simp [ho]))
    cases op with
    | edit _ | read _ => simp only [runBR, stepBR, acceptedRows]; exact ih _ _ _ h
    | bind rs =>
      simp only [runBR, stepBR, acceptedRows]
      apply ih
      rw [List.getElem?_append_left]
      · exact h
      · exact (List.getElem?_eq_some_iff.mp h).1
    | append i k r z =>
      -- on the registers this is an append of `Family`'s register machine, which reaches frame `j` when `i = j`
      have hstep : stepBR (s, regs) (.append i k r z) = (s, Family.stepR s regs (.append i k r z)) := by
        simp only [stepBR, Family.stepR]
        cases regs[i]? <;> rfl
      rw [runBR, hstep, ih s _ _ (Family.stepR_frame s j _ regs rows h), acceptedRows, ← List.append_assoc]
      congr 2
      by_cases hij : i = j
      · by_cases ha : (appendK s [] k r z).2 = .ok <;>
          simp [Family.appendsTo, appendsK, hij, hk s rows k r z hop, ha]
      · simp [Family.appendsTo, appendsK, hij]

end Layout
