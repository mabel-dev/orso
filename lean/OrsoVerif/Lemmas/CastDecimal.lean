import OrsoVerif.Lemmas.Cast
/-! The decimal paths of C07: the reader on number texts (`numText`), of which `Decimal.__str__` and the zero-padded
all-digit text are instances; rounding half to even. -/
namespace Cast

theorem takeWhile_append_stop {α : Type} {p : α → Bool} (l r : List α) (hl : ∀ c ∈ l, p c = true)
    (hr : ∀ c, r.head? = some c → p c = false) : (l ++ r).takeWhile p = l ∧ (l ++ r).dropWhile p = r := by
  rw [List.takeWhile_append_of_pos hl, List.dropWhile_append_of_pos hl]
  cases r with
  | nil => exact ⟨List.append_nil l, rfl⟩
  | cons a r =>
    have ha : ¬ p a = true := by rw [hr a rfl]; exact Bool.false_ne_true
    rw [List.takeWhile_cons_of_neg ha, List.dropWhile_cons_of_neg ha, List.append_nil]
    exact ⟨rfl, rfl⟩

theorem takeWhile_all {α : Type} {p : α → Bool} (l : List α) (hl : ∀ c ∈ l, p c = true) :
    l.takeWhile p = l ∧ l.dropWhile p = [] := by
  simpa only [List.append_nil] using takeWhile_append_stop l [] hl (fun _ h => nomatch h)

/-! ### digit characters -/

theorem notE_of_isDigit {c : Char} (h : c.isDigit = true) : notE c = true := by
  have h1 : c ≠ 'e' := Iso.ne_of_isDigit h (by decide)
  have h2 : c ≠ 'E' := Iso.ne_of_isDigit h (by decide)
  simp [notE, h1, h2]

theorem notDot_of_isDigit {c : Char} (h : c.isDigit = true) : notDot c = true := by
  have h1 : c ≠ '.' := Iso.ne_of_isDigit h (by decide)
  simp [notDot, h1]

theorem splitSign_digit (c : Char) (r : List Char) (h : c.isDigit = true) : splitSign (c :: r) = (false, c :: r) := by
  have h1 : c ≠ '-' := Iso.ne_of_isDigit h (by decide)
  have h2 : c ≠ '+' := Iso.ne_of_isDigit h (by decide)
  simp [splitSign, h1, h2]

theorem upperC_digit {c : Char} (h : c.isDigit = true) : upperC c = c := by
  have hn := Char.toNat_of_isDigit h
  refine if_neg fun ⟨h1, _⟩ => ?_
  have : 97 ≤ c.toNat := h1
  omega

theorem isWsD_of_isDigit {c : Char} (h : c.isDigit = true) : isWsD c = false := by
  have hn := Char.toNat_of_isDigit h
  have hne : (c == ' ') = false := by
    rw [beq_eq_false_iff_ne]; rintro rfl; exact absurd hn.1 (by decide)
  simp only [isWsD, hne, Bool.false_or, Bool.or_eq_false_iff, Bool.and_eq_false_iff, decide_eq_false_iff_not]
  omega

theorem allDigits_iff (l : List Char) : allDigits l = true ↔ ∀ c ∈ l, c.isDigit = true := by
  simp [allDigits, List.all_eq_true]

theorem isDigit_replicate_zero (k : Nat) : ∀ c ∈ List.replicate k '0', c.isDigit = true :=
  fun _ h => (List.mem_replicate.mp h).2 ▸ rfl

theorem natOf_toDigits (n : Nat) : natOf (Nat.toDigits 10 n) = n := Nat.ofDigitChars_ten_toDigits

theorem natOf_zero_pad (k : Nat) (ds : List Char) : natOf (List.replicate k '0' ++ ds) = natOf ds := by
  simp [natOf, Nat.ofDigitChars_append]

theorem natOf_pad (t : List Char) (k : Nat) : natOf (t ++ List.replicate k '0') = natOf t * 10 ^ k := by
  simp [natOf, Nat.ofDigitChars_append, Nat.mul_comm]

/-! ### text without white space -/

theorem dropWhile_none {α : Type} (p : α → Bool) : ∀ (l : List α), (∀ c ∈ l, p c = false) → l.dropWhile p = l
  | [], _ => rfl
  | a :: l, h => List.dropWhile_cons_of_neg (by simp [h a List.mem_cons_self])

theorem stripD_id (l : List Char) (h : ∀ c ∈ l, isWsD c = false) : stripD l = l := by
  unfold stripD
  rw [dropWhile_none _ l h, dropWhile_none _ l.reverse (fun c hc => h c (List.mem_reverse.mp hc)),
    List.reverse_reverse]

/-! ### number texts and what `Decimal` reads from them -/

def fracText : Option (List Char) → List Char
  | none => []
  | some fp => '.' :: fp

/-- The exponent part written by `"%+d"`. -/
def expText : Option (Bool × Nat) → List Char
  | none => []
  | some (nneg, x) => 'E' :: (if nneg then '-' else '+') :: Nat.toDigits 10 x

def expVal : Option (Bool × Nat) → Int
  | none => 0
  | some (nneg, x) => if nneg then -(x : Int) else (x : Int)

/-- `[-] ip [. fp] [E±x]`: the number texts that begin with a digit; `ip ++ frac.getD []` are the digits of the coefficient. -/
def numText (neg : Bool) (ip : List Char) (frac : Option (List Char)) (ex : Option (Bool × Nat)) : List Char :=
  (if neg then ['-'] else []) ++ (ip ++ fracText frac ++ expText ex)

theorem parseExp_expText (ex : Option (Bool × Nat)) : parseExp (expText ex) = some (expVal ex) := by
  match ex with
  | none => rfl
  | some (nneg, x) =>
    have hd := toDigits_isDigit x
    have hne : (Nat.toDigits 10 x).isEmpty = false := List.isEmpty_eq_false_iff.mpr Nat.toDigits_ne_nil
    have hs : splitSign ((if nneg then '-' else '+') :: Nat.toDigits 10 x) = (nneg, Nat.toDigits 10 x) := by
      cases nneg <;> simp [splitSign]
    simp only [expText, parseExp, hs, hne, Bool.not_false, Bool.true_and, (allDigits_iff _).mpr hd, if_true,
      natOf_toDigits, expVal]

theorem decNumber_numText (neg : Bool) (ip : List Char) (frac : Option (List Char)) (ex : Option (Bool × Nat))
    (hd : ∀ c ∈ ip ++ frac.getD [], c.isDigit = true) (hne : ip ≠ []) :
    decNumber neg (ip ++ fracText frac ++ expText ex)
      = some (.fin neg (natOf (ip ++ frac.getD [])) (expVal ex - (frac.getD []).length)) := by
  obtain ⟨hip, hfp⟩ := List.forall_mem_append.mp hd
  have hmant : ∀ c ∈ ip ++ fracText frac, notE c = true := by
    intro c hc
    rcases List.mem_append.mp hc with h | h
    · exact notE_of_isDigit (hip c h)
    · match frac, hfp, h with
      | some fp, hfp, h =>
        rcases List.mem_cons.mp h with rfl | h
        · decide
        · exact notE_of_isDigit (hfp c h)
  -- the mantissa ends where the exponent begins, the integer part at the point
  obtain ⟨h1, h2⟩ := takeWhile_append_stop (p := notE) _ (expText ex) hmant (by
    match ex with
    | none => exact fun _ h => nomatch h
    | some (_, _) => rintro c ⟨⟩; decide)
  obtain ⟨h3, h4⟩ := takeWhile_append_stop (p := notDot) ip (fracText frac)
    (fun c hc => notDot_of_isDigit (hip c hc)) (by
      match frac with
      | none => exact fun _ h => nomatch h
      | some _ => rintro c ⟨⟩; decide)
  have h5 : (fracText frac).drop 1 = frac.getD [] := by cases frac <;> rfl
  have h6 : ip.isEmpty = false := List.isEmpty_eq_false_iff.mpr hne
  simp only [decNumber, h1, h2, h3, h4, h5, (allDigits_iff _).mpr hip, (allDigits_iff _).mpr hfp, Bool.and_self,
    Bool.not_true, h6, Bool.false_and, Bool.or_self, Bool.false_eq_true, if_false, parseExp_expText]

/-- `decOfText` with the four special spellings as lists of characters (decoding a literal's UTF-8 is slow to check) -/
theorem decOfText_eq (s : List Char) :
    decOfText s =
      if upper (splitSign s).2 == ['I', 'N', 'F'] || upper (splitSign s).2 == ['I', 'N', 'F', 'I', 'N', 'I', 'T', 'Y'] then
        some (.inf (splitSign s).1)
      else if upper (splitSign s).2 == ['N', 'A', 'N'] || upper (splitSign s).2 == ['S', 'N', 'A', 'N'] then some .nan
      else decNumber (splitSign s).1 (splitSign s).2 := by
  rw [decOfText, String.toList_ofList, String.toList_ofList, String.toList_ofList, String.toList_ofList]

theorem decOfText_numText (neg : Bool) (ip : List Char) (frac : Option (List Char)) (ex : Option (Bool × Nat))
    (hd : ∀ c ∈ ip ++ frac.getD [], c.isDigit = true) (hne : ip ≠ []) :
    decOfText (numText neg ip frac ex)
      = some (.fin neg (natOf (ip ++ frac.getD [])) (expVal ex - (frac.getD []).length)) := by
  rw [← decNumber_numText neg ip frac ex hd hne, numText]
  obtain ⟨c0, ip', rfl⟩ := List.exists_cons_of_ne_nil hne
  have hc : c0.isDigit = true := hd c0 List.mem_cons_self
  show decOfText ((if neg then ['-'] else []) ++ c0 :: (ip' ++ fracText frac ++ expText ex))
    = decNumber neg (c0 :: (ip' ++ fracText frac ++ expText ex))
  generalize ip' ++ fracText frac ++ expText ex = r
  have hs : splitSign ((if neg then ['-'] else []) ++ c0 :: r) = (neg, c0 :: r) := by
    cases neg
    · exact splitSign_digit c0 r hc
    · rfl
  -- a text that begins with a digit is none of the special values
  have hu : ∀ (x : Char) (xs : List Char), x.isDigit = false → (upper (c0 :: r) == x :: xs) = false := by
    intro x xs hx
    have hne' : c0 ≠ x := Iso.ne_of_isDigit hc hx
    simp [upper, upperC_digit hc, hne']
  simp only [decOfText_eq, hs, hu _ _ (by decide : 'I'.isDigit = false),
    hu _ _ (by decide : 'N'.isDigit = false), hu _ _ (by decide : 'S'.isDigit = false), Bool.or_self,
    Bool.false_eq_true, if_false]

theorem isWsD_numText (neg : Bool) (ip : List Char) (frac : Option (List Char)) (ex : Option (Bool × Nat))
    (hd : ∀ c ∈ ip ++ frac.getD [], c.isDigit = true) : ∀ c ∈ numText neg ip frac ex, isWsD c = false := by
  obtain ⟨hip, hfp⟩ := List.forall_mem_append.mp hd
  intro c hc
  simp only [numText, List.mem_append] at hc
  rcases hc with hc | (hc | hc) | hc
  · cases neg
    · nomatch hc
    · rw [List.mem_singleton.mp hc]; decide
  · exact isWsD_of_isDigit (hip c hc)
  · match frac, hfp, hc with
    | some fp, hfp, hc =>
      rcases List.mem_cons.mp hc with rfl | hc
      · decide
      · exact isWsD_of_isDigit (hfp c hc)
  · match ex, hc with
    | some (nneg, x), hc =>
      rcases List.mem_cons.mp hc with rfl | hc
      · decide
      · rcases List.mem_cons.mp hc with rfl | hc
        · cases nneg <;> decide
        · exact isWsD_of_isDigit (toDigits_isDigit x c hc)

/-! ### the canonical rendering -/

theorem renderBody_numText (ds : List Char) (dot : Int) (hne : ds ≠ []) (hdot : dot ≤ ds.length) :
    ∃ ip frac j, renderBody ds dot = ip ++ fracText frac ∧ ip ≠ [] ∧
      ip ++ frac.getD [] = List.replicate j '0' ++ ds ∧ ((frac.getD []).length : Int) = ds.length - dot := by
  unfold renderBody
  by_cases h1 : dot ≤ 0
  · refine ⟨['0'], some (List.replicate (-dot).toNat '0' ++ ds), (-dot).toNat + 1, if_pos h1, List.cons_ne_nil _ _, rfl, ?_⟩
    simp only [Option.getD_some, List.length_append, List.length_replicate]; omega
  · rw [if_neg h1]
    by_cases h2 : dot ≥ ds.length
    · have hz : (dot - (ds.length : Int)).toNat = 0 := by omega
      rw [if_pos h2, hz]
      exact ⟨ds, none, 0, rfl, hne, List.append_nil _, by simp only [Option.getD_none, List.length_nil]; omega⟩
    · refine ⟨ds.take dot.toNat, some (ds.drop dot.toNat), 0, if_neg h2, ?_, List.take_append_drop _ _, ?_⟩
      · intro h0
        have := congrArg List.length h0
        rw [List.length_take, List.length_nil] at this
        omega
      · simp only [Option.getD_some, List.length_drop]; omega

theorem renderExp_eq (x : Int) : ∃ ex, renderExp x = expText ex ∧ expVal ex = x := by
  unfold renderExp
  by_cases h : x = 0
  · exact ⟨none, if_pos h, h.symm⟩
  · refine ⟨some (decide (x < 0), x.natAbs), by simp [if_neg h, expText], ?_⟩
    simp only [expVal, decide_eq_true_eq]
    split <;> omega

theorem renderFin_numText (neg : Bool) (ds : List Char) (e : Int) (hds : ∀ c ∈ ds, c.isDigit = true) (hne : ds ≠ []) :
    ∃ ip frac ex, renderFin neg ds e = numText neg ip frac ex ∧ ip ≠ [] ∧
      (∀ c ∈ ip ++ frac.getD [], c.isDigit = true) ∧ natOf (ip ++ frac.getD []) = natOf ds ∧
      expVal ex - (frac.getD []).length = e := by
  have hlen : 1 ≤ ds.length := List.length_pos_iff.mpr hne
  have hdot : dotPlace e (e + ds.length) ≤ ds.length := by unfold dotPlace; split <;> omega
  obtain ⟨ip, frac, j, hb, hip, hcat, hfl⟩ := renderBody_numText ds _ hne hdot
  obtain ⟨ex, hex, hval⟩ := renderExp_eq (e + ds.length - dotPlace e (e + ds.length))
  refine ⟨ip, frac, ex, by rw [renderFin, hb, hex, numText, List.append_assoc], hip, ?_, ?_, by omega⟩
  · rw [hcat]; exact List.forall_mem_append.mpr ⟨isDigit_replicate_zero j, hds⟩
  · rw [hcat, natOf_zero_pad]

theorem renderDec_reads (d : Dec) : decOfText (renderDec d) = some d ∧ stripD (renderDec d) = renderDec d := by
  match d with
  | .nan | .inf true | .inf false => rw [decOfText_eq, renderDec, String.toList_ofList]; decide
  | .fin neg c e =>
    obtain ⟨ip, frac, ex, h, hip, hd, hn, hx⟩ := renderFin_numText neg _ e (toDigits_isDigit c) Nat.toDigits_ne_nil
    rw [renderDec, h]
    exact ⟨by rw [decOfText_numText neg ip frac ex hd hip, hn, hx, natOf_toDigits],
      stripD_id _ (isWsD_numText neg ip frac ex hd)⟩

theorem decOfText_padText (s : Nat) (t : List Char) (hne : t ≠ []) (ht : ∀ c ∈ t, c.isDigit = true) :
    decOfText (stripD (padText s t))
      = some (.fin false (natOf t * 10 ^ (Gen.Cast.padCount s).toNat) (-((Gen.Cast.padCount s).toNat : Int))) := by
  have h1 : (!t.isEmpty && allDigits t) = true := by
    rw [List.isEmpty_eq_false_iff.mpr hne, (allDigits_iff t).mpr ht]; rfl
  rw [padText, if_pos h1]
  generalize (Gen.Cast.padCount s).toNat = k
  have hd : ∀ c ∈ t ++ (some (List.replicate k '0')).getD [], c.isDigit = true :=
    List.forall_mem_append.mpr ⟨ht, isDigit_replicate_zero k⟩
  have htext : t ++ '.' :: List.replicate k '0' = numText false t (some (List.replicate k '0')) none := by
    simp [numText, fracText, expText]
  rw [htext, stripD_id _ (isWsD_numText _ _ _ _ hd), decOfText_numText _ _ _ _ hd hne]
  simp only [Option.getD_some, natOf_pad, expVal, List.length_replicate]
  congr 3
  omega

/-! ### rounding half to even -/

/-- `roundQuot c k` is a nearest multiple of `10^k` to `c`, and on a tie the even one. -/
theorem roundQuot_spec (c k : Nat) :
    2 * (roundQuot c k * 10 ^ k) ≤ 2 * c + 10 ^ k ∧ 2 * c ≤ 2 * (roundQuot c k * 10 ^ k) + 10 ^ k ∧
    ((2 * (roundQuot c k * 10 ^ k) = 2 * c + 10 ^ k ∨ 2 * c = 2 * (roundQuot c k * 10 ^ k) + 10 ^ k) →
      roundQuot c k % 2 = 0) ∧
    (roundQuot c k = c / 10 ^ k ∨ roundQuot c k = c / 10 ^ k + 1) := by
  have hdm := Nat.div_add_mod c (10 ^ k)
  have hr := Nat.mod_lt c (Nat.pow_pos (by decide : 0 < 10) (n := k))
  unfold roundQuot
  simp only []
  -- with `c = T * q + r`, `r < T`, the claim is linear in `T`, `r`, the product `T * q` and (for the parity) `q`
  generalize 10 ^ k = T at *
  generalize c / T = q at *
  generalize c % T = r at *
  subst hdm
  split
  · rw [Nat.add_mul q 1 T, Nat.one_mul, Nat.mul_comm q T]
    generalize T * q = X at *
    omega
  · rw [Nat.mul_comm q T]
    generalize T * q = X at *
    omega

theorem numDigits_le_iff (n p : Nat) (hp : 0 < p) : numDigits n ≤ p ↔ n < 10 ^ p :=
  Nat.length_toDigits_le_iff (by decide) hp

theorem lt_numDigits_iff (n p : Nat) (hp : 0 < p) : p < numDigits n ↔ 10 ^ p ≤ n := by
  rw [← Nat.not_le, numDigits_le_iff n p hp, Nat.not_lt]

theorem numDigits_mono {a b p : Nat} (hp : 0 < p) (hab : a ≤ b) (hb : numDigits b ≤ p) : numDigits a ≤ p := by
  rw [numDigits_le_iff _ _ hp] at hb ⊢
  omega

end Cast
