import OrsoVerif.Lemmas.PersistFns
/-!
# C16 — a schema with a history

A *session* on one schema object: records are validated, then the schema is edited in place (an attribute of a
column assigned, a column added, removed, replaced, the column list reversed), any number of times.  In the model a
schema is a value: validating a record leaves it as it is (`Edit.use`), which is exactly what the extracted
`Gen.ValidateFlow.hiddenState = []` says of the code (`C16.validate_reads_current_columns`).  The lemmas here show
that every edit keeps each column in a `Reachable` state, so the round-trip theorems apply after any session.
-/
namespace Persist
open Gen.Persist
variable {V : Type}

/-- an in-place assignment to one column (the attributes of `Reachable`) -/
inductive ColEdit (V : Type) where
  | name (x : String) | description (x : Option String) | aliases (x : Option (List String)) | nullable (x : Bool)
  | identity (x : String) | highest_value (x : V) | lowest_value (x : V) | null_count (x : Option Nat)
  | origin (x : List String) | length (x : Option Nat)

def ColEdit.apply : ColEdit V → Col V → Col V
  | .name x, c => { c with name := x }
  | .description x, c => { c with description := x }
  | .aliases x, c => { c with aliases := x }
  | .nullable x, c => { c with nullable := x }
  | .identity x, c => { c with identity := x }
  | .highest_value x, c => { c with highest_value := x }
  | .lowest_value x, c => { c with lowest_value := x }
  | .null_count x, c => { c with null_count := x }
  | .origin x, c => { c with origin := x }
  | .length x, c => { c with length := x }

theorem ColEdit.reachable (K : Caster V) (e : ColEdit V) (c : Col V) (h : Reachable K c) : Reachable K (e.apply c) := by
  cases e with
  | name x => exact .name x h
  | description x => exact .description x h
  | aliases x => exact .aliases x h
  | nullable x => exact .nullable x h
  | identity x => exact .identity x h
  | highest_value x => exact .highest_value x h
  | lowest_value x => exact .lowest_value x h
  | null_count x => exact .null_count x h
  | origin x => exact .origin x h
  | length x => exact .length x h

def modifyAt {α : Type} (f : α → α) : Nat → List α → List α
  | _, [] => []
  | 0, a :: l => f a :: l
  | n + 1, a :: l => a :: modifyAt f n l

def removeAt {α : Type} : Nat → List α → List α
  | _, [] => []
  | 0, _ :: l => l
  | n + 1, a :: l => a :: removeAt n l

theorem forall_mem_modifyAt {α : Type} (f : α → α) (P : α → Prop) (hf : ∀ a, P a → P (f a)) (n : Nat) (l : List α)
    (h : ∀ a ∈ l, P a) : ∀ a ∈ modifyAt f n l, P a := by
  induction l generalizing n with
  | nil => cases n <;> exact h
  | cons b l ih =>
    rw [List.forall_mem_cons] at h
    cases n with
    | zero => exact List.forall_mem_cons.mpr ⟨hf b h.1, h.2⟩
    | succ n => exact List.forall_mem_cons.mpr ⟨h.1, ih n h.2⟩

theorem forall_mem_removeAt {α : Type} (P : α → Prop) (n : Nat) (l : List α) (h : ∀ a ∈ l, P a) :
    ∀ a ∈ removeAt n l, P a := by
  induction l generalizing n with
  | nil => cases n <;> exact h
  | cons b l ih =>
    rw [List.forall_mem_cons] at h
    cases n with
    | zero => exact h.2
    | succ n => exact List.forall_mem_cons.mpr ⟨h.1, ih n h.2⟩

/-- one step of a session on a schema object -/
inductive Edit (V : Type) where
  /-- a record is validated (directly or through `DataFrame.append`): the schema is read, not written -/
  | use (record : Validate.Record)
  | col (i : Nat) (e : ColEdit V)
  | add (c : Col V)
  | remove (i : Nat)
  | replace (i : Nat) (c : Col V)
  | reverse
  | schemaName (x : String)
  | schemaAliases (x : List String)
  | primaryKey (x : Option String)

def Edit.apply : Edit V → Schema V → Schema V
  | .use _, s => s
  | .col i e, s => { s with columns := modifyAt e.apply i s.columns }
  | .add c, s => { s with columns := s.columns ++ [c] }
  | .remove i, s => { s with columns := removeAt i s.columns }
  | .replace i c, s => { s with columns := modifyAt (fun _ => c) i s.columns }
  | .reverse, s => { s with columns := s.columns.reverse }
  | .schemaName x, s => { s with name := x }
  | .schemaAliases x, s => { s with aliases := x }
  | .primaryKey x, s => { s with primary_key := x }

/-- a column brought into the schema by an edit is itself reachable (built by the constructor, possibly edited) -/
def Edit.Fine (K : Caster V) : Edit V → Prop
  | .add c => Reachable K c
  | .replace _ c => Reachable K c
  | _ => True

def runSession (es : List (Edit V)) (s : Schema V) : Schema V := es.foldl (fun s e => e.apply s) s

theorem Edit.keeps (K : Caster V) (e : Edit V) (he : e.Fine K) (s : Schema V) (h : ∀ c ∈ s.columns, Reachable K c) :
    ∀ c ∈ (e.apply s).columns, Reachable K c := by
  cases e with
  | col i ce => exact forall_mem_modifyAt _ (Reachable K) (fun a ha => ce.reachable K a ha) i s.columns h
  | add c => exact List.forall_mem_append.mpr ⟨h, List.forall_mem_singleton.mpr he⟩
  | remove i => exact forall_mem_removeAt (Reachable K) i s.columns h
  | replace i c => exact forall_mem_modifyAt _ (Reachable K) (fun _ _ => he) i s.columns h
  | reverse => exact fun x hx => h x (List.mem_reverse.mp hx)
  -- validating a record and assigning the schema's own attributes leave the columns alone
  | _ => exact h

theorem runSession_keeps (K : Caster V) : ∀ (es : List (Edit V)), (∀ e ∈ es, e.Fine K) → ∀ (s : Schema V),
    (∀ c ∈ s.columns, Reachable K c) → ∀ c ∈ (runSession es s).columns, Reachable K c :=
  fun es hes _ h => List.foldlRecOn es _ h fun s hs e he => Edit.keeps K e (hes e he) s hs

/-- does the step write the schema? (`use` = validating a record does not) -/
def Edit.writes : Edit V → Bool
  | .use _ => false
  | _ => true

theorem runSession_ignores_use : ∀ (es : List (Edit V)) (s : Schema V),
    runSession es s = runSession (es.filter Edit.writes) s
  | [], _ => rfl
  | e :: es, s => by
    -- a `use` step is dropped by the filter and leaves `s` as it is; any other step is kept and applied on both sides
    cases e
    case use => exact runSession_ignores_use es s
    all_goals exact runSession_ignores_use es _

/-! ## any written state: what `validate` reads survives the dictionary, whatever else the column holds

An attribute assigned in place (a type member next to a default of the old type, a DECIMAL without precision, a raw
default) gives a state no constructor call produces; `from_dict ∘ to_dict` (`reload`, `Lemmas/PersistAll.lean`) is then not
the identity (the constructor casts the default and fills the DECIMAL parameters on load) and may raise.  When it succeeds,
the name, the type and the nullability are the ones written (`reload_vcol`). -/

theorem jsonRoundTrip_vcol (K : Caster V) (fresh : String) (c c' : Col V) (hty : TypeWritable c)
    (h : jsonRoundTrip K fresh c = .ok c') : vcol c' = vcol c := by
  unfold jsonRoundTrip at h
  split at h
  · cases h
  · rename_i d hd
    unfold colToJson at hd
    split at hd
    · cases hd
    · split at hd
      · cases hd
        rw [load_jsonLoader, colToDict_json, colFromDict_colToDict] at h
        -- `vcol` reads none of the rendered values
        · exact (reload_vcol h).trans rfl
        · exact hty
      · cases hd

theorem fromDict_vcols (K : Caster V) (fresh : String) (s s' : Schema V) (hw : ∀ c ∈ s.columns, TypeWritable c)
    (h : fromDict K fresh (toDict s) = .ok s') : vcols s' = vcols s := by
  rw [fromDict_toDict_reload K fresh s hw] at h
  split at h
  · cases h
  · rename_i cs hcs
    cases h
    exact mapE_view vcol vcol s.columns cs (fun _ _ _ hb => reload_vcol hb) hcs

/-! ## sessions with arbitrary in-place writes -/

/-- one step of a session in which anything may be written: `touch` is any in-place write to a column that leaves its
type alone (a raw default, a precision, a name, …), `retype` assigns an `OrsoTypes` member to its type -/
inductive RawEdit (V : Type) where
  | use (record : Validate.Record)
  | touch (i : Nat) (f : Col V → Col V) (hf : ∀ c, (f c).type = c.type)
  | retype (i : Nat) (m : TypeName.Str)
  | add (c : Col V)
  | remove (i : Nat)
  | replace (i : Nat) (c : Col V)
  | reverse

def RawEdit.apply : RawEdit V → Schema V → Schema V
  | .use _, s => s
  | .touch i f _, s => { s with columns := modifyAt f i s.columns }
  | .retype i m, s => { s with columns := modifyAt (fun c => { c with type := .member m }) i s.columns }
  | .add c, s => { s with columns := s.columns ++ [c] }
  | .remove i, s => { s with columns := removeAt i s.columns }
  | .replace i c, s => { s with columns := modifyAt (fun _ => c) i s.columns }
  | .reverse, s => { s with columns := s.columns.reverse }

def RawEdit.Fine : RawEdit V → Prop
  | .retype _ m => m ∈ persistableTypes
  | .add c => TypeWritable c
  | .replace _ c => TypeWritable c
  | _ => True

def runRaw (es : List (RawEdit V)) (s : Schema V) : Schema V := es.foldl (fun s e => e.apply s) s

theorem RawEdit.keeps (e : RawEdit V) (he : e.Fine) (s : Schema V) (h : ∀ c ∈ s.columns, TypeWritable c) :
    ∀ c ∈ (e.apply s).columns, TypeWritable c := by
  cases e with
  | use r => exact h
  | touch i f hf =>
    refine forall_mem_modifyAt f TypeWritable (fun a ha => ?_) i s.columns h
    unfold TypeWritable at ha ⊢
    rw [hf a]
    exact ha
  | retype i m => exact forall_mem_modifyAt _ TypeWritable (fun _ _ => .inr ⟨m, rfl, he⟩) i s.columns h
  | add c => exact List.forall_mem_append.mpr ⟨h, List.forall_mem_singleton.mpr he⟩
  | remove i => exact forall_mem_removeAt TypeWritable i s.columns h
  | replace i c => exact forall_mem_modifyAt _ TypeWritable (fun _ _ => he) i s.columns h
  | reverse => exact fun x hx => h x (List.mem_reverse.mp hx)

theorem runRaw_keeps : ∀ (es : List (RawEdit V)), (∀ e ∈ es, e.Fine) → ∀ (s : Schema V),
    (∀ c ∈ s.columns, TypeWritable c) → ∀ c ∈ (runRaw es s).columns, TypeWritable c :=
  fun es hes _ h => List.foldlRecOn es _ h fun s hs e he => RawEdit.keeps e (hes e he) s hs

theorem typeWritable_of_reachable (K : Caster V) (c : Col V) (h : Reachable K c) : TypeWritable c :=
  (reachable_writable K c h).1

end Persist
