import OrsoVerif.Model.DisplayTd
/-! Lemmas about the timedelta64 arithmetic of `numpy_type_mapper` as extracted (`Gen.DisplayTd`). -/
namespace DisplayTd
open Gen.DisplayTd

/-- The quotient `float(numer) / denom` of the source is, in exact arithmetic, `t · step · len / per`
seconds: `common` is positive, `denom` is positive, cross-multiplication is exact and the numerator is
no larger than the uncancelled product. -/
theorem quotient_exact (t step len per : Int) (hper : 0 < per) :
    0 < common step len per
    ∧ 0 < denom per (common step len per)
    ∧ numer t step len (common step len per) * per = t * step * len * denom per (common step len per)
    ∧ (numer t step len (common step len per)).natAbs ≤ (t * step * len).natAbs := by
  simp only [common, numer, denom, igcd]
  have hne : per ≠ 0 := by omega
  have hc : (0 : Int) < ((Int.gcd (step * len) per : Nat) : Int) := by
    exact_mod_cast Int.gcd_pos_of_ne_zero_right (step * len) hne
  have hdl := Int.gcd_dvd_left (step * len) per
  have hdr := Int.gcd_dvd_right (step * len) per
  generalize ((Int.gcd (step * len) per : Nat) : Int) = g at hc hdl hdr
  rw [Int.fdiv_eq_ediv_of_nonneg _ (Int.le_of_lt hc), Int.fdiv_eq_ediv_of_nonneg _ (Int.le_of_lt hc)]
  have hd : 0 < per / g := Int.ediv_pos_of_pos_of_dvd hper (Int.le_of_lt hc) hdr
  obtain ⟨a', ha⟩ := hdl
  obtain ⟨p', hp⟩ := hdr
  have hgne : g ≠ 0 := by omega
  have e1 : step * len / g = a' := by rw [ha, Int.mul_ediv_cancel_left _ hgne]
  have e2 : per / g = p' := by rw [hp, Int.mul_ediv_cancel_left _ hgne]
  refine ⟨hc, hd, ?_, ?_⟩
  · rw [e1, e2, Int.mul_assoc t step len, ha, hp]; ac_rfl
  · rw [e1, Int.mul_assoc t step len, ha, Int.natAbs_mul, Int.natAbs_mul, Int.natAbs_mul]
    have hg1 : 1 ≤ g.natAbs := by omega
    calc t.natAbs * a'.natAbs = t.natAbs * (1 * a'.natAbs) := by rw [Nat.one_mul]
      _ ≤ t.natAbs * (g.natAbs * a'.natAbs) := Nat.mul_le_mul_left _ (Nat.mul_le_mul_right _ hg1)

/-- Magnitude of the uncancelled product for a 64-bit count, a step that fits numpy's C `int` and a tick
length of at most a week. -/
theorem product_bound (raw step len : Int) (hraw : raw.natAbs ≤ 2 ^ 63) (hstep : step.natAbs < 2 ^ 31)
    (hlen : len.natAbs ≤ 604800) : (raw * step * len).natAbs < 2 ^ 114 := by
  rw [Int.natAbs_mul, Int.natAbs_mul]
  have h1 : raw.natAbs * step.natAbs ≤ 2 ^ 63 * 2 ^ 31 := Nat.mul_le_mul hraw (Nat.le_of_lt hstep)
  have h2 : raw.natAbs * step.natAbs * len.natAbs ≤ 2 ^ 63 * 2 ^ 31 * 604800 := Nat.mul_le_mul h1 hlen
  exact Nat.lt_of_le_of_lt h2 (by decide)

theorem unit_in_one_table : ∀ u ∈ numpyUnits, (specMonths.lookup u).isSome = !(specSeconds.lookup u).isSome := by
  decide +kernel

theorem specSeconds_entries : ∀ e ∈ specSeconds, e.2.1.natAbs ≤ 604800 ∧ 0 < e.2.2 := by decide +kernel

theorem specSeconds_lookup {u : String} {len per : Int} (h : specSeconds.lookup u = some (len, per)) :
    len.natAbs ≤ 604800 ∧ 0 < per := by
  obtain ⟨l₁, l₂, e, _⟩ := List.lookup_eq_some_iff.mp h
  exact specSeconds_entries (u, len, per) (by rw [e]; simp)

theorem mapTd_seconds (u : String) (len per : Int) (h1 : monthsTable.lookup u = none)
    (h2 : secondsTable.lookup u = some (len, per)) (hper : 0 < per) (step raw : Int) :
    ∃ n d, mapTd u step raw = .seconds n d ∧ 0 < d ∧ n * per = raw * step * len * d
      ∧ n.natAbs ≤ (raw * step * len).natAbs := by
  obtain ⟨hc, hd, hx, hb⟩ := quotient_exact (ticks raw) step len per hper
  refine ⟨numer (ticks raw) step len (common step len per), denom per (common step len per), ?_, hd, ?_, ?_⟩
  · simp only [mapTd, h1, h2]; rw [if_neg (by omega), if_neg (by omega)]
  · simpa [ticks] using hx
  · simpa [ticks] using hb

theorem pinned_agrees_aux (u : String) (len per : Int) (h1 : monthsTable.lookup u = none)
    (h2 : secondsTable.lookup u = some (len, per)) (h3 : specSeconds.lookup u = some (len, per)) (hper : 0 < per)
    (step raw n d : Int) (h : pinnedSeconds u step raw = some (n, d)) : mapTd u step raw = .seconds n d := by
  obtain ⟨hc, hd, _, _⟩ := quotient_exact (ticks raw) step len per hper
  simp only [pinnedSeconds, h3] at h
  split at h
  · cases h
  · split at h
    · injection h with h; injection h with hn hdd
      simp only [mapTd, h1, h2]
      rw [if_neg (by omega), if_neg (by omega)]
      simp only [common, igcd] at hc
      simp only [numer, denom, common, ticks, id, Int.fdiv_eq_ediv_of_nonneg _ (Int.le_of_lt hc), ← hn, ← hdd, igcd]
    · cases h

end DisplayTd
