import OrsoVerif.Lemmas.CacheSeq
/-! C19: the statement-level LRU machine equals the declarative specification. -/
namespace Cache
variable {K : Type} [DecidableEq K]

/-- keys are unique: two stored entries with equal keys are the same entry -/
def KeyInj (c : List (LEntry K)) : Prop := ∀ e ∈ c, ∀ e' ∈ c, e.key = e'.key → e = e'

set_option linter.unusedSectionVars false in
theorem KeyInj.sublist {c c' : List (LEntry K)} (h : KeyInj c) (hs : ∀ e ∈ c', e ∈ c) : KeyInj c' :=
  fun e he e' he' hk => h e (hs e he) e' (hs e' he') hk

omit [DecidableEq K] in
theorem KeyInj.append {c : List (LEntry K)} {e : LEntry K} (h : KeyInj c) (hn : ∀ x ∈ c, x.key ≠ e.key) :
    KeyInj (c ++ [e]) := by
  intro x hx y hy hxy
  rcases List.mem_append.mp hx with hx1 | hx1 <;> rcases List.mem_append.mp hy with hy1 | hy1
  · exact h x hx1 y hy1 hxy
  · cases List.mem_singleton.mp hy1; exact absurd hxy (hn x hx1)
  · cases List.mem_singleton.mp hx1; exact absurd hxy.symm (hn y hy1)
  · rw [List.mem_singleton.mp hx1, List.mem_singleton.mp hy1]

theorem foldl_delKey (ks : List K) (c : List (LEntry K)) :
    ks.foldl delKey c = c.filter (fun e => ks.all (fun k => decide (e.key ≠ k))) :=
  foldl_filter _ ks c

omit [DecidableEq K] in
theorem mem_expiredKeys {valid : Option Int} {now : Int} {c : List (LEntry K)} {e : LEntry K} (he : e ∈ c)
    (hf : fresh valid now e.time = false) : e.key ∈ expiredKeys valid now c :=
  List.mem_map.mpr ⟨e, List.mem_filter.mpr ⟨he, by rw [hf]; rfl⟩, rfl⟩

theorem sweep_eq_filter (valid : Option Int) (now : Int) (c : List (LEntry K)) (h : KeyInj c) :
    sweep valid now c = c.filter (fun e => fresh valid now e.time) := by
  unfold sweep
  rw [foldl_delKey]
  apply List.filter_congr
  intro e he
  cases hf : fresh valid now e.time with
  | true =>
    -- an expired entry under the same key would be `e` itself
    refine List.all_eq_true.mpr fun k hk => decide_eq_true fun hek => ?_
    obtain ⟨e', he', rfl⟩ := List.mem_map.mp hk
    obtain ⟨hm, hf'⟩ := List.mem_filter.mp he'
    cases h e he e' hm hek
    rw [hf] at hf'
    cases hf'
  | false =>
    refine Bool.eq_false_iff.mpr fun hall => ?_
    exact absurd rfl (of_decide_eq_true (List.all_eq_true.mp hall e.key (mem_expiredKeys he hf)))

/-- `popitem(last=False)` when the bound is exceeded by one keeps the last `n` entries -/
theorem tail_of_length_gt {α : Type} (l : List α) (n : Nat) (h : l.length ≤ n + 1) :
    (if l.length > n then l.tail else l) = l.drop (l.length - n) := by
  split
  · rw [show l.length - n = 1 by omega, List.drop_one]
  · rw [show l.length - n = 0 by omega, List.drop_zero]

def LruInv (maxSize : Nat) (s : LState K) : Prop := KeyInj s.cache ∧ s.cache.length ≤ maxSize

theorem lruCall_eq_spec (maxSize : Nat) (valid : Option Int) (cost : K → Int) (s : LState K) (k : K)
    (hinv : LruInv maxSize s) : lruCall maxSize valid cost s k = specCall maxSize valid cost s k := by
  unfold lruCall specCall
  simp only [sweep_eq_filter valid s.now s.cache hinv.1]
  cases hfind : (s.cache.filter (fun e => fresh valid s.now e.time)).find? (fun e => decide (e.key = k)) with
  | some e => simp [delKey]
  | none =>
    have hlen : (s.cache.filter (fun e => fresh valid s.now e.time)).length ≤ maxSize :=
      Nat.le_trans (List.length_filter_le _ _) hinv.2
    simp only
    rw [tail_of_length_gt _ maxSize (by rw [List.length_append]; exact Nat.add_le_add_right hlen 1)]

theorem specCall_inv (maxSize : Nat) (valid : Option Int) (cost : K → Int) (s : LState K) (k : K)
    (hinv : LruInv maxSize s) : LruInv maxSize (specCall maxSize valid cost s k).1 := by
  have hheld : KeyInj (s.cache.filter (fun e => fresh valid s.now e.time)) :=
    hinv.1.sublist (fun e he => (List.mem_filter.mp he).1)
  have hlen : (s.cache.filter (fun e => fresh valid s.now e.time)).length ≤ maxSize :=
    Nat.le_trans (List.length_filter_le _ _) hinv.2
  simp only [LruInv, specCall]
  generalize s.cache.filter (fun e => fresh valid s.now e.time) = held at hheld hlen ⊢
  cases hfind : held.find? (fun e => decide (e.key = k)) with
  | some e =>
    have hk : e.key = k := by simpa using List.find?_some hfind
    constructor
    · refine (hheld.sublist (fun x hx => (List.mem_filter.mp hx).1)).append (fun x hx => ?_)
      rw [hk]; simpa using (List.mem_filter.mp hx).2
    · have : (held.filter (fun e' => decide (e'.key ≠ k))).length < held.length :=
        List.length_filter_lt_length_iff_exists.mpr ⟨e, List.mem_of_find?_eq_some hfind, by simp [hk]⟩
      simp only [List.length_append, List.length_singleton]
      omega
  | none =>
    constructor
    · exact (hheld.append (fun x hx => by simpa using List.find?_eq_none.mp hfind x hx)).sublist
        (fun e he => List.mem_of_mem_drop he)
    · simp only [List.length_drop, List.length_append, List.length_singleton]
      omega

theorem lruRun_eq_specRun (maxSize : Nat) (valid : Option Int) (cost : K → Int) (ops : List (Op K)) :
    ∀ s : LState K, LruInv maxSize s →
      lruRun maxSize valid cost s ops = specRun maxSize valid cost s ops ∧
      LruInv maxSize (specRun maxSize valid cost s ops).1 := by
  induction ops with
  | nil => intro s h; exact ⟨rfl, h⟩
  | cons op ops ih =>
    intro s h
    cases op with
    | advance d =>
      simp only [lruRun, specRun]
      exact ih { s with now := s.now + d } h
    | call k =>
      simp only [lruRun, specRun]
      rw [lruCall_eq_spec maxSize valid cost s k h]
      obtain ⟨h1, h2⟩ := ih _ (specCall_inv maxSize valid cost s k h)
      rw [h1]
      exact ⟨rfl, h2⟩

end Cache
