import OrsoVerif.Model.CastPrim
import OrsoVerif.Lemmas.Cast
/-!
# C07 — lemmas about the Python primitives of `Model/CastPrim.lean`

Nothing here mentions a generated definition: the `generated_*_eq_model` theorems of `Props/C07.lean` unfold the
generated program, rewrite with these lemmas what does not depend on the class of the value, and run the program on
each class.
-/
namespace Cast.Prim
open Cast

theorem ok_bind {α β : Type} (a : α) (f : α → M β) : (Except.ok a >>= f) = f a := rfl

theorem lookup_skip {α β : Type} [BEq α] [LawfulBEq α] {k a : α} (b : β) (l1 l2 : List (α × β)) (h : k ≠ a) :
    (l1 ++ (a, b) :: l2).lookup k = (l1 ++ l2).lookup k := by
  induction l1 with
  | nil => rw [List.nil_append, List.nil_append, List.lookup_cons, beq_false_of_ne h]
  | cons x l1 ih => obtain ⟨x1, x2⟩ := x; rw [List.cons_append, List.cons_append, List.lookup_cons, List.lookup_cons, ih]

theorem orDefault_natObj (o : Option Nat) (d : Nat) :
    (if pyIsNone (natObj o) then do pure (intLit d) else do let t ← pyInt (natObj o); pure t : M Obj)
      = .ok (intLit (o.getD d : Nat)) := by
  cases o <;> rfl

theorem decimalFactory_nat (p s : Nat) (x : Obj) :
    decimalFactory (.val (.int p)) (.val (.int s)) x =
      match x with
      | .val (.str t) => (factory p s (.inl t)).map .val
      | .val (.dec d) => (factory p s (.inr d)).map .val
      | _ => .error .typeError := by
  simp only [decimalFactory]
  rw [if_neg (by omega), Int.toNat_natCast, Int.toNat_natCast]
  rfl

/-- `if length: value = value[:length]` on text or bytes (`mk` wraps the payload) is `limitWith` under any generated test and
stop that meet `LimitFacts` -/
theorem sliceIfTruthy {α : Type} (mk : List α → Obj)
    (hmk : ∀ xs (k : Int), pySliceTo (mk xs) (.val (.int k)) = .ok (mk (pyPrefix xs k)))
    {test : Int → Bool} {stop : Int → Int} (L : LimitFacts test stop) (o : Option Nat) (xs : List α) :
    (if pyTruthy (natObj o) then pySliceTo (mk xs) (natObj o) else pure (mk xs) : M Obj)
      = .ok (mk (limitWith test stop o xs)) := by
  match o with
  | none => rfl
  | some 0 => rw [limitWith_longest L (some 0) xs]; rfl
  | some (k + 1) =>
    have : pyTruthy (natObj (some (k + 1))) = true := by
      simp only [natObj, pyTruthy, Val.falsy, Bool.not_eq_true', beq_eq_false_iff_ne]; omega
    simp only [limitWith, (L.pos k).1, (L.pos k).2, this, if_true]
    exact hmk xs _

theorem toNat_ofNat_byte (n : Nat) (h : n < 256) : (Char.ofNat n).toNat = n := by
  have hv : n.isValidChar := Or.inl (by omega)
  rw [Char.ofNat, dif_pos hv]
  rfl

theorem upperB_char (x : UInt8) : Char.ofNat (upperB x).toNat = upperC (Char.ofNat x.toNat) := by
  -- the character of a byte has the byte's number, so both sides test the same range and subtract the same 32
  have hx := toNat_ofNat_byte x.toNat x.toNat_lt
  have hc : ('a' ≤ Char.ofNat x.toNat ∧ Char.ofNat x.toNat ≤ 'z') ↔ (97 ≤ x ∧ x ≤ 122) := by
    have e : (Char.ofNat x.toNat).val.toNat = x.toNat := hx
    simp only [Char.le_def, UInt32.le_iff_toNat_le, UInt8.le_iff_toNat_le, e]
    rfl
  unfold upperB upperC
  by_cases h : 97 ≤ x ∧ x ≤ 122
  · rw [if_pos h, if_pos (hc.mpr h), hx, UInt8.toNat_sub_of_le x 32 (UInt8.le_trans (by decide) h.1)]
    rfl
  · rw [if_neg h, if_neg (mt hc.mp h)]

theorem upperB_lt (x : UInt8) : decide (upperB x < 128) = decide (x < 128) := by
  unfold upperB
  split
  · next h =>
    -- a lower-case letter and its capital are both below 128
    have h1 : x.toNat ≤ 122 := UInt8.le_iff_toNat_le.mp h.2
    have h2 : (x - 32).toNat = x.toNat - 32 := UInt8.toNat_sub_of_le x 32 (UInt8.le_trans (by decide) h.1)
    have h4 : x.toNat < 128 := Nat.lt_of_le_of_lt h1 (by decide)
    have h3 : (x - 32).toNat < 128 := h2 ▸ Nat.lt_of_le_of_lt (Nat.sub_le _ _) h4
    rw [decide_eq_true (UInt8.lt_iff_toNat_lt.mpr h3), decide_eq_true (UInt8.lt_iff_toNat_lt.mpr h4)]
  · rfl

theorem asciiChars_map_upperB (b : List UInt8) : asciiChars (b.map upperB) = upper (asciiChars b) := by
  simp only [asciiChars, upper, List.map_map]
  apply List.map_congr_left
  intro x _
  exact upperB_char x

theorem lt128_comp_upperB : ((fun x : UInt8 => decide (x < 128)) ∘ upperB) = fun x => decide (x < 128) := by
  funext x; exact upperB_lt x

theorem pyIn_upper_bytes (b : List UInt8) :
    pyIn (.val (.bytes (b.map upperB))) boolWords
      = boolObj (Gen.Cast.boolBytes.contains (String.ofList (upper (asciiChars b))) && b.all (· < 128)) := by
  simp only [pyIn, boolWords, asciiChars_map_upperB, List.all_map, lt128_comp_upperB]

theorem map_bind_some (r : Except Exc Val) :
    (r.bind fun x => Except.ok (some x)).map ofOpt = r.map Obj.val := by
  cases r <;> rfl

theorem toOpt_ofOpt (r : Option Val) : toOpt (ofOpt r) = r := by cases r <;> rfl

theorem mapE_eq_parseArray (fot : Fot) (t : Ty) (f : Obj → M Obj)
    (xs : List (Option Val)) (h : ∀ x ∈ xs, f (ofOpt x) = (parse fot t x).map ofOpt) :
    mapE f xs = parseArray fot (some t) xs := by
  induction xs with
  | nil => rfl
  | cons x xs ih =>
    have hx := h x (List.mem_cons_self ..)
    simp only [mapE, parseArray, hx, ih (fun y hy => h y (List.mem_cons_of_mem _ hy))]
    cases parse fot t x with
    | error e => rfl
    | ok r =>
      simp only [Except.map, Except.bind, toOpt_ofOpt]

theorem not_native (v : Val) : pyIsInstance (.val v) [.list, .tuple, .set] = false := by cases v <;> rfl

theorem orjsonLoads_of_loadElements (fot : Fot) (v : Val) (r : Except Exc (List (Option Val)))
    (h : Json.loadElements fot v = some r) :
    (∃ e, orjsonLoads fot (.val v) = .error e ∧ r = .error e) ∨
    (∃ j, orjsonLoads fot (.val v) = .ok (.json j) ∧ r = Json.elementsOf j) := by
  have text : ∀ s, Json.loadElements fot (.str s) = some r →
      (∃ e, orjsonLoads fot (.val (.str s)) = .error e ∧ r = .error e) ∨
      (∃ j, orjsonLoads fot (.val (.str s)) = .ok (.json j) ∧ r = Json.elementsOf j) := by
    intro s
    simp only [Json.loadElements, orjsonLoads]
    cases Json.readJson fot s with
    | ok j => exact fun h => Or.inr ⟨j, rfl, (Option.some.inj h).symm⟩
    | error e =>
      cases e with
      | bad => exact fun h => Or.inl ⟨_, rfl, (Option.some.inj h).symm⟩
      | unsupported => exact fun h => nomatch h
  cases v with
  | str s => exact text s h
  | bytes b =>
    -- decoded bytes are read as that text
    revert h
    simp only [Json.loadElements, orjsonLoads]
    cases Iso.decodeUtf8 b with
    | none => exact fun h => Or.inl ⟨_, rfl, (Option.some.inj h).symm⟩
    | some s => exact text s
  | _ => exact nomatch h

end Cast.Prim
