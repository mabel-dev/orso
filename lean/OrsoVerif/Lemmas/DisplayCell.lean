import OrsoVerif.Lemmas.DisplayTok
/-! Pads, and formatted cells: each is in token form and prints exactly the column's width. -/
namespace Display

theorem pstr_rjust {s : Str} (w : Nat) (h : PStr s) : PStr (rjust w s) := pstr_append (pstr_spaces _) h
theorem pstr_ljust {s : Str} (w : Nat) (h : PStr s) : PStr (ljust w s) := pstr_append h (pstr_spaces _)
theorem pstr_center {s : Str} (w : Nat) (h : PStr s) : PStr (center w s) :=
  pstr_append (pstr_append (pstr_spaces _) h) (pstr_spaces _)

theorem length_rjust (w : Nat) (s : Str) : (rjust w s).length = max w s.length := by
  rw [rjust, List.length_append, spaces, List.length_replicate, Nat.sub_add_eq_max]
theorem length_ljust (w : Nat) (s : Str) : (ljust w s).length = max w s.length := by
  rw [ljust, List.length_append, spaces, List.length_replicate, Nat.add_comm, Nat.sub_add_eq_max]
theorem center_eq (w : Nat) (s : Str) :
    ∃ l r, center w s = spaces l ++ s ++ spaces r ∧ l + r = w - s.length := by
  refine ⟨_, _, rfl, Nat.add_sub_of_le ?_⟩
  split <;> omega

theorem length_center (w : Nat) (s : Str) : (center w s).length = max w s.length := by
  obtain ⟨l, r, e, h⟩ := center_eq w s
  rw [e, List.length_append, List.length_append, spaces, spaces, List.length_replicate, List.length_replicate,
    Nat.add_right_comm, h, Nat.sub_add_eq_max]

theorem pstr_natStr (n : Nat) : PStr (natStr n) := by
  intro c hc
  have := Nat.isDigit_of_mem_toDigits (b := 10) (by decide) (by decide) hc
  simp only [Char.isDigit, Bool.and_eq_true, decide_eq_true_eq] at this
  unfold Printable
  have h1 : (48 : Nat) ≤ c.toNat := by
    have := this.1; exact UInt32.le_iff_toNat_le.mp this
  have h2 : c.toNat ≤ 57 := by
    have := this.2; exact UInt32.le_iff_toNat_le.mp this
  omega

theorem pstr_intStr (i : Int) : PStr (intStr i) := by
  unfold intStr
  split
  · intro c hc
    rcases List.mem_cons.mp hc with rfl | hc
    · decide
    · exact pstr_natStr _ c hc
  · exact pstr_natStr _

theorem pstr_boolStr (b : Bool) : PStr (boolStr b) := by cases b <;> (unfold PStr boolStr; decide)
theorem pstr_nullStr : PStr nullStr := by unfold PStr nullStr; decide

/-- printable-ASCII content of a cell (every text parameter and every byte) -/
def CellAscii : Cell → Prop
  | .null => True
  | .bool _ => True
  | .int _ => True
  | .num s _ => PStr s
  | .text s => PStr s
  | .datetime d t _ => PStr d ∧ PStr t
  | .date d _ => PStr d
  | .bytes b _ => ∀ x ∈ b, 32 ≤ x.toNat ∧ x.toNat < 127
  | .dict kvs _ => ∀ kv ∈ kvs, PStr kv.1 ∧ PStr kv.2
  | .interval ps _ => ∀ s ∈ ps, PStr s
  | .intervalInt _ _ _ _ => True
  | .list xs _ => ∀ s ∈ xs, PStr s
  | .other s => PStr s

theorem printable_ofNat (n : Nat) (h1 : n < 127) (h2 : 32 ≤ n) : Printable (Char.ofNat n) := by
  have : (Char.ofNat n).toNat = n := by
    rw [Char.ofNat, dif_pos (Or.inl (by omega))]; rfl
  unfold Printable; omega

theorem utf8Go_nil (strict : Bool) (fuel : Nat) : utf8Go strict fuel [] = .ok [] := by cases fuel <;> rfl

theorem utf8Go_ascii (strict : Bool) (b : List UInt8) (h : ∀ x ∈ b, 32 ≤ x.toNat ∧ x.toNat < 127)
    (fuel : Nat) (hf : b.length ≤ fuel) :
    utf8Go strict fuel b = .ok (b.map fun x => Char.ofNat x.toNat) := by
  induction b generalizing fuel with
  | nil => exact utf8Go_nil strict fuel
  | cons x xs ih =>
    cases fuel with
    | zero => simp at hf
    | succ fuel =>
      have hx := h x (by simp)
      have hlt : x < 0x80 := by rw [UInt8.lt_iff_toNat_lt]; simp; omega
      unfold utf8Go
      rw [if_pos hlt]
      show consOk _ (utf8Go strict fuel xs) = _
      rw [ih (fun y hy => h y (List.mem_cons_of_mem _ hy)) fuel (Nat.le_of_succ_le_succ hf)]
      rfl

theorem utf8Decode_ascii (strict : Bool) (b : List UInt8) (h : ∀ x ∈ b, 32 ≤ x.toNat ∧ x.toNat < 127) :
    ∃ s, utf8Decode strict b = .ok s ∧ PStr s := by
  refine ⟨_, utf8Go_ascii strict b h _ (by omega), ?_⟩
  intro c hc
  simp only [List.mem_map] at hc
  obtain ⟨x, hx, rfl⟩ := hc
  exact printable_ofNat _ (h x hx).2 (h x hx).1

theorem TF_dictText {kvs : List (Str × Str)} (h : ∀ kv ∈ kvs, PStr kv.1 ∧ PStr kv.2) : TF (dictText kvs) := by
  unfold dictText
  refine TF_append (TF_append (TF_append (TF_append (TF_tok T_PUNC_mem) (TF_txt (by decide))) ?_)
    (TF_txt (by decide))) (TF_tok T_OFF_mem)
  refine TF_joinWith (TF_append (TF_tok T_PUNC_mem) (TF_txt (by decide))) ?_
  intro x hx
  simp only [List.mem_map] at hx
  obtain ⟨kv, hkv, rfl⟩ := hx
  unfold dictItem
  exact TF_append (TF_append (TF_append (TF_append (TF_append (TF_append (TF_append (TF_append (TF_txt (by decide))
    (TF_tok T_KEY_mem)) (TF_pstr (h kv hkv).1)) (TF_tok T_PUNC_mem)) (TF_txt (by decide)))
    (TF_tok T_VALUE_mem)) (TF_pstr (h kv hkv).2)) (TF_tok T_PUNC_mem)) (TF_txt (by decide))

theorem TF_listText {xs : List Str} (h : ∀ s ∈ xs, PStr s) : TF (listText xs) := by
  unfold listText
  refine TF_append (TF_append (TF_append (TF_append (TF_append (TF_append (TF_tok T_PUNC_mem) (TF_txt (by decide)))
    (TF_tok T_VALUE_mem)) ?_) (TF_tok T_PUNC_mem)) (TF_txt (by decide))) (TF_tok T_OFF_mem)
  exact TF_joinWith (TF_append (TF_append (TF_tok T_PUNC_mem) (TF_txt (by decide))) (TF_tok T_VALUE_mem))
    (fun x hx => TF_pstr (h x hx))

theorem TF_intervalText {ps : List Str} (h : ∀ s ∈ ps, PStr s) : TF (intervalText ps) :=
  TF_append (TF_append (TF_tok T_INTERVAL_mem) (TF_joinWith (TF_txt (by decide)) (fun x hx => TF_pstr (h x hx))))
    (TF_tok T_OFF_mem)

theorem pstr_intervalParts (A : Arith) (mo d sc : Int) : ∀ s ∈ intervalParts A mo d sc, PStr s := by
  have piece : ∀ {b : Prop} [Decidable b] (i : Int) {suf : Str}, (∀ c ∈ suf, Printable c) →
      ∀ s ∈ (if b then [intStr i ++ suf] else []), PStr s := by
    intro b _ i suf h s hs
    split at hs
    · cases List.mem_singleton.mp hs; exact pstr_append (pstr_intStr i) h
    · cases hs
  simp only [intervalParts, List.forall_mem_append]
  exact ⟨⟨⟨⟨⟨piece _ (by decide), piece _ (by decide)⟩, piece _ (by decide)⟩, piece _ (by decide)⟩,
    piece _ (by decide)⟩, piece _ (by decide)⟩

theorem formatCell_prints (cw : Char → Nat) (hcw : ∀ c, TxtC c → cw c = 1)
    (strict : Bool) (c : Cell) (w : Nat) (hc : CellAscii c) (hw : 1 ≤ w) :
    ∃ s, formatCell specArith cw strict c w = .ok s ∧ Prints s w := by
  -- the three shapes of a formatted cell: token, text padded and cut by `[:w]`, `OFF`; …
  have fixed : ∀ {tok s : Str}, tok ∈ usedTokens → PStr s → Prints (tok ++ (rjust w s).take w ++ T_OFF) w :=
    fun ht h => Prints.wrap ht (Prints.take w (pstr_rjust w h) (by rw [length_rjust]; exact Nat.le_max_left _ _))
  -- … a text holding its own tokens, padded and cut by `trunc_printable`; …
  have cut : ∀ {s : Str}, TF s → Prints (truncPrintable specArith cw s w true) w :=
    fun h => Prints.trunc cw hcw h hw true
  -- … and the same between a token and `OFF`.
  have wrap : ∀ {tok s : Str}, tok ∈ usedTokens → TF s →
      Prints (tok ++ truncPrintable specArith cw s w true ++ T_OFF) w := fun ht h => Prints.wrap ht (cut h)
  cases c with
  | null => exact ⟨_, rfl, fixed T_NULL_mem pstr_nullStr⟩
  | bool b => exact ⟨_, rfl, fixed T_CONST_mem (pstr_boolStr b)⟩
  | int i => exact ⟨_, rfl, fixed T_INTEGER_mem (pstr_intStr i)⟩
  | num s n => exact ⟨_, rfl, fixed T_FLOAT_mem hc⟩
  | text s => exact ⟨_, rfl, wrap T_VARCHAR_mem (TF_pstr (pstr_ljust w hc))⟩
  | datetime d t n =>
    exact ⟨_, rfl, wrap T_DATE_mem (TF_append (TF_pstr (pstr_spaces _)) (TF_append (TF_append (TF_append
      (TF_pstr hc.1) (TF_txt (by decide))) (TF_tok T_TIME_mem)) (TF_pstr hc.2)))⟩
  | date d n => exact ⟨_, rfl, wrap T_DATE_mem (TF_pstr (pstr_rjust w hc))⟩
  | bytes b n =>
    obtain ⟨s, hs, hp⟩ := utf8Decode_ascii strict b hc
    exact ⟨_, by simp only [formatCell, hs], wrap T_BLOB_mem (TF_pstr (pstr_ljust w hp))⟩
  | dict kvs n => exact ⟨_, rfl, cut (TF_dictText hc)⟩
  | interval ps n => exact ⟨_, rfl, cut (TF_intervalText hc)⟩
  | intervalInt mo d sc n => exact ⟨_, rfl, cut (TF_intervalText (pstr_intervalParts specArith mo d sc))⟩
  | list xs n => exact ⟨_, rfl, cut (TF_listText hc)⟩
  | other s =>
    exact ⟨_, rfl, Prints.take w (pstr_ljust w hc) (by rw [length_ljust]; exact Nat.le_max_left _ _)⟩

end Display
