import OrsoVerif.Model.CallSites
import OrsoVerif.Lemmas.Basics
/-! Lemmas about the definitions of `Model/CallSites.lean` and the hand-written extraction loop of `Model/Kernels.lean` (C10). -/
namespace CallSites

theorem indexOf_eq_idxOf? (names : List String) (s : String) : DictRow.indexOf names s = names.idxOf? s :=
  List.eq_idxOf?_of_cons DictRow.indexOf (fun _ => rfl) (fun _ _ _ => rfl) names s

theorem indexOf_spec (names : List String) (s : String) :
    ∀ k, DictRow.indexOf names s = some k →
      names[k]? = some s ∧ ∀ j, j < k → names[j]? ≠ some s :=
  fun _ h => List.idxOf?_eq_some_iff_getElem?.mp ((indexOf_eq_idxOf? names s).symm.trans h)

theorem indexOf_none (names : List String) (s : String) :
    DictRow.indexOf names s = none → s ∉ names :=
  fun h => List.idxOf?_eq_none_iff.mp ((indexOf_eq_idxOf? names s).symm.trans h)

theorem fits_any_false (idxs : List Int) (h : ∀ c ∈ idxs, FitsC c) :
    idxs.any (fun i => decide (¬ FitsC i)) = false :=
  List.any_eq_false.mpr fun c hc => by rw [decide_eq_true_eq]; exact fun hn => hn (h c hc)

/-! What the generated statements `Gen.CallSites.limitSteps` do to the caller's limit.  They are unfolded by `simp`
(the generated definitions carry the attribute) and their tests decided from the case's facts and by `omega`, so a
guard written differently (a flipped comparison, two statements merged into one) does not need a new proof. -/

theorem normLimit_none (n : Nat) : normLimit none n = some (-1) := by
  simp [normLimit, applyLimitStep] <;> omega

theorem normLimit_some (n : Nat) (l : Int) :
    normLimit (some l) n = some (if l < 0 ∨ (n : Int) ≤ l then -1 else l) := by
  by_cases h0 : l < 0 <;> by_cases h1 : (n : Int) ≤ l <;>
    simp [normLimit, applyLimitStep, h0, h1] <;> omega

theorem zipIdx_map_snd {β γ : Type} (l : List β) (g : Nat → γ) :
    l.zipIdx.map (fun p => g p.2) = (List.range l.length).map g :=
  (List.map_map (f := Prod.snd) (g := g)).symm.trans (by rw [List.zipIdx_map_snd, List.range_eq_range'])

variable {α : Type}

theorem set_after_prefix (p : List α) (w v : α) (t : List α) :
    (p ++ w :: t).set p.length v = p ++ v :: t := by
  simp

theorem loop_prefix (null : α) (fields : List String) (d : List (String × α)) (k : Nat) (hk : k ≤ fields.length) :
    (List.range k).foldl (Kernels.extractStep null fields d) (some (List.replicate fields.length null))
      = some ((fields.take k).map (fun f => (DictRow.lookup f d).getD null) ++ List.replicate (fields.length - k) null) := by
  induction k with
  | zero => rfl
  | succ k ih =>
    have hlt : k < fields.length := hk
    have hpre : ((fields.take k).map fun f => (DictRow.lookup f d).getD null).length = k := by
      rw [List.length_map, List.length_take, Nat.min_eq_left (Nat.le_of_lt hlt)]
    have hset := set_after_prefix ((fields.take k).map fun f => (DictRow.lookup f d).getD null) null
      ((DictRow.lookup fields[k] d).getD null) (List.replicate (fields.length - (k + 1)) null)
    rw [hpre] at hset
    rw [List.range_succ, List.foldl_append, ih (Nat.le_of_lt hlt),
      show fields.length - k = (fields.length - (k + 1)) + 1 by omega, List.replicate_succ]
    -- step `k`: `fields[k]` is inside the tuple, position `k` inside the list
    simp only [List.foldl_cons, List.foldl_nil, Kernels.extractStep, Option.bind_some, List.getElem?_eq_getElem hlt]
    rw [if_pos (by rw [List.length_append, hpre, List.length_cons]; omega), hset, List.take_add_one,
      List.getElem?_eq_getElem hlt, List.map_append, List.append_assoc]
    rfl

open PyDictM

theorem lookup_helperView (f : String) (items : List (PyKey × α)) :
    DictRow.lookup f (helperView items) = lookupId (.text f) items := by
  induction items with
  | nil => rfl
  | cons kv rest ih =>
    obtain ⟨k, v⟩ := kv
    unfold helperView lookupId
    cases hk : k.id with
    | text s =>
      show (if s = f then some v else DictRow.lookup f (helperView rest)) = _
      by_cases hs : s = f
      · rw [if_pos hs, if_pos (congrArg _ hs)]
      · rw [if_neg hs, if_neg (fun h => hs (KeyId.text.inj h)), ih]
    | other n => rw [if_neg (fun h => nomatch h)]; exact ih

theorem helperView_ofTextItems (d : List (String × α)) : helperView (ofTextItems d) = d := by
  induction d with
  | nil => rfl
  | cons kv rest ih => exact congrArg (kv :: ·) ih

end CallSites
