import OrsoVerif.Lemmas.IsoExact
/-! Helper lemmas for C08: every exception the body of `parse_iso` can raise is caught. -/
namespace Iso

def Safe {α : Type} (x : Except Exc α) : Prop := ∀ e, x = .error e → caughtBy Gen.Iso.caught e = true

theorem Safe.ok {α : Type} (a : α) : Safe (Except.ok a : Except Exc α) := by
  intro e h; cases h

theorem Safe.error {α : Type} {e : Exc} (h : caughtBy Gen.Iso.caught e = true) : Safe (.error e : Except Exc α) := by
  intro e' h'; cases h'; exact h

theorem Safe.bind {α β : Type} {x : Except Exc α} {f : α → Except Exc β} (hx : Safe x)
    (hf : ∀ a, Safe (f a)) : Safe (x.bind f) := by
  intro e h
  cases x with
  | error e' => simp only [bind_error] at h; cases h; exact hx _ rfl
  | ok a => exact hf a e h

theorem Safe.ite {α : Type} {c : Prop} [Decidable c] {x y : Except Exc α} (hx : Safe x) (hy : Safe y) :
    Safe (if c then x else y) := by
  split <;> assumption

theorem Safe.ite' {α : Type} {c : Prop} [Decidable c] {x y : Except Exc α} (hx : c → Safe x)
    (hy : ¬c → Safe y) : Safe (if c then x else y) := by
  split
  · exact hx ‹_›
  · exact hy ‹_›

/-- **The extracted `except` tuple and the generated guards cover what the body does**: the four classes the primitives raise
are caught, and every subscript is covered by the guard it is read under.  Proved in `Props/C08.lean`
(`guards_cover_subscripts_and_exceptions`) against the source as extracted on this run.  The lemmas below use `catches`; that
no subscript is out of range they read off the normal form of `shaped` (`shaped_closed`). -/
structure Covers : Prop where
  catches : caughtBy Gen.Iso.caught .valueError = true ∧ caughtBy Gen.Iso.caught .unicodeDecodeError = true ∧
    caughtBy Gen.Iso.caught .overflowError = true ∧ caughtBy Gen.Iso.caught .osError = true
  window : ∀ n : Int, Gen.Iso.lenWindow n → 10 ≤ n
  plus : ∀ n : Int, ¬ Gen.Iso.plusReject n → 9 ≤ n
  dashIdx : Gen.Iso.dashA < 9 ∧ Gen.Iso.dashB < 9
  time : ∀ n : Int, Gen.Iso.timeLenTest n → (Gen.Iso.sepIdx : Int) < n ∧ (Gen.Iso.colonA : Int) < n
  sec : ∀ n : Int, Gen.Iso.secLenTest n → (Gen.Iso.colonB : Int) < n
  arity : (Gen.Iso.slicesDate.length = 3 ∨ Gen.Iso.slicesDate.length = 5 ∨ Gen.Iso.slicesDate.length = 6) ∧
    (Gen.Iso.slicesSec.length = 3 ∨ Gen.Iso.slicesSec.length = 5 ∨ Gen.Iso.slicesSec.length = 6) ∧
    (Gen.Iso.slicesMin.length = 3 ∨ Gen.Iso.slicesMin.length = 5 ∨ Gen.Iso.slicesMin.length = 6)

theorem pyNat_safe (C : Covers) (s : List Char) : Safe (pyNat s) := by
  unfold pyNat
  split
  · exact .error C.catches.1
  · split
    · exact Safe.ok _
    · exact .error C.catches.1

theorem pyInt_safe (C : Covers) (s : List Char) : Safe (pyInt s) := by
  have nat : ∀ r (f : Nat → Int), Safe ((pyNat r).bind fun n => .ok (f n)) := fun r _ =>
    Safe.bind (pyNat_safe C r) fun _ => Safe.ok _
  unfold pyInt
  split
  · exact .error C.catches.1
  · exact Safe.ite (nat _ _) (Safe.ite (nat _ _) (nat _ _))

theorem buildDatetime_safe (C : Covers) (y m d H M S : Int) : Safe (buildDatetime y m d H M S) := by
  rw [buildDatetime_eq]
  exact Safe.ite (.error C.catches.2.2.1) (Safe.ite (.error C.catches.1) (Safe.ok _))

theorem ints_safe (C : Covers) (v : List Char) (sl : List (Nat × Nat)) : Safe (ints v sl) := by
  induction sl with
  | nil => exact Safe.ok _
  | cons ab r ih =>
    unfold ints
    exact Safe.bind (pyInt_safe C _) (fun x => Safe.bind ih (fun xs => Safe.ok _))

/-- `datetime(*args)` with 3, 5 or 6 integers never raises `TypeError`. -/
theorem mkDatetime_safe (C : Covers) (xs : List Int) (h : xs.length = 3 ∨ xs.length = 5 ∨ xs.length = 6) :
    Safe (mkDatetime xs) := by
  -- by the length of `xs`: 0, 1, 2, 3, 4, 5, 6, and 7 or more
  rcases xs with _ | ⟨a, _ | ⟨b, _ | ⟨c, _ | ⟨d, _ | ⟨e, _ | ⟨f, _ | ⟨g, t⟩⟩⟩⟩⟩⟩⟩
  · simp at h
  · simp at h
  · simp at h
  · exact buildDatetime_safe C _ _ _ _ _ _
  · simp at h
  · exact buildDatetime_safe C _ _ _ _ _ _
  · exact buildDatetime_safe C _ _ _ _ _ _
  · simp at h

theorem fields_safe (C : Covers) (v : List Char) (sl : List (Nat × Nat))
    (h : sl.length = 3 ∨ sl.length = 5 ∨ sl.length = 6) : Safe (fields v sl) := by
  unfold fields
  cases h1 : ints v sl with
  | error e' => rw [bind_error]; exact .error (ints_safe C v sl e' h1)
  | ok xs =>
    rw [bind_ok]
    -- `map(int, columns)` has as many entries as there are columns
    have hl := congrArg List.length ((ints_eq_ok_iff v sl xs).mp h1)
    rw [List.length_map, List.length_map] at hl
    exact Safe.bind (mkDatetime_safe C xs (by omega)) fun _ => Safe.ok _

/-- No `IndexError`: in the normal form of `shaped` no subscript is left that could be out of range, and every
`datetime(...)` call has 3, 5 or 6 columns. -/
theorem shaped_safe (E : Exact) (C : Covers) (v : List Char) (h9 : 9 ≤ v.length) : Safe (shaped v) := by
  rw [shaped_closed E v h9]
  have f := fields_safe C v
  exact Safe.ite (Safe.ite (f _ (.inl rfl)) (Safe.ite (Safe.ite (Safe.ite (f _ (.inr (.inr rfl)))
    (Safe.ite (f _ (.inr (.inl rfl))) (Safe.ok _))) (Safe.ok _)) (Safe.ok _))) (Safe.ok _)

theorem textPath_safe (E : Exact) (C : Covers) (s : List Char) : Safe (textPath s) := by
  rw [textPath_closed E]
  exact Safe.ite' (fun hk => shaped_safe E C _ hk.nine_le) (fun _ => Safe.ok _)

theorem fromTimestamp_safe (C : Covers) (n : Int) : Safe (fromTimestamp n) :=
  Safe.ite (.error C.catches.2.2.1) (Safe.ite (.error C.catches.2.2.2) (Safe.ite (.error C.catches.1) (Safe.ok _)))

theorem intOfFloat_safe (C : Covers) (b : UInt64) : Safe (intOfFloat b) := by
  unfold intOfFloat
  split
  · exact .error C.catches.1
  · exact .error C.catches.2.2.1
  · exact Safe.ok _

theorem epoch_safe (C : Covers) (ty : String) (n : Except Exc Int) (hn : Safe n) : Safe (epoch ty n) :=
  Safe.ite (Safe.bind hn fun k => Safe.bind (fromTimestamp_safe C k) fun _ => Safe.ok _) (Safe.ok _)

theorem strBody_safe (E : Exact) (C : Covers) (R : Refines) (s : List Char) : Safe (strBody s) :=
  Safe.ite (epoch_safe C _ _ (pyInt_safe C s)) (R.text s ▸ textPath_safe E C s)

theorem body_safe (E : Exact) (C : Covers) (R : Refines) (i : Input) : Safe (body i) := by
  cases i with
  | int n => exact epoch_safe C _ _ (Safe.ok _)
  | npInt n => exact epoch_safe C _ _ (Safe.ok _)
  | num ty n => exact epoch_safe C _ _ (Safe.ok _)
  | float b => exact epoch_safe C _ _ (intOfFloat_safe C b)
  | npFloat b => exact epoch_safe C _ _ (intOfFloat_safe C b)
  | str s => exact strBody_safe E C R s
  | bytes b =>
    simp only [body]
    split
    · exact .error C.catches.2.1
    · exact strBody_safe E C R _
  | date y m d => exact Safe.ok _
  | datetime dt => exact Safe.ok _
  | other => exact Safe.ok _
  | time H M S us => exact Safe.ok _
  | strSub s => exact Safe.ok _

end Iso
