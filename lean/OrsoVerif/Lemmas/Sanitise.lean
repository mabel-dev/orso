import OrsoVerif.Model.Sanitise
/-!
Lemmas about the model of the log sanitiser (C20; no Mathlib needed), one section per stage.  The two ideas:
cleaning a record is cleaning its erasure (`cleanObj_erase`); and the loops with fuel that model `re.sub` and
`str.replace` are scans of one shape (`Scans`), so that what holds along a scan is proved once (`Scans.uniform`).
-/
namespace Sanitise

/-- Closes `x = "…".toList` from `x = [the characters]`.  The kernel reads a string literal as
`String.ofList [..]`, so the characters are found by unification and the UTF-8 decoder behind
`String.toList`, which is slow to evaluate, never runs.  A literal in an argument position is opened the
same way by `rw [String.toList_ofList]`, one literal per rewrite. -/
theorem eq_toList {x l : Str} (h : x = l) : x = (String.ofList l).toList :=
  h.trans String.toList_ofList.symm

/-! ## the cleaned text is a function of the erased record

Cleaning with the digest `h` is cleaning the erased record with `pyStr` for a digest: under a
sensitive key the erasure has put `.str (h v)`, and `pyStr` reads the digest back; everywhere else
neither side looks at the digest.  Non-interference at every layer above is this equation read
from right to left. -/

mutual
theorem cleanVal_erase (h : Json → Str) (c : Colors) :
    (v : Json) → cleanVal h c v = cleanVal pyStr c (erase h v)
  | .obj kvs => by simp only [erase, cleanVal, cleanObj_erase h c kvs]
  | .null | .bool _ | .num _ | .str _ | .arr _ => rfl
theorem cleanObj_erase (h : Json → Str) (c : Colors) :
    (d : List (Str × Json)) → cleanObj h c d = cleanObj pyStr c (eraseObj h d)
  | [] => rfl
  | (k, v) :: rest => by
    simp only [cleanObj, eraseObj, cleanObj_erase h c rest]
    cases sensitive k
    · simp only [Bool.false_eq_true, if_false, cleanVal_erase h c v]
    · simp only [if_true, pyStr]
end

theorem cleanVal_congr (h : Json → Str) (c : Colors) :
    (v w : Json) → erase h v = erase h w → cleanVal h c v = cleanVal h c w
  | v, w, he => by rw [cleanVal_erase, he, ← cleanVal_erase]

theorem cleanObj_eq_map (h : Json → Str) (c : Colors) (d : List (Str × Json)) :
    cleanObj h c d = d.map fun kv =>
      (c.key ++ kv.1 ++ c.off, c.value ++ (if sensitive kv.1 then placeholder c (h kv.2) else cleanVal h c kv.2) ++ c.off) := by
  induction d with
  | nil => rfl
  | cons kv rest ih => rw [List.map_cons, ← ih]; rfl

theorem cleanObj_mem (h : Json → Str) (c : Colors) (d : List (Str × Json)) (k : Str) (v : Json)
    (hm : (k, v) ∈ d) :
    (c.key ++ k ++ c.off, c.value ++ (if sensitive k then placeholder c (h v) else cleanVal h c v) ++ c.off)
      ∈ cleanObj h c d := by
  rw [cleanObj_eq_map]
  exact List.mem_map_of_mem (f := fun kv : Str × Json => _) hm

theorem colorOf_names (c : Colors) :
    colorOf c ['K', 'E', 'Y'] = c.key ∧ colorOf c ['O', 'F', 'F'] = c.off ∧
      colorOf c ['P', 'U', 'R', 'P', 'L', 'E'] = c.purple ∧ colorOf c ['V', 'A', 'L', 'U', 'E'] = c.value :=
  ⟨rfl, rfl, rfl, rfl⟩

/-! ## prefixes and key matching -/

theorem keyCharEq_iff (p c : Char) (hi : Gen.Sanitise.ignoreCase = true) :
    keyCharEq p c = true ↔ foldChar p = foldChar c := by
  simp [keyCharEq, hi]

theorem stripPrefix_iff {eq : Char → Char → Bool} (f : Char → Char) (hf : ∀ p c, eq p c = true ↔ f p = f c)
    (pat : Str) : ∀ (s rest : Str), stripPrefix eq pat s = some rest ↔ ∃ m, s = m ++ rest ∧ m.map f = pat.map f := by
  induction pat with
  | nil => intro s rest; simp [stripPrefix]
  | cons p ps ih =>
    intro s rest
    cases s with
    | nil => simp [stripPrefix]
    | cons c cs =>
      simp only [stripPrefix, List.map_cons, hf]
      constructor
      · intro h
        split at h
        · next hc =>
          obtain ⟨m, rfl, hm⟩ := (ih cs rest).mp h
          exact ⟨c :: m, rfl, by simp [hm, hc]⟩
        · cases h
      · rintro ⟨m, hs, hm⟩
        cases m with
        | nil => simp at hm
        | cons a m =>
          simp only [List.cons_append, List.cons.injEq, List.map_cons] at hs hm
          rw [if_pos (by rw [hs.1]; exact hm.1.symm)]
          exact (ih cs rest).mpr ⟨m, hs.2, hm.2⟩

theorem stripPrefix_key (hi : Gen.Sanitise.ignoreCase = true) (lit s rest : Str) :
    stripPrefix keyCharEq lit s = some rest ↔ ∃ m, s = m ++ rest ∧ m.map foldChar = lit.map foldChar :=
  stripPrefix_iff foldChar (fun p c => keyCharEq_iff p c hi) lit s rest

theorem stripPrefix_charEq (pat s rest : Str) : stripPrefix charEq pat s = some rest ↔ s = pat ++ rest := by
  simpa using stripPrefix_iff id (fun p c => by simp [charEq]) pat s rest

theorem stripPrefix_append (pat s r t : Str) (h : stripPrefix charEq pat s = some r) :
    stripPrefix charEq pat (s ++ t) = some (r ++ t) := by
  rw [stripPrefix_charEq] at h ⊢
  rw [h, List.append_assoc]

theorem stripPrefix_none_append (pat s : Str) (x : Char) (t : Str) (hx : x ∉ pat)
    (h : stripPrefix charEq pat s = none) : stripPrefix charEq pat (s ++ x :: t) = none := by
  -- a match in the longer text ends inside `s` or contains `x`
  cases h' : stripPrefix charEq pat (s ++ x :: t) with
  | none => rfl
  | some rest =>
    rcases List.append_eq_append_iff.mp ((stripPrefix_charEq _ _ _).mp h') with ⟨a, hp, ha⟩ | ⟨a, hs, _⟩
    · cases a with
      | nil => rw [List.append_nil] at hp; rw [hp, (stripPrefix_charEq s s []).mpr (List.append_nil s).symm] at h; cases h
      | cons y a => cases ha; exact absurd (hp ▸ by simp) hx
    · rw [(stripPrefix_charEq pat s a).mpr hs] at h; cases h

theorem anyTail_search (f : Str → Bool) :
    ∀ s : Str, anyTail f false s = true ↔ ∃ pre suf, s = pre ++ suf ∧ f suf = true := by
  intro s
  induction s with
  | nil => simp [anyTail, and_assoc]
  | cons c r ih =>
    simp only [anyTail, Bool.false_and, Bool.not_false, Bool.true_and, Bool.or_eq_true, ih, List.cons_eq_append_iff]
    constructor
    · rintro (h | ⟨pre, suf, rfl, hf⟩)
      · exact ⟨[], _, Or.inl ⟨rfl, rfl⟩, h⟩
      · exact ⟨c :: pre, suf, Or.inr ⟨pre, rfl, rfl⟩, hf⟩
    · rintro ⟨pre, suf, ⟨rfl, rfl⟩ | ⟨pre', rfl, rfl⟩, hf⟩
      · exact Or.inl hf
      · exact Or.inr ⟨_, _, rfl, hf⟩

theorem search_iff (hi : Gen.Sanitise.ignoreCase = true) (p : Pat) (k : Str) :
    patMatches 1 p k = true ↔
      ∃ pre m rest, k = pre ++ m ++ rest ∧ m.map foldChar = p.lit.map foldChar ∧
        (p.dollar = true → rest = [] ∨ rest = ['\n']) := by
  simp only [patMatches, if_true]
  rw [anyTail_search]
  constructor
  · rintro ⟨pre, suf, hs, hf⟩
    simp only [matchHere] at hf
    cases hsp : stripPrefix keyCharEq p.lit suf with
    | none => simp [hsp] at hf
    | some rest =>
      obtain ⟨m, hm, hmm⟩ := (stripPrefix_key hi p.lit suf rest).mp hsp
      refine ⟨pre, m, rest, by simp [hs, hm], hmm, ?_⟩
      intro hd
      simpa [hsp, hd] using hf
  · rintro ⟨pre, m, rest, hk, hm, hd⟩
    refine ⟨pre, m ++ rest, by simp [hk], ?_⟩
    have hsp := (stripPrefix_key hi p.lit (m ++ rest) rest).mpr ⟨m, rfl, hm⟩
    simp only [matchHere, hsp]
    by_cases hdd : p.dollar = true
    · rcases hd hdd with h | h <;> simp [hdd, h]
    · simp [hdd]

theorem search_dollar (lit k : Str) (a : Bool) (hl : lit.map foldChar = lit) :
    patMatches 1 ⟨a, lit, true⟩ k = true ↔ EndsIn lit k ∨ ∃ k', k = k' ++ ['\n'] ∧ EndsIn lit k' := by
  rw [search_iff rfl]
  simp only [hl, forall_const]
  constructor
  · rintro ⟨pre, m, rest, hk, hm, hr | hr⟩
    · left; exact ⟨pre, m, by simp [hk, hr], hm⟩
    · right; exact ⟨pre ++ m, by simp [hk, hr], pre, m, rfl, hm⟩
  · rintro (⟨pre, m, hk, hm⟩ | ⟨k', hk, pre, m, hk', hm⟩)
    · exact ⟨pre, m, [], by simp [hk], hm, Or.inl rfl⟩
    · exact ⟨pre, m, ['\n'], by simp [hk, hk'], hm, Or.inr rfl⟩

theorem search_plain (lit k : Str) (a : Bool) (hl : lit.map foldChar = lit) :
    patMatches 1 ⟨a, lit, false⟩ k = true ↔ Contains lit k := by
  rw [search_iff rfl]
  simp only [hl]
  constructor
  · rintro ⟨pre, m, rest, hk, hm, _⟩; exact ⟨pre, m, rest, hk, hm⟩
  · rintro ⟨pre, m, rest, hk, hm⟩; exact ⟨pre, m, rest, hk, hm, by simp⟩

/-! ## splitting and joining -/

theorem splitOn_ne_nil (sep : Char) (s : Str) : splitOn sep s ≠ [] := by
  induction s with
  | nil => simp [splitOn]
  | cons c r ih =>
    simp only [splitOn]
    split
    · simp
    · split
      · simp
      · simp

theorem splitOn_cons_ne (sep c : Char) (r : Str) (h : c ≠ sep) :
    ∃ f fs, splitOn sep r = f :: fs ∧ splitOn sep (c :: r) = (c :: f) :: fs := by
  cases hr : splitOn sep r with
  | nil => exact absurd hr (splitOn_ne_nil sep r)
  | cons f fs => exact ⟨f, fs, rfl, by simp [splitOn, h, hr]⟩

theorem splitOn_append (sep : Char) (a b : Str) :
    splitOn sep (a ++ sep :: b) = splitOn sep a ++ splitOn sep b := by
  induction a with
  | nil => simp [splitOn]
  | cons c r ih =>
    by_cases h : c = sep
    · subst h; simp [splitOn, ih]
    · obtain ⟨f, fs, h1, h2⟩ := splitOn_cons_ne sep c r h
      obtain ⟨f', fs', h1', h2'⟩ := splitOn_cons_ne sep c (r ++ sep :: b) h
      rw [List.cons_append, h2', h2]
      rw [ih, h1] at h1'
      simp only [List.cons_append, List.cons.injEq] at h1'
      simp [h1'.1, h1'.2]

theorem join_splitOn (sep : Char) (s : Str) : joinWith sep (splitOn sep s) = s := by
  induction s with
  | nil => simp [splitOn, joinWith]
  | cons c r ih =>
    by_cases h : c = sep
    · subst h
      simp only [splitOn, if_true]
      cases hr : splitOn c r with
      | nil => exact absurd hr (splitOn_ne_nil c r)
      | cons f fs => rw [hr] at ih; simp [joinWith, ih]
    · obtain ⟨f, fs, h1, h2⟩ := splitOn_cons_ne sep c r h
      rw [h2]
      rw [h1] at ih
      cases fs with
      | nil => simp [joinWith] at ih ⊢; exact ih
      | cons g gs => simp [joinWith] at ih ⊢; exact ih

theorem joinWith_append (sep : Char) (xs ys : List Str) (hx : xs ≠ []) (hy : ys ≠ []) :
    joinWith sep (xs ++ ys) = joinWith sep xs ++ sep :: joinWith sep ys := by
  induction xs with
  | nil => exact absurd rfl hx
  | cons x xs ih =>
    cases xs with
    | nil =>
      cases ys with
      | nil => exact absurd rfl hy
      | cons y ys => simp [joinWith]
    | cons x' xs =>
      have := ih (by simp)
      simp only [List.cons_append] at this ⊢
      simp [joinWith, this]

/-! ## scanning with fuel -/
section

/-- `re.sub` and `str.replace` are modelled by functions of one shape: `F fuel text` scans the text with the
attempt `step`; at each position `c :: r` the attempt either rewrites a piece at the front (what is put out,
where the scan goes on) or the character is copied.  They are run with more fuel than the text is long, so what
`F 0` returns plays no part.  What does not depend on the attempt follows from these three facts. -/
structure Scans (F : Nat → Str → Str) (step : Char → Str → Option (Str × Str)) : Prop where
  nil : ∀ n, F n [] = []
  cons : ∀ n c r, F (n + 1) (c :: r) =
    match step c r with
    | some (out, rest) => out ++ F n rest
    | none => c :: F n r
  shorter : ∀ c r out rest, step c r = some (out, rest) → rest.length ≤ r.length

variable {F : Nat → Str → Str} {step : Char → Str → Option (Str × Str)}

theorem Scans.fuel (h : Scans F step) : ∀ (n m : Nat) (s : Str), s.length ≤ n → s.length ≤ m → F n s = F m s := by
  intro n
  induction n with
  | zero =>
    intro m s hn _
    obtain rfl : s = [] := List.length_eq_zero_iff.mp (Nat.le_zero.mp hn)
    rw [h.nil, h.nil]
  | succ n ih =>
    intro m s hn hm
    cases s with
    | nil => rw [h.nil, h.nil]
    | cons c r =>
      cases m with
      | zero => cases hm
      | succ m =>
        simp only [List.length_cons, Nat.add_le_add_iff_right] at hn hm
        rw [h.cons, h.cons]
        cases hs : step c r with
        | none => simp only; rw [ih m r hn hm]
        | some p =>
          have := h.shorter _ _ _ _ hs
          simp only; rw [ih m p.2 (by omega) (by omega)]

theorem Scans.step_cons (h : Scans F step) (c : Char) (r : Str) :
    F ((c :: r).length + 1) (c :: r) =
      match step c r with
      | some (out, rest) => out ++ F (rest.length + 1) rest
      | none => c :: F (r.length + 1) r := by
  rw [List.length_cons, h.cons]
  cases hs : step c r with
  | none => rfl
  | some p =>
    have := h.shorter _ _ _ _ hs
    simp only; rw [h.fuel _ (p.2.length + 1) p.2 (by omega) (Nat.le_succ _)]

/-- Induction along a scan: the hypothesis is there for every text not longer than the tail, which is where
the scan goes on after an attempt (`Scans.shorter`). -/
theorem scan_induction {motive : Str → Prop} (nil : motive [])
    (cons : ∀ c r, (∀ r' : Str, r'.length ≤ r.length → motive r') → motive (c :: r)) : ∀ a, motive a := by
  suffices ∀ (k : Nat) (a : Str), a.length < k → motive a from fun a => this _ a (Nat.lt_succ_self _)
  intro k
  induction k with
  | zero => exact fun a ha => absurd ha (Nat.not_lt_zero _)
  | succ k ih =>
    intro a ha
    cases a with
    | nil => exact nil
    | cons c r => exact cons c r fun r' hr' => ih r' (Nat.lt_of_le_of_lt hr' (Nat.lt_of_succ_lt_succ ha))

/-- A scan treats a family of tails `T i` alike, writing `K i` for the front of each, provided it does so when it starts at
the tail, and an attempt in front of the tail does what it does without the tail, or reaches into the tail, the same way
for all of the family.  After an attempt in front of the tail the scan goes on in a shorter text in front of the tail, or
behind its front. -/
theorem Scans.uniform (h : Scans F step) {ι : Type} {P : ι → Prop} (T K : ι → Str)
    (tail : ∃ b', ∀ i, P i → F ((T i).length + 1) (T i) = K i ++ b')
    (before : ∀ c r,
      (∀ i, P i → step c (r ++ T i) = (step c r).map fun p => (p.1, p.2 ++ T i)) ∨
      ∃ o₁ o₂ rest, ∀ i, P i → step c (r ++ T i) = some (o₁ ++ (K i ++ o₂), rest)) :
    ∀ a, ∃ a' b', ∀ i, P i → F ((a ++ T i).length + 1) (a ++ T i) = a' ++ (K i ++ b') := by
  intro a
  induction a using scan_induction with
  | nil => exact tail.elim fun b' e => ⟨[], b', e⟩
  | cons c r ih =>
    rcases before c r with hs | ⟨o₁, o₂, rest, hs⟩
    · cases hc : step c r with
      | none =>
        obtain ⟨a', b', e⟩ := ih r (Nat.le_refl _)
        exact ⟨c :: a', b', fun i hi => by
          rw [List.cons_append, h.step_cons, hs i hi, hc]
          exact congrArg (c :: ·) (e i hi)⟩
      | some p =>
        obtain ⟨a', b', e⟩ := ih p.2 (h.shorter c r p.1 p.2 hc)
        exact ⟨p.1 ++ a', b', fun i hi => by
          rw [List.cons_append, h.step_cons, hs i hi, hc]
          exact (congrArg (p.1 ++ ·) (e i hi)).trans (List.append_assoc ..).symm⟩
    · exact ⟨o₁, o₂ ++ F (rest.length + 1) rest, fun i hi => by
        rw [List.cons_append, h.step_cons, hs i hi]
        simp only [List.append_assoc]⟩

end

/-! ## the lazy search `(.*?)q` of the quote substitutions and of the URL rule -/

theorem findClose_append (q : Char) (line : Bool) : ∀ r : Str,
    (∃ i t, r = i ++ q :: t ∧ ∀ s, findClose q line (r ++ s) = some (i, t ++ s)) ∨
    (line = true ∧ '\n' ∈ r ∧ ∀ s, findClose q line (r ++ s) = none) ∨
    ∀ s, findClose q line (r ++ s) = (findClose q line s).map fun p => (r ++ p.1, p.2) := by
  intro r
  induction r with
  | nil => exact .inr (.inr fun s => by simp only [List.nil_append]; cases findClose q line s <;> rfl)
  | cons c r ih =>
    by_cases hc : c = q
    · exact .inl ⟨[], r, by rw [hc]; rfl, fun s => by simp [findClose, hc]⟩
    · cases hn : (line && c == '\n') with
      | true =>
        obtain ⟨hl, hcn⟩ := Bool.and_eq_true_iff.mp hn
        exact .inr (.inl ⟨hl, by simp [beq_iff_eq.mp hcn], fun s => by
          simp only [List.cons_append, findClose, hc, hn, if_false, if_true]⟩)
      | false =>
        have e : ∀ t, findClose q line (c :: t) = (findClose q line t).map fun p => (c :: p.1, p.2) := fun t => by
          simp only [findClose, hc, hn, if_false, Bool.false_eq_true]
          cases findClose q line t <;> rfl
        rcases ih with ⟨i, t, hr, h⟩ | ⟨hl, hm, h⟩ | h
        · exact .inl ⟨c :: i, t, by rw [hr]; rfl, fun s => by rw [List.cons_append, e, h s]; rfl⟩
        · exact .inr (.inl ⟨hl, List.mem_cons_of_mem _ hm, fun s => by rw [List.cons_append, e, h s]; rfl⟩)
        · exact .inr (.inr fun s => by rw [List.cons_append, e, h s]; cases findClose q line s <;> rfl)

theorem findClose_spec (q : Char) (line : Bool) (r inner rest : Str)
    (h : findClose q line r = some (inner, rest)) : r = inner ++ q :: rest := by
  have h0 : findClose q line (r ++ []) = some (inner, rest) := by rw [List.append_nil, h]
  rcases findClose_append q line r with ⟨i, t, hr, h'⟩ | ⟨_, _, h'⟩ | h'
  · rw [h'] at h0
    cases h0
    rw [hr, List.append_nil]
  · rw [h'] at h0; cases h0
  · rw [h'] at h0; cases h0

theorem findClose_length (q : Char) (line : Bool) (r : Str) (p : Str × Str)
    (h : findClose q line r = some p) : p.2.length < r.length := by
  rw [findClose_spec q line r p.1 p.2 h]; simp; omega

theorem findClose_through (q : Char) (line : Bool) (b : Str) {B : Str} (hq : q ∉ B) (hn : line = true → '\n' ∉ B) :
    findClose q line (B ++ b) = (findClose q line b).map fun p => (B ++ p.1, p.2) := by
  rcases findClose_append q line B with ⟨i, t, hB, _⟩ | ⟨hl, hm, _⟩ | h
  · exact absurd (hB ▸ by simp) hq
  · exact absurd hm (hn hl)
  · exact h b

/-! ## quote colouring -/

/-- One attempt of a quote-colouring substitution ``q(.*?)q``: `opens c` says that `c` opens a quoted run, `quote c` is
written for the two quotes; the run is put between the codes `y` and `o`; `line`: it does not cross a newline.
`quoteColourF` (`QUOTES_OR_BACKTICKS_RE.sub`) and `pairColourF` (the three `re.sub` of the plain-text branch) scan with it. -/
def quoteStep (opens : Char → Bool) (quote : Char → Char) (line : Bool) (y o : Str) (c : Char) (r : Str) :
    Option (Str × Str) :=
  if opens c then (findClose c line r).map fun p => (quote c :: (y ++ p.1 ++ o ++ [quote c]), p.2) else none

theorem quoteStep_some {opens : Char → Bool} {quote : Char → Char} {line : Bool} {y o : Str} {c : Char} {r out rest : Str}
    (h : quoteStep opens quote line y o c r = some (out, rest)) :
    ∃ inner, r = inner ++ c :: rest ∧ out = quote c :: (y ++ inner ++ o ++ [quote c]) := by
  rw [quoteStep] at h
  split at h
  · obtain ⟨p, hp, e⟩ := Option.map_eq_some_iff.mp h
    cases e
    exact ⟨p.1, findClose_spec _ _ _ _ _ hp, rfl⟩
  · cases h

theorem quoteStep_shorter {opens : Char → Bool} {quote : Char → Char} {line : Bool} {y o : Str} (c : Char)
    (r out rest : Str) (h : quoteStep opens quote line y o c r = some (out, rest)) : rest.length ≤ r.length := by
  obtain ⟨inner, rfl, _⟩ := quoteStep_some h
  simp; omega

theorem quoteColourF_scans (c : Colors) :
    Scans (quoteColourF c) (quoteStep (fun q => q = '\'' ∨ q = '`') id true c.yellow c.value) where
  nil n := by cases n <;> rfl
  cons n q r := by
    rw [quoteColourF, quoteStep]
    by_cases hq : q = '\'' ∨ q = '`'
    · simp only [hq, decide_true, if_true]; cases findClose q true r <;> simp
    · simp only [hq, decide_false, if_false]; rfl
  shorter := quoteStep_shorter

theorem quoteColourF_plain (n : Nat) (s : Str) : quoteColourF (colorsFor false) n s = s := by
  induction n generalizing s with
  | zero => rfl
  | succ n ih =>
    cases s with
    | nil => rfl
    | cons q r =>
      rw [(quoteColourF_scans _).cons]
      cases hs : quoteStep _ id true (colorsFor false).yellow (colorsFor false).value q r with
      | none => exact congrArg (q :: ·) (ih r)
      | some p =>
        obtain ⟨inner, rfl, e⟩ := quoteStep_some hs
        simp only [e, ih p.2]
        simp [colorsFor]

theorem quoteColour_plain (s : Str) : quoteColour (colorsFor false) s = s := quoteColourF_plain _ s

theorem quoteColourF_sublist (c : Colors) (n : Nat) (s : Str) : s.Sublist (quoteColourF c n s) := by
  induction n generalizing s with
  | zero => exact .refl _
  | succ n ih =>
    cases s with
    | nil => exact .refl _
    | cons q r =>
      rw [(quoteColourF_scans c).cons]
      cases hs : quoteStep _ id true c.yellow c.value q r with
      | none => exact .cons_cons q (ih r)
      | some p =>
        obtain ⟨inner, rfl, e⟩ := quoteStep_some hs
        simp only [e, id, List.cons_append, List.append_assoc]
        exact .cons_cons q (.trans (.append (.refl inner)
          (.trans (.cons_cons q (ih p.2)) (List.sublist_append_right c.value _)))
          (List.sublist_append_right c.yellow _))

/-! ## URL user-info -/
section
open Gen.Sanitise

theorem findAt_eq_findClose (close : Char) : ∀ s : Str, findAt close s = (findClose close true s).map (·.2) := by
  intro s
  induction s with
  | nil => rfl
  | cons c r ih =>
    simp only [findAt, findClose, ih, Bool.true_and, beq_iff_eq]
    split
    · rfl
    · split
      · rfl
      · cases findClose close true r <;> rfl

theorem cleanRun_iff (close : Char) (u : Str) : cleanRun close u = true ↔ close ∉ u ∧ '\n' ∉ u := by
  simp only [cleanRun, List.all_eq_true, Bool.and_eq_true, bne_iff_ne, ne_eq]
  exact ⟨fun h => ⟨fun hm => (h _ hm).1 rfl, fun hm => (h _ hm).2 rfl⟩,
    fun h x hx => ⟨fun e => h.1 (e ▸ hx), fun e => h.2 (e ▸ hx)⟩⟩

theorem findAt_run (close : Char) (post u : Str) (hu : cleanRun close u = true) :
    findAt close (u ++ close :: post) = some post := by
  obtain ⟨h₁, h₂⟩ := (cleanRun_iff close u).mp hu
  rw [findAt_eq_findClose, findClose_through close true _ h₁ fun _ => h₂]
  simp [findClose]

theorem urlStep_length (s rest : Str) (h : urlStep s = some rest) : rest.length < s.length := by
  simp only [urlStep, Option.bind_eq_some_iff, findAt_eq_findClose, Option.map_eq_some_iff] at h
  obtain ⟨a, h1, p, h2, rfl⟩ := h
  have := (stripPrefix_charEq _ _ _).mp h1
  have := findClose_length _ _ _ _ h2
  subst s; simp; omega

theorem redactUrlWF_scans (rep : Str) : Scans (redactUrlWF rep) fun c r => (urlStep (c :: r)).map (rep, ·) where
  nil n := by cases n <;> rfl
  cons n c r := by rw [redactUrlWF, urlStep]; cases (stripPrefix charEq urlOpen (c :: r)).bind (findAt urlClose) <;> rfl
  shorter c r out rest h := by
    simp only [Option.map_eq_some_iff, Prod.mk.injEq] at h
    obtain ⟨_, h, _, rfl⟩ := h
    exact Nat.le_of_lt_succ (urlStep_length _ _ h)

theorem redactUrlWith_cons (rep : Str) (c : Char) (r : Str) :
    redactUrlWith rep (c :: r) =
      match urlStep (c :: r) with
      | some rest => rep ++ redactUrlWith rep rest
      | none => c :: redactUrlWith rep r := by
  rw [redactUrlWith, (redactUrlWF_scans rep).step_cons]
  cases urlStep (c :: r) <;> rfl

theorem redactUrlWith_match (rep : Str) {s rest : Str} (h : urlStep s = some rest) :
    redactUrlWith rep s = rep ++ redactUrlWith rep rest := by
  cases s with
  | nil => cases h
  | cons c r => rw [redactUrlWith_cons, h]

theorem urlStep_urlTail (u post : Str) (hu : cleanRun urlClose u = true) :
    urlStep (urlTail u post) = some post := by
  have h1 : stripPrefix charEq urlOpen (urlTail u post) = some (u ++ urlClose :: post) :=
    (stripPrefix_charEq _ _ _).mpr (by simp [urlTail])
  simp only [urlStep, h1, Option.bind_some, findAt_run _ _ _ hu]

/-- An attempt in front of a URL tail does what it does without the tail, or runs on to the `@` of the tail; which of the
two is the same for every user-info (the disjunction stands outside `∀ u`, as `Scans.uniform` asks). -/
theorem urlStep_before_urlTail (c : Char) (p post : Str) :
    (∀ u, cleanRun urlClose u = true →
      urlStep (c :: p ++ urlTail u post) = (urlStep (c :: p)).map (· ++ urlTail u post)) ∨
    ∀ u, cleanRun urlClose u = true → urlStep (c :: p ++ urlTail u post) = some post := by
  unfold urlStep
  cases hsp : stripPrefix charEq urlOpen (c :: p) with
  | none =>
    -- `://` cannot straddle the boundary: the tail starts with `:`, which occurs in `://` only at its head
    refine .inl fun u _ => ?_
    have : stripPrefix charEq urlOpen (c :: p ++ urlTail u post) = none := by
      simp only [urlOpen, stripPrefix, List.cons_append] at hsp ⊢
      split
      · next hc => exact stripPrefix_none_append _ _ _ _ (by decide) (by simpa only [hc, if_true] using hsp)
      · rfl
    rw [this]; rfl
  | some r' =>
    simp only [fun u => stripPrefix_append _ _ _ (urlTail u post) hsp, Option.bind_some, findAt_eq_findClose]
    rcases findClose_append urlClose true r' with ⟨i, t, _, h⟩ | ⟨_, _, h⟩ | h
    -- behind the `://` found in `c :: p`, an `@` or a newline in `c :: p` ends the attempt before the tail
    · exact .inl fun u _ => by rw [h, show findClose urlClose true r' = some (i, t) by simpa using h []]; rfl
    · exact .inl fun u _ => by rw [h, show findClose urlClose true r' = none by simpa using h []]; rfl
    · -- the `://` and the user-info of the tail do not stop the search for `@` either
      refine .inr fun u hu => ?_
      have ht : findAt urlClose (urlTail u post) = some post :=
        findAt_run urlClose post (urlOpen ++ u) (by
          simp only [cleanRun, List.all_append, Bool.and_eq_true] at hu ⊢
          exact ⟨by decide, hu⟩)
      rw [h, Option.map_map, ← ht, findAt_eq_findClose]
      rfl

theorem redactUrlWith_urlTail (rep post pre : Str) :
    ∃ a b, ∀ u, cleanRun urlClose u = true → redactUrlWith rep (pre ++ urlTail u post) = a ++ (rep ++ b) := by
  refine (redactUrlWF_scans rep).uniform (urlTail · post) (fun _ => rep)
    ⟨redactUrlWith rep post, fun u hu => redactUrlWith_match rep (urlStep_urlTail u post hu)⟩ (fun c p => ?_) pre
  rcases urlStep_before_urlTail c p post with h | h
  · exact .inl fun u hu => by rw [← List.cons_append, h u hu, Option.map_map, Option.map_map]; rfl
  · exact .inr ⟨[], [], post, fun u hu => by rw [← List.cons_append, h u hu, List.append_nil]; rfl⟩

theorem redactUrlWith_congr (rep pre post u₁ u₂ : Str) (h₁ : cleanRun urlClose u₁ = true) (h₂ : cleanRun urlClose u₂ = true) :
    redactUrlWith rep (pre ++ urlTail u₁ post) = redactUrlWith rep (pre ++ urlTail u₂ post) := by
  obtain ⟨a, b, e⟩ := redactUrlWith_urlTail rep post pre
  rw [e u₁ h₁, e u₂ h₂]

end

/-! ## the isolation loop -/

theorem firstNonSpace_append_sep (f rest : Str) :
    firstNonSpace (f ++ '|' :: rest) = some '|' ∨ firstNonSpace (f ++ '|' :: rest) = firstNonSpace f := by
  simp only [firstNonSpace, List.dropWhile_append]
  split
  · exact Or.inl rfl
  · next h =>
    right
    cases hd : f.dropWhile fun c => c == ' ' || c == '\t' || c == '\n' || c == '\r' with
    | nil => simp [hd] at h
    | cons a l => rfl

/-- Discharges the side condition of the isolation theorems from a syntactic fact about the
header: none of its fields begins (after white space) with `{`. -/
theorem no_longer_candidate (parse : Str → Option (List (Str × Json)))
    (hparse : ∀ t d, parse t = some d → firstNonSpace t = some '{')
    (hd tl : List Str) (htl : tl ≠ [])
    (hh : ∀ f ∈ hd, firstNonSpace f ≠ some '{') :
    ∀ fs, fs ≠ [] → fs <:+ hd → parse (joinWith '|' (fs ++ tl)) = none := by
  intro fs hne hs
  cases fs with
  | nil => exact absurd rfl hne
  | cons f fs =>
    have hr : joinWith '|' (f :: fs ++ tl) = f ++ '|' :: joinWith '|' (fs ++ tl) :=
      joinWith_append '|' [f] (fs ++ tl) (by simp) (by simp [htl])
    rw [hr]
    cases hp : parse (f ++ '|' :: joinWith '|' (fs ++ tl)) with
    | none => rfl
    | some d =>
      exfalso
      have h1 := hparse _ _ hp
      rcases firstNonSpace_append_sep f (joinWith '|' (fs ++ tl)) with h2 | h2
      · rw [h2] at h1; cases h1
      · rw [h2] at h1; exact hh f (hs.subset (by simp)) h1

theorem first_field_opens (g : Char → Bool) (hsep : g '|' = false) : ∀ t : Str,
    (t.dropWhile g).head? = some '{' →
      ∃ p ps, splitOn '|' t = p :: ps ∧ (p.dropWhile g).head? = some '{' := by
  intro t
  induction t with
  | nil => intro h; cases h
  | cons c r ih =>
    intro h
    by_cases hc : g c = true
    · have hne : c ≠ '|' := by rintro rfl; rw [hsep] at hc; cases hc
      obtain ⟨p, ps, hs, ho⟩ := ih (by simpa [List.dropWhile_cons, hc] using h)
      exact ⟨c :: p, ps, by simp [splitOn, hne, hs], by simpa [List.dropWhile_cons, hc] using ho⟩
    · obtain rfl : c = '{' := by simpa [List.dropWhile_cons, hc] using h
      obtain ⟨f, fs, _, h2⟩ := splitOn_cons_ne '|' '{' r (by decide)
      exact ⟨'{' :: f, fs, h2, by simp [hc]⟩

theorem opensObject_iff (hopen : Gen.Sanitise.guardOpen = ['{']) (p : Str) :
    opensObject p = true ↔ (p.dropWhile fun c => Gen.Sanitise.guardStrip.contains c).head? = some '{' := by
  rw [opensObject, hopen]
  cases p.dropWhile fun c => Gen.Sanitise.guardStrip.contains c with
  | nil => simp [stripPrefix]
  | cons x xs => simpa [stripPrefix, charEq] using eq_comm

theorem opensObject_first_field (hsep : '|' ∉ Gen.Sanitise.guardStrip) (hopen : Gen.Sanitise.guardOpen = ['{'])
    (t : Str) (h : opensObject t = true) : ∃ p ps, splitOn '|' t = p :: ps ∧ opensObject p = true := by
  simp only [opensObject_iff hopen] at h ⊢
  exact first_field_opens _ (by simpa using hsep) t h

theorem opensObject_of_firstNonSpace (hg : GuardOK) (t : Str) (h : firstNonSpace t = some '{') :
    ∃ p ps, splitOn '|' t = p :: ps ∧ opensObject p = true := by
  obtain ⟨p, ps, hs, ho⟩ := first_field_opens _ (by decide) t h
  refine ⟨p, ps, hs, ?_⟩
  clear hs h
  induction p with
  | nil => cases ho
  | cons c r ih =>
    by_cases hc : (c == ' ' || c == '\t' || c == '\n' || c == '\r') = true
    · simpa [opensObject, List.dropWhile_cons, hg.1 c hc] using ih (by simpa [List.dropWhile_cons, hc] using ho)
    · obtain rfl : c = '{' := by simpa [List.dropWhile_cons, hc] using ho
      simp [opensObject, hg.2.1, hg.2.2, stripPrefix, charEq]

theorem isolate_skip (parse : Str → Option (List (Str × Json))) (tl : List Str) :
    ∀ (hd acc : List Str),
      (∀ p ps, p :: ps <:+ hd → opensObject p = false ∨ parse (joinWith '|' (p :: ps ++ tl)) = none) →
      isolate parse acc (hd ++ tl) = isolate parse (acc ++ hd) tl := by
  intro hd
  induction hd with
  | nil => intro acc _; simp
  | cons p ps ih =>
    intro acc h
    have step : isolate parse acc (p :: (ps ++ tl)) = isolate parse (acc ++ [p]) (ps ++ tl) := by
      rw [isolate]
      rcases h p ps (List.suffix_refl _) with h1 | h1
      · simp only [h1, Bool.false_eq_true, if_false]
      · rw [List.cons_append] at h1
        simp only [h1]
        split <;> rfl
    rw [List.cons_append, step, ih _ fun q qs hs => h q qs (hs.trans (List.suffix_cons p ps))]
    simp

theorem isolate_message (parse : Str → Option (List (Str × Json))) (hd : List Str) (json : Str)
    (d : List (Str × Json)) (hj : parse json = some d)
    (ho : ∃ p ps, splitOn '|' json = p :: ps ∧ opensObject p = true)
    (hskip : ∀ p ps, p :: ps <:+ hd →
      opensObject p = false ∨ parse (joinWith '|' (p :: ps ++ splitOn '|' json)) = none) :
    isolate parse [] (hd ++ splitOn '|' json) = some (hd, d) := by
  rw [isolate_skip parse _ hd [] hskip]
  obtain ⟨p, ps, hs, hop⟩ := ho
  have hjoin : joinWith '|' (p :: ps) = json := by rw [← hs]; exact join_splitOn '|' json
  rw [hs]
  simp only [isolate, hop, if_true, hjoin, hj, List.nil_append]

theorem isolate_none (parse : Str → Option (List (Str × Json))) (hp : ∀ t, parse t = none)
    (tl acc : List Str) : isolate parse acc tl = none := by
  rw [← List.append_nil tl, isolate_skip parse [] tl acc fun _ _ _ => .inr (hp _)]
  rfl

theorem sanitize_from_first (h0 : Gen.Sanitise.isolateStart = 0) (h : Json → Str) (can : Bool)
    (parse : Str → Option (List (Str × Json))) (record : Str) :
    sanitize h can parse record =
      match isolate parse [] (splitOn '|' record) with
      | some (head, d) => renderJson h can head d
      | none => renderPlain can record := by
  simp only [sanitize, h0, List.take_zero, List.drop_zero]
  rfl

theorem sanitize_json (hg : GuardOK) (h0 : Gen.Sanitise.isolateStart = 0) (h : Json → Str) (can : Bool)
    (parse : Str → Option (List (Str × Json)))
    (header j : Str) (d : List (Str × Json)) (hj : parse j = some d) (ho : firstNonSpace j = some '{')
    (hno : ∀ fs, fs ≠ [] → fs <:+ splitOn '|' header → parse (joinWith '|' (fs ++ splitOn '|' j)) = none) :
    sanitize h can parse (header ++ '|' :: j) = renderJson h can (splitOn '|' header) d := by
  simp only [sanitize_from_first h0, splitOn_append, isolate_message parse _ j d hj
    (opensObject_of_firstNonSpace hg j ho) fun p ps hs => Or.inr (hno _ (List.cons_ne_nil p ps) hs)]

/-! ## `template % args` -/

theorem pctFormat_cons_ne (c : Char) (r : Str) (as : List Str) (hc : c ≠ '%') :
    pctFormat (c :: r) as = (pctFormat r as).map (c :: ·) := by
  rw [pctFormat.eq_def]; simp [hc]

theorem pctFormat_s (r : Str) (a : Str) (as : List Str) :
    pctFormat ('%' :: 's' :: r) (a :: as) = (pctFormat r as).map (a ++ ·) := by
  rw [pctFormat.eq_def]; simp

theorem pctFormat_plain (t : Str) (ht : '%' ∉ t) : pctFormat t [] = some t := by
  induction t with
  | nil => rw [pctFormat.eq_def]; simp
  | cons c t ih =>
    have hc : c ≠ '%' := fun e => ht (by simp [e])
    have ht' : '%' ∉ t := fun m => ht (List.mem_cons_of_mem _ m)
    rw [pctFormat_cons_ne c t [] hc, ih ht']; rfl

end Sanitise
