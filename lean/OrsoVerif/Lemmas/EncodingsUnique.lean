import OrsoVerif.Model.Np
/-! Lemmas about the merge step of `numpy.unique` (`Np.keepFirsts`): on a sorted array it leaves one
occurrence of every value. -/
namespace Enc

variable {α : Type}

theorem keepFirstsFrom_sublist (ne : α → α → Bool) (p : α) (l : List α) :
    (Np.keepFirstsFrom ne p l).Sublist l := by
  fun_induction Np.keepFirstsFrom ne p l with
  | case1 => exact List.Sublist.slnil
  | case2 p y t _ ih => exact ih.cons_cons y
  | case3 p y t _ ih => exact ih.cons y

theorem keepFirsts_sublist (ne : α → α → Bool) (l : List α) : (Np.keepFirsts ne l).Sublist l := by
  cases l with
  | nil => exact List.Sublist.slnil
  | cons x t => exact (keepFirstsFrom_sublist ne x t).cons_cons x

theorem keepFirstsFrom_mem (ne : α → α → Bool) (hsound : ∀ a b, ne a b = false → a = b) (p : α) (l : List α)
    (v : α) (hv : v ∈ p :: l) : v ∈ p :: Np.keepFirstsFrom ne p l := by
  induction l generalizing p with
  | nil => exact hv
  | cons y t ih =>
    rcases List.mem_cons.mp hv with rfl | hv
    · exact List.mem_cons_self
    have hy := ih y hv
    unfold Np.keepFirstsFrom
    cases h : ne y p
    · -- `y` is dropped: it is `p`
      cases hsound y p h
      exact hy
    · exact List.mem_cons_of_mem _ hy

theorem keepFirstsFrom_nodup (le ne : α → α → Bool) (hne : ∀ a b, ne a b = false ↔ a = b)
    (antisymm : ∀ a b, le a b = true → le b a = true → a = b) (p : α) (l : List α)
    (hs : (p :: l).Pairwise (fun a b => le a b = true)) :
    (p :: Np.keepFirstsFrom ne p l).Nodup := by
  induction l generalizing p with
  | nil => exact List.nodup_cons.mpr ⟨List.not_mem_nil, List.nodup_nil⟩
  | cons y t ih =>
    obtain ⟨hp, hyt⟩ := List.pairwise_cons.mp hs
    have hnd := ih y hyt
    unfold Np.keepFirstsFrom
    cases h : ne y p
    · cases (hne y p).mp h
      exact hnd
    · refine List.nodup_cons.mpr ⟨fun hm => ?_, hnd⟩
      -- `p` again at or below `y` in the sorted list: then `y` lies between `p` and `p`
      have hpy : le y p = true := (List.mem_cons.mp hm).elim (fun e => e ▸ hp y List.mem_cons_self)
        fun hz => (List.pairwise_cons.mp hyt).1 p ((keepFirstsFrom_sublist ne y t).subset hz)
      exact Bool.noConfusion (((hne y p).mpr (antisymm y p hpy (hp y List.mem_cons_self))).symm.trans h)

end Enc
