import OrsoVerif.Model.Distogram
import Mathlib.Tactic.Linarith
import Mathlib.Tactic.Ring
import Mathlib.Tactic.FieldSimp
import Mathlib.Tactic.Positivity
import Mathlib.Algebra.Order.Field.Basic
/-!
# Lists of bins: order of the centres, positive counts, mass and weighted sum

The notions in which both the histogram machines (`Lemmas/Distogram.lean`) and the estimators (`Lemmas/Estimators.lean`)
speak, with their equations.
-/
namespace Distogram
-- the equations of `mass` and `wsum` do not use the order, the lemmas on `Pairwise` not the field
set_option linter.unusedSectionVars false

variable {K : Type} [Field K] [LinearOrder K]

/-- Centres strictly increasing. -/
def Inc (l : List (K × K)) : Prop := l.Pairwise (fun a b => a.1 < b.1)
/-- Every count positive. -/
def Pos (l : List (K × K)) : Prop := ∀ b ∈ l, 0 < b.2
/-- Every centre inside `[lo, hi]`. -/
def Within (lo hi : K) (l : List (K × K)) : Prop := ∀ b ∈ l, lo ≤ b.1 ∧ b.1 ≤ hi
/-- Sum of the counts. -/
def mass (l : List (K × K)) : K := (l.map (fun b => b.2)).sum
/-- Sum of centre × count. -/
def wsum (l : List (K × K)) : K := (l.map (fun b => b.1 * b.2)).sum

theorem mass_cons (b : K × K) (l : List (K × K)) : mass (b :: l) = b.2 + mass l := rfl
theorem wsum_cons (b : K × K) (l : List (K × K)) : wsum (b :: l) = b.1 * b.2 + wsum l := rfl

theorem mass_singleton (b : K × K) : mass [b] = b.2 := add_zero _
theorem wsum_singleton (b : K × K) : wsum [b] = b.1 * b.2 := add_zero _

theorem mass_append (a b : List (K × K)) : mass (a ++ b) = mass a + mass b := by
  simp [mass, List.map_append, List.sum_append]

theorem wsum_append (a b : List (K × K)) : wsum (a ++ b) = wsum a + wsum b := by
  simp [wsum, List.map_append, List.sum_append]

theorem mass_nil : mass ([] : List (K × K)) = 0 := rfl

theorem pos_cons {b : K × K} {l : List (K × K)} (hp : Pos (b :: l)) : 0 < b.2 ∧ Pos l :=
  List.forall_mem_cons.mp hp

theorem inc_cons_cons {b c : K × K} {l : List (K × K)} (hi : Inc (b :: c :: l)) : b.1 < c.1 ∧ Inc (c :: l) :=
  ⟨(List.pairwise_cons.mp hi).1 c List.mem_cons_self, (List.pairwise_cons.mp hi).2⟩

theorem pairwise_head_le {α : Type} (f : α → K) {a : α} {t : List α} (h : (a :: t).Pairwise (fun x y => f x < f y)) :
    ∀ b ∈ a :: t, f a ≤ f b := by
  intro b hb
  rcases List.mem_cons.mp hb with rfl | hb
  · exact le_refl _
  · exact le_of_lt ((List.pairwise_cons.mp h).1 b hb)

theorem pairwise_le_last {α : Type} (f : α → K) (l : List α) (bl : α) (hp : l.Pairwise (fun x y => f x < f y))
    (h : l.getLast? = some bl) : ∀ b ∈ l, f b ≤ f bl := by
  intro b hb
  have hl := (hp.imp le_of_lt).rel_getLast_of_rel_getLast_getLast hb le_rfl
  rwa [Option.some.inj ((List.getLast?_eq_some_getLast (List.ne_nil_of_mem hb)).symm.trans h)] at hl

theorem inc_le_last (l : List (K × K)) (bl : K × K) (hi : Inc l) (h : l.getLast? = some bl) :
    ∀ b ∈ l, b.1 ≤ bl.1 :=
  pairwise_le_last Prod.fst l bl hi h

theorem gaps_length : ∀ (l : List (K × K)), (gaps l).length = l.length - 1
  | [] => rfl
  | [_] => rfl
  | _ :: b :: rest => congrArg (· + 1) (gaps_length (b :: rest))

/-- The generated equality test (`a <= b and b <= a`) is equality. -/
theorem eqK_iff' (a b : K) : eqK a b = true ↔ a = b := by
  unfold eqK Gen.DistogramExpr.eqK
  simp only [Bool.and_eq_true, decide_eq_true_eq]
  exact ⟨fun h => le_antisymm h.1 h.2, fun h => by rw [h]; exact ⟨le_refl _, le_refl _⟩⟩

end Distogram
