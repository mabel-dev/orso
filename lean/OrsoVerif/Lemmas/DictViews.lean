import OrsoVerif.Model.DictViews
/-! The view objects of `Model/DictViews.lean`: under `Safe` a read keeps `Good` and returns the view of the row (induction on
the fuel: the views a view reads have lower rank), and a caller's change leaves the row object as it is. -/
namespace C02
open DictRow DictViews

variable {α : Type}

theorem slotOf_mem (v : View) (c : Content α) (l : List (View × Content α)) (h : slotOf v l = some c) : (v, c) ∈ l := by
  induction l with
  | nil => cases h
  | cons p rest ih =>
    rw [slotOf] at h
    split at h
    · next hw => cases h; subst hw; exact List.mem_cons_self
    · exact List.mem_cons_of_mem _ (ih h)

theorem readDeps_good (fields : List String) (row : List α)
    (rd : View → Obj α → Option (Obj α × Content α)) :
    ∀ (ws : List View),
      (∀ w ∈ ws, ∀ o, Good fields row o → ∃ o', rd w o = some (o', spec fields row w) ∧ Good fields row o') →
      ∀ (o : Obj α) (e : Env α), Good fields row o →
        ∃ o', readDeps rd ws (o, e) = some (o', envOf fields row ws e) ∧ Good fields row o' := by
  intro ws
  induction ws with
  | nil => intro _ o e hg; exact ⟨o, rfl, hg⟩
  | cons w ws ih =>
    intro h o e hg
    obtain ⟨o1, h1, g1⟩ := h w (by simp) o hg
    obtain ⟨o2, h2, g2⟩ := ih (fun w' hw' => h w' (by simp [hw'])) o1 (e.set w (spec fields row w)) g1
    exact ⟨o2, by simp only [readDeps, h1, envOf]; exact h2, g2⟩

theorem readView_good (cfg : Cfg α) (fields : List String) (row : List α) (hs : Safe cfg fields row) :
    ∀ (n : Nat) (v : View) (o : Obj α), Good fields row o → cfg.rank v < n →
      ∃ o', readView cfg n v o = some (o', spec fields row v) ∧ Good fields row o' := by
  intro n
  induction n with
  | zero => intro v o _ h; omega
  | succ n ih =>
    intro v o hg hr
    unfold readView
    cases hc : (if cfg.cached v then slotOf v o.slots else none) with
    | some c =>
      have hm : slotOf v o.slots = some c := by
        by_cases hcv : cfg.cached v = true
        · simpa [hcv] using hc
        · simp [hcv] at hc
      have := hg.2.2 _ (slotOf_mem v c _ hm)
      simp only at this
      exact ⟨o, by simp [this], hg⟩
    | none =>
      obtain ⟨o', h1, g1⟩ := readDeps_good fields row (readView cfg n) (cfg.deps v)
        (fun w hw o2 g2 => ih w o2 g2 (by have := hs.acyclic v w hw; omega)) o {} hg
      have hb : cfg.body o'.fields o'.row (envOf fields row (cfg.deps v) {}) v = spec fields row v := by
        rw [g1.1, g1.2.1]; exact hs.bodySpec v
      simp only [h1, hb]
      by_cases hcv : cfg.cached v = true
      · refine ⟨{ o' with slots := (v, spec fields row v) :: o'.slots }, by simp [hcv], g1.1, g1.2.1, ?_⟩
        intro p hp
        simp only [List.mem_cons] at hp
        rcases hp with hp | hp
        · subst hp; rfl
        · exact g1.2.2 p hp
      · exact ⟨o', by simp [hcv], g1⟩

theorem change_id (cfg : Cfg α) (fields : List String) (row : List α) (hs : Safe cfg fields row)
    (o : Obj α) (v : View) (f : Content α → Content α) : change cfg o v f = o := by
  have h1 : (cfg.cached v && cfg.mutable v) = false := by
    cases hc : cfg.cached v with
    | false => rfl
    | true => simp [hs.noAlias v hc]
  have h2 : (cfg.aliasesFields v && cfg.fieldsMutable) = false := by
    cases hc : cfg.aliasesFields v with
    | false => rfl
    | true => simp [hs.fieldsFixed v hc]
  simp [change, h1, h2]

theorem run_spec (cfg : Cfg α) (fields : List String) (row : List α) (hs : Safe cfg fields row) :
    ∀ (acts : List (Act α)) (o : Obj α), Good fields row o →
      ∀ p ∈ runActs cfg o acts, p.2 = some (spec fields row p.1) := by
  intro acts
  induction acts with
  | nil => intro o _ p hp; simp [runActs] at hp
  | cons a rest ih =>
    intro o hg p hp
    cases a with
    | read v =>
      obtain ⟨o', h1, g1⟩ := readView_good cfg fields row hs fuel v o hg (hs.bounded v)
      simp only [runActs, h1, List.mem_cons] at hp
      rcases hp with hp | hp
      · subst hp; rfl
      · exact ih o' g1 p hp
    | change v f =>
      simp only [runActs, change_id cfg fields row hs] at hp
      exact ih o hg p hp

end C02
