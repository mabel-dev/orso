import OrsoVerif.Model.Encodings
/-! The dtype layer of C09 by classes of values: what a cast into a wider dtype may do to a value (`Widened`),
which values a dtype holds natively, which each clause of `castInto` accepts, how `pyEq` compares them; the dtype
`numpy.array(list)` infers (`arrayDType`) holds every element of the list; the facts about numpy's own tables
that the property theorems are derived from. -/
namespace Enc

/-- `w` is `v` itself or `v` widened along `bool → int → float`. -/
def Widened (i2f : Int → UInt64) (v w : PyVal) : Prop :=
  w = v
  ∨ (∃ i, v = .int i ∧ w = .float (i2f i))
  ∨ (∃ b, v = .bool b ∧ w = .int (if b then 1 else 0))
  ∨ (∃ b, v = .bool b ∧ w = .float (i2f (if b then 1 else 0)))

theorem scalarDType_holds (y : PyVal) (u : DType) (h : scalarDType y = some u) : holds u y = true := by
  cases y with
  | none | bool | float => cases h; rfl
  | int i =>
    rw [scalarDType] at h
    split at h <;> cases h
    rfl
  | str s =>
    rw [scalarDType] at h
    split at h <;> cases h
    exact decide_eq_true (Nat.le_max_right 1 s.length)
  | _ => cases h

theorem holds_object_of_holds {t : DType} {x : PyVal} (h : holds t x = true) : holds .object x = true := by
  cases x <;> first | rfl | (cases t <;> cases h)

theorem holds_bool {v : PyVal} (h : holds .bool v = true) : ∃ b, v = .bool b := by
  cases v with | bool b => exact ⟨b, rfl⟩ | _ => cases h

theorem holds_int {v : PyVal} (h : holds .int v = true) : ∃ i, v = .int i := by
  cases v with | int i => exact ⟨i, rfl⟩ | _ => cases h

theorem holds_float {v : PyVal} (h : holds .float v = true) : ∃ x, v = .float x := by
  cases v with | float x => exact ⟨x, rfl⟩ | _ => cases h

theorem holds_str {w : Nat} {v : PyVal} (h : holds (.str w) v = true) : ∃ s, v = .str s ∧ s.length ≤ w := by
  cases v with | str s => exact ⟨s, rfl, of_decide_eq_true h⟩ | _ => cases h

theorem holds_str_mono {w w' : Nat} {x : PyVal} (hw : w ≤ w') (h : holds (.str w) x = true) :
    holds (.str w') x = true := by
  obtain ⟨s, rfl, hs⟩ := holds_str h
  exact decide_eq_true (Nat.le_trans hs hw)

theorem arrayStep_holds (acc : DType) (y : PyVal) (t : DType) (h : arrayStep acc y = some t) :
    holds t y = true ∧ ∀ x, holds acc x = true → holds t x = true := by
  obtain ⟨u, hy, h⟩ := Option.bind_eq_some_iff.mp h
  have hu := scalarDType_holds y u hy
  have obj : holds .object y = true ∧ ∀ x, holds acc x = true → holds .object x = true :=
    ⟨holds_object_of_holds hu, fun _ => holds_object_of_holds⟩
  -- the four clauses of the step: objects stay objects, text widens, anything else must be the same dtype
  split at h
  · cases h; exact obj
  · cases h; exact obj
  · cases h
    exact ⟨holds_str_mono (Nat.le_max_right _ _) hu, fun _ => holds_str_mono (Nat.le_max_left _ _)⟩
  · split at h <;> cases h
    rename_i hab; subst hab
    exact ⟨hu, fun _ hx => hx⟩

theorem foldlM_arrayStep_holds (ys : List PyVal) (acc t : DType) (h : ys.foldlM arrayStep acc = some t) :
    (∀ y ∈ ys, holds t y = true) ∧ ∀ x, holds acc x = true → holds t x = true := by
  induction ys generalizing acc with
  | nil => cases h; exact ⟨fun _ hy => (nomatch hy), fun _ hx => hx⟩
  | cons y ys ih =>
    rw [List.foldlM_cons] at h
    obtain ⟨a, hs, h⟩ := Option.bind_eq_some_iff.mp h
    obtain ⟨h1, h2⟩ := arrayStep_holds acc y a hs
    obtain ⟨i1, i2⟩ := ih a h
    exact ⟨List.forall_mem_cons.mpr ⟨i2 y h1, i1⟩, fun x hax => i2 x (h2 x hax)⟩

theorem castInto_of_holds (i2f : Int → UInt64) (t : DType) (x : PyVal) (h : holds t x = true) :
    castInto i2f t x = some x := by
  cases t with
  | object => rfl
  | bool => obtain ⟨b, rfl⟩ := holds_bool h; rfl
  | int => obtain ⟨i, rfl⟩ := holds_int h; rfl
  | float => obtain ⟨b, rfl⟩ := holds_float h; rfl
  | str w => obtain ⟨s, rfl, hs⟩ := holds_str h; exact if_pos hs

/-- The shape of `DType.le`: `rt` takes what `t` holds as it is (same dtype, wider text, objects), or `(t, rt)` is a
proper step of `bool → int → float`.  The widening theorems of `Props/C09.lean` split on this. -/
theorem castInto_le_cases (i2f : Int → UInt64) {t rt : DType} (hle : DType.le t rt = true) :
    (∀ v, holds t v = true → castInto i2f rt v = some v) ∨
    (t = .bool ∧ rt = .int) ∨ (t = .bool ∧ rt = .float) ∨ (t = .int ∧ rt = .float) := by
  cases rt with
  | object => exact .inl fun _ _ => rfl
  | str w' =>
    cases t with
    | str w => exact .inl fun v hv => castInto_of_holds i2f _ v (holds_str_mono (of_decide_eq_true hle) hv)
    | _ => cases hle
  | bool =>
    cases t with
    | bool => exact .inl (castInto_of_holds i2f _)
    | _ => cases hle
  | int =>
    cases t with
    | bool => exact .inr (.inl ⟨rfl, rfl⟩)
    | int => exact .inl (castInto_of_holds i2f _)
    | _ => cases hle
  | float =>
    cases t with
    | bool => exact .inr (.inr (.inl ⟨rfl, rfl⟩))
    | int => exact .inr (.inr (.inr ⟨rfl, rfl⟩))
    | float => exact .inl (castInto_of_holds i2f _)
    | _ => cases hle

theorem boolInt_inj {b b' : Bool} (h : (if b then (1 : Int) else 0) = (if b' then 1 else 0)) : b = b' := by
  cases b <;> cases b' <;> first | rfl | cases h

theorem castInto_bool_inv {i2f : Int → UInt64} {a a' : PyVal} (h : castInto i2f .bool a = some a') : a' = a := by
  cases a with
  | bool b => exact (Option.some.inj h).symm
  | _ => cases h

theorem castInto_str_inv {i2f : Int → UInt64} {w : Nat} {a a' : PyVal}
    (h : castInto i2f (.str w) a = some a') : a' = a := by
  cases a with
  | str s =>
    rw [castInto] at h
    split at h
    · exact (Option.some.inj h).symm
    · cases h
  | _ => cases h

theorem castInto_int (i2f : Int → UInt64) (a : PyVal) : castInto i2f .int a = (intOf a).map .int := by
  cases a <;> rfl

theorem castInto_float_inv {i2f : Int → UInt64} {a a' : PyVal} (h : castInto i2f .float a = some a') :
    (∃ x, a = .float x ∧ a' = .float x) ∨ ∃ i, intOf a = some i ∧ a' = .float (i2f i) := by
  cases a with
  | float x => exact .inl ⟨x, rfl, (Option.some.inj h).symm⟩
  | int i => exact .inr ⟨i, rfl, (Option.some.inj h).symm⟩
  | bool b => exact .inr ⟨_, rfl, (Option.some.inj h).symm⟩
  | _ => cases h

theorem pyEq_intOf {i2f : Int → UInt64} {a b : PyVal} {i j : Int} (ha : intOf a = some i) (hb : intOf b = some j) :
    pyEq i2f a b = (i == j) := by
  cases a <;> cases ha <;> cases b <;> cases hb <;>
    first | rfl | (rename_i x y; cases x <;> cases y <;> rfl)

theorem pyEq_float_intOf {i2f : Int → UInt64} (x : UInt64) {b : PyVal} {j : Int} (hb : intOf b = some j) :
    pyEq i2f (.float x) b = floatEq x (i2f j) ∧ pyEq i2f b (.float x) = floatEq (i2f j) x := by
  cases b <;> cases hb <;> exact ⟨rfl, rfl⟩

/-- A statement about all pairs of numeric dtypes holds once it holds on `Num.all`, where it is evaluated:
this is how the facts about numpy's tables are decided, each on all 196 entries at once.  (`elab_as_elim`: the
statement `P` is read off the goal.) -/
@[elab_as_elim]
theorem forall_num_pairs {P : Num → Num → Prop} (a b : Num) (h : ∀ a ∈ Num.all, ∀ b ∈ Num.all, P a b) : P a b :=
  h a (Num.mem_all a) b (Num.mem_all b)

section Table
open Gen.NpDtypes

/-- Between the float formats of numpy's `finfo`, one that includes another in precision and exponent range
also leaves at least as much room between the two (`maxexp - precision`): a scaled integer `m * 2^e` of the
smaller format is one of the larger format with the same `m` and `e`.  (`Num.exactInto` does not ask this.) -/
theorem exactInto_float_room (a b : Num) : intRange a = none → a.exactInto b = true →
    ∀ fa ∈ floatFormat a, ∀ fb ∈ floatFormat b, fb.1 + fa.2 ≤ fb.2 + fa.1 :=
  forall_num_pairs a b (by decide +kernel)

/-- Forgetting the widths, numpy's table is the numeric chain `bool < int < float` of the model, `uint64`
against a signed integer dtype apart. -/
theorem abs_promote (a b : Num) : a.mixedU64 b = false →
    ∀ tv ∈ NpDType.abs (.num a), ∀ td ∈ NpDType.abs (.num b),
      NpDType.abs (.num (promote a b)) = some (DType.join tv td) :=
  forall_num_pairs a b (by decide +kernel)

theorem abs_num_numeric {a : Num} {t : DType} (h : NpDType.abs (.num a) = some t) : t.numeric = true := by
  cases a <;> cases h <;> rfl

end Table

theorem DType.join_numeric_other {t u : DType} (ht : t.numeric = true) (hu : u.numeric = false) :
    DType.join t u = .object ∧ DType.join u t = .object := by
  cases t <;> cases u <;> first | exact ⟨rfl, rfl⟩ | contradiction

end Enc
