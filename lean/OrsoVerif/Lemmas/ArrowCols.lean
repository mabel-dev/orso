import OrsoVerif.Model.Arrow
/-!
Helper lemmas for C11: transposition of rectangular frames (`to_arrow` and the row view of the
table it builds); what `arrow_field` writes for a DECIMAL column, from the facts about the generated
`decimal128` arguments (`forthTy_decimal`); what the reader makes of a primitive id, alone and under a list constructor
(`readsAs`, `backTy_of_readsAs`); the step from the type-level round trip to the column-level one.
-/
namespace Arrow

variable {α : Type}

theorem transposeN_length (w : Nat) : ∀ rows : List (List α), (transposeN w rows).length = w := by
  induction w with
  | zero => intro _; rfl
  | succ w ih => intro rows; simp [transposeN, ih]

theorem transposeN_cons (w : Nat) (r : List α) (rs : List (List α)) (h : r.length = w) :
    (transposeN w (r :: rs)).filterMap List.head? = r ∧ (transposeN w (r :: rs)).map List.tail = transposeN w rs := by
  induction w generalizing r rs with
  | zero => exact ⟨(List.eq_nil_of_length_eq_zero h).symm, rfl⟩
  | succ w ih =>
    cases r with
    | nil => exact absurd h (Nat.succ_ne_zero w).symm
    | cons a r =>
      obtain ⟨h1, h2⟩ := ih r (rs.map List.tail) (Nat.succ.inj h)
      simp only [transposeN, List.filterMap_cons, List.head?_cons, List.map_cons, List.tail_cons, h1, h2, and_self]

theorem transposeN_involutive (w : Nat) (rows : List (List α)) (h : ∀ r ∈ rows, r.length = w) :
    transposeN rows.length (transposeN w rows) = rows := by
  induction rows with
  | nil => rfl
  | cons r rs ih =>
    obtain ⟨h1, h2⟩ := transposeN_cons w r rs (h r List.mem_cons_self)
    simp only [List.length_cons, transposeN]
    rw [h1, h2, ih fun x hx => h x (List.mem_cons_of_mem _ hx)]

theorem filterMap_head_length (rows : List (List α)) (h : ∀ r ∈ rows, r ≠ []) :
    (rows.filterMap List.head?).length = rows.length := by
  induction rows with
  | nil => rfl
  | cons r rs ih =>
    cases r with
    | nil => exact absurd rfl (h [] List.mem_cons_self)
    | cons a r =>
      simp only [List.filterMap_cons, List.head?_cons, List.length_cons]
      rw [ih fun x hx => h x (List.mem_cons_of_mem _ hx)]

/-- What the skeleton needs to know about `head` (assembled from the *generated* window arithmetic of
`DataFrame.slice`; proved of the current source in `Props/C11.lean`: `head_glue_spec`). -/
def HeadFact : Prop := ∀ {β : Type} (k : Nat) (rows : List (List β)), head k rows = rows.take k

theorem limited_rect (H : HeadFact) (rows : List (List α)) (size : Option Int) (w : Nat)
    (h : ∀ r ∈ rows, r.length = w) : ∀ r ∈ limited rows size, r.length = w := by
  intro r hr
  unfold limited at hr
  split at hr
  · rw [H] at hr; exact h r (List.mem_of_mem_take hr)
  · exact h r hr

/-- What the skeleton needs to know about `to_arrow`'s *generated* empty-frame test (proved of the
current source in `Props/C11.lean`: `to_arrow_empty_guard_spec`). -/
def EmptyFact : Prop := ∀ n : Nat, Gen.ArrowExpr.toArrowEmptyTest (n : Int) ↔ n = 0

theorem transposeN_nil (w : Nat) : transposeN w ([] : List (List α)) = List.replicate w [] := by
  induction w with
  | zero => rfl
  | succ w ih => exact congrArg ([] :: ·) ih

/-- The empty-frame branch of `to_arrow` is no special case: transposing no rows gives the empty columns. -/
theorem toArrow_eq (E : EmptyFact) (names : List String) (rows : List (List α)) (size : Option Int) :
    toArrow names rows size = { names := names, cols := transposeN names.length (limited rows size) } := by
  simp only [toArrow]
  split
  · next h => rw [List.eq_nil_of_length_eq_zero ((E _).mp h), transposeN_nil]
  · rfl

theorem toArrow_names (names : List String) (rows : List (List α)) (size : Option Int) :
    (toArrow names rows size).names = names := by
  simp only [toArrow]; split <;> rfl

theorem toArrow_numRows (H : HeadFact) (E : EmptyFact) (names : List String) (rows : List (List α)) (size : Option Int)
    (hw : 0 < names.length) (hrect : ∀ r ∈ rows, r.length = names.length) :
    (toArrow names rows size).numRows = (limited rows size).length := by
  rw [toArrow_eq E]
  obtain ⟨w, hw'⟩ : ∃ w, names.length = w + 1 := ⟨names.length - 1, by omega⟩
  rw [hw']
  -- the first column holds the first cell of every row: no row is empty
  refine filterMap_head_length _ fun r hr hnil => ?_
  have := limited_rect H rows size _ hrect r hr
  rw [hnil, hw'] at this
  cases this

theorem toArrow_rows (H : HeadFact) (E : EmptyFact) (names : List String) (rows : List (List α)) (size : Option Int)
    (hw : 0 < names.length) (hrect : ∀ r ∈ rows, r.length = names.length) :
    (toArrow names rows size).rows = limited rows size := by
  unfold ColTable.rows
  rw [toArrow_numRows H E names rows size hw hrect, toArrow_eq E]
  exact transposeN_involutive _ _ (limited_rect H rows size _ hrect)

/-! ## Column typing -/

open Gen.Arrow

/-- `element_type` is only looked at for ARRAY columns (schema.py:321-325). -/
theorem forthTy_elem_irrelevant (t : OrsoTy) (h : t ≠ .ARRAY) (e : Option OrsoTy) (p s : Option Nat) :
    forthTy t e p s = forthTy t none p s := by
  unfold forthTy
  simp [h]

/-- What the skeleton needs to know about the *generated* arguments of `pyarrow.decimal128` (proved of the
current source in `Props/C11.lean`: `decimal_defaulting_spec`). -/
def DecimalArgFact : Prop :=
  (∀ p : Nat, 1 ≤ p → Gen.ArrowExpr.decimalPrecisionArg (some (p : Int)) = some (p : Int)) ∧
  (∀ s : Nat, Gen.ArrowExpr.decimalScaleArg (some (s : Int)) = some (s : Int))

/-- A precision the generated argument expression passes on as it is (it is not falsy) and `decimal128` accepts. -/
def PrecisionOk (p : Nat) : Prop := 1 ≤ p ∧ decimalMinPrecision ≤ p ∧ p ≤ decimalMaxPrecision

theorem instantiate_decimal (D : DecimalArgFact) (i : String) (p s : Nat) (hp : PrecisionOk p) :
    instantiate (some p) (some s) (.decimal i) = .decimal i p s := by
  obtain ⟨h0, h1, h2⟩ := hp
  simp only [instantiate, Option.map_some, Int.ofNat_eq_natCast, D.1 p h0, D.2 s]
  rw [if_pos ⟨by omega, by omega, by omega⟩, Int.toNat_natCast, Int.toNat_natCast]

theorem forthTy_decimal (D : DecimalArgFact) (T : ∀ e ∈ fieldMap, e.2 ≠ Spec.unknown) (i : String)
    (hi : specOf .DECIMAL fieldDefault = .decimal i) (e : Option OrsoTy) (p s : Nat) (hp : PrecisionOk p) :
    forthTy .DECIMAL e (some p) (some s) = .decimal i p s := by
  -- the eagerly evaluated `type_map` literal does not raise: the only constructor call in it that looks at
  -- precision and scale is `decimal128`
  have hr : tableRaises (some p) (some s) = false := by
    unfold tableRaises
    rw [List.any_eq_false]
    intro e he
    rw [decide_eq_true_eq]
    cases hs : e.2 with
    | prim i => simp [instantiate]
    | decimal i => rw [instantiate_decimal D i p s hp]; simp
    | list i el => simp [instantiate]
    | unknown => exact absurd hs (T e he)
  unfold forthTy
  rw [hr, if_neg Bool.false_ne_true, if_neg (by decide), hi, instantiate_decimal D i p s hp]

/-- What the reader makes of a primitive Arrow type of this id (`none`: it raises, or takes it for a list). -/
def readsAs (id : String) : Option OrsoTy :=
  match arrowTypeMap (.prim id) with
  | .cls c => if c = "list" then none else pythonToOrso c
  | _ => none

theorem backTy_of_readsAs {id : String} {t : OrsoTy} (h : readsAs id = some t) :
    backTy false (.prim id) = some (t, none, none, none) ∧
    ∀ l, lookup l typeMap = some "list" → backTy false (.list l (.prim id)) = some (.ARRAY, some t, none, none) := by
  unfold readsAs at h
  split at h
  · next c hc =>
    split at h
    · cases h
    · next hl =>
      refine ⟨?_, fun l hlist => ?_⟩
      · simp only [backTy, hc, Bool.false_and, hl, h, Option.getD_some]
        rfl
      · have hm : arrowTypeMap (.list l (.prim id)) = .cls "list" := by
          simp only [arrowTypeMap, ArrowTy.id, hlist]
        simp only [backTy, hm, hc, h, carriesElementType]
        rfl
  · cases h

theorem roundtripCol_of_backTy (c : Col) (e' : Option OrsoTy)
    (hn : carriesName = true) (hp : fieldPassesName = true)
    (hb : backTy false (forthTy c.type c.elem c.precision c.scale) = some (c.type, e', c.precision, c.scale))
    (hi : normalise c.type c.precision c.scale = (c.precision, c.scale)) (he : c.type = .ARRAY → e' = c.elem) :
    ∃ c', roundtripCol c = some c' ∧ c'.type = c.type ∧ c'.precision = c.precision ∧ c'.scale = c.scale ∧
      (c.type = .ARRAY → c'.elem = c.elem) ∧ c'.name = c.name := by
  simp only [roundtripCol, fromArrowField, arrowField, hb, hi, hn, hp, if_true]
  exact ⟨_, rfl, rfl, rfl, rfl, he, rfl⟩

end Arrow
