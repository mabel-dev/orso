import OrsoVerif.Lemmas.DistogramBins
/-!
# Exact bounds of a list of values: `IsMinOf`, `IsMaxOf` over `minO`, `optMin`

`DistogramBins` is imported for the model (`minO`, `optMin`, …) and for its Mathlib modules (`αᵒᵈ`; and with Mathlib's
lattice instances in scope the `≤` of `IsMinOf` elaborates through the same instances as in the modules that use it), not
for its lemmas.
-/
namespace Distogram

variable {K : Type} [LinearOrder K]

/-- `o` is exactly the minimum of the list `B` (`none` iff nothing was inserted). -/
def IsMinOf (o : Option K) (B : List K) : Prop :=
  match o with
  | none => B = []
  | some m => m ∈ B ∧ ∀ b ∈ B, m ≤ b

/-- `o` is exactly the maximum of the list `B`. -/
def IsMaxOf (o : Option K) (B : List K) : Prop :=
  match o with
  | none => B = []
  | some m => m ∈ B ∧ ∀ b ∈ B, b ≤ m

/-! ## bounds bookkeeping

Only the order matters here, and every statement about a maximum is the statement about a minimum read in the dual
order: `maxO`, `optMax`, `IsMaxOf` are `minO`, `optMin`, `IsMinOf` of `αᵒᵈ` by definition. -/
section Bounds
variable {α : Type} [LinearOrder α]

theorem minO_le_val (o : Option α) (v : α) : minO o v ≤ v := by
  cases o with
  | none => exact le_refl v
  | some x =>
    simp only [minO]
    split
    · exact le_refl _
    · rename_i h; exact not_lt.mp h

theorem minO_le_old (x v : α) : minO (some x) v ≤ x := by
  simp only [minO]
  split
  · rename_i h; exact le_of_lt h
  · exact le_refl _

theorem minO_cases (o : Option α) (v : α) : minO o v = v ∨ o = some (minO o v) := by
  cases o with
  | none => exact Or.inl rfl
  | some x =>
    simp only [minO]
    split
    · exact Or.inl rfl
    · exact Or.inr rfl

theorem IsMinOf.spec {o : Option α} {B : List α} (h : IsMinOf o B) :
    (∀ m, o = some m → m ∈ B ∧ ∀ b ∈ B, m ≤ b) ∧ (o = none → B = []) := by
  cases o with
  | none => exact ⟨fun _ e => (nomatch e), fun _ => h⟩
  | some x => exact ⟨fun m e => (by cases e; exact h), fun e => nomatch e⟩

theorem isMaxOf_none_of_min {o1 o2 : Option α} {B : List α} (h1 : IsMinOf o1 B) (h2 : IsMaxOf o2 B) (e : o1 = none) :
    o2 = none := by
  subst e
  cases o2 with
  | none => rfl
  | some x => exact absurd h2.1 (by rw [show B = [] from h1]; exact List.not_mem_nil)

theorem optMin_none_right (o : Option α) : optMin o none = o := by cases o <;> rfl

theorem optMin_some_eq_minO (o : Option α) (lo : α) : optMin o (some lo) = some (minO o lo) := by
  cases o <;> rfl

theorem optMin_eq_none {a b : Option α} (h : optMin a b = none) : a = none := by
  cases a with
  | none => rfl
  | some x => cases b <;> cases h

theorem optMin_le_left (x : α) (o : Option α) (y : α) (h : optMin (some x) o = some y) : y ≤ x := by
  cases o with
  | none => cases h; exact le_refl _
  | some z => rw [optMin_some_eq_minO] at h; cases h; exact minO_le_old x z

/-- Combining a running minimum over `B ++ vs` with the exact minimum `o'` of `B'`, when `o'` bounds the extra
values `vs` (bin centres of the other histogram / inserted midpoints), of which there are none when `B'` is empty. -/
theorem isMinOf_combine {o o' : Option α} {B vs B' : List α} (h : IsMinOf o (B ++ vs)) (h' : IsMinOf o' B')
    (hv : ∀ mt, o' = some mt → ∀ v ∈ vs, mt ≤ v) (hn : o' = none → vs = []) :
    IsMinOf (optMin o o') (B ++ B') := by
  cases o' with
  | none =>
    simp only [IsMinOf] at h'
    rw [hn rfl] at h
    rw [h', optMin_none_right]
    exact h
  | some mt =>
    have hv := hv mt rfl
    obtain ⟨hm, hall'⟩ := h'
    cases o with
    | none =>
      simp only [IsMinOf] at h
      have hB : B = [] := (List.append_eq_nil_iff.mp h).1
      subst hB
      exact ⟨hm, hall'⟩
    | some x =>
      obtain ⟨hx, hall⟩ := h
      rw [optMin_some_eq_minO]
      have hlx : minO (some x) mt ≤ x := minO_le_old x mt
      have hlm : minO (some x) mt ≤ mt := minO_le_val (some x) mt
      refine ⟨?_, fun b hb => (List.mem_append.mp hb).elim
        (fun hb => le_trans hlx (hall b (List.mem_append_left _ hb))) (fun hb => le_trans hlm (hall' b hb))⟩
      rcases minO_cases (some x) mt with e | e
      · rw [e]; exact List.mem_append_right _ hm
      · -- the old minimum `x` stands; if it is one of the extra values it equals `mt`, which is in `B'`
        rw [← Option.some.inj e] at hlm ⊢
        rcases List.mem_append.mp hx with hx | hx
        · exact List.mem_append_left _ hx
        · rw [le_antisymm hlm (hv x hx)]; exact List.mem_append_right _ hm

theorem isMinOf_minO {o : Option α} {B : List α} (h : IsMinOf o B) (v : α) :
    IsMinOf (some (minO o v)) (B ++ [v]) := by
  rw [← optMin_some_eq_minO]
  exact isMinOf_combine (vs := []) (by rwa [List.append_nil])
    ⟨List.mem_singleton_self v, fun b hb => by rw [List.mem_singleton.mp hb]⟩ (fun _ _ _ hv => nomatch hv) (fun _ => rfl)

theorem val_le_maxO (o : Option α) (v : α) : v ≤ maxO o v := minO_le_val (α := αᵒᵈ) o v

theorem old_le_maxO (x v : α) : x ≤ maxO (some x) v := minO_le_old (α := αᵒᵈ) x v

theorem isMaxOf_maxO {o : Option α} {B : List α} (h : IsMaxOf o B) (v : α) :
    IsMaxOf (some (maxO o v)) (B ++ [v]) :=
  isMinOf_minO (α := αᵒᵈ) h v

theorem IsMaxOf.spec {o : Option α} {B : List α} (h : IsMaxOf o B) :
    (∀ m, o = some m → m ∈ B ∧ ∀ b ∈ B, b ≤ m) ∧ (o = none → B = []) :=
  IsMinOf.spec (α := αᵒᵈ) h

theorem optMax_none_right (o : Option α) : optMax o none = o := optMin_none_right (α := αᵒᵈ) o

theorem optMax_some_eq_maxO (o : Option α) (hi : α) : optMax o (some hi) = some (maxO o hi) :=
  optMin_some_eq_minO (α := αᵒᵈ) o hi

theorem optMax_eq_none {a b : Option α} (h : optMax a b = none) : a = none := optMin_eq_none (α := αᵒᵈ) h

theorem optMax_ge_left (x : α) (o : Option α) (y : α) (h : optMax (some x) o = some y) : x ≤ y :=
  optMin_le_left (α := αᵒᵈ) x o y h

theorem isMaxOf_combine {o o' : Option α} {B vs B' : List α} (h : IsMaxOf o (B ++ vs)) (h' : IsMaxOf o' B')
    (hv : ∀ mt, o' = some mt → ∀ v ∈ vs, v ≤ mt) (hn : o' = none → vs = []) :
    IsMaxOf (optMax o o') (B ++ B') :=
  isMinOf_combine (α := αᵒᵈ) h h' hv hn

end Bounds

end Distogram
