import OrsoVerif.Model.Frame
import OrsoVerif.Lemmas.Basics
/-! C03 — the list functions of `Model/Frame.lean` in closed form, in the order of that file: the window of `slice`,
positional selection, the generated comprehensions of `select` against `indexOf`, first-occurrence de-duplication,
the generated `range` loop of `to_batches` against the reference chunking, the limit of `collect`. -/
namespace Frame

variable {α : Type}

theorem pyBound_natCast (n a : Nat) : pyBound n (a : Int) = min a n := by
  unfold pyBound
  rw [if_neg (by omega), Int.toNat_natCast]

theorem pySliceFrom_natCast (rows : List α) (a : Nat) : pySliceFrom rows (a : Int) = rows.drop a := by
  unfold pySliceFrom
  rw [pyBound_natCast, List.drop_min_length]

theorem pySlice_natCast (rows : List α) (a l : Nat) :
    pySlice rows (a : Int) ((a : Int) + (l : Int)) = (rows.drop a).take l := by
  unfold pySlice
  rw [← Int.natCast_add, pyBound_natCast, pyBound_natCast, List.drop_min_length]
  rcases Nat.le_total a rows.length with h | h
  · rw [Nat.min_eq_left h, ← Nat.sub_min_sub_right, Nat.add_sub_cancel_left, ← List.length_drop,
      ← List.take_eq_take_min]
  · rw [List.drop_eq_nil_of_le h, List.take_nil, List.take_nil]

theorem sliceOffset_eq (n : Nat) (offset : Int) :
    sliceOffset n offset = ((if offset < 0 then ((n : Int) + offset).toNat else offset.toNat : Nat) : Int) := by
  unfold sliceOffset
  by_cases h : offset < 0
  · rw [if_pos h, if_pos (show Gen.Frame.sliceNegTest offset from h), Gen.Frame.sliceNegStart]; omega
  · rw [if_neg h, if_neg (show ¬ Gen.Frame.sliceNegTest offset from h)]; omega

theorem sliceStart_eq (n : Nat) (offset : Int) :
    sliceStart n offset = if offset < 0 then ((n : Int) + offset).toNat else min offset.toNat n := by
  rw [sliceStart, sliceOffset_eq, pyBound_natCast]
  by_cases h : offset < 0
  · rw [if_pos h, if_pos h]; omega
  · rw [if_neg h, if_neg h]

theorem slice_some (rows : List α) (offset : Int) (l : Nat) :
    slice rows offset (some l) = (rows.drop (sliceStart rows.length offset)).take l := by
  unfold slice sliceStart
  rw [sliceOffset_eq]
  generalize (if offset < 0 then _ else _ : Nat) = a
  rw [pyBound_natCast, List.drop_min_length]
  show (if Gen.Frame.sliceZeroTest (l : Int) then [] else pySlice rows a ((a : Int) + l)) = _
  split
  · rename_i hl
    rw [Int.natCast_eq_zero.mp hl, List.take_zero]
  · exact pySlice_natCast rows a l

theorem head_eq_take (rows : List α) (k : Nat) : head rows k = rows.take k := by
  show slice rows 0 (some (k : Int).toNat) = _
  rw [slice_some, sliceStart_eq, if_neg (by omega), Int.toNat_natCast]
  rfl

theorem pickFrom_congr (s : Nat) (f g : Nat → Bool) (rows : List α)
    (h : ∀ i, s ≤ i → f i = g i) : pickFrom s f rows = pickFrom s g rows := by
  fun_induction pickFrom s f rows with
  | case1 => rfl
  | case2 s r rs hs ih => rw [pickFrom, ← h s (Nat.le_refl s), if_pos hs, ih fun i hi => h i (Nat.le_of_succ_le hi)]
  | case3 s r rs hs ih => rw [pickFrom, ← h s (Nat.le_refl s), if_neg hs, ih fun i hi => h i (Nat.le_of_succ_le hi)]

theorem pickFrom_false (s : Nat) (f : Nat → Bool) (rows : List α)
    (h : ∀ i, s ≤ i → f i = false) : pickFrom s f rows = [] := by
  fun_induction pickFrom s f rows with
  | case1 => rfl
  | case2 s _ _ hs => rw [h s (Nat.le_refl s)] at hs; cases hs
  | case3 _ _ _ _ ih => exact ih fun i hi => h i (Nat.le_of_succ_le hi)

theorem pickFrom_zipIdx (s : Nat) (sel : Nat → Bool) (rows : List α) :
    pickFrom s sel rows = (rows.zipIdx s).filterMap (fun p => if sel p.2 then some p.1 else none) := by
  fun_induction pickFrom s sel rows with
  | case1 => rfl
  | case2 s r rs hs ih => rw [List.zipIdx_cons, List.filterMap_cons, if_pos hs, ih]
  | case3 s r rs hs ih => rw [List.zipIdx_cons, List.filterMap_cons, if_neg hs, ih]

theorem pickFrom_sublist (s : Nat) (sel : Nat → Bool) (rows : List α) :
    (pickFrom s sel rows).Sublist rows := by
  fun_induction pickFrom s sel rows with
  | case1 => exact .slnil
  | case2 _ r _ _ ih => exact ih.cons_cons r
  | case3 _ r _ _ ih => exact ih.cons r

theorem pickFrom_succ (s : Nat) (sel : Nat → Bool) (rows : List α) :
    pickFrom (s + 1) sel rows = pickFrom s (fun i => sel (i + 1)) rows := by
  induction rows generalizing s with
  | nil => rfl
  | cons r rs ih => simp only [pickFrom, ih]

theorem indexOf_eq_idxOf? (names : List String) (a : String) : indexOf names a = names.idxOf? a :=
  List.eq_idxOf?_of_cons indexOf (fun _ => rfl) (fun _ _ _ => rfl) names a

theorem indexOf_some_of_mem (names : List String) (a : String) (h : a ∈ names) :
    ∃ i, indexOf names a = some i ∧ names[i]? = some a ∧ ∀ j, j < i → names[j]? ≠ some a := by
  obtain ⟨i, hi⟩ := Option.isSome_iff_exists.mp (List.isSome_idxOf?.mpr h)
  exact ⟨i, (indexOf_eq_idxOf? names a).trans hi, List.idxOf?_eq_some_iff_getElem?.mp hi⟩

theorem indexOf_lt (names : List String) (a : String) (i : Nat) (h : indexOf names a = some i) :
    i < names.length :=
  (List.getElem?_eq_some_iff.mp (List.idxOf?_eq_some_iff_getElem?.mp ((indexOf_eq_idxOf? names a).symm.trans h)).1).1

theorem filterMap_of_forall_isSome {β γ : Type} {f : β → Option γ} {l : List β} (h : ∀ a ∈ l, (f a).isSome) :
    (l.filterMap f).length = l.length ∧ ∀ (j : Nat) (a : β), l[j]? = some a → (l.filterMap f)[j]? = f a := by
  induction l with
  | nil => exact ⟨rfl, fun j a hj => by cases hj⟩
  | cons b bs ih =>
    obtain ⟨v, hv⟩ := Option.isSome_iff_exists.mp (h b List.mem_cons_self)
    obtain ⟨ih1, ih2⟩ := ih fun a ha => h a (List.mem_cons_of_mem _ ha)
    rw [List.filterMap_cons_some hv]
    refine ⟨by rw [List.length_cons, List.length_cons, ih1], fun j a hj => ?_⟩
    cases j with
    | zero => cases hj; exact hv.symm
    | succ j => exact ih2 j a hj

theorem pyIndex_eq (names : List String) (a : String) : Gen.Frame.pyIndex names a = indexOf names a := by
  induction names with
  | nil => rfl
  | cons n ns ih => simp only [Gen.Frame.pyIndex, indexOf, ih]

theorem selectHeader_eq (names attrs : List String) :
    selectHeader names attrs = attrs.filter (fun a => decide (a ∈ names)) := rfl

theorem selectIndices_eq (names hdr : List String) :
    Gen.Frame.selectIndices names hdr = hdr.filterMap (indexOf names) := by
  unfold Gen.Frame.selectIndices
  congr 1
  funext a
  exact pyIndex_eq names a

theorem project_eq (idxs : List Nat) (row : List α) : project idxs row = idxs.filterMap (row[·]?) := rfl

theorem project_selectIdx (names attrs : List String) (r : List α) (hlen : r.length = names.length) :
    (project (selectIdx names attrs) r).length = (selectHeader names attrs).length
    ∧ ∀ (j : Nat) (a : String), (selectHeader names attrs)[j]? = some a →
        ∃ i, indexOf names a = some i ∧ names[i]? = some a ∧ (project (selectIdx names attrs) r)[j]? = r[i]? := by
  have key : project (selectIdx names attrs) r
      = (selectHeader names attrs).filterMap (fun a => (indexOf names a).bind (r[·]?)) := by
    rw [project_eq, selectIdx, selectIndices_eq, List.filterMap_filterMap]
  have hmem : ∀ a ∈ selectHeader names attrs, a ∈ names := fun a ha => by
    rw [selectHeader_eq, List.mem_filter] at ha; exact of_decide_eq_true ha.2
  -- every name of the new header is a column and the row is as wide as the frame: no position is dropped
  obtain ⟨h1, h2⟩ := filterMap_of_forall_isSome (l := selectHeader names attrs)
    (f := fun a => (indexOf names a).bind (r[·]?)) (fun a ha => by
      obtain ⟨i, hi, _, _⟩ := indexOf_some_of_mem names a (hmem a ha)
      rw [hi, Option.bind_some, List.getElem?_eq_getElem (hlen ▸ indexOf_lt names a i hi)]; rfl)
  refine ⟨key ▸ h1, fun j a hj => ?_⟩
  obtain ⟨i, hi, hn, _⟩ := indexOf_some_of_mem names a (hmem a (List.mem_of_getElem? hj))
  exact ⟨i, hi, hn, by rw [key, h2 j a hj, hi]; rfl⟩

section distinct
variable [DecidableEq α]

theorem distinctAux_filter (seen : List α) (x : α) (rows : List α) :
    distinctAux (x :: seen) rows = (distinctAux seen rows).filter (fun y => decide (y ≠ x)) := by
  induction rows generalizing seen x with
  | nil => rfl
  | cons y ys ih =>
    by_cases hy : y ∈ seen
    · have : y ∈ x :: seen := List.mem_cons_of_mem _ hy
      simp only [distinctAux, hy, this, if_true]
      exact ih seen x
    · by_cases hyx : y = x
      · subst hyx
        simp only [distinctAux, List.mem_cons_self, if_true, hy, if_false, List.filter_cons]
        simp only [ne_eq, not_true_eq_false, decide_false, Bool.false_eq_true, if_false]
        rw [ih seen y, List.filter_filter]
        simp
      · have hn : y ∉ x :: seen := by
          intro h; rcases List.mem_cons.mp h with h | h
          · exact hyx h
          · exact hy h
        simp only [distinctAux, hn, hy, if_false, List.filter_cons]
        simp only [ne_eq, hyx, not_false_eq_true, decide_true, if_true]
        congr 1
        rw [ih (x :: seen) y, ih seen x, ih seen y, List.filter_filter, List.filter_filter]
        congr 1
        funext z
        exact Bool.and_comm _ _

theorem distinct_cons (x : α) (xs : List α) :
    distinct (x :: xs) = x :: (distinct xs).filter (fun y => decide (y ≠ x)) := by
  simp only [distinct, distinctAux, List.not_mem_nil, if_false, distinctAux_filter [] x xs]

theorem distinct_nodup (rows : List α) : (distinct rows).Nodup := by
  induction rows with
  | nil => exact List.nodup_nil
  | cons x xs ih =>
    rw [distinct_cons]
    exact List.nodup_cons.mpr ⟨fun h => by simpa using (List.mem_filter.mp h).2, ih.filter _⟩

theorem distinct_sublist (rows : List α) : (distinct rows).Sublist rows := by
  induction rows with
  | nil => exact List.Sublist.slnil
  | cons x xs ih =>
    rw [distinct_cons]
    exact (List.filter_sublist.trans ih).cons_cons x

theorem mem_distinct (rows : List α) (x : α) : x ∈ distinct rows ↔ x ∈ rows := by
  induction rows with
  | nil => rfl
  | cons y ys ih =>
    rw [distinct_cons, List.mem_cons, List.mem_cons, List.mem_filter, ih, decide_eq_true_eq]
    exact ⟨fun h => h.imp_right And.left, fun h => (Decidable.em (x = y)).imp_right fun n => ⟨h.resolve_left n, n⟩⟩

theorem distinctOnAux_injective {κ : Type} [DecidableEq κ] (k : α → κ) (hk : ∀ a b, k a = k b → a = b)
    (seen : List α) (xs : List α) : distinctOnAux k (seen.map k) xs = distinctAux seen xs := by
  have hm : ∀ (seen : List α) (x : α), k x ∈ seen.map k ↔ x ∈ seen := fun seen x =>
    ⟨fun h => by obtain ⟨y, hy, hyx⟩ := List.mem_map.mp h; exact hk y x hyx ▸ hy, fun h => List.mem_map.mpr ⟨x, h, rfl⟩⟩
  fun_induction distinctAux seen xs with
  | case1 => rfl
  | case2 seen x xs hx ih => rw [distinctOnAux, if_pos ((hm seen x).mpr hx), ih]
  | case3 seen x xs hx ih => rw [distinctOnAux, if_neg (hx ∘ (hm seen x).mp), ← List.map_cons, ih]

end distinct

theorem batchesAux_flatten (size : Nat) (hs : 0 < size) (fuel : Nat) (rows : List α)
    (h : rows.length ≤ fuel) : (batchesAux size fuel rows).flatten = rows := by
  fun_induction batchesAux size fuel rows with
  | case1 rows => exact (List.length_eq_zero_iff.mp (Nat.le_zero.mp h)).symm
  | case2 _ rows he => exact (List.isEmpty_iff.mp he).symm
  | case3 fuel rows he ih =>
    rw [List.flatten_cons, ih (by rw [List.length_drop]; omega), List.take_append_drop]

theorem batchesAux_get (size : Nat) (hs : 0 < size) (fuel : Nat) (rows : List α)
    (h : rows.length ≤ fuel) (i : Nat) :
    (batchesAux size fuel rows)[i]? =
      if i * size < rows.length then some ((rows.drop (i * size)).take size) else none := by
  fun_induction batchesAux size fuel rows generalizing i with
  | case1 rows => cases List.length_eq_zero_iff.mp (Nat.le_zero.mp h); rfl
  | case2 _ rows he => cases List.isEmpty_iff.mp he; rfl
  | case3 fuel rows he ih =>
    have hpos : 0 < rows.length := List.length_pos_iff.mpr fun e => he (e ▸ rfl)
    cases i with
    | zero => rw [Nat.zero_mul, if_pos hpos, List.drop_zero, List.getElem?_cons_zero]
    | succ i =>
      rw [List.getElem?_cons_succ, ih (by rw [List.length_drop]; omega)]
      simp only [List.length_drop, List.drop_drop, Nat.succ_mul, Nat.lt_sub_iff_add_lt, Nat.add_comm size]

theorem pyRange_simple (n size : Nat) (hs : 0 < size) :
    pyRange 0 (n : Int) (size : Int) = (List.range ((n + size - 1) / size)).map fun (j : Nat) => ((j * size : Nat) : Int) := by
  unfold pyRange
  have : ¬ ((size : Int) ≤ 0) := by omega
  simp only [this, if_false, Int.sub_zero, Int.toNat_natCast, Int.zero_add]
  apply List.map_congr_left
  intro j _
  simp

theorem batches_get (rows : List α) (size : Nat) (hs : 0 < size) (i : Nat) :
    (batches rows size)[i]? =
      if i * size < rows.length then some ((rows.drop (i * size)).take size) else none := by
  have eq : batches rows size
      = (List.range ((rows.length + size - 1) / size)).map fun j => (rows.drop (j * size)).take size := by
    unfold batches Gen.Frame.batchRangeStart Gen.Frame.batchRangeStop Gen.Frame.batchRangeStep
      Gen.Frame.batchLower Gen.Frame.batchUpper
    rw [pyRange_simple rows.length size hs, List.map_map]
    exact List.map_congr_left fun j _ => pySlice_natCast rows (j * size) size
  have key : i < (rows.length + size - 1) / size ↔ i * size < rows.length := by
    rw [Nat.lt_iff_add_one_le, Nat.le_div_iff_mul_le hs, Nat.succ_mul]
    omega
  rw [eq, List.getElem?_map]
  by_cases h : i * size < rows.length
  · rw [if_pos h, List.getElem?_range (key.mpr h)]
    rfl
  · rw [if_neg h, List.getElem?_eq_none_iff.mpr (by rw [List.length_range]; exact Nat.le_of_not_lt (h ∘ key.mp))]
    rfl

theorem batches_eq_chunks (rows : List α) (size : Nat) (hs : 0 < size) : batches rows size = chunks rows size := by
  apply List.ext_getElem?
  intro i
  rw [batches_get rows size hs, chunks, batchesAux_get size hs _ rows (Nat.le_refl _)]

theorem drop_take_succ_getElem? (l : List α) (p c : Nat) :
    (l.drop p).take (c + 1) = (l[p]?).toList ++ (l.drop (p + 1)).take c := by
  cases h : l[p]? with
  | none =>
    have hp : l.length ≤ p := by simpa using h
    simp [List.drop_eq_nil_of_le hp, List.drop_eq_nil_of_le (Nat.le_succ_of_le hp)]
  | some x =>
    obtain ⟨hlt, hx⟩ := List.getElem?_eq_some_iff.mp h
    rw [List.drop_eq_getElem_cons hlt, hx]
    simp

theorem passedLimit_eq (n : Nat) (limit : Option Int) :
    passedLimit n limit = match limit with
      | none => -1
      | some l => if l < 0 ∨ l ≥ n then -1 else l := by
  unfold passedLimit effLimit Gen.Frame.collectClampTest Gen.Frame.collectClampValue Gen.Frame.collectNegTest
    Gen.Frame.collectAllValue
  cases limit with
  | none => exact ite_self _
  | some l =>
    by_cases h : l < 0
    · simp only [h, if_true, true_or]; exact ite_self _
    · simp only [h, if_false, false_or]

theorem limitRows_eq (n : Nat) (limit : Option Int) :
    limitRows n limit = match limit with
      | none => n
      | some l => if l < 0 then n else min l.toNat n := by
  unfold limitRows
  rw [passedLimit_eq]
  unfold Gen.Frame.collectTruncTest
  cases limit with
  | none => exact if_neg (show ¬ ((-1 : Int) ≥ 0 ∧ (-1 : Int) < n) by omega)
  | some l =>
    by_cases h : l < 0
    · simp only [h, if_true, true_or]; exact if_neg (by omega)
    · simp only [h, if_false, false_or]
      by_cases h2 : l ≥ n
      · simp only [h2, if_true]
        rw [if_neg (by omega)]; omega
      · simp only [h2, if_false]
        rw [if_pos (by omega)]; omega

end Frame
