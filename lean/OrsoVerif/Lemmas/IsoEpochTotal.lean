import OrsoVerif.Lemmas.IsoEpoch
/-! Helper lemmas for C08: `fromtimestamp` is sound on every integer; the representable range; `fromtimestamp` and `toEpoch`
as inverses of each other (`fromTimestamp_eq_ok_iff`). -/
namespace Iso

/-- First and last representable Unix second (0001-01-01T00:00:00 and 9999-12-31T23:59:59). -/
def minEpoch : Int := -62135596800
def maxEpoch : Int := 253402300799

theorem fromTimestamp_spec (n : Int) :
    (minEpoch ≤ n ∧ n ≤ maxEpoch →
      ∃ dt, fromTimestamp n = .ok dt ∧ validDateTime dt = true ∧ dt.micro = 0 ∧ toEpoch dt = n) ∧
    (n < minEpoch ∨ maxEpoch < n → ∃ e, fromTimestamp n = .error e) := by
  obtain ⟨k, s, hs, rfl⟩ : ∃ (k : Int) (s : Nat), s < 86400 ∧ n = k * 86400 + s :=
    ⟨n / 86400, (n % 86400).toNat, by omega, by omega⟩
  obtain ⟨y, doy, hyd⟩ : ∃ y doy, yearDoy (k + epochOrdinal) = (y, doy) := ⟨_, _, rfl⟩
  obtain ⟨hN, hdoy⟩ := yearDoy_spec (k + epochOrdinal)
  rw [hyd] at hN hdoy
  dsimp only [epochOrdinal] at hN hdoy
  -- the year is one of 1 … 9999 exactly when the day is one of theirs
  have hr := year_range_iff (y := y) (N := k + 719162) (by omega) (by have := lt_daysBeforeYearZ_succ hdoy; omega)
  rw [fromTimestamp_day_second k hs hyd]
  unfold minEpoch maxEpoch
  by_cases hy : 1 ≤ y ∧ y ≤ 9999
  · have := hr.mp hy
    refine ⟨fun _ => ?_, fun h => by omega⟩
    obtain ⟨q, rfl⟩ : ∃ q : Nat, y = q := ⟨y.toNat, by omega⟩
    rw [if_neg (by omega), if_neg (by omega), if_neg (by omega), Int.toNat_natCast]
    rw [← isLeap_iff, ← lt_daysBeforeMonthL_13] at hdoy
    obtain ⟨m, d, e, m1, m2, m3, m4, m5⟩ := monthDay_spec _ _ hdoy
    rw [e]
    refine ⟨_, rfl, ?_, rfl, ?_⟩
    · simp only [validDateTime, validDate, Bool.and_eq_true, decide_eq_true_eq]
      simp only [daysInMonth]
      omega
    · simp only [toEpoch, toOrdinal, epochOrdinal]
      rw [← daysBeforeYear_cast (by omega)] at hN
      omega
  · have := fun h => hy (hr.mpr h)
    refine ⟨fun h => by omega, fun _ => ?_⟩
    split
    · exact ⟨_, rfl⟩
    · split
      · exact ⟨_, rfl⟩
      · exact ⟨_, if_pos ((Decidable.not_and_iff_or_not.mp hy).imp Int.not_le.mp Int.not_le.mp)⟩

theorem fromTimestamp_eq_ok_iff (n : Int) (dt : DateTime) :
    fromTimestamp n = .ok dt ↔ validDateTime dt = true ∧ dt.micro = 0 ∧ toEpoch dt = n := by
  constructor
  · intro h
    obtain ⟨hin, hout⟩ := fromTimestamp_spec n
    by_cases hr : minEpoch ≤ n ∧ n ≤ maxEpoch
    · obtain ⟨dt', h', r⟩ := hin hr
      cases h.symm.trans h'
      exact r
    · obtain ⟨e, he⟩ := hout (by omega)
      cases h.symm.trans he
  · rintro ⟨hv, hm, rfl⟩
    rw [fromTimestamp_toEpoch dt hv, truncSeconds_of_micro hm]

end Iso
