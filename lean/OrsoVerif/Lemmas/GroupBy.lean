import OrsoVerif.Model.GroupBy
/-! Lemmas about the functional model of C12 (`Model/GroupBy.lean`).  `firstSeen` and `register` are walks with the one
step `ins`; Python's `min` / `max` are `leastBy` over a comparison; `column_value_map[g][c]` after the pass is the
non-null values of the rows of `g` (`collected_emit`), hence `pass_eq_reference`; a call leaves `_group_keys` equal to
the distinct keys of the frame from every state the walk completes to them (`stepS_eq`); a dict built by assignments
has the keys `firstSeen` and the values `lastAssigned`. -/
namespace GroupBy

section FirstSeen
variable {α : Type} [DecidableEq α]

def ins (seen : List α) (x : α) : List α := if x ∈ seen then seen else seen ++ [x]

theorem firstSeen_eq (xs : List α) : firstSeen xs = xs.foldl ins [] := rfl

theorem register_eq (seen xs : List α) : register seen xs = xs.foldl ins seen := rfl

theorem register_nil (xs : List α) : register [] xs = firstSeen xs := rfl

theorem ins_of_mem {seen : List α} {x : α} (h : x ∈ seen) : ins seen x = seen := if_pos h

theorem ins_of_not_mem {seen : List α} {x : α} (h : x ∉ seen) : ins seen x = seen ++ [x] := if_neg h

theorem mem_ins {seen : List α} {x a : α} : a ∈ ins seen x ↔ a ∈ seen ∨ a = x := by
  unfold ins
  split
  · exact ⟨Or.inl, fun h => h.elim id (· ▸ ‹x ∈ seen›)⟩
  · simp

theorem nodup_ins {seen : List α} {x : α} (h : seen.Nodup) : (ins seen x).Nodup := by
  unfold ins
  split
  · exact h
  · rename_i hx
    exact List.nodup_append.mpr ⟨h, List.nodup_cons.mpr ⟨List.not_mem_nil, List.nodup_nil⟩,
      fun a ha b hb hab => hx (List.mem_singleton.mp hb ▸ hab ▸ ha)⟩

theorem ins_ins_same (seen : List α) (x : α) : ins (ins seen x) x = ins seen x :=
  ins_of_mem (mem_ins.mpr (Or.inr rfl))

theorem mem_foldl_ins {xs acc : List α} {a : α} : a ∈ xs.foldl ins acc ↔ a ∈ acc ∨ a ∈ xs := by
  induction xs generalizing acc with
  | nil => simp
  | cons x xs ih => simp only [List.foldl_cons, ih, mem_ins, List.mem_cons, or_assoc]

theorem nodup_foldl_ins {xs acc : List α} (h : acc.Nodup) : (xs.foldl ins acc).Nodup := by
  induction xs generalizing acc with
  | nil => simpa
  | cons x xs ih => exact ih (nodup_ins h)

theorem mem_firstSeen {xs : List α} {a : α} : a ∈ firstSeen xs ↔ a ∈ xs := by
  rw [firstSeen_eq, mem_foldl_ins]; simp

theorem nodup_firstSeen (xs : List α) : (firstSeen xs).Nodup := by
  rw [firstSeen_eq]; exact nodup_foldl_ins List.nodup_nil

theorem firstSeen_ne_nil {xs : List α} (h : xs ≠ []) : firstSeen xs ≠ [] := by
  obtain ⟨x, hx⟩ := List.exists_mem_of_ne_nil xs h
  exact List.ne_nil_of_mem (mem_firstSeen.mpr hx)

theorem firstSeen_perm {xs ys : List α} (h : xs.Perm ys) : (firstSeen xs).Perm (firstSeen ys) := by
  rw [List.perm_ext_iff_of_nodup (nodup_firstSeen xs) (nodup_firstSeen ys)]
  intro a
  rw [mem_firstSeen, mem_firstSeen]
  exact h.mem_iff

theorem foldl_ins_of_mem {xs acc : List α} (h : ∀ x ∈ xs, x ∈ acc) : xs.foldl ins acc = acc := by
  induction xs with
  | nil => rfl
  | cons x xs ih =>
    rw [List.foldl_cons, ins_of_mem (h x List.mem_cons_self)]
    exact ih (fun y hy => h y (List.mem_cons_of_mem _ hy))

theorem register_firstSeen (xs : List α) : register (firstSeen xs) xs = firstSeen xs :=
  foldl_ins_of_mem (fun _ hx => mem_firstSeen.mpr hx)

/-- A walk whose step is `ins` when seen through `f` (a dict looked up by an equivalence, keys renamed
injectively, the keys of a dict built by assignments). -/
theorem foldl_map_ins {β : Type} (f : β → α) (step : List β → β → List β)
    (h : ∀ seen x, (step seen x).map f = ins (seen.map f) (f x)) (xs seen : List β) :
    (xs.foldl step seen).map f = (xs.map f).foldl ins (seen.map f) := by
  rw [List.foldl_map]
  exact (List.foldl_hom (List.map f) fun seen x => (h seen x).symm).symm

theorem ins_map_inj {β : Type} [DecidableEq β] {f : β → α} (hf : Function.Injective f) (seen : List β) (x : β) :
    (ins seen x).map f = ins (seen.map f) (f x) := by
  by_cases hx : x ∈ seen
  · rw [ins_of_mem hx, ins_of_mem (List.mem_map_of_mem hx)]
  · have : f x ∉ seen.map f := fun h => by
      obtain ⟨y, hy, hxy⟩ := List.mem_map.mp h
      exact hx (hf hxy ▸ hy)
    rw [ins_of_not_mem hx, ins_of_not_mem this, List.map_append]
    rfl

theorem firstSeen_map_inj {β : Type} [DecidableEq β] {f : β → α} (hf : Function.Injective f) (xs : List β) :
    firstSeen (xs.map f) = (firstSeen xs).map f :=
  (foldl_map_ins f ins (ins_map_inj hf) xs []).symm

end FirstSeen

/-- Python's `min(values)` over any kind of value, `lt` being Python's `<` on them: walk the list and
replace the candidate when the next value is smaller (`max` is `leastBy` of the flipped comparison). -/
def leastBy {α : Type} (lt : α → α → Bool) : List α → Option α
  | [] => none
  | v :: vs => some (vs.foldl (fun m x => if lt x m then x else m) v)

section
variable {α : Type} (lt : α → α → Bool)

theorem foldl_leastBy_spec (hirr : ∀ a, lt a a = false)
    (htr : ∀ a b c, lt a b = true → lt b c = true → lt a c = true) (vs : List α) (v : α) {m : α}
    (hm : vs.foldl (fun m x => if lt x m then x else m) v = m) :
    m ∈ v :: vs ∧ (m = v ∨ lt m v = true) ∧ ∀ x ∈ vs, lt x m = false := by
  -- The induction follows the walk from its start, so the middle clause ties `m` to the start: a value passed
  -- earlier is not below the candidate of its time, hence (`hle`) not below an `m` at or below that candidate.
  have hle : ∀ {x a b : α}, (a = b ∨ lt a b = true) → lt x b = false → lt x a = false := by
    intro x a b hab hxb
    rcases hab with rfl | hab
    · exact hxb
    · exact Bool.eq_false_iff.mpr fun hxa => Bool.eq_false_iff.mp hxb (htr x a b hxa hab)
  induction vs generalizing v with
  | nil => exact ⟨List.mem_singleton.mpr hm.symm, Or.inl hm.symm, nofun⟩
  | cons w ws ih =>
    rw [List.foldl_cons] at hm
    cases h : lt w v <;> simp only [h, Bool.false_eq_true, if_false, if_true] at hm
    · obtain ⟨h1, h2, h3⟩ := ih v hm
      refine ⟨?_, h2, fun x hx => ?_⟩
      · rcases List.mem_cons.mp h1 with h1 | h1
        · exact h1 ▸ List.mem_cons_self
        · exact List.mem_cons_of_mem _ (List.mem_cons_of_mem _ h1)
      · rcases List.mem_cons.mp hx with rfl | hx
        · exact hle h2 h
        · exact h3 x hx
    · obtain ⟨h1, h2, h3⟩ := ih w hm
      refine ⟨List.mem_cons_of_mem _ h1, Or.inr ?_, fun x hx => ?_⟩
      · rcases h2 with h2 | h2
        · exact h2 ▸ h
        · exact htr _ _ _ h2 h
      · rcases List.mem_cons.mp hx with rfl | hx
        · exact hle h2 (hirr x)
        · exact h3 x hx

variable (hirr : ∀ a, lt a a = false) (htr : ∀ a b c, lt a b = true → lt b c = true → lt a c = true)
include hirr htr

theorem leastBy_minimal {vs : List α} {m : α} (h : leastBy lt vs = some m) :
    m ∈ vs ∧ ∀ x ∈ vs, lt x m = false := by
  cases vs with
  | nil => cases h
  | cons v vs =>
    obtain ⟨h1, h2, h3⟩ := foldl_leastBy_spec lt hirr htr vs v (Option.some.inj h)
    refine ⟨h1, fun x hx => ?_⟩
    rcases List.mem_cons.mp hx with rfl | hx
    · rcases h2 with h2 | h2
      · rw [h2]; exact hirr x
      · exact Bool.eq_false_iff.mpr fun h => by have := htr _ _ _ h h2; rw [hirr] at this; cases this
    · exact h3 x hx

theorem leastBy_eq_some_iff (vs : List α)
    (htot : ∀ a ∈ vs, ∀ b ∈ vs, a ≠ b → lt a b = true ∨ lt b a = true) (m : α) :
    leastBy lt vs = some m ↔ m ∈ vs ∧ ∀ x ∈ vs, lt x m = false := by
  refine ⟨leastBy_minimal lt hirr htr, fun ⟨hm, hmin⟩ => ?_⟩
  cases h : leastBy lt vs with
  | none => cases vs with
    | nil => cases hm
    | cons v vs => cases h
  | some m' =>
    obtain ⟨hm', hmin'⟩ := leastBy_minimal lt hirr htr h
    congr 1
    apply Classical.byContradiction
    intro hne
    rcases htot m' hm' m hm hne with h | h
    · rw [hmin m' hm'] at h; cases h
    · rw [hmin' m hm] at h; cases h

theorem leastBy_perm {vs ws : List α}
    (htot : ∀ a ∈ vs, ∀ b ∈ vs, a ≠ b → lt a b = true ∨ lt b a = true) (hp : vs.Perm ws) :
    leastBy lt vs = leastBy lt ws := by
  cases h : leastBy lt vs with
  | none =>
    cases vs with
    | nil => rw [List.nil_perm.mp hp]; rfl
    | cons v vs => cases h
  | some m =>
    obtain ⟨hm, hmin⟩ := leastBy_minimal lt hirr htr h
    exact ((leastBy_eq_some_iff lt hirr htr ws
      (fun a ha b hb => htot a (hp.mem_iff.mpr ha) b (hp.mem_iff.mpr hb)) m).mpr
      ⟨hp.mem_iff.mp hm, fun x hx => hmin x (hp.mem_iff.mpr hx)⟩).symm

theorem leastBy_flip_eq_some_iff (vs : List α)
    (htot : ∀ a ∈ vs, ∀ b ∈ vs, a ≠ b → lt a b = true ∨ lt b a = true) (m : α) :
    leastBy (fun a b => lt b a) vs = some m ↔ m ∈ vs ∧ ∀ x ∈ vs, lt m x = false :=
  leastBy_eq_some_iff (fun a b => lt b a) hirr (fun a b c hab hbc => htr c b a hbc hab) vs
    (fun a ha b hb hab => (htot a ha b hb hab).symm) m

theorem leastBy_flip_perm {vs ws : List α}
    (htot : ∀ a ∈ vs, ∀ b ∈ vs, a ≠ b → lt a b = true ∨ lt b a = true) (hp : vs.Perm ws) :
    leastBy (fun a b => lt b a) vs = leastBy (fun a b => lt b a) ws :=
  leastBy_perm (fun a b => lt b a) hirr (fun a b c hab hbc => htr c b a hbc hab)
    (fun a ha b hb hab => (htot a ha b hb hab).symm) hp
end

theorem leastBy_map {α β : Type} (lt : α → α → Bool) (lt' : β → β → Bool) (f : α → β)
    (h : ∀ a b, lt' (f a) (f b) = lt a b) (vs : List α) :
    leastBy lt' (vs.map f) = (leastBy lt vs).map f := by
  cases vs with
  | nil => rfl
  | cons v vs =>
    show some (List.foldl _ (f v) (vs.map f)) = some (f _)
    rw [List.foldl_map]
    exact congrArg some (List.foldl_hom f fun m x => by rw [h, apply_ite f])

theorem least_eq_leastBy (vs : List Int) : least vs = leastBy (fun a b => decide (a < b)) vs := by
  cases vs with
  | nil => rfl
  | cons v vs =>
    -- `min m x` is `if m ≤ x then m else x`: the step of the walk with its test negated
    simp only [leastBy, decide_eq_true_eq, ← Int.not_le, ite_not]
    rfl

theorem greatest_eq_leastBy (vs : List Int) : greatest vs = leastBy (fun a b => decide (b < a)) vs := by
  cases vs with
  | nil => rfl
  | cons v vs =>
    have : (max : Int → Int → Int) = fun m x => if x ≤ m then m else x :=
      funext fun m => funext fun x => Int.max_comm m x
    simp only [greatest, this, leastBy, decide_eq_true_eq, ← Int.not_le, ite_not]

theorem int_lt_irrefl (a : Int) : decide (a < a) = false := decide_eq_false (Int.lt_irrefl a)

theorem int_lt_trans (a b c : Int) (hab : decide (a < b) = true) (hbc : decide (b < c) = true) :
    decide (a < c) = true :=
  decide_eq_true (Int.lt_trans (of_decide_eq_true hab) (of_decide_eq_true hbc))

theorem int_lt_total {a b : Int} (h : a ≠ b) : decide (a < b) = true ∨ decide (b < a) = true :=
  (Int.lt_or_gt_of_ne h).imp decide_eq_true decide_eq_true

theorem least_eq_some_iff {vs : List Int} {m : Int} :
    least vs = some m ↔ m ∈ vs ∧ ∀ x ∈ vs, m ≤ x := by
  rw [least_eq_leastBy, leastBy_eq_some_iff _ int_lt_irrefl int_lt_trans vs fun _ _ _ _ => int_lt_total]
  simp only [decide_eq_false_iff_not, Int.not_lt]

theorem greatest_eq_some_iff {vs : List Int} {m : Int} :
    greatest vs = some m ↔ m ∈ vs ∧ ∀ x ∈ vs, x ≤ m := by
  rw [greatest_eq_leastBy,
    leastBy_flip_eq_some_iff _ int_lt_irrefl int_lt_trans vs fun _ _ _ _ => int_lt_total]
  simp only [decide_eq_false_iff_not, Int.not_lt]

theorem least_eq_none_iff {vs : List Int} : least vs = none ↔ vs = [] := by
  cases vs <;> simp [least]

theorem greatest_eq_none_iff {vs : List Int} : greatest vs = none ↔ vs = [] := by
  cases vs <;> simp [greatest]

theorem total_eq_sum (vs : List Int) : total vs = vs.sum := List.sum_eq_foldl.symm

theorem total_perm {vs ws : List Int} (h : vs.Perm ws) : total vs = total ws := by
  unfold total
  apply h.foldl_eq'
  intro x _ y _ z
  omega

theorem fold_sum_eq (vs : List Int) : fold .sum vs = if vs = [] then .null else .int vs.sum := by
  cases vs with
  | nil => rfl
  | cons v vs => simp [fold, total_eq_sum]

theorem fold_avg_eq (vs : List Int) :
    fold .avg vs = if vs = [] then .null else .ratio vs.sum vs.length := by
  cases vs with
  | nil => rfl
  | cons v vs => simp [fold, total_eq_sum]

section Core
variable {ρ κ : Type} [DecidableEq κ]

omit [DecidableEq κ] in
theorem emit_cons {ν : Type} (keyOf : ρ → κ) (cell : ρ → String → Option ν) (cols : List String) (r : ρ)
    (rs : List ρ) :
    emit keyOf cell cols (r :: rs) =
      (cols.map fun c => (keyOf r, c, cell r c)) ++ emit keyOf cell cols rs := by
  simp [emit]

omit [DecidableEq κ] in
theorem emit_nil_cols {ν : Type} (keyOf : ρ → κ) (cell : ρ → String → Option ν) (rows : List ρ) :
    emit keyOf cell [] rows = [] := by
  induction rows with
  | nil => rfl
  | cons r rs ih => rw [emit_cons, ih]; rfl

theorem foldl_const_of_idem {σ α β : Type} (f : σ → α → σ) (hf : ∀ s x, f (f s x) x = f s x)
    (cs : List β) (hcs : cs ≠ []) (x : α) (acc : σ) : (cs.map fun _ => x).foldl f acc = f acc x := by
  induction cs generalizing acc with
  | nil => exact absurd rfl hcs
  | cons c cs ih =>
    cases cs with
    | nil => rfl
    | cons c' cs' => rw [List.map_cons, List.foldl_cons, ih (List.cons_ne_nil _ _), hf]

omit [DecidableEq κ] in
/-- `_map` yields every row's key once per collected column, so a walk over the keys of the triples
whose step is idempotent (registering a key) is the walk over the key column itself. -/
theorem foldl_emit_keys {ν σ : Type} (f : σ → κ → σ) (hf : ∀ s x, f (f s x) x = f s x) (keyOf : ρ → κ)
    (cell : ρ → String → Option ν) {cols : List String} (hcols : cols ≠ []) (rows : List ρ) (acc : σ) :
    ((emit keyOf cell cols rows).map (·.1)).foldl f acc = (rows.map keyOf).foldl f acc := by
  induction rows generalizing acc with
  | nil => rfl
  | cons r rs ih =>
    rw [emit_cons, List.map_append, List.foldl_append, List.map_map, List.map_cons, List.foldl_cons, ih]
    exact congrArg (fun a => List.foldl f a _) (foldl_const_of_idem f hf cols hcols (keyOf r) acc)

theorem register_emit_keys {ν : Type} (keyOf : ρ → κ) (cell : ρ → String → Option ν) {cols : List String}
    (hcols : cols ≠ []) (rows : List ρ) (st : List κ) :
    register st ((emit keyOf cell cols rows).map (·.1)) = register st (rows.map keyOf) :=
  foldl_emit_keys ins ins_ins_same keyOf cell hcols rows st

theorem firstSeen_emit_keys {ν : Type} (keyOf : ρ → κ) (cell : ρ → String → Option ν) {cols : List String}
    (hcols : cols ≠ []) (rows : List ρ) :
    firstSeen ((emit keyOf cell cols rows).map (·.1)) = groupKeys keyOf rows :=
  register_emit_keys keyOf cell hcols rows []

theorem collected_append {ν : Type} (s t : List (κ × String × Option ν)) (g : κ) (c : String) :
    collected (s ++ t) g c = collected s g c ++ collected t g c := by
  simp [collected]

theorem collected_row {ν : Type} (keyOf : ρ → κ) (cell : ρ → String → Option ν) {cols : List String}
    (hnd : cols.Nodup) (r : ρ) (g : κ) (c : String) :
    collected (cols.map fun c' => (keyOf r, c', cell r c')) g c =
      if keyOf r = g ∧ c ∈ cols then (cell r c).toList else [] := by
  induction cols with
  | nil => simp [collected]
  | cons c' cs ih =>
    obtain ⟨hc', hnd'⟩ := List.nodup_cons.mp hnd
    have ih' := ih hnd'
    unfold collected at ih' ⊢
    rw [List.map_cons, List.filterMap_cons, ih']
    by_cases hk : keyOf r = g
    · by_cases hc : c' = c
      · -- the head is the column asked for, and it does not occur again
        subst hc
        cases cell r c' <;> simp [hk, hc']
      · simp [hk, hc, Ne.symm hc]
    · simp [hk]

theorem members_cons (keyOf : ρ → κ) (r : ρ) (rs : List ρ) (k : κ) :
    members keyOf (r :: rs) k = if keyOf r = k then r :: members keyOf rs k else members keyOf rs k := by
  unfold members
  rw [List.filter_cons]
  by_cases h : keyOf r = k <;> simp [h]

theorem nonNull_cons {ν : Type} (cell : ρ → String → Option ν) (r : ρ) (rs : List ρ) (c : String) :
    nonNull cell (r :: rs) c = (cell r c).toList ++ nonNull cell rs c := by
  unfold nonNull
  rw [List.filterMap_cons]
  cases cell r c <;> simp

/-- `column_value_map[g][c]` holds exactly the non-null values of column `c` over the rows of
key `g`, in frame order — when every column is collected once. -/
theorem collected_emit {ν : Type} (keyOf : ρ → κ) (cell : ρ → String → Option ν) {cols : List String}
    (hnd : cols.Nodup) (rows : List ρ) (g : κ) (c : String) :
    collected (emit keyOf cell cols rows) g c =
      if c ∈ cols then nonNull cell (members keyOf rows g) c else [] := by
  induction rows with
  | nil => simp [emit, collected, members, nonNull]
  | cons r rs ih =>
    rw [emit_cons, collected_append, ih, collected_row keyOf cell hnd, members_cons]
    by_cases hc : c ∈ cols
    · by_cases hk : keyOf r = g
      · simp [hc, hk, nonNull_cons]
      · simp [hc, hk]
    · simp [hc]

/-- The two sides are the bodies of `aggregate` and `reference` with any `F` for `fold`, of `aggregateX` and
`referenceX` with `xfold`. -/
theorem pass_eq_reference {ν β : Type} (F : Func → List ν → β) (keyOf : ρ → κ)
    (cell : ρ → String → Option ν) (rows : List ρ) {reqs : List Req} (h : reqs ≠ []) :
    (let s := emit keyOf cell (firstSeen (reqs.map (·.2))) rows
     (firstSeen (s.map (·.1))).map fun g => (g, reqs.map fun q => F q.1 (collected s g q.2)))
      = (groupKeys keyOf rows).map fun k =>
          (k, reqs.map fun q => F q.1 (nonNull cell (members keyOf rows k) q.2)) := by
  have hcols : firstSeen (reqs.map (·.2)) ≠ [] := firstSeen_ne_nil (by simpa using h)
  simp only
  rw [firstSeen_emit_keys keyOf cell hcols rows]
  apply List.map_congr_left
  intro k _
  congr 1
  apply List.map_congr_left
  intro q hq
  rw [collected_emit keyOf cell (nodup_firstSeen _) rows k q.2,
    if_pos (mem_firstSeen.mpr (List.mem_map_of_mem hq))]

/-- Of the columns handed to `_map` only their set matters (`GroupByCode.Good.cols` asks no more of
`collect_columns`). -/
theorem pass_cols {ν : Type} (keyOf : ρ → κ) (cell : ρ → String → Option ν) {cols cols' : List String}
    (hnd : cols.Nodup) (hnd' : cols'.Nodup) (hmem : ∀ c, c ∈ cols ↔ c ∈ cols') (rows : List ρ) :
    firstSeen ((emit keyOf cell cols rows).map (·.1)) = firstSeen ((emit keyOf cell cols' rows).map (·.1))
    ∧ ∀ g c, collected (emit keyOf cell cols rows) g c = collected (emit keyOf cell cols' rows) g c := by
  refine ⟨?_, fun g c => by simp only [collected_emit _ _ hnd, collected_emit _ _ hnd', hmem c]⟩
  -- with no column collected no triple is yielded; otherwise every row yields its key
  have hnil : cols = [] ↔ cols' = [] := by simp only [List.eq_nil_iff_forall_not_mem, hmem]
  by_cases h : cols = []
  · rw [h, hnil.mp h]
  · rw [firstSeen_emit_keys _ _ h, firstSeen_emit_keys _ _ (mt hnil.mpr h)]

theorem reference_keys (keyOf : ρ → κ) (cell : ρ → String → Option Int) (rows : List ρ) (reqs : List Req) :
    (reference keyOf cell rows reqs).map (·.1) = groupKeys keyOf rows := by
  simp [reference, List.map_map, Function.comp_def]

theorem mem_reference {keyOf : ρ → κ} {cell : ρ → String → Option Int} {rows : List ρ} {reqs : List Req}
    {ka : κ × List Agg} (h : ka ∈ reference keyOf cell rows reqs) :
    ka.2 = reqs.map fun q => fold q.1 (nonNull cell (members keyOf rows ka.1) q.2) := by
  obtain ⟨k, _, rfl⟩ := List.mem_map.mp h
  rfl

omit [DecidableEq κ] in
theorem nonNull_length {ν : Type} (cell : ρ → String → Option ν) (rs : List ρ) (c : String) :
    (nonNull cell rs c).length = (rs.filter fun r => (cell r c).isSome).length := by
  unfold nonNull
  rw [List.length_filterMap_eq_countP, List.countP_eq_length_filter]

theorem nonNull_members_perm {ν : Type} (keyOf : ρ → κ) (cell : ρ → String → Option ν) {rows rows' : List ρ}
    (hp : rows.Perm rows') (k : κ) (c : String) :
    (nonNull cell (members keyOf rows k) c).Perm (nonNull cell (members keyOf rows' k) c) :=
  (hp.filter _).filterMap _

theorem reference_perm {ν β : Type} (F : Func → List ν → β) (keyOf : ρ → κ) (cell : ρ → String → Option ν)
    {rows rows' : List ρ} (reqs : List Req) (hp : rows.Perm rows')
    (hF : ∀ q ∈ reqs, ∀ k, F q.1 (nonNull cell (members keyOf rows k) q.2)
      = F q.1 (nonNull cell (members keyOf rows' k) q.2)) :
    ((groupKeys keyOf rows).map fun k =>
        (k, reqs.map fun q => F q.1 (nonNull cell (members keyOf rows k) q.2))).Perm
      ((groupKeys keyOf rows').map fun k =>
        (k, reqs.map fun q => F q.1 (nonNull cell (members keyOf rows' k) q.2))) := by
  rw [List.map_congr_left fun k _ =>
    congrArg (Prod.mk k) (List.map_congr_left fun q hq => hF q hq k)]
  exact (firstSeen_perm (hp.map keyOf)).map _

theorem mem_groupKeys {keyOf : ρ → κ} {rows : List ρ} {k : κ} :
    k ∈ groupKeys keyOf rows ↔ ∃ r ∈ rows, keyOf r = k := by
  unfold groupKeys
  rw [mem_firstSeen, List.mem_map]

theorem sum_members_length (keyOf : ρ → κ) {ks : List κ} (hnd : ks.Nodup) (rows : List ρ)
    (hcov : ∀ r ∈ rows, keyOf r ∈ ks) :
    (ks.map fun k => (members keyOf rows k).length).sum = rows.length := by
  induction ks generalizing rows with
  | nil =>
    cases rows with
    | nil => rfl
    | cons r rs => exact absurd (hcov r List.mem_cons_self) List.not_mem_nil
  | cons k ks ih =>
    obtain ⟨hk, hnd'⟩ := List.nodup_cons.mp hnd
    -- split off the group of `k`; the other groups lie among the remaining rows
    have hrest : ∀ k' ∈ ks, members keyOf rows k' = members keyOf (rows.filter fun r => ¬ keyOf r = k) k' := by
      intro k' hk'
      unfold members
      rw [List.filter_filter]
      apply List.filter_congr
      intro r _
      by_cases h : keyOf r = k'
      · have hne : k' ≠ k := fun e => hk (e ▸ hk')
        simp [h, hne]
      · simp [h]
    rw [List.map_cons, List.sum_cons, List.map_congr_left fun k' hk' => congrArg List.length (hrest k' hk'),
      ih hnd' _ fun r hr => ?_, members, ← List.countP_eq_length_filter, ← List.countP_eq_length_filter]
    · simpa using (List.length_eq_countP_add_countP (fun r => decide (keyOf r = k)) (l := rows)).symm
    · obtain ⟨hr, hne⟩ := List.mem_filter.mp hr
      exact (List.mem_cons.mp (hcov r hr)).resolve_left (by simpa using hne)

theorem members_members (keyOf : ρ → κ) (rows : List ρ) (k : κ) :
    members keyOf (members keyOf rows k) k = members keyOf rows k := by
  unfold members
  rw [List.filter_filter]
  simp

theorem lookup_map_self {β : Type} (ks : List κ) (f : κ → β) {k : κ} (hk : k ∈ ks) :
    (ks.map fun k => (k, f k)).lookup k = some (f k) := by
  induction ks with
  | nil => cases hk
  | cons k' ks ih =>
    rw [List.map_cons, List.lookup_cons]
    by_cases h : k = k'
    · rw [h, beq_self_eq_true]
    · rw [beq_false_of_ne h]
      exact ih ((List.mem_cons.mp hk).resolve_left h)

/-- One call on an object whose `_group_keys` the walk over the rows completes to the distinct keys of
the frame — a fresh object, one used on this frame before, one used when the frame was shorter —
leaves `_group_keys` equal to those keys and returns what it returns on a fresh object. -/
theorem stepS_eq (keyOf : ρ → κ) (cell : ρ → String → Option Int) (rows : List ρ) {st : List κ}
    (hst : register st (rows.map keyOf) = groupKeys keyOf rows) (op : Op) :
    stepS keyOf cell rows st op = (groupKeys keyOf rows, (stepS keyOf cell rows [] op).2) := by
  cases op with
  | aggregate reqs => exact congrArg (·, _) hst
  | groups =>
    show (register st _, Out.keys (register st _)) = (_, Out.keys (register [] _))
    rw [register_emit_keys _ _ (List.cons_ne_nil _ _), register_emit_keys _ _ (List.cons_ne_nil _ _), hst]
    rfl

theorem runS_eq (keyOf : ρ → κ) (cell : ρ → String → Option Int) (rows : List ρ) (ops : List Op) {st : List κ}
    (hst : register st (rows.map keyOf) = groupKeys keyOf rows) :
    runS keyOf cell rows st ops = ops.map fun op => (stepS keyOf cell rows [] op).2 := by
  induction ops generalizing st with
  | nil => rfl
  | cons op ops ih =>
    rw [runS, stepS_eq keyOf cell rows hst]
    exact congrArg ((stepS keyOf cell rows [] op).2 :: ·) (ih (register_firstSeen _))

theorem register_append_row (keyOf : ρ → κ) {rows : List ρ} {st : List κ}
    (hst : register st (rows.map keyOf) = groupKeys keyOf rows) (r : ρ) :
    register st ((rows ++ [r]).map keyOf) = groupKeys keyOf (rows ++ [r]) := by
  have h := congrArg (List.foldl ins · ([r].map keyOf)) hst
  simpa only [groupKeys, register_eq, firstSeen_eq, List.map_append, List.foldl_append] using h

theorem runSA_eq_aloneA (keyOf : ρ → κ) (cell : ρ → String → Option Int) (ops : List (OpA ρ)) :
    ∀ (rows : List ρ) (st : List κ), register st (rows.map keyOf) = groupKeys keyOf rows →
      runSA keyOf cell rows st ops = aloneA keyOf cell rows ops := by
  induction ops with
  | nil => intro _ _ _; rfl
  | cons o ops ih =>
    intro rows st hst
    cases o with
    | append r => exact ih _ st (register_append_row keyOf hst r)
    | call op =>
      simp only [runSA, aloneA, stepS_eq keyOf cell rows hst]
      exact congrArg (_ :: ·) (ih rows _ (register_firstSeen _))

end Core

section Dict
variable {β : Type}

theorem dictSet_fresh (d : List (String × β)) (k : String) (v : β) (h : k ∉ d.map (·.1)) :
    dictSet d k v = d ++ [(k, v)] := by
  induction d with
  | nil => rfl
  | cons kv d ih =>
    obtain ⟨k', v'⟩ := kv
    simp only [List.map_cons, List.mem_cons, not_or] at h
    simp only [dictSet]
    rw [if_neg (fun e => h.1 e.symm), ih h.2]
    rfl

theorem foldl_dictSet_fresh (kvs acc : List (String × β)) (hnd : ((acc ++ kvs).map (·.1)).Nodup) :
    kvs.foldl (fun d kv => dictSet d kv.1 kv.2) acc = acc ++ kvs := by
  induction kvs generalizing acc with
  | nil => simp
  | cons kv kvs ih =>
    have hfresh : kv.1 ∉ acc.map (·.1) := fun h => by
      rw [List.map_append, List.nodup_append] at hnd
      exact hnd.2.2 _ h _ (List.mem_map_of_mem List.mem_cons_self) rfl
    rw [List.foldl_cons, dictSet_fresh acc kv.1 kv.2 hfresh, ih _ (by simpa using hnd), List.append_assoc]
    rfl

theorem dictOf_nodup (kvs : List (String × β)) (hnd : (kvs.map (·.1)).Nodup) : dictOf kvs = kvs :=
  foldl_dictSet_fresh kvs [] hnd

theorem dictSet_keys (d : List (String × β)) (k : String) (v : β) :
    (dictSet d k v).map (·.1) = ins (d.map (·.1)) k := by
  induction d with
  | nil => rfl
  | cons kv d ih =>
    by_cases h : kv.1 = k
    · simp [dictSet, ins, h]
    · simp only [dictSet, if_neg h, List.map_cons, ih]
      unfold ins
      simp only [List.mem_cons, Ne.symm h, false_or]
      split <;> rfl

theorem dictOf_keys (kvs : List (String × β)) : (dictOf kvs).map (·.1) = firstSeen (kvs.map (·.1)) :=
  foldl_map_ins Prod.fst _ (fun d kv => dictSet_keys d kv.1 kv.2) kvs []

theorem dictGet_dictSet (d : List (String × β)) (k : String) (v : β) (k' : String) :
    dictGet (dictSet d k v) k' = if k = k' then some v else dictGet d k' := by
  unfold dictGet
  induction d with
  | nil => by_cases h : k = k' <;> simp [dictSet, h]
  | cons kv d ih =>
    by_cases h0 : kv.1 = k
    · by_cases h : k = k' <;> simp [dictSet, h0, h]
    · by_cases h1 : kv.1 = k'
      · subst h1
        simp [dictSet, h0, Ne.symm h0]
      · simp [dictSet, h0, h1, ih]

theorem dictGet_dictOf (kvs : List (String × β)) (k : String) :
    dictGet (dictOf kvs) k = lastAssigned kvs k :=
  (List.foldl_hom (fun d => dictGet d k) fun d kv => (dictGet_dictSet d kv.1 kv.2 k).symm).symm

theorem map_snd_eq_map_get (d : List (String × β)) (hnd : (d.map (·.1)).Nodup) (dflt : β) :
    d.map (·.2) = (d.map (·.1)).map fun k => (dictGet d k).getD dflt := by
  induction d with
  | nil => rfl
  | cons kv d ih =>
    obtain ⟨k, v⟩ := kv
    simp only [List.map_cons, List.nodup_cons] at hnd ⊢
    congr 1
    · simp [dictGet]
    · rw [ih hnd.2]
      apply List.map_congr_left
      intro k' hk'
      have hne : k ≠ k' := fun e => hnd.1 (e ▸ hk')
      simp [dictGet, hne]

end Dict

end GroupBy
