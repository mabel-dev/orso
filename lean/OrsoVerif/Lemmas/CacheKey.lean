import OrsoVerif.Model.CacheKey
/-! Lemmas about the key primitives of `Model/CacheKey.lean` (C19). Core only. -/
namespace CacheKey

theorem tuple_inj {a b : List PyVal} : tuple a = tuple b ↔ a = b := by
  constructor
  · intro h; unfold tuple at h; injection h
  · intro h; rw [h]

theorem ins_perm (x : PyVal) (l : List PyVal) : (ins x l).Perm (x :: l) := by
  induction l with
  | nil => exact List.Perm.refl _
  | cons y ys ih =>
    unfold ins
    split
    · exact ((List.Perm.cons y ih).trans (List.Perm.swap x y ys))
    · exact List.Perm.refl _

theorem sorted_perm (l : List PyVal) : (sorted l).Perm l := by
  induction l with
  | nil => exact List.Perm.refl _
  | cons x xs ih =>
    show (ins x (sorted xs)).Perm (x :: xs)
    exact (ins_perm x (sorted xs)).trans (List.Perm.cons x ih)

theorem frozenset_inj {a b : List PyVal} : frozenset a = frozenset b ↔ sorted a = sorted b := by
  constructor
  · intro h
    unfold frozenset at h
    injection h with h
    injection h with h _
    injection h with _ h
    injection h
  · intro h; unfold frozenset; rw [h]

theorem unitem_item (kv : String × PyVal) : unitem (item kv) = some kv := by
  cases kv; rfl

theorem filterMap_unitem_items (kw : List (String × PyVal)) : (items kw).filterMap unitem = kw := by
  induction kw with
  | nil => rfl
  | cons kv rest ih =>
    show ((item kv) :: items rest).filterMap unitem = kv :: rest
    rw [List.filterMap_cons, unitem_item]
    simp only
    exact congrArg _ ih

theorem perm_of_sorted_items_eq {k1 k2 : List (String × PyVal)} (h : sorted (items k1) = sorted (items k2)) :
    k1.Perm k2 := by
  have p : (items k1).Perm (items k2) := (sorted_perm _).symm.trans (h ▸ sorted_perm _)
  have q := p.filterMap unitem
  rwa [filterMap_unitem_items, filterMap_unitem_items] at q

theorem items_inj {k1 k2 : List (String × PyVal)} (h : items k1 = items k2) : k1 = k2 := by
  have q := congrArg (List.filterMap unitem) h
  rwa [filterMap_unitem_items, filterMap_unitem_items] at q

end CacheKey
