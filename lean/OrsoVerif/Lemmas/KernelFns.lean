import OrsoVerif.Model.KernelSem
import OrsoVerif.Lemmas.CallSites
/-!
# Loop lemmas for the statement-level translations of the compiled kernels (C10)

`forRange n init (fun s i => do let x ← uget l i; …)` is a fold over the elements of `l`; the column-major collection
`Kernels.pathN` has a closed form (`pathN_eq`: the cells `cellD`, if every read stays inside its row), and the nest of
write loops fills the result buffer with it (or faults with `oob` exactly when `pathN` has no value); the check loop of
`collect_cython` is `List.any`.
-/
namespace KernelSem
open Kernels

variable {α β σ : Type}

@[simp] theorem len_list (l : List β) : len l = (l.length : Int) := rfl
@[simp] theorem len_row (r : RowObj α) : len r = (r.cells.length : Int) := rfl

theorem uget_list_lt (l : List β) (i : Nat) (h : i < l.length) : uget l (i : Int) = .ok l[i] := by
  show ugetList l (i : Int) = _
  unfold ugetList
  rw [if_neg (by omega), Int.toNat_natCast, List.getElem?_eq_getElem h]
  rfl

theorem uget_row_nonneg (r : RowObj α) (c : Int) (hc : 0 ≤ c) : uget r c = ofOpt (readCell r c.toNat) :=
  if_neg (Int.not_lt.mpr hc)

theorem uget_cons_zero (x : β) (xs : List β) : uget (x :: xs) (0 : Int) = .ok x := rfl
theorem uget_cons_one (x y : β) (xs : List β) : uget (x :: y :: xs) (1 : Int) = .ok y := rfl

theorem length_eq_two : ∀ (l : List β), l.length = 2 → ∃ a b, l = [a, b]
  | [a, b], _ => ⟨a, b, rfl⟩

theorem ofOpt_none : (ofOpt (none : Option β)) = .error .oob := rfl
theorem ofOpt_some (v : β) : ofOpt (some v) = .ok v := rfl
theorem ok_bind {γ : Type} (a : β) (f : β → K γ) : ((Except.ok a : K β) >>= f) = f a := rfl

theorem range'_uget (l : List β) (f : σ → β → Nat → K σ) :
    ∀ (n k : Nat) (init : σ), k + n ≤ l.length →
      (List.range' k n).foldlM (fun s (i : Nat) => (uget l (i : Int)) >>= fun x => f s x i) init
        = (((l.drop k).take n).zipIdx k).foldlM (fun s p => f s p.1 p.2) init := by
  intro n
  induction n with
  | zero => intro k init _; simp
  | succ n ih =>
    intro k init h
    have hk : k < l.length := by omega
    have hd : (l.drop k).take (n + 1) = l[k] :: (l.drop (k + 1)).take n := by
      rw [List.drop_eq_getElem_cons hk, List.take_succ_cons]
    rw [List.range'_succ, List.foldlM_cons, hd, List.zipIdx_cons, List.foldlM_cons, uget_list_lt l k hk]
    show (f init l[k] k >>= _) = _
    congr 1
    funext s'
    exact ih (k + 1) s' (by omega)

theorem forRange_uget (l : List β) (n : Nat) (hn : n ≤ l.length) (init : σ) (f : σ → β → Int → K σ) :
    forRange (n : Int) init (fun s i => (uget l i) >>= fun x => f s x i)
      = ((l.take n).zipIdx).foldlM (fun s p => f s p.1 (p.2 : Int)) init := by
  unfold forRange
  rw [Int.toNat_natCast, List.range_eq_range']
  have := range'_uget l (fun s x (i : Nat) => f s x (i : Int)) n 0 init (by omega)
  simpa using this

theorem uset_after_prefix (p : List α) (w v : α) (t : List α) :
    uset (p ++ w :: t) (p.length : Int) v = .ok (p ++ v :: t) := by
  unfold uset
  rw [if_neg (by rw [List.length_append, List.length_cons]; omega), Int.toNat_natCast, CallSites.set_after_prefix]

theorem uset2_after_prefix (done rest : List (List α)) (p : List α) (w v : α) (t : List α) :
    uset2 (done ++ (p ++ w :: t) :: rest) (done.length : Int) (p.length : Int) v
      = .ok (done ++ (p ++ v :: t) :: rest) := by
  unfold uset2
  rw [if_neg (by omega), Int.toNat_natCast, List.getElem?_append_right (Nat.le_refl _), Nat.sub_self,
    List.getElem?_cons_zero]
  show (uset (p ++ w :: t) (p.length : Int) v >>= _) = _
  rw [uset_after_prefix]
  exact congrArg Except.ok (CallSites.set_after_prefix done _ _ rest)

/-! ## `Kernels.pathN` in closed form -/

theorem ite_forall_cons {γ : Type} {P : β → Prop} {a : β} {l : List β} [Decidable (∀ b ∈ a :: l, P b)]
    [Decidable (∀ b ∈ l, P b)] (ha : P a) {x y : γ} :
    (if ∀ b ∈ a :: l, P b then x else y) = if ∀ b ∈ l, P b then x else y :=
  ite_cond_congr (propext ⟨fun h => (List.forall_mem_cons.mp h).2, fun h => List.forall_mem_cons.mpr ⟨ha, h⟩⟩)

theorem ite_forall_cons_neg {γ : Type} {P : β → Prop} {a : β} {l : List β} [Decidable (∀ b ∈ a :: l, P b)]
    (ha : ¬ P a) {x y : γ} : (if ∀ b ∈ a :: l, P b then x else y) = y :=
  if_neg fun h => ha (List.forall_mem_cons.mp h).1

theorem mapM_ite {γ : Type} (A : β → Prop) [DecidablePred A] (g : β → γ) (l : List β) :
    l.mapM (fun x => if A x then some (g x) else none) = if ∀ x ∈ l, A x then some (l.map g) else none := by
  induction l with
  | nil => rfl
  | cons x xs ih =>
    rw [List.mapM_cons, ih]
    by_cases hx : A x
    · rw [if_pos hx, ite_forall_cons hx]
      split <;> rfl
    · rw [if_neg hx, ite_forall_cons_neg hx]
      rfl

theorem mapM_none_iff {γ : Type} (f : β → Option γ) (l : List β) :
    l.mapM f = none ↔ ∃ x ∈ l, f x = none := by
  induction l with
  | nil => simp
  | cons x xs ih =>
    simp only [List.mapM_cons, List.mem_cons, exists_eq_or_imp, ← ih]
    cases f x with
    | none => simp
    | some v => cases xs.mapM f <;> simp

theorem mapM_zip {γ δ ε : Type} (f : β → Option γ) (g : β → Option δ) (h : γ → δ → ε) (l : List β) :
    l.mapM (fun c => (f c).bind fun a => (g c).bind fun b => some (h a b))
      = (l.mapM f).bind fun as => (l.mapM g).bind fun bs => some (List.zipWith h as bs) := by
  induction l with
  | nil => rfl
  | cons x xs ih =>
    simp only [List.mapM_cons, ih]
    cases f x with
    | none => rfl
    | some a =>
      cases g x with
      | none => cases xs.mapM f <;> rfl
      | some b => cases xs.mapM f <;> cases xs.mapM g <;> rfl

def cellD (d : α) (r : RowObj α) (c : Nat) : α := (readCell r c).getD d

theorem readCell_eq_ite (d : α) (r : RowObj α) (c : Nat) :
    readCell r c = if (readCell r c).isSome = true then some (cellD d r c) else none := by
  unfold cellD
  cases readCell r c <;> rfl

theorem readCell_none_iff (r : RowObj α) (c : Nat) :
    readCell r c = none ↔ (r.isTuple = false ∨ r.cells.length ≤ c) := by
  unfold readCell
  cases r.isTuple <;> simp

theorem pathN_eq (d : α) (rows : List (RowObj α)) (cols : List Nat) :
    pathN rows cols = if ∀ r ∈ rows, ∀ c ∈ cols, (readCell r c).isSome = true
      then some (cols.map fun c => rows.map fun r => cellD d r c) else none := by
  have hcol : ∀ c, rows.mapM (fun r => readCell r c)
      = if ∀ r ∈ rows, (readCell r c).isSome = true then some (rows.map fun r => cellD d r c) else none := fun c =>
    (congrArg (fun f => rows.mapM f) (funext fun r => readCell_eq_ite d r c)).trans (mapM_ite _ _ rows)
  unfold pathN
  rw [funext hcol, mapM_ite]
  exact ite_cond_congr (propext ⟨fun h r hr c hc => h c hc r hr, fun h c hc r hr => h r hr c hc⟩)

theorem pathN_none_iff (rows : List (RowObj α)) (cols : List Nat) :
    pathN rows cols = none ↔ ∃ r ∈ rows, ∃ c ∈ cols, (r.isTuple = false ∨ r.cells.length ≤ c) := by
  unfold pathN
  rw [mapM_none_iff]
  constructor
  · rintro ⟨c, hc, h⟩
    obtain ⟨r, hr, h'⟩ := (mapM_none_iff _ _).mp h
    exact ⟨r, hr, c, hc, (readCell_none_iff r c).mp h'⟩
  · rintro ⟨r, hr, c, hc, h⟩
    exact ⟨c, hc, (mapM_none_iff _ _).mpr ⟨r, hr, (readCell_none_iff r c).mpr h⟩⟩

/-! ## The write nest of `collect_cython` -/

/-- One write of the nest: `result[j, i] = tuple_row[c]`. -/
def writeStep (r : RowObj α) (i : Nat) (m : List (List α)) (q : Int × Nat) : K (List (List α)) :=
  (uget r q.1) >>= fun v => uset2 m (q.2 : Int) (i : Int) v

/-- The inner loop (all requested columns of one row, written at position `k` of their result rows; `pre c` is what the
result row of column `c` holds in front of that position). -/
theorem inner_fill (r : RowObj α) (k : Nat) (w : α) (t : List α) (pre : Int → List α) (hp : ∀ c, (pre c).length = k) :
    ∀ (cs : List Int) (done : List (List α)), (∀ c ∈ cs, 0 ≤ c) →
      (cs.zipIdx done.length).foldlM (writeStep r k) (done ++ cs.map fun c => pre c ++ w :: t)
        = if ∀ c ∈ cs, (readCell r c.toNat).isSome = true
          then .ok (done ++ cs.map fun c => pre c ++ cellD w r c.toNat :: t) else .error .oob := by
  intro cs
  induction cs with
  | nil => intro done _; rfl
  | cons c cs ih =>
    intro done hc
    rw [List.zipIdx_cons, List.foldlM_cons, List.map_cons]
    simp only [writeStep, uget_row_nonneg r c (hc c List.mem_cons_self)]
    cases hv : readCell r c.toNat with
    | none => exact (ite_forall_cons_neg (by rw [hv]; exact Bool.false_ne_true)).symm
    | some v =>
      rw [ofOpt_some, ok_bind, ← hp c, uset2_after_prefix, ok_bind, hp c, List.append_cons done,
        show done.length + 1 = (done ++ [pre c ++ v :: t]).length by rw [List.length_append]; rfl,
        ih _ fun c' h => hc c' (List.mem_cons_of_mem _ h), ite_forall_cons (by rw [hv]; rfl), List.map_cons,
        List.append_assoc, show cellD w r c.toNat = v by unfold cellD; rw [hv]; rfl]
      rfl

theorem outer_fill (null : α) (cols : List Int) (hc : ∀ c ∈ cols, 0 ≤ c) :
    ∀ (rest : List (RowObj α)) (pre : Int → List α) (k : Nat), (∀ c, (pre c).length = k) →
      (rest.zipIdx k).foldlM (fun m p => (cols.zipIdx).foldlM (writeStep p.1 p.2) m)
          (cols.map fun c => pre c ++ List.replicate rest.length null)
        = if ∀ r ∈ rest, ∀ c ∈ cols, (readCell r c.toNat).isSome = true
          then .ok (cols.map fun c => pre c ++ rest.map fun r => cellD null r c.toNat) else .error .oob := by
  intro rest
  induction rest with
  | nil => intro pre k _; exact (if_pos (fun _ h => nomatch h)).symm
  | cons r rs ih =>
    intro pre k hp
    rw [List.zipIdx_cons, List.foldlM_cons, List.length_cons, List.replicate_succ]
    show ((cols.zipIdx ([] : List (List α)).length).foldlM (writeStep r k) ([] ++ cols.map fun c => pre c ++ null :: _) >>= _) = _
    rw [inner_fill r k null _ pre hp cols [] hc]
    by_cases h : ∀ c ∈ cols, (readCell r c.toNat).isSome = true
    · -- the cell just written joins the prefix of its column
      have hstep : (cols.map fun c => pre c ++ cellD null r c.toNat :: List.replicate rs.length null)
          = cols.map fun c => (pre c ++ [cellD null r c.toNat]) ++ List.replicate rs.length null :=
        List.map_congr_left fun c _ => List.append_cons ..
      rw [if_pos h, ok_bind, List.nil_append, hstep,
        ih (fun c => pre c ++ [cellD null r c.toNat]) (k + 1) fun c => by rw [List.length_append, hp c]; rfl,
        ite_forall_cons h]
      exact ite_congr rfl (fun _ => congrArg Except.ok (List.map_congr_left fun c _ => (List.append_cons ..).symm))
        fun _ => rfl
    · rw [if_neg h, ite_forall_cons_neg h]; rfl

theorem fill_from_empty (null : α) (cols : List Int) (hc : ∀ c ∈ cols, 0 ≤ c) (rows' : List (RowObj α)) :
    (rows'.zipIdx).foldlM (fun m p => (cols.zipIdx).foldlM (writeStep p.1 p.2) m)
        (npEmpty null (cols.length : Int) (rows'.length : Int))
      = ofOpt (pathN rows' (cols.map Int.toNat)) := by
  have h := outer_fill null cols hc rows' (fun _ => []) 0 fun _ => rfl
  have hm : (cols.map fun _ => ([] : List α) ++ List.replicate rows'.length null)
      = npEmpty null (cols.length : Int) (rows'.length : Int) := List.map_const' ..
  rw [hm] at h
  rw [h, pathN_eq null, List.map_map]
  simp only [List.forall_mem_map]
  split <;> rfl

/-- **The row loop of each of the three paths**: a loop over the first `n` rows whose body does, for row `i`, what the
column loop `for j …: result[j, i] = tuple_row[columns[j]]` does -- written out for one or two columns in the source, a
loop otherwise -- leaves the column-major collection of those rows in the fresh buffer. -/
theorem write_rows (null : α) (rows : List (RowObj α)) (cols : List Int) (hc : ∀ c ∈ cols, 0 ≤ c)
    (n : Nat) (hn : n ≤ rows.length) (body : List (List α) → RowObj α → Int → K (List (List α)))
    (hbody : ∀ m r (i : Nat), body m r i = (cols.zipIdx).foldlM (writeStep r i) m) :
    forRange (n : Int) (npEmpty null (cols.length : Int) (n : Int)) (fun result i =>
        (uget rows i) >>= fun tuple_row => body result tuple_row i)
      = ofOpt (pathN (rows.take n) (cols.map Int.toNat)) := by
  rw [forRange_uget rows n hn]
  simp only [hbody]
  have h := fill_from_empty null cols hc (rows.take n)
  rwa [List.length_take, Nat.min_eq_left hn] at h

/-- The column loop of the general path is `writeStep` over the requested columns. -/
theorem column_loop (r : RowObj α) (i : Int) (cols : List Int) (m : List (List α)) :
    forRange (cols.length : Int) m (fun result j =>
        (uget cols j) >>= fun c => (uget r c) >>= fun v => uset2 result j i v)
      = (cols.zipIdx).foldlM (fun s p => (uget r p.1) >>= fun v => uset2 s (p.2 : Int) i v) m := by
  rw [forRange_uget cols cols.length (Nat.le_refl _) m (fun s c j => (uget r c) >>= fun v => uset2 s j i v),
    List.take_length]

/-! ## The other loops: the bounds check, `extract_dict_columns`, `calculate_data_width` -/

theorem check_loop (bad : Int → Prop) [DecidablePred bad] (e : Fault) (cols : List Int) :
    forRange (cols.length : Int) () (fun (_ : Unit) j => (uget cols j) >>= fun c =>
        if bad c then (throw e : K Unit) else pure ())
      = if cols.any (fun c => decide (bad c)) = true then .error e else .ok () := by
  rw [forRange_uget cols cols.length (Nat.le_refl _) () (fun _ c _ => if bad c then (throw e : K Unit) else pure ()),
    List.take_length]
  generalize 0 = k
  induction cols generalizing k with
  | nil => rfl
  | cons c cs ih =>
    rw [List.zipIdx_cons, List.foldlM_cons]
    by_cases h : bad c
    · rw [if_pos h, List.any_cons, decide_eq_true h]; rfl
    · rw [if_neg h, List.any_cons, decide_eq_false h, pure_bind]
      exact ih (k + 1)

theorem fill_list (null : α) (g : β → α) (step : List α → β × Nat → K (List α))
    (hstep : ∀ s p, step s p = uset s (p.2 : Int) (g p.1)) :
    ∀ (l : List β) (pre : List α),
      (l.zipIdx pre.length).foldlM step (pre ++ List.replicate l.length null) = .ok (pre ++ l.map g) := by
  intro l
  induction l with
  | nil => intro pre; rfl
  | cons x xs ih =>
    intro pre
    rw [List.zipIdx_cons, List.foldlM_cons, hstep, List.length_cons, List.replicate_succ, uset_after_prefix, ok_bind,
      List.append_cons pre, show pre.length + 1 = (pre ++ [g x]).length by rw [List.length_append]; rfl,
      ih (pre ++ [g x]), List.append_assoc]
    rfl

theorem width_fold (strLen : α → Nat) (step : Int → Option α → K Int)
    (hstep : ∀ (acc : Nat) (v : Option α), step (acc : Int) v = .ok ((widthStep acc (v.map strLen) : Nat) : Int)) :
    ∀ (vals : List (Option α)) (acc : Nat),
      vals.foldlM step (acc : Int) = .ok (((vals.map (Option.map strLen)).foldl widthStep acc : Nat) : Int) := by
  intro vals
  induction vals with
  | nil => intro acc; rfl
  | cons v vs ih =>
    intro acc
    rw [List.foldlM_cons, hstep, List.map_cons, List.foldl_cons]
    exact ih _

/-! ## The limit clamp; outcomes -/

theorem effectiveRows_eq (n : Nat) (limit : Int) :
    effectiveRows n limit = if limit ≥ 0 ∧ limit < (n : Int) then limit.toNat else n := by
  have hiff : Gen.Kernels.limitApplies limit n ↔ (limit ≥ 0 ∧ limit < (n : Int)) := by
    unfold Gen.Kernels.limitApplies; omega
  exact ite_congr (propext hiff) (fun _ => rfl) (fun _ => rfl)

theorem toOutcome_injective {a b : K (List (List α))} (h : toOutcome a = toOutcome b) : a = b := by
  rcases a with (_ | _) | _ <;> rcases b with (_ | _) | _ <;> cases h <;> rfl

theorem toOutcome_ofOpt_eq_oob (o : Option (List (List α))) : toOutcome (ofOpt o) = .oob ↔ o = none := by
  cases o with
  | none => exact ⟨fun _ => rfl, fun _ => rfl⟩
  | some m => exact ⟨fun h => (nomatch h), fun h => (nomatch h)⟩

end KernelSem
