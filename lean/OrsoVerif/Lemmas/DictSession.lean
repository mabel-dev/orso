import OrsoVerif.Model.DictSession
import OrsoVerif.Lemmas.Basics
/-! The session machine of `Model/DictSession.lean`: `withDicts`, the frame addressed `i % length`, and the conclusion of
`C02.step_spec` where an operation leaves the frame list alone (`spec_same`) or adds a frame to it (`spec_snoc`). -/
namespace C02
open DictRow DictSession Gen.DictCode

variable {α : Type}

theorem withDicts_nil (null : α) (f : Frame α) : withDicts null f [] = f := by
  simp only [withDicts, List.map_nil, List.append_nil]

theorem withDicts_append (null : α) (f : Frame α) (a b : List (List (String × α))) :
    withDicts null (withDicts null f a) b = withDicts null f (a ++ b) := by
  simp [withDicts, List.append_assoc]

theorem mod_none_iff {β : Type} (l : List β) (i : Nat) : l[i % l.length]? = none ↔ l.length = 0 := by
  rw [List.getElem?_eq_none_iff]
  constructor
  · intro h
    exact Nat.eq_zero_of_not_pos fun hp => Nat.not_le_of_lt (Nat.mod_lt i hp) h
  · intro h
    rw [h]
    exact Nat.zero_le _

/-- in the shape `step_spec` concludes with: `grows` adds nothing, `dictOf` is empty -/
theorem spec_same (null : α) (s : List (Frame α)) (hinv : Inv s) :
    s.length = s.length ∧ Inv s ∧ ∀ (k : Nat) f, s[k]? = some f → s[k]? = some (withDicts null f []) :=
  ⟨rfl, hinv, fun k f h => by rw [withDicts_nil, h]⟩

theorem spec_snoc (null : α) (s : List (Frame α)) (hinv : Inv s) (g : Frame α) (hg : g.tuplesOnly = false) :
    (s ++ [g]).length = s.length + 1 ∧ Inv (s ++ [g])
    ∧ ∀ (k : Nat) f, s[k]? = some f → (s ++ [g])[k]? = some (withDicts null f []) := by
  refine ⟨List.length_append, fun f hf => ?_, fun k f h => ?_⟩
  · rcases List.mem_append.mp hf with hf | hf
    · exact hinv f hf
    · rw [List.mem_singleton.mp hf, hg]
  · rw [withDicts_nil, List.getElem?_append_of_eq_some _ h]

theorem run_cons (null : α) (ofKey : String → α) (s : List (Frame α)) (op : Op α) (ops : List (Op α)) :
    (run null ofKey s (op :: ops)).1 = (run null ofKey (step null ofKey s op).1 ops).1 := rfl

end C02
