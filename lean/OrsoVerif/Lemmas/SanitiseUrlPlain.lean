import OrsoVerif.Model.Sanitise
import OrsoVerif.Lemmas.Sanitise
import OrsoVerif.Lemmas.SanitiseBarrier
/-!
Helper lemmas for C20: every stage of the plain-text branch of `sanitize_record` rewrites the text around a
`://user-info@` without looking at it (`Around`), so that the URL rule finds the same `://…@` afterwards.
-/
namespace Sanitise

/-! ## the quote-pair colouring of the plain-text branch -/

theorem pairColourF_cons (q q' : Char) (n : Nat) (c : Char) (r : Str) :
    pairColourF q q' (n + 1) (c :: r) =
      if c = q then
        match findClose q false r with
        | some (inner, rest) =>
          q' :: (Gen.Sanitise.codeYellow ++ inner ++ Gen.Sanitise.codeOff ++ q' :: pairColourF q q' n rest)
        | none => c :: pairColourF q q' n r
      else c :: pairColourF q q' n r := rfl

theorem pairColourF_scans (q q' : Char) :
    Scans (pairColourF q q') (quoteStep (· = q) (fun _ => q') false Gen.Sanitise.codeYellow Gen.Sanitise.codeOff) where
  nil n := by cases n <;> rfl
  cons n c r := by
    rw [pairColourF_cons, quoteStep]
    by_cases hc : c = q
    · subst hc; simp only [decide_true, if_true]; cases findClose c false r <;> simp
    · simp only [hc, decide_false, if_false]; rfl
  shorter := quoteStep_shorter

theorem pairColour_nil (q q' : Char) : pairColour q q' [] = [] := rfl

theorem pairColour_cons (q q' : Char) (c : Char) (r : Str) :
    pairColour q q' (c :: r) =
      if c = q then
        match findClose q false r with
        | some (inner, rest) =>
          q' :: (Gen.Sanitise.codeYellow ++ inner ++ Gen.Sanitise.codeOff ++ q' :: pairColour q q' rest)
        | none => c :: pairColour q q' r
      else c :: pairColour q q' r := by
  rw [pairColour, (pairColourF_scans q q').step_cons, quoteStep]
  by_cases hc : c = q
  · subst hc; simp only [decide_true, if_true]; cases findClose c false r <;> simp [pairColour]
  · simp only [hc, decide_false, if_false]; rfl

theorem pairColour_around (q q' : Char) : Around (q ∉ ·) (pairColour q q') :=
  ((pairColourF_scans q q').around (quoteStep_around _ _ false _ _)).mono fun _ hB =>
    ⟨fun x hx => decide_eq_false fun (e : x = q) => hB (e ▸ hx), fun e => nomatch e⟩

/-! ## `str.strip` -/

theorem dropWhile_append_head (p : Char → Bool) (x : Char) (t : Str) (hx : p x = false) (a : Str) :
    (a ++ x :: t).dropWhile p = a.dropWhile p ++ x :: t := by
  rw [List.dropWhile_append]
  split
  · next h => simp [List.isEmpty_iff.mp h, hx]
  · rfl

theorem strip_around :
    Around (fun B => ∃ x m y, B = x :: (m ++ [y]) ∧ isSpace x = false ∧ isSpace y = false) strip := fun a b =>
  ⟨a.dropWhile isSpace, (b.reverse.dropWhile isSpace).reverse, by
    rintro _ ⟨x, m, y, rfl, hx, hy⟩
    have h2 : (a.dropWhile isSpace ++ x :: (m ++ [y] ++ b)).reverse =
        b.reverse ++ y :: (m.reverse ++ x :: (a.dropWhile isSpace).reverse) := by simp
    rw [strip, List.cons_append, dropWhile_append_head isSpace x _ hx, h2, dropWhile_append_head isSpace y _ hy]
    simp⟩

/-! ## the last field -/

theorem last_sep (sep : Char) (s : Str) : sep ∉ s ∨ ∃ p t, s = p ++ sep :: t ∧ sep ∉ t := by
  by_cases h : sep ∈ s
  · -- the first occurrence in the reversed text
    obtain ⟨as, bs, e, ha⟩ := List.eq_append_cons_of_mem (List.mem_reverse.mpr h)
    exact Or.inr ⟨bs.reverse, as.reverse, by simpa using congrArg List.reverse e, by simpa using ha⟩
  · exact Or.inl h

theorem splitOn_notin (sep : Char) : ∀ t : Str, sep ∉ t → splitOn sep t = [t] := by
  intro t
  induction t with
  | nil => intro _; rfl
  | cons c r ih =>
    intro h
    have hc : c ≠ sep := fun e => h (by simp [e])
    have hr : sep ∉ r := fun hm => h (List.mem_cons_of_mem _ hm)
    simp [splitOn, hc, ih hr]

/-- What `sanitize_record`'s plain branch does with the fields: all but the last are kept, the last
is rewritten by `f`. -/
def mapLast (f : Str → Str) (s : Str) : Str :=
  let parts := splitOn '|' s
  joinWith '|' (parts.dropLast ++ [f (parts.getLast?.getD [])])

theorem mapLast_nosep (f : Str → Str) (s : Str) (h : '|' ∉ s) : mapLast f s = f s := by
  simp [mapLast, splitOn_notin '|' s h, joinWith]

theorem mapLast_sep (f : Str → Str) (p t : Str) (h : '|' ∉ t) : mapLast f (p ++ '|' :: t) = p ++ '|' :: f t := by
  simp only [mapLast, splitOn_append, splitOn_notin '|' t h]
  have hne := splitOn_ne_nil '|' p
  have h1 : (splitOn '|' p ++ [t]).dropLast = splitOn '|' p := by simp
  have h2 : (splitOn '|' p ++ [t]).getLast?.getD [] = t := by simp
  rw [h1, h2, joinWith_append '|' _ _ hne (by simp), join_splitOn]
  rfl

theorem mapLast_around {P : Str → Prop} {f : Str → Str} (hf : Around P f) (hsep : ∀ B, P B → '|' ∉ B) :
    Around P (mapLast f) := by
  intro a b
  -- the run lies in the last field (no separator behind it) or before it
  rcases last_sep '|' b with hb | ⟨p, t, rfl, ht⟩
  · rcases last_sep '|' a with ha | ⟨p, t, rfl, ht⟩
    · obtain ⟨a', b', h⟩ := hf a b
      exact ⟨a', b', fun B hB => by rw [mapLast_nosep f _ (by simp [ha, hb, hsep B hB]), h B hB]⟩
    · obtain ⟨a', b', h⟩ := hf t b
      exact ⟨p ++ '|' :: a', b', fun B hB => by
        rw [List.append_assoc, List.cons_append, mapLast_sep f p _ (by simp [ht, hb, hsep B hB]), h B hB,
          List.append_assoc, List.cons_append]⟩
  · exact ⟨a, p ++ '|' :: f t, fun B hB => by
      rw [← List.append_assoc, ← List.append_assoc, mapLast_sep f _ t ht]; simp only [List.append_assoc]⟩

/-! ## the `://user-info@` of a URL is a barrier for every stage of the plain-text branch -/

open Gen.Sanitise

def coreCharB (x : Char) : Bool := x == ':' || x == '/' || x == '@' || urlSafeChar x

/-- What the stages need of a `://user-info@`: it starts with `:`, ends in `@` and is made of URL characters. -/
structure CoreLike (B : Str) : Prop where
  shape : ∃ m, B = ':' :: (m ++ ['@'])
  chars : ∀ x ∈ B, coreCharB x = true

theorem urlCore_coreLike (u : Str) (hu : UrlSafe u) : CoreLike (urlCore u) := by
  have e : urlCore u = ':' :: ('/' :: '/' :: u ++ ['@']) := by simp [urlCore, urlOpen, urlClose]
  refine ⟨⟨_, e⟩, fun x hx => ?_⟩
  rw [e] at hx
  simp only [List.mem_cons, List.mem_append, List.not_mem_nil, or_false] at hx
  rcases hx with rfl | (rfl | rfl | hx) | rfl
  · decide
  · decide
  · decide
  · simp [coreCharB, hu x hx]
  · decide

theorem CoreLike.notin {B : Str} (h : CoreLike B) {q : Char} (hq : coreCharB q = false) : q ∉ B :=
  fun hm => Bool.false_ne_true (hq.symm.trans (h.chars q hm))

def patOK (k : Str) : Bool :=
  match k with
  | [] => true
  | p :: _ => !coreCharB p && !k.contains ':'

theorem CoreLike.barrier {B : Str} (h : CoreLike B) {k : Str} (hk : patOK k = true) : Barrier k B := by
  obtain ⟨m, rfl⟩ := h.shape
  cases k with
  | nil => exact .of_class coreCharB h.chars (fun _ _ e => nomatch e) List.not_mem_nil
  | cons p ps =>
    simp only [patOK, Bool.and_eq_true, Bool.not_eq_true'] at hk
    exact .of_class coreCharB h.chars (fun _ _ e => by cases e; exact hk.1) (by simpa using hk.2)

theorem exchanges_ok : colorExchanges.all (fun kv => patOK kv.1) = true := by decide +kernel
theorem colors_ok : displayColors.all (fun kv => patOK kv.1) = true := by decide +kernel
theorem uliteral_ok : patOK ['\\', 'u', '0', '0', '0', '1'] = true := by decide +kernel

/-- What the plain-text branch of `sanitize_record` does to the last field (l.178-181). -/
def plainLast (last : Str) : Str :=
  ' ' :: (strip (pairColour '"' '\'' (pairColour '\'' '\'' (pairColour '`' '`' last))) ++ [' ', '*'])

theorem plainLast_around : Around CoreLike plainLast := by
  have q (c c' : Char) (hc : coreCharB c = false) : Around CoreLike (pairColour c c') :=
    (pairColour_around c c').mono fun _ h => h.notin hc
  have s : Around CoreLike strip := strip_around.mono fun _ h =>
    let ⟨m, e⟩ := h.shape
    ⟨':', m, '@', e, by decide, by decide⟩
  -- elaborated on its own and compared with `plainLast` afterwards: against the expected type it is slow to check
  have := ((((q '`' '`' (by decide)).comp (q '\'' '\'' (by decide))).comp (q '"' '\'' (by decide))).comp s).comp
    (Around.wrap [' '] [' ', '*'])
  exact this

theorem renderPlain_around (can : Bool) : Around CoreLike (renderPlain can) := by
  have tb : ∀ table : List (Str × Str), table.all (fun kv => patOK kv.1) = true →
      ∀ kv ∈ table, ∀ B, CoreLike B → Barrier kv.1 B :=
    fun _ ht kv hm _ hB => hB.barrier (List.all_eq_true.mp ht kv hm)
  have s1 : Around CoreLike (colorCode can) := by
    cases can with
    | false => exact fun a b => ⟨a, b, fun _ _ => rfl⟩
    | true => exact colorCodeWith_around _ (tb _ exchanges_ok)
  show Around CoreLike fun s => colorizer can (mapLast plainLast (colorCode can s))
  exact (s1.comp (mapLast_around plainLast_around fun _ h => h.notin (by decide))).comp
    (colorizer_around can (fun _ h => h.barrier uliteral_ok) (tb _ colors_ok))

theorem renderPlain_urlTail (can : Bool) (pre post : Str) :
    ∃ a b, ∀ u, UrlSafe u → renderPlain can (pre ++ urlTail u post) = a ++ urlTail u b := by
  obtain ⟨a, b, h⟩ := renderPlain_around can pre post
  refine ⟨a, b, fun u hu => ?_⟩
  simpa only [urlTail, urlCore, List.append_assoc, List.cons_append, List.nil_append] using h _ (urlCore_coreLike u hu)

/-- The guard of the URL rule (`"://" in msg`; `g` is the text it looks for) fires on a text with a URL in it. -/
theorem isInfix_urlTail {g : Str} (hg : g = urlOpen) (pre u post : Str) :
    isInfix g (pre ++ urlTail u post) = true := by
  rw [hg, urlTail, List.append_assoc urlOpen]
  exact isInfix_self _ _ _

theorem cleanRun_of_urlSafe (u : Str) (hu : UrlSafe u) : cleanRun urlClose u = true :=
  (cleanRun_iff urlClose u).mpr ⟨fun hm => absurd (hu _ hm) (by decide), fun hm => absurd (hu _ hm) (by decide)⟩

end Sanitise
