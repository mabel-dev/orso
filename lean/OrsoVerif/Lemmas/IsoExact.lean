import OrsoVerif.Lemmas.IsoText
import OrsoVerif.Model.IsoGrammar
/-! Helper lemmas for C08: the text path in normal form.  Under the record `Iso.Exact` (each generated guard *is* the stated
test) `shaped v` is an `if`-tree over the length of `v` and its characters at the fixed offsets (`shaped_closed`), that is the
inductive `Iso.Layout` (`shaped_iff_layout`), and `textPath s` is `shaped (cutTail s)` inside the two windows
(`textPath_closed`).  Nothing generated is unfolded here: the facts about the guards come in through `Exact`, proved in
`Props/C08.lean` (`guards_are_exactly_the_stated_ones`). -/
namespace Iso

theorem idx_eq_ok_iff (v : List Char) (i : Nat) (c : Char) : idx v i = .ok c ↔ v[i]? = some c := by
  unfold idx
  cases v[i]? with
  | none => simp
  | some d => simp

theorem idx_getElem (v : List Char) (i : Nat) (h : i < v.length) : idx v i = .ok v[i] := by
  rw [idx, List.getElem?_eq_getElem h]

/-- **What the normal forms need from the generated guards**: each of them is *exactly* the stated test (both directions),
the subscripts, slice offsets and characters are the stated ones. -/
structure Exact : Prop where
  idx : Gen.Iso.dashA = 4 ∧ Gen.Iso.dashB = 7 ∧ Gen.Iso.sepIdx = 10 ∧ Gen.Iso.colonA = 13 ∧ Gen.Iso.colonB = 16
  slices : Gen.Iso.slicesDate = [(0, 4), (5, 7), (8, 10)] ∧
    Gen.Iso.slicesSec = [(0, 4), (5, 7), (8, 10), (11, 13), (14, 16), (17, 19)] ∧
    Gen.Iso.slicesMin = [(0, 4), (5, 7), (8, 10), (11, 13), (14, 16)]
  chars : Gen.Iso.zChar = 'Z' ∧ Gen.Iso.plusChar = '+'
  epochInt : Iso.epochAdmits "int" = true
  window : ∀ n : Int, Gen.Iso.lenWindow n ↔ (10 ≤ n ∧ n ≤ 33)
  plus : ∀ n : Int, Gen.Iso.plusReject n ↔ ¬ (10 ≤ n ∧ n ≤ 28)
  dashA : ∀ c, Gen.Iso.dashTestA c ↔ c ≠ '-'
  dashB : ∀ c, Gen.Iso.dashTestB c ↔ c ≠ '-'
  dashJoin : Gen.Iso.dashJoinAnd = false
  dateLen : ∀ n : Int, Gen.Iso.dateLenTest n ↔ n = 10
  timeLen : ∀ n : Int, Gen.Iso.timeLenTest n ↔ n ≥ 16
  minLen : ∀ n : Int, Gen.Iso.minLenTest n ↔ n = 16
  sepA : ∀ c, Gen.Iso.sepTestA c ↔ (c ≠ 'T' ∧ c ≠ ' ')
  sepB : ∀ c, Gen.Iso.sepTestB c ↔ c ≠ ':'
  sepJoin : Gen.Iso.sepJoinAnd = true
  secLen : ∀ n : Int, Gen.Iso.secLenTest n ↔ n ≥ 19
  secChar : ∀ c, Gen.Iso.secCharTest c ↔ c = ':'

theorem dashReject_eq (E : Exact) (v : List Char) (h9 : 9 ≤ v.length) :
    dashReject v = .ok (!decide (v[4]? = some '-' ∧ v[7]? = some '-')) := by
  obtain ⟨x4, x7, -⟩ := E.idx
  rw [dashReject, x4, x7, idx_getElem v 4 (by omega), idx_getElem v 7 (by omega)]
  simp only [List.getElem?_eq_getElem (by omega : 4 < v.length), List.getElem?_eq_getElem (by omega : 7 < v.length),
    bind_ok, shortCircuit_ok, scb, E.dashJoin, E.dashA, E.dashB, Option.some.injEq, Bool.false_eq_true, if_false,
    Bool.decide_and, Bool.not_and, decide_not, ne_eq]

theorem sepReject_eq (E : Exact) (v : List Char) (h16 : 16 ≤ v.length) : sepReject v = .ok (!decide (sepOk v)) := by
  obtain ⟨-, -, x10, x13, -⟩ := E.idx
  rw [sepReject, x10, x13, idx_getElem v 10 (by omega), idx_getElem v 13 (by omega)]
  simp only [sepOk, List.getElem?_eq_getElem (by omega : 10 < v.length), List.getElem?_eq_getElem (by omega : 13 < v.length),
    bind_ok, shortCircuit_ok, scb, E.sepJoin, E.sepA, E.sepB, Option.some.injEq, if_true,
    Bool.decide_and, Bool.decide_or, Bool.not_or, decide_not, ne_eq, Bool.and_assoc]

theorem hasSeconds_eq (E : Exact) (v : List Char) :
    hasSeconds v = .ok (decide (19 ≤ v.length ∧ v[16]? = some ':')) := by
  have c19 : ((v.length : Int) ≥ 19) = (19 ≤ v.length) := propext ⟨by omega, by omega⟩
  simp only [hasSeconds, shortCircuit, if_true, E.secLen, c19, E.idx.2.2.2.2, E.secChar]
  by_cases l19 : 19 ≤ v.length
  · rw [idx_getElem v 16 (by omega), List.getElem?_eq_getElem (by omega : 16 < v.length)]
    simp only [l19, decide_true, if_true, bind_ok, true_and, Option.some.injEq]
  · simp only [l19, decide_false, Bool.false_eq_true, if_false, false_and]

theorem shaped_closed (E : Exact) (v : List Char) (h9 : 9 ≤ v.length) :
    shaped v =
      if v[4]? = some '-' ∧ v[7]? = some '-' then
        if v.length = 10 then fields v [(0, 4), (5, 7), (8, 10)]
        else if 16 ≤ v.length then
          if sepOk v then
            if 19 ≤ v.length ∧ v[16]? = some ':' then fields v [(0, 4), (5, 7), (8, 10), (11, 13), (14, 16), (17, 19)]
            else if v.length = 16 then fields v [(0, 4), (5, 7), (8, 10), (11, 13), (14, 16)]
            else .ok none
          else .ok none
        else .ok none
      else .ok none := by
  obtain ⟨sl1, sl2, sl3⟩ := E.slices
  have c10 : ((v.length : Int) = 10) = (v.length = 10) := propext ⟨by omega, by omega⟩
  have c16 : ((v.length : Int) = 16) = (v.length = 16) := propext ⟨by omega, by omega⟩
  have g16 : ((v.length : Int) ≥ 16) = (16 ≤ v.length) := propext ⟨by omega, by omega⟩
  rw [shaped, dashReject_eq E v h9]
  simp only [bind_ok, Bool.not_eq_true', decide_eq_false_iff_not, ite_not, E.dateLen, E.timeLen, E.minLen, c10, c16, g16,
    sl1, sl2, sl3, hasSeconds_eq E, decide_eq_true_eq]
  by_cases h16 : 16 ≤ v.length
  · simp only [sepReject_eq E v h16, bind_ok, Bool.not_eq_true', decide_eq_false_iff_not, ite_not]
  · simp only [h16, if_false]

theorem Layout.cols {v : List Char} {dt : DateTime} (h : Layout v dt) : 10 ≤ v.length ∧ DateCols v dt := by
  cases h with
  | date l c => exact ⟨Nat.le_of_eq l.symm, c⟩
  | minute l c => exact ⟨l ▸ (by decide), c⟩
  | second l c => exact ⟨Nat.le_trans (by decide) l, c⟩

theorem shaped_iff_layout (E : Exact) (v : List Char) (h9 : 9 ≤ v.length) (dt : DateTime) :
    shaped v = .ok (some dt) ↔ Layout v dt := by
  rw [shaped_closed E v h9]
  by_cases hd : v[4]? = some '-' ∧ v[7]? = some '-'
  case neg => rw [if_neg hd]; exact ⟨nofun, fun h => absurd ⟨h.cols.2.dash4, h.cols.2.dash7⟩ hd⟩
  have mk : validDateTime dt = true → dt.micro = 0 → Reads (slice v (0, 4)) dt.year → Reads (slice v (5, 7)) dt.month →
      Reads (slice v (8, 10)) dt.day → DateCols v dt := fun hv hm y m d => ⟨hd.1, hd.2, y, m, d, hv, hm⟩
  rw [if_pos hd]
  by_cases l10 : v.length = 10
  · rw [if_pos l10, fields_iff]
    simp only [List.map_cons, List.map_nil, List.cons.injEq, and_true, reduceCtorEq, and_false, false_and, or_false,
      and_assoc]
    constructor
    · rintro ⟨hv, hm, y, m, d, H, M, S⟩; exact .date l10 (mk hv hm y m d) H M S
    · intro h
      cases h with
      | date _ c H M S => exact ⟨c.valid, c.whole, c.year, c.month, c.day, H, M, S⟩
      | minute l => omega
      | second l => omega
  rw [if_neg l10]
  by_cases l16 : 16 ≤ v.length
  case neg => rw [if_neg l16]; exact ⟨nofun, fun h => by cases h <;> omega⟩
  rw [if_pos l16]
  by_cases hs : sepOk v
  case neg =>
    rw [if_neg hs]
    refine ⟨nofun, fun h => ?_⟩
    cases h with
    | date l => omega
    | minute _ _ s => exact absurd s hs
    | second _ _ s => exact absurd s hs
  rw [if_pos hs]
  by_cases h19 : 19 ≤ v.length ∧ v[16]? = some ':'
  · rw [if_pos h19, fields_iff]
    simp only [List.map_cons, List.map_nil, List.cons.injEq, and_true, reduceCtorEq, and_false, false_and, false_or]
    constructor
    · rintro ⟨hv, hm, y, m, d, H, M, S⟩; exact .second h19.1 (mk hv hm y m d) hs h19.2 H M S
    · intro h
      cases h with
      | date l => omega
      | minute l => omega
      | second _ c _ _ H M S => exact ⟨c.valid, c.whole, c.year, c.month, c.day, H, M, S⟩
  rw [if_neg h19]
  by_cases e16 : v.length = 16
  · rw [if_pos e16, fields_iff]
    simp only [List.map_cons, List.map_nil, List.cons.injEq, and_true, reduceCtorEq, and_false, false_and, false_or,
      or_false, and_assoc]
    constructor
    · rintro ⟨hv, hm, y, m, d, H, M, S⟩; exact .minute e16 (mk hv hm y m d) hs H M S
    · intro h
      cases h with
      | date l => omega
      | minute _ c _ H M S => exact ⟨c.valid, c.whole, c.year, c.month, c.day, H, M, S⟩
      | second l => omega
  · rw [if_neg e16]
    refine ⟨nofun, fun h => ?_⟩
    cases h with
    | date l => omega
    | minute l => omega
    | second l _ _ c16 => exact absurd ⟨l, c16⟩ h19

/-- The two windows of the text path: 10..33 characters, and 10..28 of them left when a `+` was cut. -/
def Kept (s : List Char) : Prop :=
  10 ≤ s.length ∧ s.length ≤ 33 ∧ ((zStrip s).contains '+' = true → 10 ≤ (cutTail s).length ∧ (cutTail s).length ≤ 28)

instance (s : List Char) : Decidable (Kept s) := by unfold Kept; infer_instance

/-- Nine characters are left in either case: what the dash test reads. -/
theorem Kept.nine_le {s : List Char} (h : Kept s) : 9 ≤ (cutTail s).length := by
  by_cases hp : (zStrip s).contains '+' = true
  · exact Nat.le_trans (by decide) (h.2.2 hp).1
  · have := zStrip_length_ge s
    have := h.1
    rw [cutTail, if_neg hp]
    omega

theorem textPath_closed (E : Exact) (s : List Char) :
    textPath s = if Kept s then shaped (cutTail s) else .ok none := by
  rw [textPath_eq E.chars]
  by_cases hw : 10 ≤ s.length ∧ s.length ≤ 33
  · rw [if_pos ((E.window _).mpr (by omega))]
    by_cases hr : (zStrip s).contains '+' = true → 10 ≤ (cutTail s).length ∧ (cutTail s).length ≤ 28
    · rw [if_neg (fun h => (E.plus _).mp h.2 (by have := hr h.1; omega)), if_pos ⟨hw.1, hw.2, hr⟩]
    · rw [if_neg (fun h : Kept s => hr h.2.2), if_pos]
      exact ⟨(Classical.not_imp.mp hr).1, (E.plus _).mpr fun h => hr fun _ => by omega⟩
  · rw [if_neg (fun h => hw (by have := (E.window _).mp h; omega)), if_neg (fun h : Kept s => hw ⟨h.1, h.2.1⟩)]

theorem sepOk_of_sep {sep : Char} (hsep : sep = 'T' ∨ sep = ' ') {v : List Char} (h : v[10]? = some sep) : sepOk v :=
  hsep.elim (fun e => .inl (e ▸ h)) (fun e => .inr (.inl (e ▸ h)))

theorem layout_second (dt : DateTime) (h : validDateTime dt = true) (sep : Char) (hsep : sep = 'T' ∨ sep = ' ')
    (t : List Char) : Layout (renderSecond dt sep ++ t) (truncSeconds dt) := by
  obtain ⟨y, m, d, H, M, S⟩ := pyInt_pads h
  rw [renderSecond_cons, renderMinute_cons, renderDate_cons]
  exact .second (by simp only [List.length_cons]; omega) ⟨rfl, rfl, y, m, d, valid_truncSeconds h, rfl⟩ (sepOk_of_sep hsep rfl)
    rfl H M S

theorem layout_minute (dt : DateTime) (h : validDateTime dt = true) (hS : dt.second = 0) (sep : Char)
    (hsep : sep = 'T' ∨ sep = ' ') : Layout (renderMinute dt sep) (truncSeconds dt) := by
  obtain ⟨y, m, d, H, M, -⟩ := pyInt_pads h
  rw [← List.append_nil (renderMinute dt sep), renderMinute_cons, renderDate_cons]
  exact .minute rfl ⟨rfl, rfl, y, m, d, valid_truncSeconds h, rfl⟩ (sepOk_of_sep hsep rfl) H M hS

theorem layout_date (y m d : Nat) (h : validDate y m d = true) : Layout (renderDate y m d) ⟨y, m, d, 0, 0, 0, 0⟩ := by
  have hv : validDateTime ⟨y, m, d, 0, 0, 0, 0⟩ = true := by simp [validDateTime, h]
  obtain ⟨py, pm, pd, -⟩ := pyInt_pads hv
  exact .date rfl ⟨rfl, rfl, py, pm, pd, hv, rfl⟩ rfl rfl rfl

theorem shaped_of_layout (E : Exact) {v : List Char} {dt : DateTime} (h : Layout v dt) : shaped v = .ok (some dt) :=
  (shaped_iff_layout E v (Nat.le_trans (by decide) h.cols.1) dt).mpr h

/-! ## What the closed forms give -/

/-- **The generated guards (`Gen.Iso`) reject everything else**: the converse direction of each test, on its own.  Proved in
`Props/C08.lean` (`guards_reject_everything_else`) against the source as extracted on this run.  (The lemmas take both
directions of every guard from `Iso.Exact`.) -/
structure Rejects : Prop where
  windowHi : ∀ n : Int, 33 < n → ¬ Gen.Iso.lenWindow n
  plusHi : ∀ n : Int, 28 < n → Gen.Iso.plusReject n
  dash : ∀ a b : Char, a ≠ '-' ∨ b ≠ '-' →
    scb Gen.Iso.dashJoinAnd (decide (Gen.Iso.dashTestA a)) (decide (Gen.Iso.dashTestB b)) = true
  midLen : ∀ n : Int, 10 < n → n < 16 → ¬ Gen.Iso.dateLenTest n ∧ ¬ Gen.Iso.timeLenTest n
  dateLo : ∀ n : Int, Gen.Iso.dateLenTest n → 10 ≤ n
  minHi : ∀ n : Int, 16 < n → ¬ Gen.Iso.minLenTest n
  secLo : ∀ n : Int, n < 19 → ¬ Gen.Iso.secLenTest n
  secChar : ∀ c : Char, c ≠ ':' → ¬ Gen.Iso.secCharTest c

theorem prefix_getElem? {v s : List Char} (h : v <+: s) {i : Nat} (hi : i < v.length) : v[i]? = s[i]? := by
  have hs : i < s.length := Nat.lt_of_lt_of_le hi h.length_le
  rw [List.getElem?_eq_getElem hi, List.getElem?_eq_getElem hs, h.getElem hi]

theorem prefix_slice {v s : List Char} (h : v <+: s) (a b : Nat) (hb : b ≤ v.length) :
    slice v (a, b) = slice s (a, b) := by
  obtain ⟨t, rfl⟩ := h
  unfold slice
  by_cases ha : a ≤ v.length
  · rw [List.drop_append_of_le_length ha, List.take_append_of_le_length (by simp; omega)]
  · have : b - a = 0 := by omega
    simp [this]

theorem textPath_not_dashes (E : Exact) (s : List Char) (h : s[4]? ≠ some '-' ∨ s[7]? ≠ some '-') :
    textPath s = .ok none := by
  rw [textPath_closed E]
  split
  next hk =>
    -- the `Z` strip and the `+` split keep a prefix of at least nine characters: offsets 4 and 7 still show the same characters
    have h9 := hk.nine_le
    have hp := cutTail_prefix s
    rw [shaped_closed E _ h9, if_neg]
    rw [prefix_getElem? hp (by omega : 4 < (cutTail s).length), prefix_getElem? hp (by omega : 7 < (cutTail s).length)]
    exact fun hd => h.elim (· hd.1) (· hd.2)
  · rfl

theorem textPath_secondTail (E : Exact) (dt : DateTime) (h : validDateTime dt = true)
    (sep : Char) (hsep : sep = 'T' ∨ sep = ' ') (t : List Char) :
    textPath (renderSecond dt sep ++ t) = if tailRead t then .ok (some (truncSeconds dt)) else .ok none := by
  obtain ⟨pa, la⟩ := plain_renderSecond dt sep hsep
  obtain ⟨hc, ht⟩ := cutTail_append _ t pa
  -- `tailRead t` is the two windows, 19 characters further on
  have hk : Kept (renderSecond dt sep ++ t) ↔ tailRead t = true := by
    rw [tailRead_iff, Kept, hc, ht, List.length_append, List.length_append, la]
    constructor
    · exact fun ⟨_, h2, h3⟩ => ⟨by omega, fun hp => by have := h3 hp; omega⟩
    · exact fun ⟨h1, h2⟩ => ⟨by omega, by omega, fun hp => by have := h2 hp; omega⟩
  rw [textPath_closed E, ht, shaped_of_layout E (layout_second dt h sep hsep _)]
  simp only [hk]

/-- Nothing is asked of `sep`: the `:` at offset 13 passes the separator test whatever stands at offset 10. -/
theorem shaped_minute_rest (E : Exact) (dt : DateTime) (sep : Char) (u : List Char) (hne : u ≠ [])
    (hu : u.length < 3 ∨ u.head? ≠ some ':') : shaped (renderMinute dt sep ++ u) = .ok none := by
  have hpos : 0 < u.length := List.length_pos_iff.mpr hne
  have l : (renderMinute dt sep ++ u).length = u.length + 16 := by rw [renderMinute_cons, renderDate_cons]; rfl
  rw [shaped_closed E _ (by omega), l, renderMinute_cons, renderDate_cons, if_pos ⟨rfl, rfl⟩, if_neg (by omega), if_pos (by omega),
    if_pos (.inr (.inr rfl)), if_neg (fun h => hu.elim (by omega) (· (List.head?_eq_getElem? ▸ h.2))), if_neg (by omega)]

theorem shaped_date_rest (E : Exact) (y m d : Nat) (u : List Char) (h1 : 1 ≤ u.length)
    (h5 : u.length ≤ 5) : shaped (renderDate y m d ++ u) = .ok none := by
  have l : (renderDate y m d ++ u).length = u.length + 10 := by rw [renderDate_cons]; rfl
  rw [shaped_closed E _ (by omega), l, renderDate_cons, if_pos ⟨rfl, rfl⟩, if_neg (by omega), if_neg (by omega)]

/-- **The generated dash test lets only dashes through**: when it does not reject, both characters are `-`.  Proved in
`Props/C08.lean` (`dash_test_keeps_only_dashes`).  (`textPath_sound` takes this, like every other guard, from `Iso.Exact`.) -/
structure DashSound : Prop where
  keep : ∀ (a : Char) (x : Except Exc Bool),
    shortCircuit Gen.Iso.dashJoinAnd (decide (Gen.Iso.dashTestA a)) x = .ok false → a = '-' ∧ x = .ok false
  second : ∀ b : Char, ¬ Gen.Iso.dashTestB b → b = '-'

theorem textPath_sound (E : Exact) (s : List Char) (dt : DateTime) (h : textPath s = .ok (some dt)) :
    s[4]? = some '-' ∧ s[7]? = some '-' ∧ validDateTime dt = true ∧ dt.micro = 0 ∧
      pyInt (slice s (0, 4)) = .ok (dt.year : Int) ∧ pyInt (slice s (5, 7)) = .ok (dt.month : Int) ∧
      pyInt (slice s (8, 10)) = .ok (dt.day : Int) := by
  rw [textPath_closed E] at h
  split at h
  case isFalse => cases h
  next hk =>
  -- the value is that of a layout of `cutTail s`, a prefix of the text at least ten characters long
  obtain ⟨hl, c⟩ := ((shaped_iff_layout E _ hk.nine_le dt).mp h).cols
  have hp := cutTail_prefix s
  refine ⟨?_, ?_, c.valid, c.whole, ?_, ?_, ?_⟩
  · rw [← prefix_getElem? hp (by omega : 4 < (cutTail s).length)]; exact c.dash4
  · rw [← prefix_getElem? hp (by omega : 7 < (cutTail s).length)]; exact c.dash7
  · rw [← prefix_slice hp 0 4 (by omega)]; exact c.year
  · rw [← prefix_slice hp 5 7 (by omega)]; exact c.month
  · rw [← prefix_slice hp 8 10 (by omega)]; exact c.day

end Iso
