import OrsoVerif.Lemmas.DisplayColor
/-! Token form: text without escape characters interleaved with the colour tokens `ascii_table` uses.  Every line
of the table is built in this form, `trunc_printable` keeps it (it never cuts inside a token), and it is what
`colorizer` needs; `Prints s w` adds the printed width, so that one induction over the structure of the table gives
the form and the width of every line together. -/
namespace Display

def GoodSeg : Seg → Prop
  | .txt s => ∀ c ∈ s, TxtC c
  | .tok k => k ∈ usedTokens

/-- token form -/
def TF (s : Str) : Prop := ∃ segs, s = flat segs ∧ ∀ sg ∈ segs, GoodSeg sg

theorem TF_nil : TF [] := ⟨[], rfl, by simp⟩

theorem TF_append {a b : Str} (ha : TF a) (hb : TF b) : TF (a ++ b) := by
  obtain ⟨sa, rfl, ga⟩ := ha
  obtain ⟨sb, rfl, gb⟩ := hb
  exact ⟨sa ++ sb, (flat_append sa sb).symm, fun sg h => (List.mem_append.mp h).elim (ga sg) (gb sg)⟩

theorem TF_tok {k : Str} (h : k ∈ usedTokens) : TF k := ⟨[.tok k], by simp [flat, Seg.flat], by simpa [GoodSeg] using h⟩

theorem TF_txt {s : Str} (h : ∀ c ∈ s, TxtC c) : TF s := ⟨[.txt s], by simp [flat, Seg.flat], by simpa [GoodSeg] using h⟩

theorem TF_pstr {s : Str} (h : PStr s) : TF s := TF_txt (fun c hc => Or.inl (h c hc))

theorem TF_cons {c : Char} {s : Str} (hc : TxtC c) (hs : TF s) : TF (c :: s) :=
  TF_append (a := [c]) (TF_txt (by intro x hx; simp at hx; subst hx; exact hc)) hs

theorem TF_joinWith {sep : Str} (hs : TF sep) {xs : List Str} (h : ∀ x ∈ xs, TF x) : TF (joinWith sep xs) :=
  joinWith_closed TF_nil TF_append hs h

theorem TF.okStr {s : Str} (h : TF s) : OkStr s := by
  obtain ⟨segs, rfl, g⟩ := h
  intro c hc
  obtain ⟨sg, hsg, hc⟩ := List.mem_flatMap.mp hc
  cases sg with
  | txt t => exact (g _ hsg c hc).elim Or.inl (fun h => Or.inr (Or.inr h))
  | tok k => exact okStr_tok (g _ hsg) c hc

/-- shape of the tokens `ascii_table` uses: marker, a name without `m` and line breaks, `m` -/
theorem usedTokens_shape : ∀ k ∈ usedTokens,
    k = '\x01' :: ((k.drop 1).dropLast ++ ['m']) ∧ ∀ c ∈ (k.drop 1).dropLast, c ≠ 'm' ∧ c ≠ '\n' ∧ c ≠ '\r' := by
  decide +kernel

theorem truncGo_token (A : Arith) (cw : Char → Nat) (w : Nat) (full : Bool) (k rest : Str) (off : Nat)
    (hk : k ∈ usedTokens) :
    truncGo A cw w full (k ++ rest) off false
      = k ++ (if A.truncStop off w = true then T_OFF else truncGo A cw w full rest off false) := by
  obtain ⟨e, hn⟩ := usedTokens_shape k hk
  rw [e, List.cons_append, List.append_assoc, List.cons_append, List.nil_append,
    truncGo_marker A cw w full _ rest off hn, List.cons_append, List.append_assoc]
  rfl

theorem truncPrintable_token_head (A : Arith) (cw : Char → Nat) (w : Nat) (full : Bool) {k s : Str}
    (hk : k ∈ usedTokens) (h : k <+: s) : k <+: truncPrintable A cw s w full := by
  obtain ⟨rest, rfl⟩ := h
  exact ⟨_, (truncGo_token A cw w full k rest 0 hk).symm⟩

/-- `trunc_printable` keeps token form: a token passes whole, a text character is kept or is the last one
before the closing `OFF`. -/
theorem truncGo_TF (cw : Char → Nat) (w : Nat) (full : Bool) (segs : List Seg) (h : ∀ sg ∈ segs, GoodSeg sg) (off : Nat) :
    TF (truncGo specArith cw w full (flat segs) off false) := by
  induction segs generalizing off with
  | nil =>
    simp only [flat, List.flatMap_nil]
    rw [truncGo]
    exact TF_append (TF_tok T_OFF_mem) (by split; exact TF_pstr (pstr_spaces _); exact TF_nil)
  | cons sg rest ih =>
    have ih := fun off => ih (fun sg hs => h sg (List.mem_cons_of_mem _ hs)) off
    rw [flat_cons]
    cases sg with
    | tok k =>
      have hk : k ∈ usedTokens := h (.tok k) (by simp)
      simp only [Seg.flat]
      rw [truncGo_token specArith cw w full k (flat rest) off hk]
      refine TF_append (TF_tok hk) ?_
      split
      · exact TF_tok T_OFF_mem
      · exact ih off
    | txt s =>
      have hs : ∀ c ∈ s, TxtC c := h (.txt s) (by simp)
      simp only [Seg.flat]
      clear h
      induction s generalizing off with
      | nil => exact ih off
      | cons c cs ihs =>
        obtain ⟨he, hn, hr⟩ := txtC_facts (hs c (by simp))
        rw [List.cons_append, truncGo_count _ _ _ _ _ _ hn hr (by simp [scanStep, he])]
        refine TF_cons (hs c (by simp)) ?_
        split
        · exact TF_tok T_OFF_mem
        · exact ihs _ (fun x hx => hs x (by simp [hx]))

/-- `s` is in token form and prints `w` characters, leaving no escape open -/
def Prints (s : Str) (w : Nat) : Prop := TF s ∧ W s w

theorem Prints.tok {k : Str} (h : k ∈ usedTokens) : Prints k 0 := ⟨TF_tok h, W_tok h⟩

theorem Prints.txt {s : Str} (h : ∀ c ∈ s, TxtC c) : Prints s s.length :=
  ⟨TF_txt h, W_noesc s fun c hc => (txtC_facts (h c hc)).1⟩

theorem Prints.pstr {s : Str} (h : PStr s) : Prints s s.length := Prints.txt fun c hc => Or.inl (h c hc)

theorem Prints.take {s : Str} (w : Nat) (h : PStr s) (hlen : w ≤ s.length) : Prints (s.take w) w := by
  have := Prints.pstr (pstr_take w h)
  rwa [List.length_take, Nat.min_eq_left hlen] at this

theorem Prints.replicate {c : Char} (hc : TxtC c) (n : Nat) : Prints (List.replicate n c) n := by
  have := Prints.txt (s := List.replicate n c) fun x hx => (List.mem_replicate.mp hx).2 ▸ hc
  rwa [List.length_replicate] at this

theorem Prints.append {a b : Str} {m n : Nat} (ha : Prints a m) (hb : Prints b n) : Prints (a ++ b) (m + n) :=
  ⟨TF_append ha.1 hb.1, W_append ha.2 hb.2⟩

theorem prints_measure : Measure Prints := ⟨⟨TF_nil, W_nil⟩, Prints.append⟩

theorem Prints.wrap {tok s : Str} {w : Nat} (ht : tok ∈ usedTokens) (h : Prints s w) : Prints (tok ++ s ++ T_OFF) w := by
  have := ((Prints.tok ht).append h).append (Prints.tok T_OFF_mem)
  rwa [Nat.zero_add] at this

theorem Prints.trunc (cw : Char → Nat) (hcw : ∀ c, TxtC c → cw c = 1) {s : Str} (h : TF s) {w : Nat} (hw : 1 ≤ w) (full : Bool) :
    Prints (truncPrintable specArith cw s w full) (if full then w else min (pwidth s) w) := by
  constructor
  · obtain ⟨segs, rfl, g⟩ := h
    exact truncGo_TF cw w full segs g 0
  · exact truncGo_width cw w full s (fun c hc => ok_good cw hcw (h.okStr c hc)) 0 false hw

end Display
