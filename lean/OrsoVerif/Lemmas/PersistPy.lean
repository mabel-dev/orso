import OrsoVerif.Model.PersistPy
/-! The caster the C16 driver runs (`Model/PersistPy.lean`) meets the hypothesis the C16 theorems assume of casts. -/
namespace Persist.Py
open Persist

theorem classOf_tagged (c t : String) : classOf (tagged c t) = c := by
  simp [tagged, classOf, lookupKey]

theorem caster_idem (m : TypeName.Str) (v w : PyVal) (h : caster.parse m v = some w) (hw : caster.truthy w = true) :
    caster.parse m w = some w := by
  simp only [caster, parse] at h ⊢
  by_cases hn : String.ofList m = "NULL"
  · simp only [hn, if_true, Option.some.injEq] at h
    subst h
    simp [caster, truthy] at hw
  · simp only [hn, if_false] at h ⊢
    cases hl : producedClass.lookup (String.ofList m) with
    | none => simp [hl] at h
    | some cls =>
      simp only [hl] at h ⊢
      -- a value the cast produced has the class the cast produces, so casting it again returns it
      suffices hc : classOf w = cls by rw [if_pos hc]
      by_cases hc : classOf v = cls
      · simp only [hc, if_true, Option.some.injEq] at h
        subst h
        exact hc
      · simp only [hc, if_false] at h
        split at h
        case h_1 s hname =>
          rw [hname] at hl
          obtain rfl : _ = cls := Option.some.inj hl
          cases hp : parseIntText s <;> simp [hp] at h
          subst h
          rfl
        case h_5 => cases h
        -- DATE, TIMESTAMP, TIME: the text is tagged with the class
        all_goals
          rename_i s hname
          rw [hname] at hl
          obtain rfl : _ = cls := Option.some.inj hl
          cases h
          exact classOf_tagged _ _

end Persist.Py
