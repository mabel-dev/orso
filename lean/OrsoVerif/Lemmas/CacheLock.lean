import OrsoVerif.Lemmas.CacheLru
/-! C19: the lock of the repaired `lru_cache_with_expiry`.

`lstepThr_ok`: one line of one thread keeps the dictionary's keys unique, its entries and the thread in
order (`AllOwn`, `ThrOk`), touches the dictionary only from inside a `with lock:` block, and moves the
lock as the block structure says.  `LockInv` adds that at most one thread is inside a block (and then the
lock bit is set) and is carried along every schedule. -/
namespace Cache
variable {K : Type}

/-- what one line of thread `t`, run in world `w`, guarantees of its result `r` -/
structure StepOk (w : LWorld K) (t : LThr K) (r : LWorld K × LThr K) : Prop where
  nodup : (keysOf r.1.od.items).Nodup
  own : AllOwn r.1.log r.1.od.items
  thr : ThrOk r.1.od r.1.log r.2
  log : w.log <+: r.1.log
  od : t.pc.inLock = false → r.1.od = w.od
  /-- the line stays on its side of the lock, or enters a block through the free lock, or leaves one -/
  lock : r.1.lock = w.lock ∧ r.2.crit = t.crit ∨
    t.crit = false ∧ w.lock = false ∧ r.1.lock = true ∧ r.2.crit = true ∨
    t.crit = true ∧ r.2.crit = false

section Step
variable {w : LWorld K} {t t' : LThr K} (hnd : (keysOf w.od.items).Nodup) (hown : AllOwn w.log w.od.items)
include hnd hown

theorem StepOk.local (ht : ThrOk w.od w.log t') (hc : t'.crit = t.crit) : StepOk w t (w, t') :=
  ⟨hnd, hown, ht, List.prefix_rfl, fun _ => rfl, .inl ⟨rfl, hc⟩⟩

theorem StepOk.relock (b : Bool) (ht : ThrOk w.od w.log t')
    (hl : t.crit = false ∧ w.lock = false ∧ b = true ∧ t'.crit = true ∨ t.crit = true ∧ t'.crit = false) :
    StepOk w t ({ w with lock := b }, t') :=
  ⟨hnd, hown, ht, List.prefix_rfl, fun _ => rfl, .inr hl⟩

end Step

theorem StepOk.write {w : LWorld K} {t t' : LThr K} {od : OD K} (hnd' : (keysOf od.items).Nodup) (hown' : AllOwn w.log od.items)
    (ht : ThrOk od w.log t') (hin : t.pc.inLock = true) (hc : t'.crit = t.crit) :
    StepOk w t ({ w with od := od }, t') :=
  ⟨hnd', hown', ht, List.prefix_rfl, fun h => absurd (hin.symm.trans h) (by decide), .inl ⟨rfl, hc⟩⟩

variable [DecidableEq K]

/-- Every failure branch of a dictionary operation contradicts what the thread knows (`Know`), so the
exception paths are never entered. -/
theorem lstepThr_ok (maxSize : Nat) (valid : Option Int) (cost : K → Int) (w : LWorld K) (t : LThr K)
    (hnd : (keysOf w.od.items).Nodup) (hown : AllOwn w.log w.od.items) (ht : ThrOk w.od w.log t)
    (ho : t.out = none) : StepOk w t (lstepThr maxSize valid cost w t) := by
  obtain ⟨key, pc, now, res, out⟩ := t
  cases ho
  obtain ⟨hres, hk⟩ := ht
  cases pc with
  | clk => exact .local hnd hown ⟨hres, trivial⟩ rfl
  | acq1 =>
    cases hl : w.lock <;> simp only [lstepThr, hl, Bool.false_eq_true, if_false, if_true]
    · exact .relock hnd hown true ⟨hres, trivial⟩ (.inl ⟨rfl, hl, rfl, rfl⟩)
    · exact .local hnd hown ⟨hres, trivial⟩ rfl
  | iterFirst =>
    simp only [lstepThr]
    split
    · exact .local hnd hown ⟨hres, trivial⟩ rfl
    · rename_i e rest hitems
      have hkeys : keysOf w.od.items = [] ++ e.key :: keysOf rest := by rw [hitems]; rfl
      obtain ⟨h1, h2⟩ := iterStep_ok valid w _ e.key [] [] _ hnd hkeys (List.Sublist.refl _) hres rfl
      exact .local hnd hown h1 h2
  | iterNext cur ver acc =>
    cases cur with
    | none =>
      cases acc with
      | nil => exact .local hnd hown ⟨hres, trivial⟩ rfl
      | cons a l => exact .local hnd hown ⟨hres, hk⟩ rfl
    | some k =>
      obtain ⟨rfl, pre, post, hkeys, hsub⟩ := hk
      obtain ⟨h1, h2⟩ := iterStep_ok valid w _ k acc pre post hnd hkeys hsub hres rfl
      exact .local hnd hown h1 h2
  | del todo =>
    cases todo with
    | nil => exact .local hnd hown ⟨hres, trivial⟩ rfl
    | cons k rest =>
      have hk : (k :: rest).Sublist (keysOf w.od.items) := hk
      have hany := (any_key_iff w.od.items k).mpr (hk.subset List.mem_cons_self)
      simp only [lstepThr, hany, if_true]
      have hnd' : (keysOf (delKey w.od.items k)).Nodup := by rw [keysOf_delKey]; exact hnd.filter _
      cases rest with
      | nil => exact .write hnd' (hown.delKey k) ⟨hres, trivial⟩ rfl rfl
      | cons k2 rest =>
        refine .write hnd' (hown.delKey k) ⟨hres, ?_⟩ rfl rfl
        -- the keys still to delete are distinct from `k`, so they are still there
        show (k2 :: rest).Sublist (keysOf (delKey w.od.items k))
        have hkr : k ∉ k2 :: rest := (List.nodup_cons.mp (hk.nodup hnd)).1
        have hfil : (k2 :: rest).filter (fun x => decide (x ≠ k)) = k2 :: rest :=
          List.filter_eq_self.mpr (fun x hx => decide_eq_true (fun h : x = k => hkr (h ▸ hx)))
        rw [keysOf_delKey, ← hfil]
        exact ((List.sublist_cons_self k _).trans hk).filter _
  | inCheck =>
    simp only [lstepThr]
    split
    · rename_i hany; exact .local hnd hown ⟨hres, (any_key_iff _ _).mp hany⟩ rfl
    · exact .local hnd hown ⟨hres, trivial⟩ rfl
  | move =>
    obtain ⟨e, hf, hek⟩ := find_key_some w.od.items key hk
    simp only [lstepThr, hf]
    split
    · exact .local hnd hown ⟨hres, hk⟩ rfl
    · subst hek
      have hnd' : (keysOf (delKey w.od.items e.key ++ [e])).Nodup :=
        nodup_insert (by rw [keysOf_delKey]; exact hnd.filter _) (by rw [keysOf_delKey]; simp)
      refine .write hnd' ((hown.delKey _).append (hown e (List.mem_of_find?_eq_some hf))) ⟨hres, ?_⟩ rfl rfl
      show e.key ∈ keysOf (delKey w.od.items e.key ++ [e])
      exact List.mem_map.mpr ⟨e, List.mem_append_right _ List.mem_cons_self, rfl⟩
  | get =>
    obtain ⟨e, hf, hek⟩ := find_key_some w.od.items key hk
    simp only [lstepThr, hf]
    exact .local hnd hown ⟨hres, hek ▸ hown e (List.mem_of_find?_eq_some hf)⟩ rfl
  | rel1Hit v => exact .relock hnd hown false ⟨hres, hk⟩ (.inr ⟨rfl, rfl⟩)
  | rel1Miss => exact .relock hnd hown false ⟨hres, trivial⟩ (.inr ⟨rfl, rfl⟩)
  | call =>
    exact ⟨hnd, hown.mono (List.prefix_append _ _), ⟨fun v hv => by cases hv; exact Own.new _ _ _, rfl⟩, List.prefix_append _ _,
      fun _ => rfl, .inl ⟨rfl, rfl⟩⟩
  | acq2 =>
    cases hl : w.lock <;> simp only [lstepThr, hl, Bool.false_eq_true, if_false, if_true]
    · exact .relock hnd hown true ⟨hres, hk⟩ (.inl ⟨rfl, hl, rfl, rfl⟩)
    · exact .local hnd hown ⟨hres, hk⟩ rfl
  | store =>
    cases res with
    | none => cases hk
    | some id =>
      simp only [lstepThr]
      split
      · exact .write (by rw [keysOf_replace w.od.items ⟨key, now, id⟩]; exact hnd) (hown.replace key (hres id rfl))
          ⟨hres, rfl⟩ rfl rfl
      · rename_i hany
        exact .write (nodup_insert hnd (e := ⟨key, now, id⟩) (fun hm => hany ((any_key_iff _ _).mpr hm)))
          (hown.append (hres id rfl)) ⟨hres, rfl⟩ rfl rfl
  | len =>
    simp only [lstepThr]
    split
    · rename_i hlen
      exact .local hnd hown ⟨hres, hk, fun hnil => by rw [hnil] at hlen; exact absurd hlen (Nat.not_lt_zero _)⟩ rfl
    · exact .local hnd hown ⟨hres, hk⟩ rfl
  | pop =>
    simp only [lstepThr]
    split
    · rename_i hnil; exact absurd hnil hk.2
    · rename_i x rest hitems
      rw [hitems] at hnd hown
      exact .write (List.nodup_cons.mp hnd).2 hown.tail ⟨hres, hk.1⟩ rfl rfl
  | rel2 =>
    cases res with
    | none => cases hk
    | some id => exact .relock hnd hown false ⟨hres, hres id rfl⟩ (.inr ⟨rfl, rfl⟩)
  | cleanup cls => exact hk.elim
  | relErr cls => exact hk.elim

theorem getElem?_set_cases {α : Type} (l : List α) (i j : Nat) (a x : α) (h : (l.set i a)[j]? = some x) :
    (j = i ∧ a = x) ∨ (j ≠ i ∧ l[j]? = some x) := by
  by_cases hji : j = i
  · subst hji
    rw [List.getElem?_set, if_pos rfl] at h
    split at h
    · exact .inl ⟨rfl, Option.some.inj h⟩
    · cases h
  · rw [List.getElem?_set_ne (fun h' => hji h'.symm)] at h
    exact .inr ⟨hji, h⟩

/-- The invariant of the locked LRU wrapper (index based: the thread list may hold equal threads): the
dictionary's keys are unique and its entries their keys' own, at most one thread is inside a `with lock:`
block and then the lock is taken, and every thread is in order. -/
structure LockInv (c : LConc K) : Prop where
  nodup : (keysOf c.w.od.items).Nodup
  own : AllOwn c.w.log c.w.od.items
  excl : ∀ (i j : Nat) (ti tj : LThr K), c.thr[i]? = some ti → c.thr[j]? = some tj →
    ti.crit = true → tj.crit = true → i = j
  held : ∀ (j : Nat) (tj : LThr K), c.thr[j]? = some tj → tj.crit = true → c.w.lock = true
  thr : ∀ (j : Nat) (tj : LThr K), c.thr[j]? = some tj → ThrOk c.w.od c.w.log tj

omit [DecidableEq K] in
theorem LockInv.init (t0 : Int) (keys : List K) : LockInv (LConc.init t0 keys) := by
  have hst : ∀ (j : Nat) (tj : LThr K), (LConc.init t0 keys).thr[j]? = some tj → ∃ k, tj = LThr.start k := by
    intro j tj h
    obtain ⟨k, _, hk⟩ := Option.map_eq_some_iff.mp (List.getElem?_map ▸ h)
    exact ⟨k, hk.symm⟩
  refine ⟨List.nodup_nil, nofun, fun i _ ti _ hi _ hci => ?_, fun j tj hj hcj => ?_, fun j tj hj => ?_⟩
  · obtain ⟨k, rfl⟩ := hst i ti hi
    cases hci
  · obtain ⟨k, rfl⟩ := hst j tj hj
    cases hcj
  · obtain ⟨k, rfl⟩ := hst j tj hj
    exact ⟨nofun, trivial⟩

theorem LockInv.run (maxSize : Nat) (valid : Option Int) (cost : K → Int) (c : LConc K) (i : Nat) (t : LThr K)
    (hc : LockInv c) (hg : c.thr[i]? = some t) (ho : t.out = none) :
    LockInv { w := (lstepThr maxSize valid cost c.w t).1, thr := c.thr.set i (lstepThr maxSize valid cost c.w t).2 } := by
  obtain ⟨hnd, hown, hthr, hl, hod, hlock⟩ :=
    lstepThr_ok maxSize valid cost c.w t hc.nodup hc.own (hc.thr i t hg) ho
  generalize lstepThr maxSize valid cost c.w t = r at *
  obtain ⟨w', t'⟩ := r
  have hset := getElem?_set_cases c.thr i
  -- while another thread is inside a block, `t` is outside, stays outside, and leaves the lock taken
  have hother : ∀ (j : Nat) (tj : LThr K), j ≠ i → c.thr[j]? = some tj → tj.crit = true →
      t.crit = false ∧ t'.crit = false ∧ w'.lock = true := by
    intro j tj n g cj
    have htc : t.crit = false := by
      cases h : t.crit
      · rfl
      · exact absurd (hc.excl j i tj t g hg cj h) n
    have hlk0 := hc.held j tj g cj
    rcases hlock with ⟨hlk, hcr⟩ | ⟨_, hfree, _, _⟩ | ⟨htc', _⟩
    · exact ⟨htc, hcr.trans htc, hlk.trans hlk0⟩
    · exact absurd (hlk0.symm.trans hfree) (by decide)
    · exact absurd (htc'.symm.trans htc) (by decide)
  -- if `t` is inside a block after its line, the lock is taken: it was inside before, or it has just taken the lock
  have hself : t'.crit = true → w'.lock = true := by
    intro ct
    rcases hlock with ⟨hlk, hcr⟩ | ⟨_, _, hlk, _⟩ | ⟨_, hcr⟩
    · exact hlk.trans (hc.held i t hg (hcr.symm.trans ct))
    · exact hlk
    · exact absurd (ct.symm.trans hcr) (by decide)
  refine ⟨hnd, hown, fun i1 j1 ti tj h1 h2 c1 c2 => ?_, fun j tj h cj => ?_, fun j tj h => ?_⟩
  · rcases hset i1 t' ti h1 with ⟨rfl, rfl⟩ | ⟨n1, g1⟩ <;> rcases hset j1 t' tj h2 with ⟨rfl, rfl⟩ | ⟨n2, g2⟩
    · rfl
    · exact absurd (c1.symm.trans (hother j1 tj n2 g2 c2).2.1) (by decide)
    · exact absurd (c2.symm.trans (hother i1 ti n1 g1 c1).2.1) (by decide)
    · exact hc.excl i1 j1 ti tj g1 g2 c1 c2
  · rcases hset j t' tj h with ⟨_, rfl⟩ | ⟨n, g⟩
    · exact hself cj
    · exact (hother j tj n g cj).2.2
  · rcases hset j t' tj h with ⟨_, rfl⟩ | ⟨n, g⟩
    · exact hthr
    · -- another thread: while it is inside a block, `t` has left the dictionary alone
      exact (hc.thr j tj g).frame hl (fun cj => hod (by simpa [LThr.crit, ho] using (hother j tj n g cj).1))

theorem finish_of_run (maxSize : Nat) (valid : Option Int) (cost : K → Int) (P : LConc K → Prop)
    (hrun : ∀ (c : LConc K) (i : Nat) (t : LThr K), P c → c.thr[i]? = some t → t.out = none →
      P { w := (lstepThr maxSize valid cost c.w t).1, thr := c.thr.set i (lstepThr maxSize valid cost c.w t).2 }) :
    ∀ (fuel : Nat) (c : LConc K) (i : Nat) (t : LThr K), P c → c.thr[i]? = some t →
      P { w := (LConc.finishThr maxSize valid cost fuel c.w t).1,
          thr := c.thr.set i (LConc.finishThr maxSize valid cost fuel c.w t).2 } := by
  have hself : ∀ (c : LConc K) (i : Nat) (t : LThr K), c.thr[i]? = some t →
      ({ w := c.w, thr := c.thr.set i t } : LConc K) = c := by
    intro c i t h
    obtain ⟨hlt, rfl⟩ := List.getElem?_eq_some_iff.mp h
    rw [List.set_getElem_self]
  intro fuel
  induction fuel with
  | zero => intro c i t hp hg; rw [LConc.finishThr, hself c i t hg]; exact hp
  | succ n ih =>
    intro c i t hp hg
    rw [LConc.finishThr]
    split
    · rw [hself c i t hg]; exact hp
    · rename_i hd
      have h2 := ih _ i _ (hrun c i t hp hg (by simpa using hd))
        (List.getElem?_set_self (List.getElem?_eq_some_iff.mp hg).1)
      rw [List.set_set] at h2
      exact h2

theorem LockInv.step (maxSize : Nat) (valid : Option Int) (cost : K → Int) (c c' : LConc K) (s : SStep)
    (hc : LockInv c) (h : LConc.step maxSize valid cost c s = some c') : LockInv c' := by
  cases s with
  | tick d => cases h; exact ⟨hc.nodup, hc.own, hc.excl, hc.held, hc.thr⟩
  | run i =>
    simp only [LConc.step] at h
    split at h
    · cases h
    · rename_i t hg
      split at h
      · cases h
      · rename_i hd
        cases h
        exact LockInv.run maxSize valid cost c i t hc hg (by simpa using hd)
  | finish i =>
    simp only [LConc.step] at h
    split at h
    · cases h
    · rename_i t hg
      split at h
      · cases h
      · cases h
        exact finish_of_run maxSize valid cost LockInv (LockInv.run maxSize valid cost) _ c i t hc hg

theorem LockInv.runSched (maxSize : Nat) (valid : Option Int) (cost : K → Int) (ss : List SStep) :
    ∀ (c c' : LConc K), LockInv c → LConc.runSched maxSize valid cost c ss = some c' → LockInv c' := by
  induction ss with
  | nil => intro c c' hc h; cases h; exact hc
  | cons s ss ih =>
    intro c c' hc h
    rw [LConc.runSched] at h
    split at h
    · cases h
    · rename_i c1 hs
      exact ih c1 c' (LockInv.step maxSize valid cost c c1 s hc hs) h

end Cache
