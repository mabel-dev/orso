import OrsoVerif.Model.TypeNameDict
namespace TypeNameDict
open Gen.TypeNameDict

/-- No rewrite of `from_dict` fires on a declaration whose type is a text other than the written forms `'0'` and `'ARRAY'`
and whose element type (absent, null, a name, a member) is not the written `'0'`: it reaches the constructor unchanged. -/
theorem readDict_plain (t : List Char) (e : DVal) (h0 : t ≠ untypedValue) (ha : t ≠ ['A', 'R', 'R', 'A', 'Y'])
    (he : e.eqText untypedValue = false) : readDict ⟨.text t, e⟩ = some ⟨.text t, e⟩ := by
  have h0' : t ≠ ['0'] := h0
  have he' : e.eqText ['0'] = false := he
  -- `eqText` is unfolded on the text only; on the element it is `he'`
  have ht : ∀ s, DVal.eqText (.text t) s = decide (t = s) := fun _ => rfl
  simp [readDict, fromDictRewrites, evalTests, evalTest, Decl.get, typeKey, elemKey, ht, he', h0', ha]

end TypeNameDict
