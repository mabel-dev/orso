import OrsoVerif.Lemmas.CacheGen
/-! The generated wrappers are the hand-written statement-level machines (lawful equality), and
several wrappers with their own cache cells do not interfere. -/
namespace Cache
open Gen.CacheFns

section Call
variable {α β : Type} [DecidableEq α] [DecidableEq β]

/-- the single entry as the four slots of the generated wrapper -/
def encS : Option (SEntry (α × β)) → Option α × Option β × Option Nat × Int
  | none => (none, none, none, 0)
  | some e => (some e.key.1, some e.key.2, some e.res, e.time)

theorem single_wrapper_eq_singleCall (cost : α × β → Int) (valid : Option Int) (s : SState (α × β)) (k : α × β) :
    single_wrapper cost valid k.1 k.2 (encS s.entry) { now := s.now, log := s.log } =
      (some (singleCall valid cost s k).2.ret, encS (singleCall valid cost s k).1.entry,
        { now := (singleCall valid cost s k).1.now, log := (singleCall valid cost s k).1.log }) := by
  obtain ⟨a, b⟩ := k
  cases he : s.entry with
  | none =>
    rw [encS, single_wrapper_cases, if_neg (fun h => Bool.noConfusion h.1)]
    simp only [singleCall, he]
    rfl
  | some e =>
    obtain ⟨⟨ka, kb⟩, res, tm⟩ := e
    rw [encS, single_wrapper_cases]
    -- the three tests of the generated wrapper are the hit test of `singleCall`
    have hcond : ((some ka == some a) = true ∧ (some kb == some b) = true ∧ leInf (s.now - tm) valid = true) ↔
        ((ka, kb) = (a, b) ∧ fresh valid s.now tm = true) := by
      simp [leInf_eq_fresh, and_assoc]
    simp only [hcond, singleCall, he]
    split
    · rw [he]; rfl
    · rfl

variable [Hashable α] [Hashable β]

theorem keyMatch_eq (k1 k2 : α × β) : PyOD.keyMatch k1 k2 = decide (k1 = k2) := by
  by_cases h : k1 = k2
  · subst h; simp [PyOD.keyMatch]
  · simp [PyOD.keyMatch, h]

/-- the list of entries as the OrderedDict of the generated wrapper -/
def encL (c : List (LEntry (α × β))) : PyOD (α × β) (Int × Nat) := c.map (fun e => (e.key, (e.time, e.res)))

theorem encL_delKey (c : List (LEntry (α × β))) (k : α × β) : PyOD.delitem (encL c) k = encL (delKey c k) := by
  simp only [PyOD.delitem, encL, delKey, List.filter_map, keyMatch_eq, Function.comp_def, decide_not, ne_eq]

theorem encL_foldl (ks : List (α × β)) : ∀ c : List (LEntry (α × β)),
    ks.foldl (fun c k => PyOD.delitem c k) (encL c) = encL (ks.foldl delKey c) := by
  induction ks with
  | nil => intro c; rfl
  | cons k ks ih => intro c; simp only [List.foldl_cons, encL_delKey, ih]

omit [DecidableEq α] [DecidableEq β] [Hashable α] [Hashable β] in
theorem encL_expired (valid : Option Int) (now : Int) (c : List (LEntry (α × β))) :
    gExpired valid now (encL c) = expiredKeys valid now c := by
  simp only [gExpired, encL, expiredKeys, List.filter_map, List.map_map, Function.comp_def, gtInf_eq_not_leInf, leInf_eq_fresh]

theorem encL_find (c : List (LEntry (α × β))) (k : α × β) :
    (encL c).find? (fun e => PyOD.keyMatch e.1 k) = (c.find? (fun e => decide (e.key = k))).map (fun e => (e.key, (e.time, e.res))) := by
  simp only [encL, List.find?_map, keyMatch_eq, Function.comp_def]

theorem lru_wrapper_eq_lruCall (cost : α × β → Int) (maxSize : Nat) (valid : Option Int) (s : LState (α × β)) (k : α × β) :
    lru_wrapper cost maxSize valid k.1 k.2 (encL s.cache) { now := s.now, log := s.log } =
      (some (lruCall maxSize valid cost s k).2.ret, encL (lruCall maxSize valid cost s k).1.cache,
        { now := (lruCall maxSize valid cost s k).1.now, log := (lruCall maxSize valid cost s k).1.log }) := by
  obtain ⟨a, b⟩ := k
  have hc1 : (gExpired valid s.now (encL s.cache)).foldl (fun c k => PyOD.delitem c k) (encL s.cache) =
      encL (sweep valid s.now s.cache) := by rw [encL_expired, encL_foldl]; rfl
  rw [lru_wrapper_cases cost maxSize valid a b (encL s.cache) { now := s.now, log := s.log } hc1, encL_find]
  unfold lruCall
  generalize sweep valid s.now s.cache = c1
  cases hf : c1.find? (fun e => decide (e.key = (a, b))) with
  | some e =>
    simp only [hf, Option.map_some]
    show (_, PyOD.delitem (encL c1) (a, b) ++ _, _) = _
    rw [encL_delKey]
    simp [encL]
  | none =>
    have hx : encL c1 ++ [((a, b), s.now, s.log.length)] =
        encL (c1 ++ [({ key := (a, b), time := s.now, res := s.log.length } : LEntry (α × β))]) := by simp [encL]
    have hlen : ∀ l : List (LEntry (α × β)), (encL l).length = l.length := fun l => List.length_map _
    simp only [hf, Option.map_none, hx, hlen]
    split
    · simp [encL, List.map_tail]
    · rfl

end Call

section Run
variable {α β : Type} [DecidableEq α] [DecidableEq β]

/-- an event of the hand-written machines as an event of the generated wrappers -/
def gev {κ : Type} (e : Ev κ) : GEv κ := { key := e.key, now := e.now, ret := some e.ret }

theorem gSingleRun_eq (cost : α × β → Int) (valid : Option Int) (ops : List (Op (α × β))) : ∀ s : SState (α × β),
    gSingleRun cost valid (encS s.entry) { now := s.now, log := s.log } ops =
      ((encS (singleRun valid cost s ops).1.entry, { now := (singleRun valid cost s ops).1.now, log := (singleRun valid cost s ops).1.log }),
        (singleRun valid cost s ops).2.map gev) := by
  induction ops with
  | nil => intro s; rfl
  | cons op ops ih =>
    intro s
    cases op with
    | advance d => exact ih { s with now := s.now + d }
    | call k =>
      obtain ⟨hk, hn⟩ := singleCall_ev valid cost s k
      simp only [gSingleRun, singleRun, single_wrapper_eq_singleCall, ih, List.map_cons, gev, hk, hn]

variable [Hashable α] [Hashable β]

theorem gLruRun_eq (cost : α × β → Int) (maxSize : Nat) (valid : Option Int) (ops : List (Op (α × β))) : ∀ s : LState (α × β),
    gLruRun cost maxSize valid (encL s.cache) { now := s.now, log := s.log } ops =
      ((encL (lruRun maxSize valid cost s ops).1.cache, { now := (lruRun maxSize valid cost s ops).1.now, log := (lruRun maxSize valid cost s ops).1.log }),
        (lruRun maxSize valid cost s ops).2.map gev) := by
  induction ops with
  | nil => intro s; rfl
  | cons op ops ih =>
    intro s
    cases op with
    | advance d => exact ih { s with now := s.now + d }
    | call k =>
      obtain ⟨hk, hn⟩ := lruCall_ev maxSize valid cost s k
      simp only [gLruRun, lruRun, lru_wrapper_eq_lruCall, ih, List.map_cons, gev, hk, hn]

end Run

/-! ## several wrappers -/

section Multi
variable {K : Type} {σ : Type}

theorem upd_same {τ : Type} (f : Nat → τ) (i : Nat) (v : τ) : upd f i v i = v := by simp [upd]
theorem upd_other {τ : Type} (f : Nat → τ) (i j : Nat) (v : τ) (h : j ≠ i) : upd f i v j = f j := by simp [upd, h]

/-- With one cell per wrapper, wrapper `j` sees exactly what it would see alone: its events in a run on several
wrappers are the events of the machine run alone on `j`'s own calls (other wrappers' calls are clock advances), and
cell `j` / log `j` end as they end alone. -/
theorem multiRun_independent (M : Mach σ K) (j : Nat) (ops : List (AOp K)) : ∀ s : MState σ K,
    ((multiRun M false s ops).2.filter (fun p => p.1 = j)).map (·.2) =
      (machRun M (s.cells j) s.now (s.logs j) (projOps M false j s ops)).2 ∧
    ((multiRun M false s ops).1.cells j, (multiRun M false s ops).1.logs j) =
      ((machRun M (s.cells j) s.now (s.logs j) (projOps M false j s ops)).1.1,
       (machRun M (s.cells j) s.now (s.logs j) (projOps M false j s ops)).1.2.2) := by
  induction ops with
  | nil => intro s; simp [multiRun, projOps, machRun]
  | cons op ops ih =>
    intro s
    cases op with
    | advance d =>
      simp only [multiRun, projOps, machRun]
      exact ih { s with now := s.now + d }
    | call j' k =>
      have := ih { cells := upd s.cells j' (M.call (s.cells j') s.now (s.logs j') k).1.1,
                   now := (M.call (s.cells j') s.now (s.logs j') k).1.2.1,
                   logs := upd s.logs j' (M.call (s.cells j') s.now (s.logs j') k).1.2.2 }
      by_cases hj : j' = j
      · -- `j`'s own call: the machine alone makes the same call on the same cell, clock and log
        subst hj
        simp only [upd_same] at this
        simp only [multiRun, projOps, cellOf, Bool.false_eq_true, ↓reduceIte, machRun, List.filter_cons, decide_true,
          List.map_cons]
        exact ⟨by rw [this.1], this.2⟩
      · -- another wrapper's call: cell `j` and log `j` are untouched, the clock moves by what the call took
        simp only [upd_other _ _ _ _ (Ne.symm hj)] at this
        have hnow : ∀ x y : Int, x + (y - x) = y := by omega
        simp only [multiRun, projOps, cellOf, hj, Bool.false_eq_true, ↓reduceIte, machRun, List.filter_cons, decide_false, hnow]
        exact this

theorem multiRun_independent_init (M : Mach σ K) (t0 : Int) (j : Nat) (ops : List (AOp K))
    {r : (σ × Int × List (K × Int)) × List (Ev K)}
    (hr : machRun M M.init t0 [] (projOps M false j (MState.init M t0) ops) = r) :
    ((multiRun M false (MState.init M t0) ops).2.filter (fun p => p.1 = j)).map (·.2) = r.2 ∧
    (multiRun M false (MState.init M t0) ops).1.logs j = r.1.2.2 := by
  have h := multiRun_independent M j ops (MState.init M t0)
  exact ⟨h.1.trans (congrArg Prod.snd hr), (congrArg Prod.snd h.2).trans (congrArg (fun r => r.1.2.2) hr)⟩

variable [DecidableEq K]

theorem machRun_lru (maxSize : Nat) (valid : Option Int) (cost : K → Int) (ops : List (Op K)) : ∀ s : LState K,
    machRun (lruMach maxSize valid cost) s.cache s.now s.log ops =
      (((lruRun maxSize valid cost s ops).1.cache, (lruRun maxSize valid cost s ops).1.now, (lruRun maxSize valid cost s ops).1.log),
        (lruRun maxSize valid cost s ops).2) := by
  induction ops with
  | nil => intro s; rfl
  | cons op ops ih =>
    intro s
    cases op with
    | advance d => exact ih { s with now := s.now + d }
    | call k =>
      exact congrArg (fun r => (r.1, (lruCall maxSize valid cost s k).2 :: r.2)) (ih (lruCall maxSize valid cost s k).1)

theorem machRun_single (valid : Option Int) (cost : K → Int) (ops : List (Op K)) : ∀ s : SState K,
    machRun (singleMach valid cost) s.entry s.now s.log ops =
      (((singleRun valid cost s ops).1.entry, (singleRun valid cost s ops).1.now, (singleRun valid cost s ops).1.log),
        (singleRun valid cost s ops).2) := by
  induction ops with
  | nil => intro s; rfl
  | cons op ops ih =>
    intro s
    cases op with
    | advance d => exact ih { s with now := s.now + d }
    | call k =>
      exact congrArg (fun r => (r.1, (singleCall valid cost s k).2 :: r.2)) (ih (singleCall valid cost s k).1)

end Multi
end Cache
