import OrsoVerif.Model.IsoTime
import OrsoVerif.Lemmas.IsoDigits
import OrsoVerif.Lemmas.Basics
/-! Helper lemmas for C08: `datetime.time.fromisoformat` (`Model/IsoTime.lean`).  Every result has passed the range checks
(`Checked`); on ASCII text without a zone part the function is `parseHMSF` over the whole text (`timeFromIso_of_plain`), which
gives the layouts `HH`, `HH:MM`, `HH:MM:SS[.f…]`; `fracMicro` on the digits of a rendered fraction, and its bound. -/
namespace Iso

theorem finishTime_error (t : HMSF) (e : Exc) (h : finishTime t = .error e) : e = .valueError := by
  unfold finishTime at h
  split at h
  · cases h
  · injection h with h; exact h.symm

theorem finishTime_ok (t u : HMSF) (h : finishTime t = .ok u) :
    u = t ∧ t.hour ≤ 23 ∧ t.minute ≤ 59 ∧ t.second ≤ 59 ∧ t.micro ≤ 999999 := by
  unfold finishTime at h
  split at h
  · next hc => injection h with h; exact ⟨h.symm, hc⟩
  · cases h

def Checked (r : Except Exc HMSF) : Prop := r = .error .valueError ∨ ∃ t, r = finishTime t

theorem Checked.ite {c : Prop} [Decidable c] {x y : Except Exc HMSF} (hx : Checked x) (hy : Checked y) :
    Checked (if c then x else y) := by
  split <;> assumption

/-- Every path through `time_fromisoformat` ends in `ValueError` or in `new_time`'s range checks. -/
theorem timeFromUnits_checked (b : List Char) : Checked (timeFromUnits b) := by
  have err : Checked (.error .valueError) := Or.inl rfl
  have fin : ∀ t, Checked (finishTime t) := fun t => Or.inr ⟨t, rfl⟩
  unfold timeFromUnits
  dsimp only
  split
  · exact err
  · refine .ite (.ite err (fin _)) (.ite (.ite err (fin _)) ?_)
    split
    · exact err
    · exact .ite err (.ite err (fin _))

theorem timeFromIso_error (s : List Char) (e : Exc) (h : timeFromIso s = .error e) : e = .valueError := by
  rcases timeFromUnits_checked (units s) with h' | ⟨t, h'⟩ <;> rw [timeFromIso, h'] at h
  · injection h with h; exact h.symm
  · exact finishTime_error t e h

theorem timeFromIso_ok (s : List Char) (t : HMSF) (h : timeFromIso s = .ok t) :
    t.hour ≤ 23 ∧ t.minute ≤ 59 ∧ t.second ≤ 59 ∧ t.micro ≤ 999999 := by
  rcases timeFromUnits_checked (units s) with h' | ⟨u, h'⟩ <;> rw [timeFromIso, h'] at h
  · cases h
  · obtain ⟨rfl, hh⟩ := finishTime_ok u t h
    exact hh

theorem plain_of_isDigit {c : Char} (h : c.isDigit = true) : unitCount c = 1 ∧ isTzChar c = false := by
  have ne := beq_of_isDigit h
  refine ⟨?_, ?_⟩
  · have := (Char.toNat_of_isDigit h).2
    unfold unitCount
    rw [if_pos (by omega)]
  · unfold isTzChar
    rw [ne 'Z' (by decide), ne '+' (by decide), ne '-' (by decide)]
    rfl

theorem units_of_ascii (s : List Char) (h : ∀ c ∈ s, unitCount c = 1) : units s = s := by
  induction s with
  | nil => rfl
  | cons c t ih =>
    have ih := ih (fun x hx => h x (List.mem_cons_of_mem _ hx))
    simp only [units, List.flatMap_cons, h c List.mem_cons_self, List.replicate_one, List.singleton_append] at ih ⊢
    rw [ih]

theorem units_append (a b : List Char) : units (a ++ b) = units a ++ units b := by
  simp [units, List.flatMap_append]

theorem cAt_append_right (pre t : List Char) : cAt (pre ++ t) pre.length = cAt t 0 := by
  simp only [cAt, List.getD_eq_getElem?_getD]
  rw [List.getElem?_append_right (Nat.le_refl _), Nat.sub_self]

theorem parseDigits_app (ds pre rest : List Char) (acc : Nat) (h : ∀ c ∈ ds, c.isDigit = true) :
    parseDigits (pre ++ ds ++ rest) ds.length pre.length acc = some (digitsVal acc ds, pre.length + ds.length) := by
  induction ds generalizing pre acc with
  | nil => simp [parseDigits, digitsVal]
  | cons c t ih =>
    have hc := h c (List.mem_cons_self)
    have e : pre ++ c :: t ++ rest = (pre ++ [c]) ++ t ++ rest := by simp
    have hat : cAt (pre ++ c :: t ++ rest) pre.length = c := by
      rw [List.append_assoc, cAt_append_right]; rfl
    have ih := ih (pre ++ [c]) (10 * acc + digitVal c) (fun x hx => h x (List.mem_cons_of_mem _ hx))
    simp only [List.length_cons, parseDigits, hat, hc, if_true]
    rw [e]
    simp only [List.length_append, List.length_cons, List.length_nil] at ih
    rw [ih]
    simp [digitsVal]
    omega

theorem skipDigits_app (ds pre : List Char) (fuel : Nat) (h : ∀ c ∈ ds, c.isDigit = true) (hl : ds.length ≤ fuel) :
    skipDigits (pre ++ ds) fuel pre.length = pre.length + ds.length := by
  induction ds generalizing pre fuel with
  | nil =>
    cases fuel with
    | zero => rfl
    | succ f =>
      have : cAt (pre ++ []) pre.length = nul := by simp [cAt]
      have hn : nul.isDigit = false := by decide
      simp only [skipDigits, this, hn, Bool.false_eq_true, if_false, List.length_nil, Nat.add_zero]
  | cons c t ih =>
    have hc := h c (List.mem_cons_self)
    cases fuel with
    | zero => simp at hl
    | succ f =>
      have hat : cAt (pre ++ c :: t) pre.length = c := by rw [cAt_append_right]; rfl
      have ih := ih (pre ++ [c]) f (fun x hx => h x (List.mem_cons_of_mem _ hx)) (by simp at hl; omega)
      simp only [skipDigits, hat, hc, if_true]
      have e : pre ++ c :: t = (pre ++ [c]) ++ t := by simp
      rw [e]
      simp only [List.length_append, List.length_cons, List.length_nil] at ih
      rw [ih]
      simp
      omega

theorem fracPart_digits (pre ds : List Char) (hds : ∀ c ∈ ds, c.isDigit = true) (h m s pEnd : Nat)
    (hp : pEnd = pre.length + ds.length) :
    fracPart (pre ++ ds) pre.length pEnd h m s = some (false, ⟨h, m, s, fracMicro ds⟩) := by
  subst hp
  -- the (at most six) digits that are read, then those that are skipped
  have hk : (ds.take 6).length = min ds.length 6 := by rw [List.length_take, Nat.min_comm]
  have h1 := parseDigits_app (ds.take 6) pre (ds.drop 6) 0 (fun c hc => hds c (List.mem_of_mem_take hc))
  have h2 := skipDigits_app (ds.drop 6) (pre ++ ds.take 6) (pre ++ ds).length
    (fun c hc => hds c (List.mem_of_mem_drop hc)) (by simp only [List.length_append, List.length_drop]; omega)
  rw [List.append_assoc, List.take_append_drop] at h1 h2
  rw [hk] at h1
  simp only [List.length_append, hk, List.length_drop] at h2
  rw [show pre.length + min ds.length 6 + (ds.length - 6) = pre.length + ds.length by omega] at h2
  have hend : cAt (pre ++ ds) (pre.length + ds.length) = nul := by
    simp [cAt, List.getD_eq_getElem?_getD]
  have htp : (if pre.length + ds.length - pre.length ≥ 6 then 6 else pre.length + ds.length - pre.length)
      = min ds.length 6 := by
    split <;> omega
  unfold fracPart
  simp only [htp, h1, List.length_append, h2, hend, fracMicro, bne_self_eq_false]
  split
  · rfl
  · rw [show 6 - min ds.length 6 = 0 by omega, Nat.pow_zero, Nat.mul_one]

/-- On ASCII text without `Z`, `+`, `-` and without a leading `T`, `time_fromisoformat` is
`parse_hh_mm_ss_ff` over the whole text followed by the range checks. -/
theorem timeFromIso_of_plain {x : Char} {r : List Char} (hs : ∀ c ∈ x :: r, unitCount c = 1 ∧ isTzChar c = false)
    (hT : (x == 'T') = false) {t : HMSF} (h : parseHMSF (x :: r) 0 (x :: r).length = some (false, t)) :
    timeFromIso (x :: r) = finishTime t := by
  unfold timeFromIso timeFromUnits
  rw [units_of_ascii _ (fun c hc => (hs c hc).1)]
  simp only [cAt, List.getD_cons_zero, hT, List.findIdx?_eq_none_iff.mpr fun c hc => (hs c hc).2, Option.getD_none, h,
    Bool.false_eq_true, reduceIte]

theorem timeFromIso_plain (a b c d e f : Char) (ha : a.isDigit = true) (hb : b.isDigit = true) (hc : c.isDigit = true)
    (hd : d.isDigit = true) (he : e.isDigit = true) (hf : f.isDigit = true) :
    timeFromIso [a, b] = finishTime ⟨twoDigits a b, 0, 0, 0⟩ ∧
    timeFromIso [a, b, ':', c, d] = finishTime ⟨twoDigits a b, twoDigits c d, 0, 0⟩ ∧
    timeFromIso [a, b, ':', c, d, ':', e, f] = finishTime ⟨twoDigits a b, twoDigits c d, twoDigits e f, 0⟩ := by
  have hT := beq_of_isDigit ha 'T' (by decide)
  have colon : unitCount ':' = 1 ∧ isTzChar ':' = false := by decide
  refine ⟨timeFromIso_of_plain ?_ hT ?_, timeFromIso_of_plain ?_ hT ?_, timeFromIso_of_plain ?_ hT ?_⟩
  · simp [plain_of_isDigit, ha, hb]
  · simp [parseHMSF, hmsStep, parseDigits, cAt, ha, hb, nul, twoDigits]
  · simp [plain_of_isDigit, ha, hb, hc, hd, colon]
  · simp [parseHMSF, hmsStep, parseDigits, cAt, ha, hb, hc, hd, nul, twoDigits]
  · simp [plain_of_isDigit, ha, hb, hc, hd, he, hf, colon]
  · simp [parseHMSF, hmsStep, parseDigits, cAt, ha, hb, hc, hd, he, hf, nul, twoDigits]

theorem timeFromIso_fraction (a b c d e f sep : Char) (ha : a.isDigit = true) (hb : b.isDigit = true) (hc : c.isDigit = true)
    (hd : d.isDigit = true) (he : e.isDigit = true) (hf : f.isDigit = true) (hsep : sep = '.' ∨ sep = ',')
    (ds : List Char) (hds : ∀ x ∈ ds, x.isDigit = true) (hne : ds ≠ []) :
    timeFromIso (a :: b :: ':' :: c :: d :: ':' :: e :: f :: sep :: ds) =
      finishTime ⟨twoDigits a b, twoDigits c d, twoDigits e f, fracMicro ds⟩ := by
  have colon : unitCount ':' = 1 ∧ isTzChar ':' = false := by decide
  have hs : unitCount sep = 1 ∧ isTzChar sep = false := by rcases hsep with rfl | rfl <;> decide
  obtain ⟨k, hk⟩ : ∃ k, ds.length = k + 1 := by
    cases ds with
    | nil => exact absurd rfl hne
    | cons x t => exact ⟨t.length, rfl⟩
  refine timeFromIso_of_plain ?_ (beq_of_isDigit ha 'T' (by decide)) ?_
  · simp only [List.forall_mem_cons]
    exact ⟨plain_of_isDigit ha, plain_of_isDigit hb, colon, plain_of_isDigit hc, plain_of_isDigit hd, colon,
      plain_of_isDigit he, plain_of_isDigit hf, hs, fun x hx => plain_of_isDigit (hds x hx)⟩
  · have hlen : (a :: b :: ':' :: c :: d :: ':' :: e :: f :: sep :: ds).length = k + 10 := by
      simp only [List.length_cons, hk]
    have hsec : parseHMSF (a :: b :: ':' :: c :: d :: ':' :: e :: f :: sep :: ds) 0 (k + 10) =
        fracPart (a :: b :: ':' :: c :: d :: ':' :: e :: f :: sep :: ds) 9 (k + 10)
          (twoDigits a b) (twoDigits c d) (twoDigits e f) := by
      rcases hsep with rfl | rfl <;>
        simp [parseHMSF, hmsStep, parseDigits, cAt, ha, hb, hc, hd, he, hf, twoDigits]
    rw [hlen, hsec]
    exact fracPart_digits [a, b, ':', c, d, ':', e, f, sep] ds hds _ _ _ _
      (by simp only [List.length_cons, List.length_nil, hk]; omega)

/-- What `fromisoformat` refuses at the first two characters (`x` ASCII and not the optional `T`): leading white space, a sign,
a one-digit hour, a non-ASCII digit in second place. -/
theorem timeFromIso_needs_two_digits (x y : Char) (r : List Char) (hT : x ≠ 'T')
    (h : x.isDigit = false ∨ y.isDigit = false) (hy : unitCount x = 1) :
    timeFromIso (x :: y :: r) = .error .valueError := by
  have hyu : 1 ≤ unitCount y := by
    unfold unitCount
    split
    · omega
    · split
      · omega
      · split <;> omega
  obtain ⟨q, hq⟩ : ∃ q, units (y :: r) = y :: q := by
    obtain ⟨n, hn⟩ : ∃ n, unitCount y = n + 1 := ⟨unitCount y - 1, by omega⟩
    exact ⟨List.replicate n y ++ units r, by simp [units, List.flatMap_cons, hn, List.replicate_succ]⟩
  have hu : units (x :: y :: r) = x :: y :: q := by
    have : units (x :: y :: r) = x :: units (y :: r) := by simp [units, List.flatMap_cons, hy]
    rw [this, hq]
  have hx : (x == 'T') = false := by simp [hT]
  unfold timeFromIso timeFromUnits
  rw [hu]
  simp only [cAt, List.getD_cons_zero, hx, Bool.false_eq_true, if_false]
  have hp : ∀ pEnd, parseHMSF (x :: y :: q) 0 pEnd = none := by
    intro pEnd
    rcases h with h | h <;> simp [parseHMSF, hmsStep, parseDigits, cAt, h]
  simp only [hp]

theorem digitsVal_eq_ofDigitChars (acc : Nat) (ds : List Char) :
    digitsVal acc ds = Nat.ofDigitChars 10 ds acc := rfl

theorem take_padW (w k n : Nat) (h : k ≤ w) : (padW w n).take k = padW k (n / 10 ^ (w - k)) := by
  induction w generalizing n with
  | zero => obtain rfl := Nat.le_zero.mp h; rfl
  | succ w ih =>
    rcases Nat.lt_or_eq_of_le h with hlt | rfl
    · have hk : k ≤ w := Nat.le_of_lt_succ hlt
      rw [padW, List.take_append_of_le_length (by rw [length_padW]; exact hk), ih _ hk,
        Nat.div_div_eq_div_mul, ← Nat.pow_succ', Nat.succ_sub hk]
    · rw [List.take_of_length_le (by rw [length_padW]; exact Nat.le_refl _), Nat.sub_self, Nat.pow_zero,
        Nat.div_one]

theorem fracMicro_pad6 (us k : Nat) (hus : us ≤ 999999) :
    fracMicro ((pad6 us).take k) = truncMicro us k := by
  have hj : min k 6 ≤ 6 := Nat.min_le_right k 6
  have hlen : ((pad6 us).take k).length = min k 6 := by rw [List.length_take, pad6_eq_padW, length_padW]
  rw [fracMicro, truncMicro, hlen, Nat.min_eq_left hj, List.take_of_length_le (by rw [hlen]; exact hj),
    List.take_eq_take_min, pad6_eq_padW, length_padW, take_padW 6 _ us hj, digitsVal_eq_ofDigitChars,
    ofDigitChars_padW, Nat.zero_mul, Nat.zero_add, Nat.mod_eq_of_lt]
  rw [Nat.div_lt_iff_lt_mul (Nat.pow_pos (by decide)), ← Nat.pow_add, Nat.add_sub_cancel' hj]
  exact Nat.lt_succ_of_le hus

theorem twoDigits_pad (n : Nat) (h : n < 100) : twoDigits (digit (n / 10)) (digit n) = n := by
  simp [twoDigits]; omega

theorem digitsVal_lt (ds : List Char) (acc : Nat) (h : ∀ x ∈ ds, x.isDigit = true) :
    digitsVal acc ds + 1 ≤ (acc + 1) * 10 ^ ds.length := by
  induction ds generalizing acc with
  | nil => simp [digitsVal]
  | cons c t ih =>
    have hc : digitVal c ≤ 9 := by
      have := (Char.toNat_of_isDigit (h c List.mem_cons_self)).2
      unfold digitVal
      omega
    have ih := ih (10 * acc + digitVal c) (fun x hx => h x (List.mem_cons_of_mem _ hx))
    have e : digitsVal acc (c :: t) = digitsVal (10 * acc + digitVal c) t := rfl
    rw [e, List.length_cons, Nat.pow_succ]
    calc digitsVal (10 * acc + digitVal c) t + 1 ≤ (10 * acc + digitVal c + 1) * 10 ^ t.length := ih
      _ ≤ ((acc + 1) * 10) * 10 ^ t.length := Nat.mul_le_mul_right _ (by omega)
      _ = (acc + 1) * (10 ^ t.length * 10) := by rw [Nat.mul_assoc, Nat.mul_comm 10]

theorem fracMicro_le (ds : List Char) (h : ∀ x ∈ ds, x.isDigit = true) : fracMicro ds ≤ 999999 := by
  have hb := digitsVal_lt (ds.take 6) 0 (fun x hx => h x (List.mem_of_mem_take hx))
  rw [List.length_take, Nat.zero_add, Nat.one_mul, Nat.min_comm] at hb
  have h6 : min ds.length 6 + (6 - min ds.length 6) = 6 := Nat.add_sub_cancel' (Nat.min_le_right _ _)
  apply Nat.le_of_lt_succ
  calc fracMicro ds < 10 ^ min ds.length 6 * 10 ^ (6 - min ds.length 6) :=
        Nat.mul_lt_mul_of_lt_of_le hb (Nat.le_refl _) (Nat.pow_pos (by decide))
    _ = 999999 + 1 := by rw [← Nat.pow_add, h6]

end Iso
