import OrsoVerif.Lemmas.DistogramState
import OrsoVerif.Lemmas.DistogramInPlace
/-!
# One update of the faithful machine against one update of the reference

One lemma per path of a successful `update` — `exactHit_sim`, `insertTrim_sim` (Lemmas/DistogramRefine.lean),
`inPlace_shape` (Lemmas/DistogramInPlace.lean) — and `update_shape`, which puts them together.  From it:
`update_sim`, on a state that mirrors a valid reference state the result mirrors `updateRef` (bins, bounds and
limit) provided the reference saw a unique closest pair; and, ties or not, `update_induct`, the new bins are the
list after insertion with adjacent pairs merged, so that `update_inv` holds: every update conserves what merges do.
-/
namespace Distogram

variable {K : Type} [Field K] [LinearOrder K]

/-- The exact hit and the in-place shortcut do not touch `h.min` / `h.max`; the reference's `minO` / `maxO` give the same,
the value lying between two centres. -/
theorem bounds_of_within {s : RState K} (hs : Inv s) {v : K} {b b' : K × K} (hb : b ∈ s.bins) (hb' : b' ∈ s.bins)
    (h : b.1 ≤ v) (h' : v ≤ b'.1) : s.min = some (minO s.min v) ∧ s.max = some (maxO s.max v) := by
  obtain ⟨m, _, hm, _, hmb, _⟩ := hs.bounds hb
  obtain ⟨_, M, _, hM, _, hbM⟩ := hs.bounds hb'
  rw [hm, hM]
  exact ⟨congrArg some (if_neg (not_lt.mpr (le_trans hmb h))).symm,
    congrArg some (if_neg (not_lt.mpr (le_trans h' hbM))).symm⟩

/-- Nothing is trimmed and the bounds stay. -/
theorem exactHit_sim {h : Hist K} {v c vi fi : K} (hinv : Inv h.toR)
    (hb : h.bins[(locate h.bins v).2]? = some (vi, fi)) (hev : vi = v) :
    ({ h with bins := h.bins.set (locate h.bins v).2 (vi, fi + c) } : Hist K).toR = updateRef h.toR v c := by
  have hmem : (vi, fi) ∈ h.bins := List.mem_of_getElem? hb
  subst hev
  obtain ⟨hmin, hmax⟩ := bounds_of_within hinv hmem hmem (le_refl vi) (le_refl vi)
  refine toR_eq ?_ hmin hmax rfl
  show h.bins.set _ _ = trimRef h.cap _ (insertRef vi c h.bins)
  rw [insertRef_set vi c h.bins _ fi hinv.inc hb, trimRef_noop]
  rw [List.length_set]
  exact hinv.len

/-- **The shape of one successful `update`**: either it is exactly the reference update (exact hit, insert +
`_trim` — ties or not), or it went through the in-place shortcut on a full histogram and is the merge of an
adjacent pair `p` of the list after insertion, which is the reference's first closest pair whenever the closest
pair is unique. -/
theorem update_shape {h h' : Hist K} {v c : K} (hc : Coherent h) (hinv : Inv h.toR) (h1 : One1 h.bins)
    (hok : update h v c = .ok h') :
    h'.toR = updateRef h.toR v c ∨
    ∃ p, p + 1 < (insertRef v c h.bins).length ∧ (insertRef v c h.bins).length = h.cap + 1 ∧
      h'.bins = mergeAt p (insertRef v c h.bins) ∧
      (UniqueClosest (insertRef v c h.bins) → argminFirst (gaps (insertRef v c h.bins)) = p) ∧
      h'.min = some (minO h.min v) ∧ h'.max = some (maxO h.max v) ∧ h'.cap = h.cap := by
  have hi : Inc h.bins := hinv.inc
  obtain ⟨_, ⟨vi, fi, hb, hev, rfl⟩ | ⟨hnohit, ha⟩⟩ := update_cases hok
  · exact Or.inl (exactHit_sim hinv hb hev)
  rcases afterHit_cases ha with hx | ⟨⟨hneg, hpos, hfull⟩, hd, hcd, hx⟩
  · exact Or.inl (insertTrim_sim hc hi h1 hnohit hx)
  -- `hd` is `h` with the differences computed if there were none
  obtain ⟨sd, bd, md, xd, pd, cd⟩ := ensureDiffs_spec hcd
  rcases hx with hx | ⟨ib, hr, ha⟩
  · rw [← bd] at hi h1 hnohit hx
    exact Or.inl ((insertTrim_sim (cd hc) hi h1 hnohit hx).trans (congrArg (updateRef · v c) (toR_eq bd md xd pd)))
  -- the in-place shortcut: the value lies strictly between bins `index - 1` and `index`
  right
  have hle : h.bins.length ≤ h.cap := hinv.len
  have hne : h.bins ≠ [] := List.ne_nil_of_length_pos (Nat.lt_of_lt_of_le hinv.cap hfull)
  have hlt := locate_idx_lt hne hneg
  obtain ⟨hins, hbelow, habove⟩ := insertRef_interior (c := c) hne h1 hneg hnohit
  obtain ⟨bp, bi, hbp, hbi, _⟩ := searchInPlaceIndex_some hr
  have hbpv : bp.1 < v := hbelow _ bp (Nat.sub_lt hpos one_pos) (bd ▸ hbp)
  have hvbi : v < bi.1 := habove bi (bd ▸ hbi)
  have hbounds := bounds_of_within hinv (List.mem_of_getElem? (bd ▸ hbp)) (List.mem_of_getElem? (bd ▸ hbi))
    (le_of_lt hbpv) (le_of_lt hvbi)
  obtain ⟨p, hp, e1, eu, e2, e3, e4⟩ := inPlace_shape (v := v) (c := c) (cd hc) sd hpos hbp hbi hbpv hvbi hr ha
  rw [bd, ← hins] at e1 eu
  have hlen : (insertRef v c h.bins).length = h.bins.length + 1 := by
    rw [hins, List.length_insertIdx, if_pos (le_of_lt hlt)]
  refine ⟨p, ?_, ?_, e1, eu, ?_, ?_, e4.trans pd⟩
  · have hpl : p ≤ (locate h.bins v).2 := by
      rcases hp with rfl | rfl
      · exact Nat.sub_le _ _
      · exact le_refl _
    rw [hlen]
    exact Nat.succ_lt_succ (lt_of_le_of_lt hpl hlt)
  · rw [hlen, le_antisymm hle hfull]
  · rw [e2, md]
    exact hbounds.1
  · rw [e3, xd]
    exact hbounds.2

theorem update_sim {h h' : Hist K} {v c : K} (hc : Coherent h) (hinv : Inv h.toR) (h1 : One1 h.bins)
    (hok : update h v c = .ok h') (hnt : updateTie h.toR v c = false) :
    h'.toR = updateRef h.toR v c := by
  rcases update_shape hc hinv h1 hok with e | ⟨p, hp, hl, hb, hu, hmin, hmax, hcap⟩
  · exact e
  · -- one bin over the limit: the reference merges its first closest pair, which is `p` as it saw no tie
    obtain ⟨er, et⟩ := trimRef_succ_cap hinv.cap hl
    have huniq := uniqueClosest_of_tieIn (et.symm.trans hnt)
    exact toR_eq (by rw [hb, ← hu huniq]; exact er.symm) hmin hmax hcap

-- the merges keep order, counts and sums only where the order agrees with the arithmetic (`mergeAt_inc`, `mergeAt_wsum`)
variable [IsStrictOrderedRing K]

theorem one1_pos {l : List (K × K)} (h : One1 l) : Pos l := fun b hb => lt_of_lt_of_le one_pos (h b hb)

theorem add_one1 (f1 f2 : K) (h1 : 1 ≤ f1) (h2 : 1 ≤ f2) : 1 ≤ f1 + f2 :=
  le_add_of_le_of_nonneg h1 (le_trans zero_le_one h2)

/-- **One `update` of the faithful machine is an insertion followed by merges of adjacent pairs — ties or not**:
whatever the insertion establishes and every merge of an adjacent pair of a valid list keeps, holds of the new bins;
they are at most `cap`, and the bounds are widened by the value. -/
theorem update_induct {h h' : Hist K} {v c : K} (hc : Coherent h) (hinv : Inv h.toR) (h1 : One1 h.bins)
    (hok : update h v c = .ok h') (P : List (K × K) → Prop)
    (hstep : ∀ i l, Inc l → Pos l → P l → P (mergeAt i l)) (h0 : P (insertRef v c h.bins)) :
    (Inc h'.bins ∧ Pos h'.bins ∧ P h'.bins) ∧ h'.bins.length ≤ h.cap ∧
    h'.min = some (minO h.min v) ∧ h'.max = some (maxO h.max v) ∧ h'.cap = h.cap := by
  have li := insertRef_inc v c h.bins hinv.inc
  have lp := insertRef_pos v c (update_cases hok).1 h.bins hinv.pos
  rcases update_shape hc hinv h1 hok with e | ⟨p, hp, hl, hb, _, hmin, hmax, hcap⟩
  · have eb : h'.bins = trimRef h.cap _ (insertRef v c h.bins) := congrArg RState.bins e
    rw [eb]
    exact ⟨trimRef_induct P hstep _ _ _ li lp h0, trimRef_length _ hinv.cap _ _ (Nat.le_add_left _ _),
      congrArg RState.min e, congrArg RState.max e, congrArg RState.cap e⟩
  · rw [hb]
    exact ⟨⟨mergeAt_inc p _ li lp, mergeAt_pos p _ lp, hstep p _ li lp h0⟩,
      Nat.le_of_eq (Nat.succ.inj ((mergeAt_length p _ hp).trans hl)), hmin, hmax, hcap⟩

theorem update_inv {h h' : Hist K} {v c : K} (hc : Coherent h) (hinv : Inv h.toR) (h1 : One1 h.bins) (hc1 : 1 ≤ c)
    (hok : update h v c = .ok h') :
    Inv h'.toR ∧ One1 h'.bins ∧ mass h'.bins = mass h.bins + c ∧ wsum h'.bins = wsum h.bins + v * c ∧
    h'.min = some (minO h.min v) ∧ h'.max = some (maxO h.max v) ∧ h'.cap = h.cap := by
  obtain ⟨⟨hi', hp', ho, hm, hw, hwi⟩, hlen, hmin, hmax, hcap⟩ := update_induct hc hinv h1 hok
    (fun l => One1 l ∧ mass l = mass h.bins + c ∧ wsum l = wsum h.bins + v * c ∧
      Within (minO h.min v) (maxO h.max v) l)
    (fun i l li lp ⟨o, m, w, wi⟩ => ⟨mergeAt_counts add_one1 i l o, (mergeAt_mass i l).trans m,
      (mergeAt_wsum i l li lp).trans w, mergeAt_within i l li lp wi⟩)
    ⟨insertRef_counts add_one1 v hc1 h.bins h1, insertRef_mass v c h.bins, insertRef_wsum v c h.bins,
      insert_within h.toR hinv v c⟩
  exact ⟨Inv.of_bounds hi' hp' (le_of_le_of_eq hlen hcap.symm) (le_of_le_of_eq hinv.cap hcap.symm) hmin hmax hwi,
    ho, hm, hw, hmin, hmax, hcap⟩

end Distogram
