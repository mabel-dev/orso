import OrsoVerif.Model.Validate
/-!
# C05 — facts about the *statement* (`Validate.validateSpec`)

These lemmas do not mention the generated control flow: they say what the statement of the property
means (acceptance exactly on conforming records, exactness of the error content).
-/
namespace Validate.Spec
open Validate

theorem mem_excessNames (s : List Column) (r : Record) (k : String) :
    k ∈ excessNames s r ↔ (k ∈ keys r ∧ k ∉ names s) := by
  simp [excessNames, keys]

theorem excessNames_nil_iff (s : List Column) (r : Record) :
    excessNames s r = [] ↔ ∀ k ∈ keys r, k ∈ names s := by
  simp only [List.eq_nil_iff_forall_not_mem, mem_excessNames, not_and, Classical.not_not]

theorem isMissing_iff (r : Record) (c : Column) : isMissing r c = true ↔ lookup c.name r = none := by
  simp [isMissing]

theorem isNullViolation_iff (r : Record) (c : Column) :
    isNullViolation r c = true ↔ (lookup c.name r = some none ∧ c.nullable = false) := by
  unfold isNullViolation
  split <;> simp_all

theorem isWrongType_iff (r : Record) (c : Column) :
    isWrongType r c = true ↔
      ∃ cls ty, lookup c.name r = some (some cls) ∧ c.type = some ty ∧ isInstance cls ty = false := by
  unfold isWrongType
  split
  · simp_all
  · rename_i h
    exact ⟨nofun, fun ⟨cls, ty, hl, ht, _⟩ => (h cls ty hl ht).elim⟩

theorem mem_filter_map (s : List Column) (p : Column → Bool) (x : String) :
    x ∈ (s.filter p).map (·.name) ↔ ∃ c ∈ s, c.name = x ∧ p c = true := by
  simp only [List.mem_map, List.mem_filter]
  exact ⟨fun ⟨c, ⟨hc, hp⟩, hx⟩ => ⟨c, hc, hx, hp⟩, fun ⟨c, hc, hx, hp⟩ => ⟨c, ⟨hc, hp⟩, hx⟩⟩

theorem filter_map_nil_iff (s : List Column) (p : Column → Bool) :
    (s.filter p).map (·.name) = [] ↔ ∀ c ∈ s, p c = false := by
  simp [List.filter_eq_nil_iff]

/-- The three ways the statement ends: excess keys, reported alone; no column picked by any rule; some column picked. -/
theorem validateSpec_cases (s : List Column) (r : Record) :
    (excessNames s r ≠ [] ∧ validateSpec s r = .excess (excessNames s r))
    ∨ (excessNames s r = [] ∧
        (((s.filter (isMissing r)).map (·.name) = [] ∧ (s.filter (isNullViolation r)).map (·.name) = []
            ∧ (s.filter (isWrongType r)).map (·.name) = []) ∧ validateSpec s r = .ok
        ∨ ¬ ((s.filter (isMissing r)).map (·.name) = [] ∧ (s.filter (isNullViolation r)).map (·.name) = []
            ∧ (s.filter (isWrongType r)).map (·.name) = []) ∧
          validateSpec s r = .invalid ((s.filter (isMissing r)).map (·.name))
            ((s.filter (isNullViolation r)).map (·.name)) ((s.filter (isWrongType r)).map (·.name)))) := by
  unfold validateSpec
  by_cases hx : excessNames s r = []
  · refine Or.inr ⟨hx, ?_⟩
    simp only [hx, ne_eq, not_true_eq_false, if_false]
    split
    · exact Or.inl ⟨‹_›, rfl⟩
    · exact Or.inr ⟨‹_›, rfl⟩
  · exact Or.inl ⟨hx, if_pos hx⟩

theorem conforms_iff (s : List Column) (r : Record) :
    Conforms s r ↔ (excessNames s r = [] ∧ (s.filter (isMissing r)).map (·.name) = []
      ∧ (s.filter (isNullViolation r)).map (·.name) = [] ∧ (s.filter (isWrongType r)).map (·.name) = []) := by
  simp only [Conforms, excessNames_nil_iff, filter_map_nil_iff, ← Bool.not_eq_true, isMissing_iff, isNullViolation_iff,
    isWrongType_iff, not_exists, not_and, Classical.not_not, ne_eq]

/-- **Validation succeeds exactly when the record conforms** (keys all name columns, every column
present, nulls only in nullable columns, every non-null value an instance of its column's class;
untyped columns accept anything). -/
theorem validateSpec_ok_iff (s : List Column) (r : Record) : validateSpec s r = .ok ↔ Conforms s r := by
  rw [conforms_iff]
  rcases validateSpec_cases s r with ⟨hx, h⟩ | ⟨hx, ⟨hc, h⟩ | ⟨hc, h⟩⟩ <;> rw [h]
  · exact ⟨nofun, fun h => absurd h.1 hx⟩
  · exact ⟨fun _ => ⟨hx, hc⟩, fun _ => rfl⟩
  · exact ⟨nofun, fun h => absurd h.2 hc⟩

/-- The excess-keys error is raised exactly when some key is not a column, and it names precisely
those keys. -/
theorem excess_exact (s : List Column) (r : Record) :
    ((∃ ks, validateSpec s r = .excess ks) ↔ ∃ k ∈ keys r, k ∉ names s)
    ∧ ∀ ks, validateSpec s r = .excess ks → ∀ k, k ∈ ks ↔ (k ∈ keys r ∧ k ∉ names s) := by
  have hne : excessNames s r ≠ [] ↔ ∃ k ∈ keys r, k ∉ names s := by
    rw [ne_eq, excessNames_nil_iff]
    simp only [Classical.not_forall, exists_prop]
  rcases validateSpec_cases s r with ⟨hx, h⟩ | ⟨hx, ⟨_, h⟩ | ⟨_, h⟩⟩ <;> rw [h]
  · refine ⟨⟨fun _ => hne.mp hx, fun _ => ⟨_, rfl⟩⟩, fun ks hks k => ?_⟩
    cases hks
    exact mem_excessNames s r k
  · exact ⟨⟨nofun, fun h => absurd hx (hne.mpr h)⟩, nofun⟩
  · exact ⟨⟨nofun, fun h => absurd hx (hne.mpr h)⟩, nofun⟩

/-- The validation error names precisely the offending columns — also when several rules fire:
`missing` are exactly the absent columns, `nulls` exactly the non-nullable columns holding null,
`wrongType` exactly the typed columns whose non-null value is not an instance of the class. -/
theorem invalid_exact (s : List Column) (r : Record) (m n w : List String)
    (h : validateSpec s r = .invalid m n w) :
    (∀ x, x ∈ m ↔ ∃ c ∈ s, c.name = x ∧ lookup c.name r = none)
    ∧ (∀ x, x ∈ n ↔ ∃ c ∈ s, c.name = x ∧ lookup c.name r = some none ∧ c.nullable = false)
    ∧ (∀ x, x ∈ w ↔ ∃ c ∈ s, c.name = x ∧ ∃ cls ty, lookup c.name r = some (some cls) ∧ c.type = some ty
          ∧ isInstance cls ty = false)
    ∧ (m ≠ [] ∨ n ≠ [] ∨ w ≠ [])
    ∧ (∀ k ∈ keys r, k ∈ names s) := by
  rcases validateSpec_cases s r with ⟨_, h'⟩ | ⟨hx, ⟨_, h'⟩ | ⟨hc, h'⟩⟩ <;> rw [h'] at h
  · cases h
  · cases h
  · cases h
    refine ⟨fun x => ?_, fun x => ?_, fun x => ?_, ?_, (excessNames_nil_iff s r).mp hx⟩
    · simp only [mem_filter_map, isMissing_iff]
    · simp only [mem_filter_map, isNullViolation_iff]
    · simp only [mem_filter_map, isWrongType_iff]
    · simpa only [ne_eq, Decidable.not_and_iff_or_not] using hc

end Validate.Spec
