import OrsoVerif.Model.Cursor
import OrsoVerif.Lemmas.CursorFootprint
import OrsoVerif.Lemmas.Basics
/-!
The cursor's two machines.  The iterators of the code machine are read through the rows they have still to
deliver (`Backing.rest`), and a step of the code machine is then a step of the spec machine (`step_sim`); what a
step of the spec machine delivers is `step_delivers`.  Everything that depends on what the source says
(`Gen.Cursor.*`) enters through the hypothesis `GenFacts`: its fields are proved one by one as named theorems in
`Props/C04.lean`, so a changed guard breaks a theorem there, not this file.
-/
namespace Cursor
variable {α : Type}

/-- What the property needs of the generated definitions. -/
structure GenFacts : Prop where
  size : ∀ (a : Nat) (k : Option Nat), fetchCount a k = k.getD a
  guardOne : ∀ b, Gen.Cursor.fetchoneRefuses b = b
  guardMany : ∀ b, Gen.Cursor.fetchmanyRefuses b = b
  guardAll : ∀ b, Gen.Cursor.fetchallRefuses b = b
  initLive : ∀ b, Gen.Cursor.initCursorLive b = true
  appendInv : ∀ a b, Gen.Cursor.appendInvalidates a b = true
  skips : Gen.Cursor.skipsEmptyTables = true
  limit : ∀ p m : Nat, Gen.Cursor.limitReached (p : Int) (m : Int) ↔ m ≤ p
  bump : ∀ p : Nat, (Gen.Cursor.processedAfter (p : Int)).toNat = p + 1
  /-- a completing `append` on a frame whose rows are not a list drops the cursor -/
  appendLazy : ∀ r n, Gen.Cursor.appendDropsCursor false r n = true
  /-- wherever `append` can be left by an exception: if the row has been stored, or the iterator behind a
  lazily backed frame has been run to its end by `materialize()`, the cursor has been dropped -/
  rejectSafe : ∀ p ∈ Gen.Cursor.appendPoints, ∀ l r n,
    (p.stored l r n = true → p.dropped l r n = true) ∧ (p.materialized false r n = true → p.dropped false r n = true)

theorem skipLoad_spec (hs : Gen.Cursor.skipsEmptyTables = true) (ts : List (List α)) :
    (∀ r rest ts', skipLoad ts = (some (r, rest), ts') → ts.flatten = r :: (rest ++ ts'.flatten)) ∧
    (∀ ts', skipLoad ts = (none, ts') → ts.flatten = [] ∧ ts' = []) := by
  induction ts with
  | nil => simp [skipLoad]
  | cons t ts ih =>
    cases t with
    | nil => simpa only [skipLoad, hs, if_true, List.flatten_cons, List.nil_append] using ih
    | cons r rest => simp [skipLoad]

theorem Chunks.next_spec (G : GenFacts) (c : Chunks α) :
    (c.next).1 = c.rows.head? ∧ (c.next).2.rows = c.rows.tail := by
  obtain ⟨tables, current, processed, maxSize⟩ := c
  have hsl := skipLoad_spec G.skips tables
  cases maxSize with
  | none =>
    simp only [Chunks.next, Chunks.limit, Chunks.rows, Chunks.bump]
    cases current with
    | cons r rest => simp
    | nil =>
      rcases hq : skipLoad tables with ⟨_ | ⟨r, rest⟩, ts'⟩
      · have := hsl.2 ts' hq; simp [this.1, this.2]
      · have := hsl.1 r rest ts' hq; simp [this]
  | some m =>
    simp only [Chunks.next, Chunks.limit, Chunks.rows, Chunks.bump, G.limit, G.bump]
    by_cases hl : m ≤ processed
    · have h0 : m - processed = 0 := by omega
      simp [hl, h0]
    · have hpos : m - processed = (m - (processed + 1)) + 1 := by omega
      simp only [hl, decide_false, Bool.false_eq_true, if_false]
      cases current with
      | cons r rest => rw [hpos]; simp
      | nil =>
        rcases hq : skipLoad tables with ⟨_ | ⟨r, rest⟩, ts'⟩
        · have := hsl.2 ts' hq; simp [this.1, this.2]
        · have := hsl.1 r rest ts' hq; rw [hpos]; simp [this]

def Backing.store : Backing α → Option (List α)
  | .eager rows _ => some rows
  | .lazy _ => none

theorem Backing.next_spec (G : GenFacts) (b : Backing α) :
    (b.next).1 = b.rest.head? ∧ (b.next).2.rest = b.rest.tail ∧ (b.next).2.store = b.store := by
  cases b with
  | eager rows p =>
    cases p with
    | none => simp [Backing.next, Backing.rest, Backing.store]
    | some p =>
      simp only [Backing.next, Backing.rest]
      cases hg : rows[p]? with
      | none =>
        have : rows.drop p = [] := List.drop_eq_nil_iff.mpr (List.getElem?_eq_none_iff.mp hg)
        simp [this, Backing.store]
      | some r => simp [Backing.store, List.head?_drop, hg, List.tail_drop]
  | lazy src =>
    have := Chunks.next_spec G src
    simp [Backing.next, Backing.rest, Backing.store, this.1, this.2]

theorem pull_spec (G : GenFacts) (n : Nat) (b : Backing α) :
    (pull n b).1 = b.rest.take n ∧ (pull n b).2.rest = b.rest.drop n ∧ (pull n b).2.store = b.store := by
  induction n generalizing b with
  | zero => simp [pull]
  | succ n ih =>
    have hn := Backing.next_spec G b
    rcases hb : b.next with ⟨r, b'⟩
    rw [hb] at hn
    simp only at hn
    cases hr : b.rest with
    | nil =>
      rw [hr] at hn
      simp only [List.head?_nil, List.tail_nil] at hn
      simp [pull, hb, hn.1, hn.2.1, hn.2.2]
    | cons x t =>
      rw [hr] at hn
      simp only [List.head?_cons, List.tail_cons] at hn
      have := ih b'
      simp [pull, hb, hn.1, this.1, this.2.1, this.2.2, hn.2.1, hn.2.2]

theorem fuel_gt (b : Backing α) : b.rest.length < b.fuel := by
  cases b with
  | eager rows p => cases p <;> simp only [Backing.rest, Backing.fuel, List.length_drop, List.length_nil] <;> omega
  | lazy src =>
    obtain ⟨tables, current, processed, maxSize⟩ := src
    cases maxSize <;> simp only [Backing.rest, Backing.fuel, Chunks.rows, List.length_take, List.length_append] <;> omega

theorem pull_fuel (G : GenFacts) (b : Backing α) (j : Nat) :
    (pull (b.fuel + j) b).1 = b.rest ∧ (pull (b.fuel + j) b).2.rest = [] := by
  have h := pull_spec G (b.fuel + j) b
  have hf := fuel_gt b
  exact ⟨by rw [h.1, List.take_of_length_le (by omega)], by rw [h.2.1, List.drop_of_length_le (by omega)]⟩

/-- The loop the statement-level translation of `fetchmany` produces (`forRange` over the pair
`(entries, cursor)`, `entries.append(entry)` per row, `break` at `StopIteration`) is `pull`. -/
theorem forRange_pull (body : List α × Backing α → Loop (List α × Backing α))
    (h1 : ∀ acc b r b', b.next = (some r, b') → body (acc, b) = .next (acc ++ [r], b'))
    (h2 : ∀ acc b b', b.next = (none, b') → body (acc, b) = .stop (acc, b'))
    (n : Nat) (acc : List α) (b : Backing α) :
    forRange n (acc, b) body = (acc ++ (pull n b).1, (pull n b).2) := by
  induction n generalizing acc b with
  | zero => simp [forRange, pull]
  | succ n ih =>
    rcases hb : b.next with ⟨_ | r, b'⟩
    · simp [forRange, pull, hb, h2 acc b b' hb]
    · simp [forRange, pull, hb, h1 acc b r b' hb, ih]

theorem filter_map_flatten {γ δ : Type} (l : List γ) (p : γ → Bool) (f : γ → δ) :
    (l.filter p).map f = (l.map (fun x => if p x then [f x] else [])).flatten := by
  induction l with
  | nil => rfl
  | cons x l ih => by_cases h : p x <;> simp [h, ih]

def storeOk (b : Backing α) (s : State α) : Prop :=
  match b with
  | .eager rows _ => s.rows = rows
  | .lazy _ => True

/-- The code machine `f` and the spec machine `s` are at the same point of the same history. -/
def Sim (f : Frame α) (s : State α) : Prop :=
  f.arraysize = s.arraysize ∧ f.live = s.valid ∧
  (s.valid = true → f.backing.rest = s.rows.drop s.pos) ∧ storeOk f.backing s

/-- Operations allowed on this frame: everything on a materialised frame, the cursor-only alphabet on a
lazily backed one. -/
def Allowed (f : Frame α) (op : Op α) : Prop := f.backing.store.isSome = true ∨ LazyOk op = true

theorem rejectPoint_safe (G : GenFacts) (stage : Nat) (l r n : Bool) :
    ((rejectPoint stage).stored l r n = true → (rejectPoint stage).dropped l r n = true) ∧
    ((rejectPoint stage).materialized false r n = true → (rejectPoint stage).dropped false r n = true) := by
  unfold rejectPoint
  cases hg : Gen.Cursor.appendPoints[stage]? with
  | none => simp
  | some p => simpa using G.rejectSafe p (List.mem_of_getElem? hg) l r n

/-- One step of the code machine is the step of the spec machine on the same operation — a rejected
append read as `Impl.tag` says (`drops` = what the source's statement order leaves behind).  The frame
keeps the kind of backing it has, so what is `Allowed` stays so. -/
theorem step_sim (G : GenFacts) (f : Frame α) (s : State α) (op : Op α) (h : Sim f s) (ha : Allowed f op) :
    (Impl.step f op).2 = (step s (Impl.tag f op)).2 ∧ Sim (Impl.step f op).1 (step s (Impl.tag f op)).1 ∧
    (Impl.step f op).1.backing.store.isSome = f.backing.store.isSome := by
  -- name the fields: the two machines hold one arraysize `a` and one flag `live`
  obtain ⟨b, a, live, nt, sr⟩ := f
  obtain ⟨rows, pos, a', valid⟩ := s
  obtain ⟨hsize, hlive, hrest, hstore⟩ := h
  simp only at hsize hlive hrest
  subst hsize hlive
  -- a fetch on a live cursor: the iterator is left `n` rows further on (`b'`), the position moves past the rows delivered
  have adv : live = true → ∀ (n : Nat) (b' : Backing α), b'.rest = b.rest.drop n → b'.store = b.store →
      Sim ⟨b', a, live, nt, sr⟩ ⟨rows, pos + ((rows.drop pos).take n).length, a, live⟩ := by
    intro hv n b' hr hst
    refine ⟨rfl, rfl, fun _ => by rw [hr, hrest hv, ← List.drop_drop, List.length_take, List.drop_min_length], ?_⟩
    cases b' with
    | lazy _ => trivial
    | eager rows' p' =>
      cases b with
      | lazy _ => cases hst
      | eager rows p => cases hst; exact hstore
  cases op with
  | fetchone =>
    cases live with
    | false => simpa [Impl.step, step, Impl.tag, G.guardOne, Sim] using hstore
    | true =>
      have hn := Backing.next_spec G b
      rw [hrest rfl, List.head?_drop] at hn
      have hadv := adv rfl 1 _ (by rw [hn.2.1, hrest rfl, List.drop_one]) hn.2.2
      simp only [Impl.step, step, Impl.tag, G.guardOne, Bool.not_true, Bool.false_eq_true, if_false, if_true]
      cases hg : rows[pos]? with
      | none =>
        rw [List.drop_eq_nil_iff.mpr (List.getElem?_eq_none_iff.mp hg)] at hadv
        exact ⟨by rw [hn.1, hg], hadv, congrArg Option.isSome hn.2.2⟩
      | some r =>
        rw [List.drop_eq_getElem_cons (List.getElem?_eq_some_iff.mp hg).1] at hadv
        exact ⟨by rw [hn.1, hg], hadv, congrArg Option.isSome hn.2.2⟩
  | fetchmany k =>
    cases live with
    | false => simpa [Impl.step, step, Impl.tag, G.guardMany, Sim] using hstore
    | true =>
      have hp := pull_spec G (k.getD a) b
      simp only [Impl.step, step, Impl.tag, G.guardMany, G.size, Bool.not_true, Bool.false_eq_true, if_false, if_true]
      exact ⟨by rw [hp.1, hrest rfl], adv rfl _ _ hp.2.1 hp.2.2, congrArg Option.isSome hp.2.2⟩
  | fetchall =>
    cases live with
    | false => simpa [Impl.step, step, Impl.tag, G.guardAll, Sim] using hstore
    | true =>
      have hp := pull_spec G b.fuel b
      -- the fuel of `list(cursor)` exceeds what is left, so taking that many rows takes them all
      have hf : (rows.drop pos).take b.fuel = rows.drop pos :=
        List.take_of_length_le (by have := fuel_gt b; rw [hrest rfl] at this; omega)
      have hadv := adv rfl _ _ hp.2.1 hp.2.2
      rw [hf] at hadv
      simp only [Impl.step, step, Impl.tag, G.guardAll, Bool.not_true, Bool.false_eq_true, if_false, if_true]
      exact ⟨by rw [hp.1, hrest rfl, hf], hadv, congrArg Option.isSome hp.2.2⟩
  | setArraysize n => exact ⟨rfl, ⟨rfl, rfl, hrest, hstore⟩, rfl⟩
  | observe k =>
    cases b with
    | eager rows' p => cases k <;> exact ⟨rfl, ⟨rfl, rfl, hrest, hstore⟩, rfl⟩
    | lazy src =>
      cases k with
      | pure => exact ⟨rfl, ⟨rfl, rfl, hrest, hstore⟩, rfl⟩
      | _ => simp [Allowed, Backing.store, LazyOk] at ha
  | append r =>
    cases b with
    | eager rows' p =>
      simp only [Impl.tag, Impl.step, G.appendInv, step]
      exact ⟨trivial, ⟨rfl, by simp, nofun, congrArg (· ++ [r]) hstore⟩, rfl⟩
    | lazy src =>
      -- `materialize()` has run the iterator to its end and the cursor is dropped: every fetch refuses
      simp only [Impl.tag, Impl.step, G.appendLazy, step]
      exact ⟨trivial, ⟨rfl, by simp, nofun, trivial⟩, rfl⟩
  | reject st d r =>
    have hP := rejectPoint_safe G st
    -- what is left of the simulation when the cursor survives: the iterator was not touched
    have keep : ∀ x : Bool, (live && !x) = true → b.rest = rows.drop pos :=
      fun x hv => hrest (Bool.and_eq_true_iff.mp hv).1
    cases b with
    | eager rows' p =>
      simp only [Impl.tag, Impl.step, Impl.rejectStores, Impl.rejectDrops]
      rcases Bool.eq_false_or_eq_true ((rejectPoint st).stored true sr nt) with hs | hs
      · -- left after the row was stored: then the cursor has been dropped — an append, for the frame
        simp only [hs, (hP true _ _).1 hs, if_true, step]
        exact ⟨trivial, ⟨rfl, by simp, nofun, congrArg (· ++ [r]) hstore⟩, rfl⟩
      · simp only [hs, Bool.false_eq_true, if_false, step]
        exact ⟨trivial, ⟨rfl, rfl, keep _, hstore⟩, trivial⟩
    | lazy src =>
      simp only [Impl.tag, Impl.step, Impl.rejectStores, Impl.rejectDrops]
      rcases Bool.eq_false_or_eq_true ((rejectPoint st).stored false sr nt) with hs | hs
      · simp only [hs, (hP false _ _).1 hs, if_true, step]
        exact ⟨trivial, ⟨rfl, by simp, nofun, trivial⟩, rfl⟩
      · simp only [hs, Bool.false_eq_true, if_false, step]
        rcases Bool.eq_false_or_eq_true ((rejectPoint st).materialized false sr nt) with hm | hm
        · -- the iterator has been run to its end outside the fetch calls: the cursor must be gone
          simp only [hm, (hP false _ _).2 hm, if_true]
          exact ⟨trivial, ⟨rfl, by simp, by simp, trivial⟩, rfl⟩
        · simp only [hm, Bool.false_eq_true, if_false]
          exact ⟨trivial, ⟨rfl, rfl, keep _, trivial⟩, trivial⟩

theorem lazyOk_tag (f : Frame α) (op : Op α) : LazyOk (Impl.tag f op) = LazyOk op := by
  cases op with
  | reject st d r => by_cases h : Impl.rejectStores f st = true <;> simp [Impl.tag, LazyOk, h]
  | _ => rfl

theorem run_sim (G : GenFacts) (ops : List (Op α)) (f : Frame α) (s : State α) (h : Sim f s)
    (ha : f.backing.store.isSome = true ∨ ∀ op ∈ ops, LazyOk op = true) :
    (Impl.run f ops).2 = (run s (Impl.annot f ops)).2 ∧ Sim (Impl.run f ops).1 (run s (Impl.annot f ops)).1 ∧
    (Impl.run f ops).1.backing.store.isSome = f.backing.store.isSome := by
  induction ops generalizing f s with
  | nil => exact ⟨rfl, h, rfl⟩
  | cons op ops ih =>
    have h1 := step_sim G f s op h (ha.imp id fun ha => ha op List.mem_cons_self)
    have h2 := ih (Impl.step f op).1 (step s (Impl.tag f op)).1 h1.2.1
      (ha.imp h1.2.2.trans fun ha o ho => ha o (List.mem_cons_of_mem _ ho))
    simp only [Impl.run, run, Impl.annot]
    exact ⟨by rw [h1.1, h2.1], h2.2.1, h2.2.2.trans h1.2.2⟩

theorem run_append (s : State α) (a b : List (Op α)) :
    run s (a ++ b) = ((run (run s a).1 b).1, (run s a).2 ++ (run (run s a).1 b).2) := by
  induction a generalizing s with
  | nil => simp [run]
  | cons op a ih => simp [run, ih]

theorem Impl.run_append (f : Frame α) (a b : List (Op α)) :
    Impl.run f (a ++ b) = ((Impl.run (Impl.run f a).1 b).1, (Impl.run f a).2 ++ (Impl.run (Impl.run f a).1 b).2) := by
  induction a generalizing f with
  | nil => simp [Impl.run]
  | cons op a ih => simp [Impl.run, ih]

theorem take_append_of_prefix_drop {l got : List α} {p : Nat} (h : got <+: l.drop p) :
    l.take p ++ got = l.take (p + got.length) := by
  rw [List.take_add]
  exact congrArg _ (List.prefix_iff_eq_take.mp h)

/-- All that `C04.Inv` and `Spent` need to know of a step. -/
theorem step_delivers (s : State α) (op : Op α) :
    (step s op).1.pos = s.pos + (fetched (step s op).2).length ∧
    ((step s op).1.valid = true → s.valid = true ∧ (step s op).1.rows = s.rows) ∧
    (if s.valid then fetched (step s op).2 <+: s.rows.drop s.pos else fetched (step s op).2 = []) := by
  obtain ⟨rows, pos, a, valid⟩ := s
  cases valid with
  | false => cases op <;> exact ⟨rfl, nofun, rfl⟩
  | true =>
    cases op with
    | fetchone =>
      simp only [step, if_true]
      cases hg : rows[pos]? with
      | none => exact ⟨rfl, fun _ => ⟨trivial, rfl⟩, List.nil_prefix⟩
      | some r =>
        refine ⟨rfl, fun _ => ⟨trivial, rfl⟩, ?_⟩
        rw [List.drop_eq_getElem_cons (List.getElem?_eq_some_iff.mp hg).1, (List.getElem?_eq_some_iff.mp hg).2]
        exact List.prefix_append [r] _
    | fetchmany k => exact ⟨rfl, fun _ => ⟨rfl, rfl⟩, List.take_prefix _ _⟩
    | fetchall => exact ⟨rfl, fun _ => ⟨rfl, rfl⟩, List.prefix_refl _⟩
    | append r => exact ⟨rfl, nofun, List.nil_prefix⟩
    | _ => exact ⟨rfl, fun _ => ⟨rfl, rfl⟩, List.nil_prefix⟩

/-- A state that cannot deliver any more: invalidated by an append, or at the end of its rows. -/
def Spent (s : State α) : Prop := s.valid = true → s.rows.length ≤ s.pos

theorem spent_step (s : State α) (op : Op α) (h : Spent s) :
    fetched (step s op).2 = [] ∧ Spent (step s op).1 := by
  obtain ⟨hpos, hkeep, hgot⟩ := step_delivers s op
  have h0 : fetched (step s op).2 = [] := by
    split at hgot
    · rw [List.drop_eq_nil_iff.mpr (h ‹_›)] at hgot
      exact List.prefix_nil.mp hgot
    · exact hgot
  refine ⟨h0, fun hv => ?_⟩
  rw [(hkeep hv).2, hpos, h0]
  exact h (hkeep hv).1

theorem spent_run (ops : List (Op α)) (s : State α) (h : Spent s) : ∀ o ∈ (run s ops).2, fetched o = [] := by
  induction ops generalizing s with
  | nil => intro o ho; simp [run] at ho
  | cons op ops ih =>
    intro o ho
    simp only [run, List.mem_cons] at ho
    rcases ho with rfl | ho
    · exact (spent_step s op h).1
    · exact ih _ (spent_step s op h).2 o ho

theorem fetchone_none (s : State α) (h : (step s .fetchone).2 = .one none) : (step s .fetchone).1 = s ∧ Spent s := by
  by_cases hv : s.valid = true
  · cases hg : s.rows[s.pos]? with
    | some r => simp [step, hv, hg] at h
    | none => exact ⟨by simp [step, hv, hg], fun _ => List.getElem?_eq_none_iff.mp hg⟩
  · simp [step, hv] at h

theorem exhaustion_of_sim (G : GenFacts) (f₀ : Frame α) (s₀ : State α) (h₀ : Sim f₀ s₀) (pre post : List (Op α))
    (ha : f₀.backing.store.isSome = true ∨ ((∀ op ∈ pre, LazyOk op = true) ∧ ∀ op ∈ post, LazyOk op = true))
    (hnone : (Impl.step (Impl.run f₀ pre).1 .fetchone).2 = .one none) :
    ∀ o ∈ (Impl.run (Impl.step (Impl.run f₀ pre).1 .fetchone).1 post).2, fetched o = [] := by
  have h1 := run_sim G pre _ _ h₀ (ha.imp id And.left)
  have hs := ha.imp h1.2.2.trans And.right
  have h2 := step_sim G _ _ .fetchone h1.2.1 (hs.imp id fun _ => rfl)
  have h3 := run_sim G post _ _ h2.2.1 (hs.imp h2.2.2.trans id)
  rw [h3.1]
  rw [h2.1] at hnone
  have hf := fetchone_none _ hnone
  exact spent_run _ _ (show Spent (step _ .fetchone).1 by rw [hf.1]; exact hf.2)

def AllOwn : Prop := ∀ h : Deriv, h.owns = true

theorem Sys.linked_nil (i : Nat) : Sys.linked ([] : List (Nat × Nat)) i = [] := rfl

theorem Sys.growAll_nil (r : α) (fs : List (Frame α)) : Sys.growAll r [] fs = fs := rfl

/-- A derivation that succeeds appends one frame and leaves everything else as it is. -/
theorem Sys.step_derive (own : AllOwn) (s : Sys α) (i : Nat) (how : Deriv) (rows : List α)
    (hd : (Sys.step s (.derive i how rows)).2 = .unit) :
    (Sys.step s (.derive i how rows)).1 = { s with frames := s.frames ++
      [Impl.initEager s.default rows false ((s.frames[i]?.map (·.schemaRel)).getD false)] } := by
  cases hi : s.frames[i]? with
  | none => simp [Sys.step, hi] at hd
  | some g => cases hb : g.backing <;> simp [Sys.step, hi, hb, own how] at hd ⊢

theorem Sys.step_deriveLazy (s : Sys α) (i : Nat) (tables : List (List α))
    (hd : (Sys.step s (.deriveLazy i tables)).2 = .unit) :
    (Sys.step s (.deriveLazy i tables)).1 = { s with frames := s.frames ++ [Impl.initLazy s.default tables none false] } := by
  cases hi : s.frames[i]? with
  | none => simp [Sys.step, hi] at hd
  | some g => cases hb : g.backing <;> simp [Sys.step, hi, hb] at hd ⊢

theorem Sys.step_on (s : Sys α) (hl : s.links = []) (j : Nat) (op : Op α) (g : Frame α) (hg : s.frames[j]? = some g) :
    Sys.step s (.on j op) = ({ s with frames := s.frames.set j (Impl.step g op).1 }, (Impl.step g op).2) := by
  simp only [Sys.step, hg, hl, Sys.linked_nil, Sys.growAll_nil]
  split <;> rfl

theorem Sys.run_frame (own : AllOwn) (ops : List (SysOp α)) (s : Sys α) (hl : s.links = []) (i : Nat) (f : Frame α)
    (hf : s.frames[i]? = some f) :
    (Sys.run s ops).1.links = [] ∧
    (Sys.run s ops).1.frames[i]? = some (Impl.run f (Sys.proj i ops)).1 ∧
    Sys.trace i ops (Sys.run s ops).2 = (Impl.run f (Sys.proj i ops)).2 := by
  induction ops generalizing s f with
  | nil => exact ⟨hl, hf, rfl⟩
  | cons sop ops ih =>
    have hi : i < s.frames.length := (List.getElem?_eq_some_iff.mp hf).1
    -- one step makes no link; an operation on `i` is that frame's own step, anything else leaves `i` as it is
    cases sop with
    | on j op =>
      cases hj : s.frames[j]? with
      | none =>
        have hji : j ≠ i := fun e => by rw [e, hf] at hj; cases hj
        simp only [Sys.run, Sys.step, hj, Sys.proj, Sys.trace, hji, if_false]
        exact ih s hl f hf
      | some g =>
        simp only [Sys.run, Sys.step_on s hl j op g hj, Sys.proj, Sys.trace]
        by_cases hji : j = i
        · subst hji
          cases hf.symm.trans hj
          have h := ih { s with frames := s.frames.set j (Impl.step f op).1 } hl (Impl.step f op).1 (by simp [hi])
          simp only [if_true, Impl.run]
          exact ⟨h.1, h.2.1, by rw [h.2.2]⟩
        · simp only [hji, if_false]
          apply ih
          · exact hl
          · rw [List.getElem?_set_ne hji]
            exact hf
    | derive _ _ _ | deriveLazy _ _ =>
      simp only [Sys.run, Sys.proj, Sys.trace, Sys.step, own _, if_true]
      split
      · exact ih s hl f hf
      · split
        · exact ih s hl f hf
        · apply ih
          · exact hl
          · rw [List.getElem?_append_left hi]
            exact hf

namespace Footprint

theorem walk_subset (S : String → Prop) (hS : ∀ n u, S n → find n = some u → ∀ c ∈ u.calls, S c) :
    ∀ (fuel : Nat) (todo seen : List String), (∀ n ∈ todo, S n) → (∀ n ∈ seen, S n) →
      ∀ n ∈ walk fuel todo seen, S n := by
  intro fuel
  induction fuel with
  | zero => intro _ _ _ hs; exact hs
  | succ fuel ih =>
    intro todo seen ht hs
    cases todo with
    | nil => exact hs
    | cons n todo =>
      have hn := ht n List.mem_cons_self
      have ht' : ∀ m ∈ todo, S m := fun m hm => ht m (List.mem_cons_of_mem _ hm)
      have hs' : ∀ m ∈ seen ++ [n], S m :=
        fun m hm => (List.mem_append.mp hm).elim (hs m) fun h => List.mem_singleton.mp h ▸ hn
      simp only [walk]
      split
      · exact ih _ _ ht' hs
      · split
        · rename_i u hu
          exact ih _ _ (fun m hm => (List.mem_append.mp hm).elim (hS n u hn hu m) (ht' m)) hs'
        · exact ih _ _ ht' hs'

theorem leavesCursorAlone_of_closed (S : String → Prop)
    (hS : ∀ n, S n → ∃ u, find n = some u ∧
      (!u.cursor && !u.mutates && !u.escapes && !cursorApi.contains n) = true ∧ ∀ c ∈ u.calls, S c)
    (name : String) (h : S name) : leavesCursorAlone name = true := by
  simp only [leavesCursorAlone, List.all_eq_true]
  intro n hn
  have hwalk := walk_subset S (fun n u hn hu => by obtain ⟨u', hu', _, hc⟩ := hS n hn; cases hu.symm.trans hu'; exact hc)
    fuel [name] [] (by simpa using h) nofun n hn
  obtain ⟨u, hu, hclean, _⟩ := hS n hwalk
  rw [hu]
  exact hclean

end Footprint

end Cursor
