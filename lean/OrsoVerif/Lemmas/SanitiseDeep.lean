import OrsoVerif.Model.Sanitise
/-! Helper lemmas for C20: the reading in which objects inside arrays count as nested objects. -/
namespace Sanitise

theorem deepItems_single (h : Json → Str) (c : Colors) (x : Json) : deepItems h c [x] = deepItem h c x := rfl

theorem deepItems_cons_cons (h : Json → Str) (c : Colors) (x y : Json) (r : List Json) :
    deepItems h c (x :: y :: r) = deepItem h c x ++ ',' :: ' ' :: deepItems h c (y :: r) := rfl

/-! The deep cleaner is a function of the deep erasure, in the form of `cleanObj_erase`. -/

mutual
theorem deepItem_erase (h : Json → Str) (c : Colors) :
    (v : Json) → deepItem h c v = deepItem pyStr c (eraseDeep h v)
  | .obj kvs => by simp only [eraseDeep, deepItem, cleanDeepObj_erase h c kvs]
  | .arr xs => by simp only [eraseDeep, deepItem, deepItems_erase h c xs]
  | .null | .bool _ | .num _ | .str _ => rfl
theorem deepItems_erase (h : Json → Str) (c : Colors) :
    (xs : List Json) → deepItems h c xs = deepItems pyStr c (eraseDeepItems h xs)
  | [] => rfl
  | [x] => deepItem_erase h c x
  | x :: y :: r => by
    rw [deepItems_cons_cons, deepItem_erase h c x, deepItems_erase h c (y :: r)]
    rfl
theorem deepValue_erase (h : Json → Str) (c : Colors) :
    (v : Json) → deepValue h c v = deepValue pyStr c (eraseDeep h v)
  | .obj kvs => by simp only [eraseDeep, deepValue, cleanDeepObj_erase h c kvs]
  | .arr xs => by simp only [eraseDeep, deepValue, deepItems_erase h c xs]
  | .null | .bool _ | .num _ | .str _ => rfl
theorem cleanDeepObj_erase (h : Json → Str) (c : Colors) :
    (d : List (Str × Json)) → cleanDeepObj h c d = cleanDeepObj pyStr c (eraseDeepObj h d)
  | [] => rfl
  | (k, v) :: rest => by
    simp only [cleanDeepObj, eraseDeepObj, cleanDeepObj_erase h c rest]
    cases sensitive k
    · simp only [Bool.false_eq_true, if_false, deepValue_erase h c v]
    · simp only [if_true, pyStr]
end

theorem deepItem_congr (h : Json → Str) (c : Colors) :
    (v w : Json) → eraseDeep h v = eraseDeep h w → deepItem h c v = deepItem h c w
  | v, w, he => by rw [deepItem_erase, he, ← deepItem_erase]

theorem deepValue_congr (h : Json → Str) (c : Colors) :
    (v w : Json) → eraseDeep h v = eraseDeep h w → deepValue h c v = deepValue h c w
  | v, w, he => by rw [deepValue_erase, he, ← deepValue_erase]

theorem deepItems_congr (h : Json → Str) (c : Colors) :
    (a b : List Json) → eraseDeepItems h a = eraseDeepItems h b → deepItems h c a = deepItems h c b
  | a, b, he => by rw [deepItems_erase, he, ← deepItems_erase]

mutual
theorem cleanVal_eq_deep (h : Json → Str) (c : Colors) :
    (v : Json) → arrayFree v = true → cleanVal h c v = deepValue h c v
  | .obj kvs, ha => by simp only [cleanVal, deepValue, cleanObj_eq_deep h c kvs ha]
  | .arr _, ha => by cases ha
  | .null, _ | .bool _, _ | .num _, _ | .str _, _ => rfl
theorem cleanObj_eq_deep (h : Json → Str) (c : Colors) :
    (d : List (Str × Json)) → arrayFreeObj d = true → cleanObj h c d = cleanDeepObj h c d
  | [], _ => rfl
  | (k, v) :: rest, ha => by
    simp only [arrayFreeObj, Bool.and_eq_true] at ha
    simp only [cleanObj, cleanDeepObj, cleanVal_eq_deep h c v ha.1, cleanObj_eq_deep h c rest ha.2]
end

mutual
theorem eraseDeep_keyFree (h : Json → Str) : (v : Json) → keyFree v = true → eraseDeep h v = v
  | .obj kvs, hk => by
    simp only [keyFree] at hk
    simp only [eraseDeep, eraseDeepObj_keyFree h kvs hk]
  | .arr xs, hk => by
    simp only [keyFree] at hk
    simp only [eraseDeep, eraseDeepItems_keyFree h xs hk]
  | .null, _ | .bool _, _ | .num _, _ | .str _, _ => rfl
theorem eraseDeepItems_keyFree (h : Json → Str) : (xs : List Json) → keyFreeItems xs = true → eraseDeepItems h xs = xs
  | [], _ => rfl
  | x :: rest, hk => by
    simp only [keyFreeItems, Bool.and_eq_true] at hk
    simp only [eraseDeepItems, eraseDeep_keyFree h x hk.1, eraseDeepItems_keyFree h rest hk.2]
theorem eraseDeepObj_keyFree (h : Json → Str) : (d : List (Str × Json)) → keyFreeObj d = true → eraseDeepObj h d = d
  | [], _ => rfl
  | (k, v) :: rest, hk => by
    simp only [keyFreeObj, Bool.and_eq_true, Bool.not_eq_true'] at hk
    simp only [eraseDeepObj, hk.1.1, Bool.false_eq_true, if_false, eraseDeep_keyFree h v hk.1.2,
      eraseDeepObj_keyFree h rest hk.2]
end

mutual
theorem erase_eq_deep (h : Json → Str) :
    (v : Json) → readingsAgree v = true → erase h v = eraseDeep h v
  | .obj kvs, ha => by simp only [erase, eraseDeep, eraseObj_eq_deep h kvs ha]
  | .arr xs, ha => by simp only [erase, eraseDeep, eraseDeepItems_keyFree h xs ha]
  | .null, _ | .bool _, _ | .num _, _ | .str _, _ => rfl
theorem eraseObj_eq_deep (h : Json → Str) :
    (d : List (Str × Json)) → readingsAgreeObj d = true → eraseObj h d = eraseDeepObj h d
  | [], _ => rfl
  | (k, v) :: rest, ha => by
    simp only [readingsAgreeObj, Bool.and_eq_true, Bool.or_eq_true] at ha
    simp only [eraseObj, eraseDeepObj, eraseObj_eq_deep h rest ha.2]
    cases hs : sensitive k
    · rw [erase_eq_deep h v (ha.1.resolve_left (by simp [hs]))]
    · rfl
end
end Sanitise
