import OrsoVerif.Model.Profile
import OrsoVerif.Lemmas.Basics
/-! Lemmas about the model of column profiles (`Model/Profile.lean`).  None of them looks at a generated value:
where the model takes a test, an increment, an update or a size from `Gen.ProfileExpr`, the lemma is about an
arbitrary one (`kmvLoopG`, `kmvG`, `otLoopG`) with the hypotheses it needs, and `Props/C15.lean` puts the generated
one in. -/
namespace Profile

variable {α : Type}

/-! ### present / missing -/

theorem present_append (a b : List (Option α)) : present (a ++ b) = present a ++ present b :=
  List.filterMap_append

theorem present_map {β : Type} (f : α → β) (xs : List (Option α)) :
    present (xs.map (Option.map f)) = (present xs).map f := by
  rw [present, present, List.filterMap_map, List.map_filterMap]
  rfl

theorem length_present_add_nulls (xs : List (Option α)) :
    (present xs).length + xs.countP (fun x => x.isNone) = xs.length := by
  rw [present, List.length_filterMap_eq_countP, List.length_eq_countP_add_countP (fun x : Option α => x.isSome)]
  congr 2
  funext x
  cases x <;> rfl

/-- `missing = count - len(non-null)` is the number of nulls. -/
theorem length_sub_present (xs : List (Option α)) :
    xs.length - (present xs).length = xs.countP (fun x => x.isNone) := by
  rw [← length_present_add_nulls xs, Nat.add_sub_cancel_left]

theorem missing_append (a b : List (Option α)) :
    (a ++ b).length - (present (a ++ b)).length
      = (a.length - (present a).length) + (b.length - (present b).length) := by
  simp only [length_sub_present, List.countP_append]

theorem countP_isNone_map {β : Type} (f : α → β) (xs : List (Option α)) :
    (xs.map (Option.map f)).countP (fun x => x.isNone) = xs.countP (fun x => x.isNone) := by
  rw [List.countP_map]
  congr 1
  funext x
  cases x <;> rfl

theorem present_eq_nil_iff (xs : List (Option α)) : present xs = [] ↔ ∀ x ∈ xs, x = none :=
  List.filterMap_eq_nil_iff

/-! ### extremes -/

/-- What the extreme combination of `__add__` has to compute: the smaller / larger of the extremes that
are present. -/
def optMinSpec : Option Int → Option Int → Option Int
  | none, b => b
  | some a, none => some a
  | some a, some b => some (if a ≤ b then a else b)

def optMaxSpec : Option Int → Option Int → Option Int
  | none, b => b
  | some a, none => some a
  | some a, some b => some (if a ≤ b then b else a)

theorem pickExtreme_nil (src : Source) (le : α → α → Bool) : pickExtreme src le [] = none := by
  cases src <;> rfl

section extremes
variable (le : α → α → Bool)

theorem minFold_spec (htot : ∀ a b, le a b = true ∨ le b a = true)
    (htr : ∀ a b c, le a b = true → le b c = true → le a c = true) :
    ∀ (xs : List α) (x : α),
      (xs.foldl (fun m y => if le m y then m else y) x ∈ x :: xs) ∧
      ∀ y ∈ x :: xs, le (xs.foldl (fun m y => if le m y then m else y) x) y = true := by
  intro xs
  induction xs with
  | nil =>
    intro x
    exact ⟨List.mem_singleton_self x, fun y hy => by rw [List.mem_singleton.mp hy]; exact (htot x x).elim id id⟩
  | cons y ys ih =>
    intro x
    rw [List.foldl_cons]
    obtain ⟨hm, hle⟩ := ih (if le x y then x else y)
    simp only [List.forall_mem_cons] at hle ⊢
    simp only [List.mem_cons] at hm ⊢
    by_cases hxy : le x y = true
    · rw [if_pos hxy] at hm hle ⊢
      exact ⟨hm.imp_right Or.inr, hle.1, htr _ _ _ hle.1 hxy, hle.2⟩
    · rw [if_neg hxy] at hm hle ⊢
      exact ⟨Or.inr hm, htr _ _ _ hle.1 ((htot x y).resolve_left hxy), hle.1, hle.2⟩

theorem minBy_eq_none_iff (vs : List α) : minBy le vs = none ↔ vs = [] := by
  cases vs <;> simp [minBy]

theorem minBy_spec (htot : ∀ a b, le a b = true ∨ le b a = true)
    (htr : ∀ a b c, le a b = true → le b c = true → le a c = true)
    {vs : List α} {m : α} (h : minBy le vs = some m) : m ∈ vs ∧ ∀ y ∈ vs, le m y = true := by
  cases vs with
  | nil => simp [minBy] at h
  | cons x xs =>
    simp only [minBy, Option.some.injEq] at h
    subst h
    exact minFold_spec le htot htr xs x

theorem maxBy_eq_minBy_flip (vs : List α) : maxBy le vs = minBy (fun a b => le b a) vs := by
  cases vs <;> rfl

theorem maxBy_eq_none_iff (vs : List α) : maxBy le vs = none ↔ vs = [] := by
  rw [maxBy_eq_minBy_flip, minBy_eq_none_iff]

theorem maxBy_spec (htot : ∀ a b, le a b = true ∨ le b a = true)
    (htr : ∀ a b c, le a b = true → le b c = true → le a c = true)
    {vs : List α} {m : α} (h : maxBy le vs = some m) : m ∈ vs ∧ ∀ y ∈ vs, le y m = true := by
  rw [maxBy_eq_minBy_flip] at h
  exact minBy_spec (fun a b => le b a) (fun a b => (htot a b).symm) (fun a b c h1 h2 => htr c b a h2 h1) h

/-- If the key turns the step of the fold into an associative operation on integers (`min`; `max` for the reversed
order), the fold becomes a fold of that operation. -/
theorem minBy_append_op (key : α → Int) (op : Int → Int → Int) [Std.Associative op]
    (hop : ∀ a y, key (if le a y then a else y) = op (key a) (key y)) (u v : List α) :
    (minBy le (u ++ v)).map key = Option.merge op ((minBy le u).map key) ((minBy le v).map key) := by
  have hfold : ∀ (l : List α) (a : α),
      key (l.foldl (fun m y => if le m y then m else y) a) = (l.map key).foldl op (key a) := by
    intro l a
    rw [List.foldl_map]
    exact (List.foldl_hom key (fun a y => (hop a y).symm)).symm
  cases u with
  | nil => exact Option.merge_none_left.symm
  | cons x xs =>
    cases v with
    | nil => rw [List.append_nil]; rfl
    | cons y ys =>
      simp only [minBy, List.cons_append, Option.map_some, Option.merge, List.foldl_append, List.foldl_cons, hfold, hop,
        List.foldl_assoc]

theorem minBy_append_key (key : α → Int) (htot : ∀ a b, le a b = true ∨ le b a = true)
    (hmono : ∀ a b, le a b = true → key a ≤ key b) (u v : List α) :
    (minBy le (u ++ v)).map key = optMinSpec ((minBy le u).map key) ((minBy le v).map key) := by
  rw [minBy_append_op le key min (fun a y => ?_)]
  · cases (minBy le u).map key <;> cases (minBy le v).map key <;> simp [optMinSpec, Option.merge, Int.min_def]
  · by_cases h : le a y = true
    · rw [if_pos h, Int.min_eq_left (hmono a y h)]
    · rw [if_neg h, Int.min_eq_right (hmono y a ((htot a y).resolve_left h))]

theorem maxBy_append_key (key : α → Int) (htot : ∀ a b, le a b = true ∨ le b a = true)
    (hmono : ∀ a b, le a b = true → key a ≤ key b) (u v : List α) :
    (maxBy le (u ++ v)).map key = optMaxSpec ((maxBy le u).map key) ((maxBy le v).map key) := by
  simp only [maxBy_eq_minBy_flip]
  rw [minBy_append_op _ key max (fun a y => ?_)]
  · cases (minBy _ u).map key <;> cases (minBy _ v).map key <;> simp [optMaxSpec, Option.merge, Int.max_def]
  · by_cases h : le y a = true
    · rw [if_pos h, Int.max_eq_left (hmono y a h)]
    · rw [if_neg h, Int.max_eq_right (hmono a y ((htot y a).resolve_left h))]

end extremes

/-! ### batches; the mass of the histogram -/

theorem foldl_batches {β γ : Type} (R : γ → List β → Prop) (step : γ → List β → γ)
    (hstep : ∀ q zs m, R q zs → R (step q m) (zs ++ m)) (ms : List (List β)) (q : γ) (zs : List β) (h : R q zs) :
    R (ms.foldl step q) (zs ++ ms.flatten) := by
  induction ms generalizing q zs with
  | nil => rwa [List.flatten_nil, List.append_nil]
  | cons m ms ih =>
    rw [List.flatten_cons, ← List.append_assoc]
    exact ih _ _ (hstep q zs m h)

theorem foldl_cuts {β γ : Type} (R : γ → List β → Prop) (step : γ → List β → γ)
    (hstep : ∀ q zs m, R q zs → R (step q m) (zs ++ m)) (init : List β → γ) (hinit : ∀ c, R (init c) c)
    {l : List (List β)} {xs : List β} (hfl : l.flatten = xs) (hne : xs ≠ []) :
    ∃ c cs, l = c :: cs ∧ R (cs.foldl step (init c)) xs := by
  subst hfl
  cases l with
  | nil => exact absurd rfl hne
  | cons c cs => exact ⟨c, cs, rfl, foldl_batches R step hstep cs _ c (hinit c)⟩

theorem chunksAux_spec {β : Type} (n : Nat) (hn : 0 < n) : ∀ (fuel : Nat) (xs : List β), xs.length ≤ fuel →
    (chunksAux n fuel xs).flatten = xs ∧ ∀ c ∈ chunksAux n fuel xs, c ≠ [] ∧ c.length ≤ n := by
  intro fuel
  induction fuel with
  | zero =>
    intro xs h
    rw [List.eq_nil_of_length_eq_zero (Nat.le_zero.mp h)]
    exact ⟨rfl, fun c hc => nomatch hc⟩
  | succ f ih =>
    intro xs h
    rw [chunksAux]
    split
    · rename_i hx
      rw [hx.resolve_left (Nat.ne_of_gt hn)]
      exact ⟨rfl, fun c hc => nomatch hc⟩
    · rename_i hx
      have hpos : xs.length ≠ 0 := fun h0 => hx (Or.inr (List.eq_nil_of_length_eq_zero h0))
      obtain ⟨h1, h2⟩ := ih (xs.drop n) (by rw [List.length_drop]; omega)
      refine ⟨by rw [List.flatten_cons, h1, List.take_append_drop], fun c hc => ?_⟩
      rcases List.mem_cons.mp hc with rfl | hc
      · exact ⟨fun e => hx (List.take_eq_nil_iff.mp e), List.length_take_le _ _⟩
      · exact h2 c hc

/-- `to_batches` by index arithmetic (`rows[i : i + b]` for `i` in `range(i₀, len, b)`) is the recursive
cutting `chunksAux`. -/
theorem slices_eq_chunksAux {β : Type} (b : Nat) (hb : 0 < b) (xs : List β) : ∀ (fuel i : Nat),
    (pyRangeAux xs.length b fuel i).map (fun i => pySlice i (i + b) xs) = chunksAux b fuel (xs.drop i) := by
  intro fuel
  induction fuel with
  | zero => intro i; simp [pyRangeAux, chunksAux]
  | succ f ih =>
    intro i
    simp only [pyRangeAux, chunksAux]
    have hb0 : b ≠ 0 := Nat.ne_of_gt hb
    by_cases hi : i < xs.length
    · have hne : xs.drop i ≠ [] := fun h => Nat.not_le_of_lt hi (List.drop_eq_nil_iff.mp h)
      simp only [hi, hb0, ne_eq, not_false_eq_true, and_self, if_true, hne, or_self, if_false, List.map_cons]
      rw [ih (i + b)]
      congr 1
      · simp [pySlice]
      · rw [List.drop_drop]
    · have he : xs.drop i = [] := List.drop_eq_nil_iff.mpr (Nat.le_of_not_lt hi)
      simp [hi, he]

theorem sum_filter_of_zero_dropped (keep : Nat → Bool) (hk : ∀ c, keep c = false → c = 0) :
    ∀ l : List Nat, (l.filter keep).sum = l.sum := by
  intro l
  induction l with
  | nil => rfl
  | cons c cs ih =>
    simp only [List.filter_cons]
    cases hc : keep c with
    | true => simp [ih]
    | false => simp [ih, hk c hc]

/-! ### distinct values and their tally -/

section mfv
variable [DecidableEq α]

theorem mem_distinct (a : α) : ∀ l : List α, a ∈ distinct l ↔ a ∈ l := by
  intro l
  induction l with
  | nil => simp [distinct]
  | cons x xs ih =>
    simp only [distinct, List.mem_cons, List.mem_filter, ih, decide_eq_true_eq]
    by_cases h : a = x <;> simp [h]

theorem nodup_distinct : ∀ l : List α, (distinct l).Nodup := by
  intro l
  induction l with
  | nil => simp [distinct]
  | cons x xs ih =>
    simp only [distinct, List.nodup_cons, List.mem_filter, decide_eq_true_eq]
    exact ⟨fun h => h.2 rfl, ih.sublist List.filter_sublist⟩

theorem distinct_eq_nil_iff (l : List α) : distinct l = [] ↔ l = [] := by
  cases l <;> simp [distinct]

theorem distinct_of_nodup : ∀ l : List α, l.Nodup → distinct l = l := by
  intro l
  induction l with
  | nil => intro _; rfl
  | cons x xs ih =>
    intro h
    rw [List.nodup_cons] at h
    rw [distinct, ih h.2, List.filter_eq_self.mpr (fun y hy => decide_eq_true (p := y ≠ x) (fun e => h.1 (e ▸ hy)))]

theorem distinct_sublist : ∀ l : List α, (distinct l).Sublist l
  | [] => List.Sublist.slnil
  | x :: xs => (List.filter_sublist.trans (distinct_sublist xs)).cons_cons x

theorem length_distinct_le (l : List α) : (distinct l).length ≤ l.length := (distinct_sublist l).length_le

theorem length_distinct_lt_of_not_nodup (l : List α) (h : ¬ l.Nodup) : (distinct l).length < l.length :=
  Nat.lt_of_le_of_ne (length_distinct_le l)
    (fun e => h ((distinct_sublist l).eq_of_length e ▸ nodup_distinct l))

theorem nodup_map_iff_inj_on {β γ : Type} (f : β → γ) {l : List β} (hnd : l.Nodup) :
    (l.map f).Nodup ↔ ∀ a ∈ l, ∀ b ∈ l, f a = f b → a = b := by
  induction l with
  | nil => simp
  | cons x l ih =>
    obtain ⟨hx, hl⟩ := List.nodup_cons.mp hnd
    rw [List.map_cons, List.nodup_cons, ih hl]
    constructor
    · rintro ⟨hfx, hinj⟩ a ha b hb e
      rcases List.mem_cons.mp ha with rfl | ha' <;> rcases List.mem_cons.mp hb with rfl | hb'
      · rfl
      · exact absurd (List.mem_map.mpr ⟨b, hb', e.symm⟩) hfx
      · exact absurd (List.mem_map.mpr ⟨a, ha', e⟩) hfx
      · exact hinj a ha' b hb' e
    · intro hinj
      refine ⟨fun hm => ?_, fun a ha b hb => hinj a (List.mem_cons_of_mem _ ha) b (List.mem_cons_of_mem _ hb)⟩
      obtain ⟨a, ha, e⟩ := List.mem_map.mp hm
      exact hx (hinj a (List.mem_cons_of_mem _ ha) x List.mem_cons_self e ▸ ha)

theorem map_fst_tally (vs : List α) : (tally vs).map Prod.fst = distinct vs := by
  simp [tally, List.map_map, Function.comp_def]

theorem mem_tally {vs : List α} {p : α × Nat} : p ∈ tally vs ↔ p.1 ∈ vs ∧ p.2 = vs.count p.1 := by
  simp only [tally, List.mem_map, mem_distinct]
  constructor
  · rintro ⟨v, hv, rfl⟩; exact ⟨hv, rfl⟩
  · rintro ⟨h1, h2⟩; exact ⟨p.1, h1, by cases p; simp_all⟩

end mfv

/-! ### sorting by insertion is core's merge sort

`insDesc p l` and `insAsc x l` are `List.merge [p] l` for their comparisons, so `sortDesc` and `sortAsc` are
`List.mergeSort` and what is needed of them — a permutation, sorted, stable — is core's. -/

open List in
theorem merge_singleton_append {β : Type} {le : β → β → Bool} (a : β) (l₁ l₂ : List β)
    (h₁ : ∀ b ∈ l₁, le a b = false) (h₂ : ∀ b ∈ l₂, le a b = true) :
    merge [a] (l₁ ++ l₂) le = l₁ ++ a :: l₂ := by
  induction l₁ with
  | nil => exact merge_of_le (fun x b hx hb => by rw [List.mem_singleton.mp hx]; exact h₂ b hb)
  | cons b l₁ ih =>
    rw [List.cons_append, cons_merge_cons, h₁ b mem_cons_self, if_neg Bool.false_ne_true,
      ih (fun c hc => h₁ c (mem_cons_of_mem _ hc)), List.cons_append]

open List in
/-- Sorting by inserting one entry after the other is `mergeSort`: by core's `mergeSort_cons`, sorting `a :: l` puts `a`
into the sorted `l` behind entries it does not precede, and it precedes what follows it because the result is sorted. -/
theorem foldr_merge_eq_mergeSort {β : Type} {le : β → β → Bool} (trans : ∀ a b c, le a b → le b c → le a c)
    (total : ∀ a b, le a b || le b a) (l : List β) :
    l.foldr (fun a s => merge [a] s le) [] = l.mergeSort le := by
  induction l with
  | nil => exact mergeSort_nil.symm
  | cons a l ih =>
    obtain ⟨l₁, l₂, h, hl, h₁⟩ := mergeSort_cons trans total a l
    have hs := pairwise_mergeSort trans total (a :: l)
    rw [h] at hs
    rw [List.foldr_cons, ih, h, hl]
    exact merge_singleton_append a l₁ l₂ (fun b hb => by simpa using h₁ b hb)
      (fun b hb => rel_of_pairwise_cons (pairwise_append.mp hs).2.1 hb)

/-! ### the stable sort of the tally (`Counter.most_common`) -/

def countGe (a b : α × Nat) : Bool := decide (b.2 ≤ a.2)

theorem countGe_trans (a b c : α × Nat) (h₁ : countGe a b = true) (h₂ : countGe b c = true) : countGe a c = true :=
  decide_eq_true (Nat.le_trans (of_decide_eq_true h₂) (of_decide_eq_true h₁))

theorem countGe_total (a b : α × Nat) : (countGe a b || countGe b a) = true :=
  Bool.or_eq_true_iff.mpr ((Nat.le_total b.2 a.2).imp decide_eq_true decide_eq_true)

theorem insDesc_eq_merge (p : α × Nat) (l : List (α × Nat)) : insDesc p l = List.merge [p] l countGe := by
  induction l with
  | nil => exact (List.merge_right _).symm
  | cons q qs ih => rw [insDesc, List.cons_merge_cons, List.nil_merge, ih]; simp only [countGe, decide_eq_true_eq]

theorem sortDesc_eq_mergeSort (l : List (α × Nat)) : sortDesc l = l.mergeSort countGe := by
  rw [← foldr_merge_eq_mergeSort countGe_trans countGe_total]
  induction l with
  | nil => rfl
  | cons p ps ih => rw [sortDesc, ih, insDesc_eq_merge, List.foldr_cons]

theorem sortDesc_perm (l : List (α × Nat)) : (sortDesc l).Perm l :=
  sortDesc_eq_mergeSort l ▸ List.mergeSort_perm l _

theorem sortDesc_sorted (l : List (α × Nat)) : (sortDesc l).Pairwise (fun a b => b.2 ≤ a.2) :=
  sortDesc_eq_mergeSort l ▸ (List.pairwise_mergeSort countGe_trans countGe_total l).imp of_decide_eq_true

theorem sortDesc_stable (l : List (α × Nat)) (a b : α × Nat) (hab : a.2 = b.2) (h : [a, b].Sublist l) :
    [a, b].Sublist (sortDesc l) :=
  sortDesc_eq_mergeSort l ▸
    List.pair_sublist_mergeSort countGe_trans countGe_total (decide_eq_true (Nat.le_of_eq hab.symm)) h

theorem mem_sortDesc_tally [DecidableEq α] {vs : List α} {p : α × Nat} :
    p ∈ sortDesc (tally vs) ↔ p.1 ∈ vs ∧ p.2 = vs.count p.1 :=
  (sortDesc_perm _).mem_iff.trans mem_tally

theorem nodup_keys_sortDesc_tally [DecidableEq α] (vs : List α) : ((sortDesc (tally vs)).map Prod.fst).Nodup := by
  have hp : ((sortDesc (tally vs)).map Prod.fst).Perm (distinct vs) := by
    rw [← map_fst_tally]; exact (sortDesc_perm _).map _
  exact hp.nodup_iff.mpr (nodup_distinct vs)

theorem rel_of_mem_take_of_not_mem_take {β : Type} {R : β → β → Prop} {l : List β} (hs : l.Pairwise R) (n : Nat)
    {x y : β} (hy : y ∈ l.take n) (hx : x ∈ l) (hnot : x ∉ l.take n) : R y x := by
  rw [← List.take_append_drop n l] at hs hx
  exact (List.pairwise_append.mp hs).2.2 y hy x ((List.mem_append.mp hx).resolve_left hnot)

theorem mem_take_of_sublist_pair {β : Type} : ∀ (l : List β) (n : Nat) (x y : β), l.Nodup → [x, y].Sublist l →
    y ∈ l.take n → x ∈ l.take n := by
  intro l
  induction l with
  | nil => intro n x y _ h; simp at h
  | cons z zs ih =>
    intro n x y hnd h hy
    rw [List.nodup_cons] at hnd
    cases n with
    | zero => simp at hy
    | succ n =>
      rw [List.take_succ_cons] at hy ⊢
      cases h with
      | cons _ h' =>
        have hyz : y ∈ zs := h'.subset (by simp)
        rcases List.mem_cons.mp hy with e | hy'
        · subst e; exact absurd hyz hnd.1
        · exact List.mem_cons_of_mem _ (ih n x y hnd.2 h' hy')
      | cons_cons _ _ => exact List.mem_cons_self

/-! ### sketch -/

def SortedAsc (l : List Nat) : Prop := l.Pairwise (fun a b => a ≤ b)

theorem natLe_trans (a b c : Nat) (h₁ : decide (a ≤ b) = true) (h₂ : decide (b ≤ c) = true) : decide (a ≤ c) = true :=
  decide_eq_true (Nat.le_trans (of_decide_eq_true h₁) (of_decide_eq_true h₂))

theorem natLe_total (a b : Nat) : (decide (a ≤ b) || decide (b ≤ a)) = true :=
  Bool.or_eq_true_iff.mpr ((Nat.le_total a b).imp decide_eq_true decide_eq_true)

theorem insAsc_eq_merge (x : Nat) (l : List Nat) : insAsc x l = List.merge [x] l := by
  induction l with
  | nil => exact (List.merge_right _).symm
  | cons y ys ih => rw [insAsc, List.cons_merge_cons, List.nil_merge, ih]; simp only [decide_eq_true_eq]

theorem insAsc_perm (x : Nat) (l : List Nat) : (insAsc x l).Perm (x :: l) :=
  insAsc_eq_merge x l ▸ List.merge_perm_append _

theorem mem_insAsc {a x : Nat} {l : List Nat} : a ∈ insAsc x l ↔ a = x ∨ a ∈ l := by
  rw [insAsc_eq_merge, List.mem_merge, List.mem_singleton]

theorem insAsc_sorted (x : Nat) (l : List Nat) (h : SortedAsc l) : SortedAsc (insAsc x l) :=
  insAsc_eq_merge x l ▸ (List.pairwise_merge natLe_trans natLe_total [x] l (List.pairwise_singleton _ _)
    (h.imp decide_eq_true)).imp of_decide_eq_true

theorem sortAsc_eq_mergeSort (l : List Nat) : sortAsc l = l.mergeSort := by
  rw [← foldr_merge_eq_mergeSort natLe_trans natLe_total, sortAsc]
  exact congrArg (fun f => l.foldr f []) (funext fun x => funext fun s => insAsc_eq_merge x s)

theorem sortAsc_perm (l : List Nat) : (sortAsc l).Perm l := sortAsc_eq_mergeSort l ▸ List.mergeSort_perm l _

theorem length_sortAsc (l : List Nat) : (sortAsc l).length = l.length := (sortAsc_perm l).length_eq

theorem sortAsc_sorted (l : List Nat) : SortedAsc (sortAsc l) :=
  sortAsc_eq_mergeSort l ▸ (List.pairwise_mergeSort natLe_trans natLe_total l).imp of_decide_eq_true

theorem eq_sortAsc_of_perm {s l : List Nat} (hs : SortedAsc s) (hp : s.Perm l) : s = sortAsc l :=
  List.Perm.eq_of_pairwise (fun _ _ _ _ => Nat.le_antisymm) hs (sortAsc_sorted l) (hp.trans (sortAsc_perm l).symm)

theorem kmvLoopG_concat_cons (replace : Nat → Nat → Bool) (pre : List Nat) (m hv : Nat) (rest : List Nat) :
    kmvLoopG replace (pre ++ [m]) (hv :: rest)
      = if replace hv m then kmvLoopG replace (insAsc hv pre) rest else kmvLoopG replace (pre ++ [m]) rest := by
  simp only [kmvLoopG, List.getLast?_concat, List.dropLast_concat]

theorem kmvLoopG_lt : ∀ (rest heap : List Nat),
    kmvLoopG (fun hv top => decide (hv < top)) heap rest = kmvLoop heap rest := by
  intro rest
  induction rest with
  | nil => intro heap; rfl
  | cons hv rest ih =>
    intro heap
    simp only [kmvLoopG, kmvLoop, decide_eq_true_eq, ih]

theorem length_kmvLoopG (replace : Nat → Nat → Bool) : ∀ (rest heap : List Nat),
    (kmvLoopG replace heap rest).length = heap.length := by
  intro rest
  induction rest with
  | nil => intro heap; rfl
  | cons hv rest ih =>
    intro heap
    rcases List.eq_nil_or_concat heap with rfl | ⟨pre, m, rfl⟩
    · exact ih []
    · rw [List.concat_eq_append, kmvLoopG_concat_cons]
      split
      · rw [ih, (insAsc_perm hv pre).length_eq, List.length_append, List.length_cons, List.length_singleton]
      · exact ih _

/-- What the loop of `get_kvm_hashes` needs of its replacement test: it replaces only by a hash that is not above the largest
kept one, and keeps the heap only when the hash is not below it (`<` and `<=` both qualify). -/
def ReplaceOk (replace : Nat → Nat → Bool) : Prop :=
  ∀ hv m, (replace hv m = true → hv ≤ m) ∧ (replace hv m = false → m ≤ hv)

theorem lt_replace_ok : ReplaceOk (fun hv m => decide (hv < m)) := fun _ _ =>
  ⟨fun h => Nat.le_of_lt (of_decide_eq_true h), fun h => Nat.le_of_not_lt (of_decide_eq_false h)⟩

/-- Invariant of the loop: the heap stays sorted, heap and discarded hashes together are the hashes seen, and nothing
discarded is below anything kept. -/
theorem kmvLoopG_inv (replace : Nat → Nat → Bool)
    (hrep : ReplaceOk replace) : ∀ (rest heap dropped seen : List Nat),
    SortedAsc heap → (heap ++ dropped).Perm seen → (∀ x ∈ dropped, ∀ y ∈ heap, y ≤ x) →
    ∃ dropped', SortedAsc (kmvLoopG replace heap rest) ∧ (kmvLoopG replace heap rest ++ dropped').Perm (seen ++ rest) ∧
      ∀ x ∈ dropped', ∀ y ∈ kmvLoopG replace heap rest, y ≤ x := by
  intro rest
  induction rest with
  | nil => intro heap dropped seen hs hp hb; exact ⟨dropped, hs, by rwa [List.append_nil], hb⟩
  | cons hv rest ih =>
    intro heap dropped seen hs hp hb
    rw [List.append_cons seen hv rest]
    -- `hv` joins what has been seen, whichever of the two lists it goes to
    have hseen : ∀ l : List Nat, l.Perm (hv :: (heap ++ dropped)) → l.Perm (seen ++ [hv]) := fun l hl =>
      hl.trans ((hp.cons hv).trans (List.perm_append_comm (l₁ := [hv])))
    rcases List.eq_nil_or_concat heap with rfl | ⟨pre, m, rfl⟩
    · exact ih [] (hv :: dropped) _ hs (hseen _ (List.Perm.refl _)) (fun _ _ y hy => absurd hy List.not_mem_nil)
    · rw [List.concat_eq_append] at hs hp hb hseen ⊢
      rw [kmvLoopG_concat_cons]
      have hpre : ∀ y ∈ pre, y ≤ m := fun y hy =>
        (List.pairwise_append.mp hs).2.2 y hy m (List.mem_singleton_self m)
      split
      · -- `hv` takes the place of the largest kept hash `m`
        rename_i hr
        have hvm := (hrep hv m).1 hr
        refine ih (insAsc hv pre) (m :: dropped) _ (insAsc_sorted hv _ (List.pairwise_append.mp hs).1)
          (hseen _ ?_) ?_
        · rw [List.append_assoc, List.singleton_append]
          exact (insAsc_perm hv pre).append_right _
        · simp only [List.forall_mem_cons, mem_insAsc, forall_eq_or_imp]
          exact ⟨⟨hvm, hpre⟩, fun x hx => ⟨Nat.le_trans hvm (hb x hx m (List.mem_append_right _ (List.mem_singleton_self m))),
            fun y hy => hb x hx y (List.mem_append_left _ hy)⟩⟩
      · -- `hv` is discarded
        rename_i hr
        have hmv := (hrep hv m).2 (Bool.eq_false_iff.mpr hr)
        refine ih _ (hv :: dropped) _ hs (hseen _ List.perm_middle) ?_
        intro x hx y hy
        rcases List.mem_cons.mp hx with rfl | hx
        · rcases List.mem_append.mp hy with hy | hy
          · exact Nat.le_trans (hpre y hy) hmv
          · rw [List.mem_singleton.mp hy]; exact hmv
        · exact hb x hx y hy

theorem kmvLoop_inv : ∀ (rest heap dropped seen : List Nat),
    SortedAsc heap → (heap ++ dropped).Perm seen → (∀ x ∈ dropped, ∀ y ∈ heap, y ≤ x) →
    ∃ dropped', SortedAsc (kmvLoop heap rest) ∧ (kmvLoop heap rest ++ dropped').Perm (seen ++ rest) ∧
      ∀ x ∈ dropped', ∀ y ∈ kmvLoop heap rest, y ≤ x := by
  intro rest heap dropped seen hs hp hb
  have h := kmvLoopG_inv (fun hv top => decide (hv < top)) lt_replace_ok rest heap dropped seen hs hp hb
  rwa [kmvLoopG_lt] at h

theorem kmvLoopG_eq (replace : Nat → Nat → Bool) (hrep : ReplaceOk replace) (rest heap seen : List Nat)
    (hs : SortedAsc heap) (hp : heap.Perm seen) :
    kmvLoopG replace heap rest = (sortAsc (seen ++ rest)).take heap.length := by
  obtain ⟨d, h1, h2, h3⟩ := kmvLoopG_inv replace hrep rest heap [] seen hs ((List.append_nil heap).symm ▸ hp)
    (fun _ hx => nomatch hx)
  -- what is kept, followed by what was discarded in ascending order, is ascending
  rw [← eq_sortAsc_of_perm (List.pairwise_append.mpr ⟨h1, sortAsc_sorted d, fun y hy x hx =>
      h3 x ((sortAsc_perm d).mem_iff.mp hx) y hy⟩) (((sortAsc_perm d).append_left _).trans h2)]
  exact (List.take_left' (length_kmvLoopG replace rest heap)).symm

section sketch
variable [DecidableEq α]

theorem kmvG_eq (replace : Nat → Nat → Bool) (hrep : ReplaceOk replace) (h : α → Nat) (size : Nat) (vs : List α) :
    kmvG replace size size h vs = (sortAsc ((distinct vs).map h)).take size := by
  rw [kmvG, kmvLoopG_eq replace hrep _ _ _ (sortAsc_sorted _) (sortAsc_perm _), ← List.map_append,
    List.take_append_drop, length_sortAsc, List.length_map, List.length_take,
    List.take_eq_take_min (i := size), length_sortAsc, List.length_map]

theorem kmvSpec_eq (h : α → Nat) (size : Nat) (vs : List α) :
    kmvSpec h size vs = (sortAsc ((distinct vs).map h)).take size :=
  (kmvLoopG_lt _ _).symm.trans (kmvG_eq _ lt_replace_ok h size vs)

theorem kmv_below (h : α → Nat) (size : Nat) (vs : List α) (hlt : (distinct vs).length ≤ size) :
    kmvSpec h size vs = sortAsc ((distinct vs).map h) := by
  rw [kmvSpec_eq, List.take_of_length_le (by rwa [length_sortAsc, List.length_map])]

theorem length_kmv (h : α → Nat) (size : Nat) (vs : List α) :
    (kmvSpec h size vs).length = min size (distinct vs).length := by
  rw [kmvSpec_eq, List.length_take, length_sortAsc, List.length_map]

end sketch

/-! ### order and transitions -/

def adj (l : List α) : List (α × α) := l.zip l.tail

theorem adj_cons_cons (a b : α) (l : List α) : adj (a :: b :: l) = (a, b) :: adj (b :: l) := by
  simp [adj]

theorem adj_append_cons (b : α) (bs : List α) : ∀ (a : α) (as : List α),
    adj ((a :: as) ++ b :: bs) = adj (a :: as) ++ ((a :: as).getLast (by simp), b) :: adj (b :: bs) := by
  intro a as
  induction as generalizing a with
  | nil => simp [adj]
  | cons a' as ih =>
    have := ih a'
    simp only [List.cons_append] at this ⊢
    rw [adj_cons_cons, this, adj_cons_cons]
    simp

/-- The four values of the order indicator as "an ascent was seen" / "a descent was seen". -/
def encOrder : Bool → Bool → Option Int
  | false, false => none
  | true, false => some 1
  | false, true => some (-1)
  | true, true => some 0

theorem encOrder_cases (u d : Bool) :
    (encOrder u d = none ↔ ¬ u = true ∧ ¬ d = true) ∧ (encOrder u d = some 1 ↔ u = true ∧ ¬ d = true) ∧
    (encOrder u d = some (-1) ↔ d = true ∧ ¬ u = true) ∧ (encOrder u d = some 0 ↔ u = true ∧ d = true) := by
  revert u d
  decide

theorem irrefl_of_asymm {lt : α → α → Bool} (hasym : ∀ a b, lt a b = true → lt b a = false) (a : α) :
    lt a a = false :=
  Bool.eq_false_iff.mpr (fun h => Bool.noConfusion ((hasym a a h).symm.trans h))

theorem otLoopG_spec [DecidableEq α] (lt : α → α → Bool) (ne : α → α → Bool) (inc : Nat → Nat)
    (step : Option Int → α → α → Option Int)
    (hasym : ∀ a b, lt a b = true → lt b a = false)
    (hne : ∀ a b, ne a b = true ↔ a ≠ b)
    (hinc : ∀ t, inc t = t + 1)
    (hstep : ∀ u d v last, v ≠ last →
      step (encOrder u d) v last = encOrder (u || lt last v) (d || lt v last)) :
    ∀ (vs : List α) (u d : Bool) (t : Nat) (last : α),
      otLoopG ne inc step (encOrder u d) t last vs =
        (encOrder (u || (adj (last :: vs)).any (fun p => lt p.1 p.2))
                  (d || (adj (last :: vs)).any (fun p => lt p.2 p.1)),
         t + (adj (last :: vs)).countP (fun p => decide (¬ p.1 = p.2))) := by
  intro vs
  induction vs with
  | nil => intro u d t last; simp [otLoopG, adj]
  | cons v vs ih =>
    intro u d t last
    rw [adj_cons_cons]
    by_cases hv : v = last
    · subst hv
      have hirr : lt v v = false := irrefl_of_asymm hasym v
      have hn : ne v v = false := Bool.eq_false_iff.mpr (fun h => (hne v v).mp h rfl)
      simp only [otLoopG, hn, List.any_cons, hirr, Bool.false_or, List.countP_cons]
      rw [ih]
      simp
    · have hne' : last ≠ v := fun h => hv h.symm
      have hn : ne v last = true := (hne v last).mpr hv
      simp only [otLoopG, hn, if_true, List.any_cons, List.countP_cons]
      rw [hstep u d v last hv, hinc, ih]
      simp only [Bool.or_assoc, hne', not_false_eq_true, decide_true, if_true]
      congr 1
      omega

/-! ### byte-lexicographic order -/

theorem bytesLe_iff (u v : List Nat) : bytesLe u v = true ↔ u ≤ v := by
  induction u generalizing v with
  | nil => simp [bytesLe]
  | cons x xs ih =>
    cases v with
    | nil => simp [bytesLe]
    | cons y ys =>
      rw [List.cons_le_cons_iff, ← ih ys, bytesLe]
      rcases Nat.lt_trichotomy x y with h | rfl | h
      · simp [h]
      · simp
      · simp [h, Nat.lt_asymm h, Nat.ne_of_gt h]

theorem bytesLt_iff (u v : List Nat) : bytesLt u v = true ↔ u < v := by
  induction u generalizing v with
  | nil => cases v <;> simp [bytesLt]
  | cons x xs ih =>
    cases v with
    | nil => simp [bytesLt]
    | cons y ys =>
      rw [List.cons_lt_cons_iff, ← ih ys, bytesLt]
      rcases Nat.lt_trichotomy x y with h | rfl | h
      · simp [h]
      · simp
      · simp [h, Nat.lt_asymm h, Nat.ne_of_gt h]

theorem utf8Bytes_lt (s : String) : ∀ x ∈ utf8Bytes s, x < 256 := by
  intro x hx
  simp only [utf8Bytes, List.mem_map] at hx
  obtain ⟨b, _, rfl⟩ := hx
  exact UInt8.toNat_lt b

theorem utf8Bytes_inj {a b : String} (h : utf8Bytes a = utf8Bytes b) : a = b := by
  unfold utf8Bytes at h
  have h1 : a.toUTF8.data.toList = b.toUTF8.data.toList :=
    (List.map_inj_right (fun x y hxy => UInt8.toNat_inj.mp hxy)).mp h
  have h2 : a.toUTF8.data = b.toUTF8.data := Array.toList_inj.mp h1
  have h3 : a.toByteArray = b.toByteArray := ByteArray.ext h2
  exact String.toByteArray_inj.mp h3

/-! ### the integer key of a byte window -/

/-- The big-endian value of the first `w` bytes of `l`, zero padded on the right. -/
def keyVal : Nat → List Nat → Nat
  | 0, _ => 0
  | _ + 1, [] => 0
  | w + 1, x :: xs => x * 256 ^ w + keyVal w xs

theorem keyVal_lt : ∀ (w : Nat) (l : List Nat), (∀ x ∈ l, x < 256) → keyVal w l < 256 ^ w := by
  intro w
  induction w with
  | zero => intro l _; simp [keyVal]
  | succ w ih =>
    intro l hl
    cases l with
    | nil => simp only [keyVal]; exact Nat.pow_pos (by omega)
    | cons x xs =>
      rw [keyVal, Nat.pow_succ, Nat.mul_comm (256 ^ w)]
      exact Nat.mul_add_lt_mul_of_lt (hl x List.mem_cons_self) (ih xs (fun y hy => hl y (List.mem_cons_of_mem _ hy)))

theorem keyVal_mono : ∀ (w : Nat) (u v : List Nat), (∀ x ∈ u, x < 256) → u ≤ v → keyVal w u ≤ keyVal w v := by
  intro w
  induction w with
  | zero => intro u v _ _; simp [keyVal]
  | succ w ih =>
    intro u v hu h
    cases u with
    | nil => simp [keyVal]
    | cons x xs =>
      have hxs : ∀ z ∈ xs, z < 256 := fun z hz => hu z (List.mem_cons_of_mem _ hz)
      cases v with
      | nil => simp at h
      | cons y ys =>
        simp only [keyVal]
        rcases List.cons_le_cons_iff.mp h with hxy | ⟨rfl, hle⟩
        · exact Nat.le_trans (Nat.le_of_lt (Nat.mul_add_lt_mul_of_lt hxy (keyVal_lt w xs hxs))) (Nat.le_add_right _ _)
        · exact Nat.add_le_add_left (ih xs ys hxs hle) _

theorem beVal_replicate_zero : ∀ n, beVal (List.replicate n 0) = 0 := by
  intro n
  induction n with
  | zero => simp [beVal]
  | succ n ih => simp [List.replicate_succ, beVal, ih]

/-- `value.encode()[:w].ljust(w, b"\0")` read big endian is `keyVal w`. -/
theorem beVal_window : ∀ (w : Nat) (l : List Nat),
    beVal (l.take w ++ List.replicate (w - (l.take w).length) 0) = keyVal w l := by
  intro w
  induction w with
  | zero => intro l; simp [beVal, keyVal]
  | succ w ih =>
    intro l
    cases l with
    | nil => simp [keyVal, beVal_replicate_zero]
    | cons x xs =>
      have hlen : (xs.take w ++ List.replicate (w - (xs.take w).length) 0).length = w := by
        rw [List.length_append, List.length_replicate]
        exact Nat.add_sub_cancel' (List.length_take_le w xs)
      simp only [List.take_succ_cons, List.length_cons, Nat.add_sub_add_right, List.cons_append, beVal, keyVal,
        hlen, ih xs]

end Profile
