import OrsoVerif.Model.GroupByCode
import OrsoVerif.Lemmas.GroupByEq
/-! Lemmas for the code-level model of C12 (`Model/GroupByCode.lean`): every program that passes the
decidable conditions computes what the functional model computes. -/
namespace GroupByCode
open GroupBy GroupByIR

/-! ### the tests on `value` only tell null, zero and non-zero apart -/

/-- the representative of a value's kind -/
def cls : Option Int → Option Int
  | none => none
  | some x => if x = 0 then some 0 else some 1

theorem holds_cls (g : Guard) (v : Option Int) : holds g v = holds g (cls v) := by
  cases v with
  | none => rfl
  | some x =>
    by_cases hx : x = 0
    · subst hx; rfl
    · cases g <;> simp [holds, cls, hx]

theorem guardsHold_cls (gs : List Guard) (v : Option Int) : guardsHold gs v = guardsHold gs (cls v) :=
  congrArg gs.all (funext fun g => holds_cls g v)

theorem effect_cls (body : List (List Guard × Action)) (v : Option Int) :
    effect body v = effect body (cls v) := by
  unfold effect
  rw [funext fun ga : List Guard × Action => guardsHold_cls ga.1 v]

theorem cls_cases (v : Option Int) : (v = none ∧ cls v = none) ∨ (v.isSome ∧ (cls v = some 0 ∨ cls v = some 1)) := by
  cases v with
  | none => exact Or.inl ⟨rfl, rfl⟩
  | some x =>
    refine Or.inr ⟨rfl, ?_⟩
    by_cases hx : x = 0
    · exact Or.inl (if_pos hx)
    · exact Or.inr (if_neg hx)

theorem yieldOk_all {gs : List Guard} (h : yieldOk gs = true) (v : Option Int) : guardsHold gs v = true := by
  unfold yieldOk at h
  simp only [Bool.and_eq_true] at h
  rw [guardsHold_cls]
  rcases cls_cases v with ⟨_, h2⟩ | ⟨_, h2 | h2⟩ <;> rw [h2]
  · exact h.1.1
  · exact h.1.2
  · exact h.2

/-! ### the aggregator bodies: a decidable sufficient condition, proved sound

`evalA e vs` on a list of non-null values depends on `vs` only through its emptiness, its length,
its sum, its least and its greatest member.  `symA e` evaluates `e` symbolically for a non-empty
list (`unknown` when the outcome would depend on the values, as in `sum(values) or None`);
`aggOk f e` asks that `e` gives `f`'s convention on the empty list (by evaluation) and `f`'s fold
symbolically on a non-empty one.  So any way of writing the five functions inside the grammar of
`AExpr` that is right is accepted, and `sum(values) or None`, `max(values, default=0)`,
`min(values)` (raises on no values) … are refused. -/

inductive Sym where
  | none | lit (i : Int) | len | sum | min | max | avg | favg | err (c : String) | unknown
  deriving DecidableEq, Repr

/-- the meaning of a symbolic result for a non-empty list of non-null values -/
def denote (xs : List Int) : Sym → AVal
  | .none => .none
  | .lit i => .int i
  | .len => .int xs.length
  | .sum => .int (total xs)
  | .min => match least xs with | some m => .int m | none => .none
  | .max => match greatest xs with | some m => .int m | none => .none
  | .avg => .ratio (total xs) xs.length
  | .favg => .fratio (total xs) xs.length
  | .err c => .err c
  | .unknown => .none

def symA : AExpr → Sym
  | .none => .none
  | .lit i => .lit i
  | .len => .len
  | .sum => .sum
  | .minE => .min
  | .maxE => .max
  | .minD _ => .min
  | .maxD _ => .max
  | .decimal e => match symA e with | .none => .err "TypeError" | s => s
  | .div a b => match symA a, symA b with
    | .sum, .len => if isDec a || isDec b then .avg else .favg
    | _, _ => .unknown
  | .orElse a b =>
    match symA a with
    | .none => symA b
    | .len => .len
    | .lit i => if i = 0 then symA b else .lit i
    | _ => .unknown
  | .ifEmpty _ b => symA b
  | .raise => .err "KeyError"

def symOf : Func → Sym
  | .min => .min | .max => .max | .count => .len | .avg => .avg | .sum => .sum

def aggOk (f : Func) (e : AExpr) : Bool :=
  decide (evalA e [] = AVal.ofAgg (fold f [])) && decide (symA e = symOf f)

theorem clean_map_some (vs : List Int) : clean (vs.map some) = some vs := by
  induction vs with
  | nil => rfl
  | cons v vs ih => simp [clean, ih]

theorem symA_sound (e : AExpr) (x : Int) (xs : List Int) (h : symA e ≠ .unknown) :
    evalA e ((x :: xs).map some) = denote (x :: xs) (symA e) := by
  have hc : clean ((x :: xs).map some) = some (x :: xs) := clean_map_some _
  induction e with
  | none | lit | raise => rfl
  | len => simp only [evalA, symA, denote, List.length_map]
  | sum | minE | maxE | minD | maxD => simp only [evalA, hc, symA]; rfl
  | decimal e ih =>
    have hs : symA e ≠ .unknown := fun hs => h (by simp only [symA, hs])
    simp only [symA, evalA, ih hs]
    generalize symA e = s at hs
    cases s <;> first | rfl | exact absurd rfl hs
  | div a b iha ihb =>
    -- only `sum(values) / len(values)` is accepted
    have hab : symA a = .sum ∧ symA b = .len := by
      simp only [symA] at h
      split at h
      · exact ⟨‹_›, ‹_›⟩
      · exact absurd rfl h
    rw [symA, evalA, iha (by rw [hab.1]; nofun), ihb (by rw [hab.2]; nofun), hab.1, hab.2]
    show (if (0 : Int) < ((x :: xs).length : Nat) then _ else _) = _
    rw [if_pos (Int.natCast_pos.mpr (List.length_pos_of_mem List.mem_cons_self)), Int.toNat_natCast]
    split <;> rfl
  | orElse a b iha ihb =>
    have hs : symA a ≠ .unknown := fun hs => h (by simp only [symA, hs])
    rw [symA] at h ⊢
    rw [evalA, iha hs]
    split at h
    · rw [‹symA a = .none›]
      exact ihb h
    · rw [‹symA a = .len›]
      exact if_neg (by simp only [denote, AVal.falsy, List.length_cons, decide_eq_true_eq]; omega)
    · rename_i i hlit
      rw [hlit]
      by_cases hi : i = 0
      · rw [if_pos hi] at h ⊢
        rw [hi]
        exact ihb h
      · rw [if_neg hi]
        exact if_neg (by simp only [denote, AVal.falsy, decide_eq_true_eq, hi, not_false_eq_true])
    · exact absurd rfl h
  | ifEmpty a b _ ihb => exact ihb h

theorem aggOk_sound {f : Func} {e : AExpr} (h : aggOk f e = true) (vs : List Int) :
    evalA e (vs.map some) = AVal.ofAgg (fold f vs) := by
  unfold aggOk at h
  simp only [Bool.and_eq_true, decide_eq_true_eq] at h
  cases vs with
  | nil => exact h.1
  | cons x xs =>
    rw [symA_sound e x xs (by rw [h.2]; cases f <;> simp [symOf]), h.2]
    cases f <;> simp [symOf, denote, fold, AVal.ofAgg, least, greatest]

section Core
variable {ρ κ ι : Type} [DecidableEq κ] [DecidableEq ι]

/-! ### the collection loop and `_map` under `bodyOk`, `yieldOk` -/

theorem insKey_eq_ins (seen : List ι) (x : ι) : insKey seen x = ins seen x := rfl

theorem stepBody_eq_effect (body : List (List Guard × Action)) (m : CVM ι) (t : ι × String × Option Int) :
    stepBody body m t = (effect body t.2.2).foldl (fun m a => act m t a) m := by
  unfold stepBody effect
  rw [List.foldl_map, List.foldl_filter]

theorem acts_foldl (as : List Action) (hne : as ≠ []) (m : CVM ι) (t : ι × String × Option Int) :
    as.foldl (fun m a => act m t a) m
      = { groups := insKey m.groups t.1, log := m.log ++ List.replicate (as.filter isAppend).length t } := by
  induction as generalizing m with
  | nil => exact absurd rfl hne
  | cons a as ih =>
    cases as with
    | nil => cases a <;> simp [act, isAppend, List.filter_cons]
    | cons a' as' =>
      rw [List.foldl_cons, ih (List.cons_ne_nil _ _)]
      cases a <;> simp [act, isAppend, insKey_eq_ins, ins_ins_same, List.filter_cons, List.replicate_succ]

theorem stepBody_ok {body : List (List Guard × Action)} (hb : bodyOk body = true) (m : CVM ι)
    (t : ι × String × Option Int) :
    stepBody body m t =
      { groups := insKey m.groups t.1, log := if t.2.2.isSome then m.log ++ [t] else m.log } := by
  unfold bodyOk at hb
  simp only [Bool.and_eq_true, bne_iff_ne, ne_eq, beq_iff_eq] at hb
  obtain ⟨⟨⟨hne, hall⟩, h0⟩, h1⟩ := hb
  have htouch : ((effect body none).filter isAppend).length = 0 := by
    rw [List.filter_eq_nil_iff.mpr fun a ha => by rw [beq_iff_eq.mp (List.all_eq_true.mp hall a ha)]; nofun]
    rfl
  rw [stepBody_eq_effect, effect_cls]
  rcases cls_cases t.2.2 with ⟨hv, hc⟩ | ⟨hv, hc | hc⟩
  · rw [hc, acts_foldl _ hne, htouch, hv]; simp
  · rw [hc, acts_foldl _ (fun h => by rw [h] at h0; cases h0), h0, hv]; rfl
  · rw [hc, acts_foldl _ (fun h => by rw [h] at h1; cases h1), h1, hv]; rfl

theorem collectFrom_ok {body : List (List Guard × Action)} (hb : bodyOk body = true) (m : CVM ι)
    (s : List (ι × String × Option Int)) :
    collectFrom body m s
      = { groups := register m.groups (s.map (·.1)), log := m.log ++ s.filter (·.2.2.isSome) } := by
  unfold collectFrom
  rw [register_eq]
  induction s generalizing m with
  | nil => simp
  | cons t s ih =>
    rw [List.foldl_cons, ih, stepBody_ok hb]
    simp only [List.map_cons, List.foldl_cons, insKey_eq_ins, List.filter_cons]
    cases h : t.2.2.isSome <;> simp

theorem collectLoop_ok {body : List (List Guard × Action)} (hb : bodyOk body = true)
    (s : List (ι × String × Option Int)) :
    collectLoop body s = { groups := firstSeen (s.map (·.1)), log := s.filter (·.2.2.isSome) } :=
  (collectFrom_ok hb { groups := [], log := [] } s).trans (by rw [register_nil, List.nil_append])

theorem get_filter_isSome (s : List (ι × String × Option Int)) (groups : List ι) (g : ι) (c : String) :
    CVM.get { groups := groups, log := s.filter (·.2.2.isSome) } g c = (collected s g c).map some := by
  unfold CVM.get collected
  rw [List.filterMap_filter, List.map_filterMap]
  congr 1
  funext t
  by_cases h : t.1 = g ∧ t.2.1 = c <;> cases t.2.2 <;> simp [h]

omit [DecidableEq κ] [DecidableEq ι] in
theorem mapTriples_ok {gs : List Guard} (hy : yieldOk gs = true) (ident : κ → ι) (keyOf : ρ → κ)
    (cell : ρ → String → Option Int) (cols : List String) (rows : List ρ) :
    mapTriples gs ident keyOf cell cols rows = emit (fun r => ident (keyOf r)) cell cols rows := by
  unfold mapTriples emit
  congr 1
  funext r
  apply List.filter_eq_self.mpr
  intro t _
  exact yieldOk_all hy _

/-! ### `_group_keys` -/

/-- every entry of `_group_keys` sits under the identity of its own key -/
def Consistent (ident : κ → ι) (st : List (ι × κ)) : Prop := ∀ e ∈ st, e.1 = ident e.2

omit [DecidableEq κ] [DecidableEq ι] in
theorem Consistent.map_ident {ident : κ → ι} {st : List (ι × κ)} (hst : Consistent ident st) :
    (st.map (·.2)).map ident = st.map (·.1) := by
  rw [List.map_map]
  exact List.map_congr_left fun e he => (hst e he).symm

omit [DecidableEq κ] in
/-- `_group_keys` is a dictionary of (identity, key) entries looked up by their first component
(`insBy` of `Model/GroupByEq.lean`). -/
theorem registerRows_eq (ident : κ → ι) (keyOf : ρ → κ) (st : List (ι × κ)) (rows : List ρ) :
    registerRows ident keyOf st rows
      = (rows.map fun r => (ident (keyOf r), keyOf r)).foldl (insBy fun e x => decide (e.1 = x.1)) st := by
  rw [List.foldl_map]
  rfl

omit [DecidableEq κ] in
theorem registerRows_consistent (ident : κ → ι) (keyOf : ρ → κ) (rows : List ρ) (st : List (ι × κ))
    (hst : Consistent ident st) : Consistent ident (registerRows ident keyOf st rows) := by
  intro e he
  rw [registerRows_eq] at he
  -- an entry is an old one or the pair written for some row
  rcases foldl_insBy_first (Kernel.of_canon Prod.fst) _ _ e he with he | ⟨pre, suf, hxs, -⟩
  · exact hst e he
  · have : e ∈ rows.map fun r => (ident (keyOf r), keyOf r) := hxs ▸ List.mem_append_right _ List.mem_cons_self
    obtain ⟨r, _, rfl⟩ := List.mem_map.mp this
    rfl

omit [DecidableEq κ] in
theorem registerRows_idents (ident : κ → ι) (keyOf : ρ → κ) (st : List (ι × κ)) (rows : List ρ) :
    (registerRows ident keyOf st rows).map (·.1)
      = register (st.map (·.1)) (rows.map fun r => ident (keyOf r)) := by
  rw [registerRows_eq, foldl_map_ins Prod.fst _ (insBy_map (Kernel.of_canon Prod.fst)), List.map_map]
  rfl

omit [DecidableEq κ] in
theorem lookupKey_of_mem {ident : κ → ι} {st : List (ι × κ)} (hst : Consistent ident st) {g : ι}
    (hg : g ∈ st.map (·.1)) : ∃ k, lookupKey st g = some k ∧ ident k = g := by
  unfold lookupKey
  cases hf : st.find? (fun e => decide (e.1 = g)) with
  | none =>
    obtain ⟨e, he, rfl⟩ := List.mem_map.mp hg
    simpa using List.find?_eq_none.mp hf e he
  | some e =>
    refine ⟨e.2, rfl, ?_⟩
    rw [← hst e (List.mem_of_find?_eq_some hf)]
    simpa using List.find?_some hf

omit [DecidableEq κ] [DecidableEq ι] in
theorem filterMap_eq_map_of {α β : Type} (f : α → Option β) (g : α → β) (l : List α)
    (h : ∀ x ∈ l, f x = some (g x)) : l.filterMap f = l.map g := by
  induction l with
  | nil => rfl
  | cons x l ih =>
    rw [List.filterMap_cons, h x (by simp), List.map_cons, ih (fun y hy => h y (List.mem_cons_of_mem _ hy))]

omit [DecidableEq κ] in
/-- The `KeyError` test and the table of `aggregateC`. -/
theorem lookup_table {β : Type} {ident : κ → ι} {st : List (ι × κ)} {gs : List ι}
    (h : ∀ g ∈ gs, ∃ k, lookupKey st g = some k ∧ ident k = g) (vals : ι → β) :
    ((if gs.all (fun g => (lookupKey st g).isSome) then
        some (gs.filterMap fun g => (lookupKey st g).map fun k => (k, vals g)) else none).map
      fun t => t.map fun ka => (ident ka.1, ka.2)) = some (gs.map fun g => (g, vals g)) := by
  rw [if_pos (List.all_eq_true.mpr fun g hg => by obtain ⟨k, hk, _⟩ := h g hg; rw [hk]; rfl),
    Option.map_some, List.map_filterMap]
  congr 1
  apply filterMap_eq_map_of
  intro g hg
  obtain ⟨k, hk, hkg⟩ := h g hg
  rw [hk, Option.map_some, Option.map_some, hkg]

/-! ### calls, seen through the identity of the groups -/

/-- The conditions on a program that the theorems need; each is discharged for the generated
program in `Props/C12.lean`. -/
structure Good (P : Program) : Prop where
  body : bodyOk P.body = true
  yields : yieldOk P.yieldGuards = true
  registers : P.registers = true
  cols : ∀ reqs, (collectCols P.collect reqs).Nodup
    ∧ ∀ c, c ∈ collectCols P.collect reqs ↔ c ∈ reqs.map (·.2)
  aggs : ∀ f vs, evalA (aggOf P f) (vs.map some) = AVal.ofAgg (fold f vs)
  lazy : P.via = .frame ∧ P.iterMaterialises = true ∧ P.materializeMakesList = true
  fresh : P.freshValueMap = true
  perObject : P.registryPerObject = true

/-- the functional model's result of a call, in the code-level model's form -/
def liftOut : Out κ → OutC κ
  | .table t => .table (some (t.map fun ka => (ka.1, ka.2.map AVal.ofAgg)))
  | .keys ks => .keys ks

omit [DecidableEq κ] [DecidableEq ι] in
theorem iterate_ok {P : Program} (G : Good P) (rows : List ρ) (src : Source ρ)
    (h : src = .list rows ∨ src = .gen rows false) : iterate P src = (rows, .list rows) := by
  rcases h with rfl | rfl
  · rfl
  · simp [iterate, G.lazy.1, G.lazy.2.1, G.lazy.2.2]

omit [DecidableEq κ] [DecidableEq ι] in
theorem lazy_source (lazy : Bool) (rows : List ρ) :
    (if lazy then Source.gen rows false else Source.list rows) = .list rows
    ∨ (if lazy then Source.gen rows false else Source.list rows) = .gen rows false := by
  cases lazy
  · exact Or.inl rfl
  · exact Or.inr rfl

def mapOutC (f : κ → ι) : OutC κ → OutC ι
  | .table t => .table (t.map fun rows => rows.map fun ka => (f ka.1, ka.2))
  | .keys ks => .keys (ks.map f)

omit [DecidableEq κ] in
/-- For any identity function, injective or not: the loop and the value map see identities only, and the stored keys
enter through `lookupKey` alone, where every group finds a key of its own identity (`lookup_table`). -/
theorem aggregateC_by_identity (P : Program) (hb : bodyOk P.body = true) (hy : yieldOk P.yieldGuards = true)
    (hr : P.registers = true) (hf : P.freshValueMap = true) (reqs : List Req)
    (hcols : (collectCols P.collect reqs).Nodup
      ∧ ∀ c, c ∈ collectCols P.collect reqs ↔ c ∈ reqs.map (·.2))
    (hagg : ∀ f vs, evalA (aggOf P f) (vs.map some) = AVal.ofAgg (fold f vs))
    (ident : κ → ι) (keyOf : ρ → κ)
    (cell : ρ → String → Option Int) (st : ObjState ι κ) (hst : Consistent ident st.keys) (rows : List ρ) :
    ((aggregateC P ident keyOf cell st rows reqs).2.map fun t => t.map fun ka => (ident ka.1, ka.2)) =
       some ((aggregate (fun r => ident (keyOf r)) cell rows reqs).map fun ka => (ka.1, ka.2.map AVal.ofAgg)) := by
  unfold aggregateC
  simp only [hr, hf, if_true]
  rw [mapTriples_ok hy, collectLoop_ok hb]
  simp only
  -- the groups of the value map and their values are those of the pass of the functional model
  obtain ⟨hkeys, hvals⟩ := pass_cols (fun r => ident (keyOf r)) cell hcols.1 (nodup_firstSeen _)
    (fun c => (hcols.2 c).trans mem_firstSeen.symm) rows
  refine (lookup_table (ident := ident) ?_ _).trans ?_
  · -- every group is the identity of a row, and the rows have been registered
    intro g hg
    apply lookupKey_of_mem (registerRows_consistent ident keyOf rows st.keys hst)
    rw [registerRows_idents, register_eq]
    refine mem_foldl_ins.mpr (Or.inr ?_)
    have := mem_firstSeen.mp hg
    simp only [emit, List.map_flatMap, List.map_map, List.mem_flatMap, List.mem_map] at this
    obtain ⟨r, hr', _, _, rfl⟩ := this
    exact List.mem_map_of_mem hr'
  · unfold aggregate
    simp only
    rw [hkeys, List.map_map]
    refine congrArg some (List.map_congr_left fun g _ => congrArg (Prod.mk g) ?_)
    rw [List.map_map]
    refine List.map_congr_left fun q _ => ?_
    rw [get_filter_isSome, hagg, hvals]
    rfl

omit [DecidableEq κ] in
/-- The invariant of `stepS_eq`, for the identities in `_group_keys`. -/
theorem stepC_by_identity {P : Program} (G : Good P) (ident : κ → ι) (keyOf : ρ → κ)
    (cell : ρ → String → Option Int) (rows : List ρ) (st : ObjState ι κ) (hst : Consistent ident st.keys)
    (hks : register (st.keys.map (·.1)) (rows.map fun r => ident (keyOf r))
      = groupKeys (fun r => ident (keyOf r)) rows) (op : Op) :
    Consistent ident (stepC P ident keyOf cell rows st op).1.keys
    ∧ (stepC P ident keyOf cell rows st op).1.keys.map (·.1) = groupKeys (fun r => ident (keyOf r)) rows
    ∧ mapOutC ident (stepC P ident keyOf cell rows st op).2
        = liftOut (stepS (fun r => ident (keyOf r)) cell rows [] op).2 := by
  have hcons := registerRows_consistent ident keyOf rows st.keys hst
  have hreg := (registerRows_idents ident keyOf st.keys rows).trans hks
  cases op with
  | aggregate reqs =>
    simp only [stepC]
    rw [show (aggregateC P ident keyOf cell st rows reqs).1.keys = registerRows ident keyOf st.keys rows by
      simp only [aggregateC, G.registers, if_true]]
    exact ⟨hcons, hreg, congrArg OutC.table (aggregateC_by_identity P G.body G.yields G.registers G.fresh reqs
      (G.cols reqs) G.aggs ident keyOf cell st hst rows)⟩
  | groups =>
    simp only [stepC, G.registers, if_true, mapOutC]
    refine ⟨hcons, hreg, ?_⟩
    rw [hcons.map_ident, hreg]
    exact congrArg OutC.keys (firstSeen_emit_keys _ _ (by simp) rows).symm

omit [DecidableEq κ] in
/-- Objects in any state will do, as long as every `_group_keys` is consistent and the walk over the rows
completes it to the distinct identities of the frame: each call leaves its object in such a state. -/
theorem runCallsC_by_identity_used {P : Program} (G : Good P) (ident : κ → ι) (keyOfs : Nat → ρ → κ)
    (cell : ρ → String → Option Int) (rows : List ρ) (calls : List (Nat × Op)) :
    ∀ (src : Source ρ) (sts : Nat → ObjState ι κ),
      (src = .list rows ∨ src = .gen rows false) →
      (∀ g, Consistent ident (sts g).keys
        ∧ register ((sts g).keys.map (·.1)) (rows.map fun r => ident (keyOfs g r))
            = groupKeys (fun r => ident (keyOfs g r)) rows) →
      (runCallsC P ident keyOfs cell src sts calls).map (mapOutC ident)
        = calls.map fun c => liftOut (stepS (fun r => ident (keyOfs c.1 r)) cell rows [] c.2).2 := by
  induction calls with
  | nil => intro _ _ _ _; rfl
  | cons c calls ih =>
    intro src sts hsrc hsts
    obtain ⟨g, op⟩ := c
    have hslot : slot P g = g := by simp [slot, G.perObject]
    simp only [runCallsC, List.map_cons, hslot]
    rw [iterate_ok G rows src hsrc]
    obtain ⟨h1, h2, h3⟩ := stepC_by_identity G ident (keyOfs g) cell rows (sts g) (hsts g).1 (hsts g).2 op
    rw [h3, ih _ _ (Or.inl rfl)]
    intro j
    by_cases hj : j = g
    · subst hj
      simp only [if_true]
      exact ⟨h1, by rw [h2]; exact register_firstSeen _⟩
    · simp only [hj, if_false]
      exact hsts j

omit [DecidableEq κ] in
theorem runCallsC_by_identity {P : Program} (G : Good P) (ident : κ → ι) (keyOfs : Nat → ρ → κ)
    (cell : ρ → String → Option Int) (rows : List ρ) (calls : List (Nat × Op)) (src : Source ρ)
    (hsrc : src = .list rows ∨ src = .gen rows false) :
    (runCallsC P ident keyOfs cell src (fun _ => ObjState.empty) calls).map (mapOutC ident)
      = calls.map fun c => liftOut (stepS (fun r => ident (keyOfs c.1 r)) cell rows [] c.2).2 :=
  runCallsC_by_identity_used G ident keyOfs cell rows calls src _ hsrc
    fun _ => ⟨fun _ he => absurd he List.not_mem_nil, rfl⟩

theorem liftOut_stepS_map {f : κ → ι} (hf : Function.Injective f) (keyOf : ρ → κ)
    (cell : ρ → String → Option Int) (rows : List ρ) (op : Op) :
    liftOut (stepS (fun r => f (keyOf r)) cell rows [] op).2
      = mapOutC f (liftOut (stepS keyOf cell rows [] op).2) := by
  cases op with
  | aggregate reqs =>
    show OutC.table (some _) = OutC.table (some _)
    rw [aggregate_map_inj hf]
    simp only [List.map_map]
    rfl
  | groups =>
    show OutC.keys (register [] _) = OutC.keys ((register [] _).map f)
    rw [register_nil, register_nil, firstSeen_emit_keys _ _ (by simp), firstSeen_emit_keys _ _ (by simp)]
    unfold groupKeys
    rw [← firstSeen_map_inj hf, List.map_map]
    rfl

omit [DecidableEq κ] [DecidableEq ι] in
theorem mapOutC_injective {f : κ → ι} (hf : Function.Injective f) : Function.Injective (mapOutC f) := by
  have hp : ∀ x y : κ × List AVal, (f x.1, x.2) = (f y.1, y.2) → x = y := fun x y h =>
    Prod.ext (hf (Prod.mk.inj h).1) (Prod.mk.inj h).2
  intro a b h
  cases a <;> cases b <;> simp only [mapOutC, OutC.table.injEq, OutC.keys.injEq, reduceCtorEq] at h
  · exact congrArg OutC.table ((Option.map_inj_right fun _ _ => (List.map_inj_right hp).mp).mp h)
  · exact congrArg OutC.keys ((List.map_inj_right fun _ _ h => hf h).mp h)

omit [DecidableEq κ] in
/-- The table read through any `canon` that the group identity renames injectively (`canon = id` for an injective
identity, `keyCanon` for `identKeyOf`): an injective renaming of the keys renames the table (`liftOut_stepS_map`) and
can be cancelled (`mapOutC_injective`). -/
theorem aggregateC_by_canon {γ : Type} [DecidableEq γ] (P : Program) (hb : bodyOk P.body = true)
    (hy : yieldOk P.yieldGuards = true) (hr : P.registers = true) (hf : P.freshValueMap = true) (reqs : List Req)
    (hcols : (collectCols P.collect reqs).Nodup
      ∧ ∀ c, c ∈ collectCols P.collect reqs ↔ c ∈ reqs.map (·.2))
    (hagg : ∀ f vs, evalA (aggOf P f) (vs.map some) = AVal.ofAgg (fold f vs))
    {ident : κ → ι} (canon : κ → γ) {tag : γ → ι} (htag : Function.Injective tag)
    (hid : ∀ k, ident k = tag (canon k)) (keyOf : ρ → κ)
    (cell : ρ → String → Option Int) (st : ObjState ι κ) (hst : Consistent ident st.keys) (rows : List ρ) :
    ((aggregateC P ident keyOf cell st rows reqs).2.map fun t => t.map fun ka => (canon ka.1, ka.2)) =
       some ((aggregate (fun r => canon (keyOf r)) cell rows reqs).map fun ka => (ka.1, ka.2.map AVal.ofAgg)) := by
  have h := aggregateC_by_identity P hb hy hr hf reqs hcols hagg ident keyOf cell st hst rows
  simp only [hid] at h
  have h1 : mapOutC tag (.table ((aggregateC P ident keyOf cell st rows reqs).2.map
        fun t => t.map fun ka => (canon ka.1, ka.2)))
      = .table ((aggregateC P ident keyOf cell st rows reqs).2.map
          fun t => t.map fun ka => (tag (canon ka.1), ka.2)) := by
    simp only [mapOutC, Option.map_map, Function.comp_def, List.map_map]
  exact OutC.table.inj (mapOutC_injective htag ((h1.trans (congrArg OutC.table h)).trans
    (liftOut_stepS_map htag (fun r => canon (keyOf r)) cell rows (.aggregate reqs))))

theorem runCallsC_ok {P : Program} (G : Good P) {ident : κ → ι} (hinj : Function.Injective ident)
    (keyOfs : Nat → ρ → κ) (cell : ρ → String → Option Int) (rows : List ρ) (calls : List (Nat × Op))
    (src : Source ρ) (hsrc : src = .list rows ∨ src = .gen rows false) :
    runCallsC P ident keyOfs cell src (fun _ => ObjState.empty) calls
      = calls.map fun c => liftOut (stepS (keyOfs c.1) cell rows [] c.2).2 := by
  apply (List.map_inj_right fun _ _ h => mapOutC_injective hinj h).mp
  rw [runCallsC_by_identity G ident keyOfs cell rows calls src hsrc, List.map_map]
  exact List.map_congr_left fun c _ => liftOut_stepS_map hinj (keyOfs c.1) cell rows c.2

end Core

/-! ### frames of `PyVal`: what the caller sees -/

/-- the functional model's frame-level result with the exception's class spelled out -/
def toExcept : Except Err (List String × List (List PyVal)) → Except String (List String × List (List PyVal))
  | .ok r => .ok r
  | .error .valueError => .error "ValueError"

theorem find_isErr_ofAgg (t : List (List PyVal × List Agg)) :
    ((t.map fun ka => (ka.1, ka.2.map AVal.ofAgg)).flatMap (·.2)).find? AVal.isErr = none := by
  rw [List.find?_eq_none]
  intro x hx
  simp only [List.mem_flatMap, List.mem_map] at hx
  obtain ⟨_, ⟨ka, _, rfl⟩, hx⟩ := hx
  obtain ⟨a, _, rfl⟩ := List.mem_map.mp hx
  cases a <;> simp [AVal.ofAgg, AVal.isErr]

theorem toAgg_ofAgg (as : List Agg) : (as.map AVal.ofAgg).map AVal.toAgg = as := by
  rw [List.map_map]
  exact (List.map_congr_left fun a _ => by cases a <;> rfl).trans (List.map_id as)

theorem render_aggregate {P : Program} (hP : P.aggEmptyHeader = true) (hC : P.cell = .get) (keyCols : List String)
    (reqs : List Req) (t : List (List PyVal × List Agg)) :
    render P keyCols (.aggregate reqs) (liftOut (.table t))
      = .ok (header keyCols reqs, t.map fun ka => resultRow keyCols reqs ka.1 ka.2) := by
  simp only [liftOut, render, hC, applyCell]
  rw [find_isErr_ofAgg]
  simp only
  cases t with
  | nil => simp [hP]
  | cons ka t =>
    simp only [List.map_cons, List.isEmpty_cons, Bool.false_eq_true, if_false]
    rw [toAgg_ofAgg, List.map_map]
    congr 3
    apply List.map_congr_left
    intro ka' _
    simp only [Function.comp, toAgg_ofAgg]

theorem render_groups {P : Program} (hP : P.groupsEmptyHeader = true) (keyCols : List String)
    (ks : List (List PyVal)) :
    render P keyCols .groups (liftOut (.keys ks))
      = .ok ((dictOf (keyCols.map fun c => (c, ()))).map (·.1),
             ks.map fun k => (dictOf (keyCols.zip k)).map (·.2)) := by
  simp only [liftOut, render]
  cases ks with
  | nil => simp [hP]
  | cons k ks => simp

-- core has no `DecidableEq (Except ε α)`; the examples of `Props/C12.lean` that evaluate `runCallsF` decide such equations
instance instDecEqExcept {ε α : Type} [DecidableEq ε] [DecidableEq α] : DecidableEq (Except ε α) := fun a b =>
  match a, b with
  | .ok x, .ok y => if h : x = y then isTrue (by rw [h]) else isFalse (by intro h'; cases h'; exact h rfl)
  | .error x, .error y => if h : x = y then isTrue (by rw [h]) else isFalse (by intro h'; cases h'; exact h rfl)
  | .ok _, .error _ => isFalse (by intro h; cases h)
  | .error _, .ok _ => isFalse (by intro h; cases h)

/-- The program of the repaired tree, written out (independent of the working tree): the base of
the tightness examples in `Props/C12.lean`, which undo one repair at a time. -/
def repaired : Program :=
  { key := .tuple
    registers := true
    value := .starIfMissing
    colIndex := .indexIfPresent
    yieldGuards := []
    via := .frame
    collect := .dedup
    body := [([], .touch), ([.notNone], .append)]
    aggs := [("MIN", .minD .none), ("MAX", .maxD .none), ("COUNT", .len),
             ("AVG", .ifEmpty .none (.div (.decimal .sum) (.decimal .len))), ("SUM", .ifEmpty .none .sum)]
    labels := [stdLabel, stdLabel, stdLabel, stdLabel]
    cell := .get
    aggEmptyHeader := true
    groupsEmptyHeader := true
    iterMaterialises := true
    materializeMakesList := true
    freshValueMap := true
    registryPerObject := true }

/-! ### The identity the dictionaries of `_map` / `aggregate` see of a key tuple (`identKeyOf`) -/

theorem identKeyOf_tuple (k : List PyVal) :
    identKeyOf .tuple k = (keyCanon k).map fun c => ((0 : Nat), c) := by
  simp [identKeyOf, keyCanon, List.map_map, Function.comp_def]

theorem tag_injective : Function.Injective (fun l : List CKey => l.map fun c => ((0 : Nat), c)) :=
  fun _ _ h => (List.map_inj_right fun _ _ h => (Prod.mk.inj h).2).mp h

end GroupByCode

theorem GroupByIR.PosContainer.store_ok {c : GroupByIR.PosContainer} {ps : List Int}
    (h : ∀ p ∈ ps, c.holds p = true) : c.store ps = .ok ps := by
  unfold GroupByIR.PosContainer.store
  rw [if_pos]
  exact List.all_eq_true.mpr h
