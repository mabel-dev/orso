import OrsoVerif.Model.SchemaOps
/-! Lemmas for C17 (`Props/C17.lean`), core `List` only.  The lookups and the removal are first-match searches
(`findCol_eq_find?`, `popCol_eq`) and take their facts from `List.find?` / `List.eraseP`; the loop of `__add__` is
`news`, which is `fresh`; Python's `xs[i]` is `xs[n]?` or, for `i = -(k+1)`, `xs.reverse[k]?` (`pyIndex_natCast`,
`pyIndex_negSucc`); a successful step or run of a program is taken apart by `pstep_on_some` / `prun_cons_some`.
Each section asks decidable equality of what its operation compares: identities for the sum, names for lookup and removal. -/
namespace SchemaOps

variable {ι ν : Type}

/-! ### `firstByKey` -/
section FBK
variable {α κ : Type} [DecidableEq κ] (key : α → κ)

theorem firstByKey_filter (q : κ → Bool) (xs : List α) :
    firstByKey key (xs.filter (fun x => q (key x)))
      = (firstByKey key xs).filter (fun x => q (key x)) := by
  induction xs with
  | nil => rfl
  | cons x xs ih =>
    cases hq : q (key x)
    · simp only [List.filter_cons, hq, firstByKey, List.filter_filter, Bool.false_eq_true, if_false, ih]
      refine List.filter_congr fun y _ => ?_
      by_cases hy : key y = key x
      · simp only [hy, hq, Bool.false_and]
      · simp only [ne_eq, hy, not_false_eq_true, decide_true, Bool.and_true]
    · simp only [List.filter_cons, hq, if_true, firstByKey, ih, List.filter_filter, Bool.and_comm]

theorem firstByKey_sublist (xs : List α) : (firstByKey key xs).Sublist xs := by
  induction xs with
  | nil => simp [firstByKey]
  | cons x xs ih => exact (List.Sublist.trans List.filter_sublist ih).cons_cons x

theorem mem_keys_firstByKey (xs : List α) (k : κ) :
    k ∈ (firstByKey key xs).map key ↔ k ∈ xs.map key := by
  induction xs with
  | nil => rfl
  | cons x xs ih =>
    simp only [firstByKey, List.map_cons, List.mem_cons, ← ih, List.mem_map, List.mem_filter, decide_eq_true_eq]
    constructor
    · rintro (h | ⟨y, hy, e⟩)
      · exact Or.inl h
      · exact Or.inr ⟨y, hy.1, e⟩
    · rintro (h | ⟨y, hy, e⟩)
      · exact Or.inl h
      · exact (Decidable.em (k = key x)).imp id fun hk => ⟨y, ⟨hy, fun h => hk (e ▸ h)⟩, e⟩

theorem firstByKey_nodup (xs : List α) : ((firstByKey key xs).map key).Nodup := by
  induction xs with
  | nil => exact List.nodup_nil
  | cons x xs ih =>
    simp only [firstByKey, List.map_cons, List.nodup_cons]
    refine ⟨fun h => ?_, List.Nodup.sublist (List.filter_sublist.map key) ih⟩
    obtain ⟨y, hy, hyx⟩ := List.mem_map.mp h
    exact of_decide_eq_true (List.mem_filter.mp hy).2 hyx

theorem firstByKey_first (xs : List α) (c : α) (h : c ∈ firstByKey key xs) :
    xs.find? (fun d => decide (key d = key c)) = some c := by
  induction xs with
  | nil => cases h
  | cons x xs ih =>
    rcases List.mem_cons.mp h with rfl | h
    · simp
    · have hm := List.mem_filter.mp h
      rw [List.find?_cons_of_neg fun e => of_decide_eq_true hm.2 (of_decide_eq_true e).symm]
      exact ih hm.1

end FBK

theorem find?_filter_of {α : Type} (p q : α → Bool) (xs : List α) (c : α)
    (h : (xs.filter p).find? q = some c) (hpq : ∀ d, q d = true → p d = true) :
    xs.find? q = some c := by
  rw [← h, List.find?_filter]
  refine congrArg (xs.find? ·) (funext fun d => ?_)
  cases hq : q d
  · simp only [Bool.false_eq_true, and_false, decide_false]
  · simp only [hpq d hq, and_self, decide_true]

/-! ### The loop of `__add__` -/
section Loop

theorem ids_append (xs ys : List (Col ι ν)) : ids (xs ++ ys) = ids xs ++ ids ys := by
  simp [ids]

variable [DecidableEq ι]

/-- The loop without its accumulator: the columns it appends. -/
def news (seen : List ι) : List (Col ι ν) → List (Col ι ν)
  | [] => []
  | c :: cs =>
    if c.identity ∈ seen then news seen cs else c :: news (seen ++ [c.identity]) cs

theorem unionLoop_eq (seen : List ι) (acc cs : List (Col ι ν)) :
    unionLoop seen acc cs = acc ++ news seen cs := by
  induction cs generalizing seen acc with
  | nil => simp [unionLoop, news]
  | cons c cs ih =>
    by_cases h : c.identity ∈ seen
    · simp [unionLoop, news, h, ih]
    · simp [unionLoop, news, h, ih]

theorem fresh_cons_of_mem {seen : List ι} {c : Col ι ν} (h : c.identity ∈ seen) (cs : List (Col ι ν)) :
    fresh seen (c :: cs) = fresh seen cs := by
  simp only [fresh, List.filter_cons, h, not_true_eq_false, decide_false, Bool.false_eq_true, if_false]

theorem fresh_cons_of_not_mem {seen : List ι} {c : Col ι ν} (h : c.identity ∉ seen) (cs : List (Col ι ν)) :
    fresh seen (c :: cs) = c :: fresh (seen ++ [c.identity]) cs := by
  simp only [fresh, List.filter_cons, h, not_false_eq_true, decide_true, if_true, firstByKey, List.cons.injEq, true_and]
  rw [← firstByKey_filter (fun d : Col ι ν => d.identity) (fun i => decide (i ≠ c.identity)), List.filter_filter]
  congr 1
  refine List.filter_congr fun y _ => ?_
  simp only [List.mem_append, List.mem_singleton, not_or, Bool.decide_and, Bool.and_comm]

theorem news_eq_fresh (seen : List ι) (cs : List (Col ι ν)) : news seen cs = fresh seen cs := by
  induction cs generalizing seen with
  | nil => rfl
  | cons c cs ih =>
    by_cases h : c.identity ∈ seen
    · rw [fresh_cons_of_mem h, ← ih, news, if_pos h]
    · rw [fresh_cons_of_not_mem h, ← ih, news, if_neg h]

theorem mem_ids_fresh (seen : List ι) (cs : List (Col ι ν)) (i : ι) :
    i ∈ ids (fresh seen cs) ↔ i ∈ ids cs ∧ i ∉ seen := by
  unfold fresh ids
  rw [mem_keys_firstByKey]
  simp only [List.mem_map, List.mem_filter, decide_eq_true_eq]
  exact ⟨fun ⟨c, ⟨hc, hn⟩, e⟩ => ⟨⟨c, hc, e⟩, e ▸ hn⟩, fun ⟨⟨c, hc, e⟩, hn⟩ => ⟨c, ⟨hc, e ▸ hn⟩, e⟩⟩

theorem nodup_ids_fresh (seen : List ι) (cs : List (Col ι ν)) : (ids (fresh seen cs)).Nodup :=
  firstByKey_nodup (fun d : Col ι ν => d.identity) _

theorem news_append (seen : List ι) (xs ys : List (Col ι ν)) :
    news seen (xs ++ ys) = news seen xs ++ news (seen ++ ids (news seen xs)) ys := by
  induction xs generalizing seen with
  | nil => simp [news, ids]
  | cons x xs ih =>
    by_cases h : x.identity ∈ seen
    · simp [news, h, ih]
    · simp [news, h, ih, ids, List.append_assoc]

theorem ids_subset_news (seen : List ι) (cs : List (Col ι ν)) : ids cs ⊆ seen ++ ids (news seen cs) := fun i hi =>
  List.mem_append.mpr <| (Decidable.em (i ∈ seen)).imp_right fun h =>
    news_eq_fresh seen cs ▸ (mem_ids_fresh seen cs i).mpr ⟨hi, h⟩

theorem news_news (S T : List ι) (hTS : T ⊆ S) (cs : List (Col ι ν)) :
    news S (news T cs) = news S cs := by
  induction cs generalizing S T with
  | nil => rfl
  | cons x cs ih =>
    by_cases hT : x.identity ∈ T
    · simp only [news, hT, hTS hT, if_true]
      exact ih S T hTS
    · by_cases hS : x.identity ∈ S
      · simp only [news, hT, hS, if_true, if_false]
        exact ih S _ (List.append_subset.mpr ⟨hTS, List.cons_subset.mpr ⟨hS, List.nil_subset _⟩⟩)
      · simp only [news, hT, hS, if_false]
        exact congrArg _ (ih _ _ (List.append_subset.mpr ⟨List.subset_append_of_subset_left _ hTS, List.subset_append_right _ _⟩))

theorem union_columns (a b : Schema ι ν) :
    (union a b).columns = a.columns ++ news (ids a.columns) b.columns := by
  simp [union, unionLoop_eq]

end Loop

/-! ### lookup -/
section Lookup

theorem mem_allNames (c : Col ι ν) (x : ν) :
    x ∈ c.allNames ↔ x = c.name ∨ ∃ as, c.aliases = some as ∧ x ∈ as := by
  unfold Col.allNames
  cases hal : c.aliases with
  | none => simp
  | some as =>
    cases Gen.SchemaOps.aliasesFirst <;> simp [or_comm]

theorem name_mem_allNames (c : Col ι ν) : c.name ∈ c.allNames :=
  (mem_allNames c c.name).mpr (Or.inl rfl)

/-- In namespace `SchemaFnsLemmas` because the translated-source section of `Props/C17.lean` names it so. -/
theorem _root_.SchemaFnsLemmas.allColumnNames_eq_flatMap (cols : List (Col ι ν)) :
    allColumnNames cols = cols.flatMap (fun c => c.allNames) := by
  induction cols with
  | nil => rfl
  | cons c cs ih => simp [allColumnNames, ih]

variable [DecidableEq ν]

theorem bears_own_name (c : Col ι ν) : c.bears id c.name = true := by
  simp [Col.bears, name_mem_allNames]

theorem findCol_eq_find? (norm : ν → ν) (k : ν) (cols : List (Col ι ν)) :
    findCol norm k cols = cols.find? (fun c => c.bears norm k) := by
  induction cols with
  | nil => rfl
  | cons c cs ih => cases h : c.bears norm k <;> simp only [findCol, List.find?_cons, h, ih, Bool.false_eq_true, if_false, if_true]

theorem findCol_append (norm : ν → ν) (k : ν) (xs ys : List (Col ι ν)) :
    findCol norm k (xs ++ ys) = (findCol norm k xs).or (findCol norm k ys) := by
  simp only [findCol_eq_find?, List.find?_append]

theorem not_mem_allColumnNames (norm : ν → ν) (k : ν) (xs : List (Col ι ν)) :
    norm k ∉ (allColumnNames xs).map norm ↔ ∀ d ∈ xs, d.bears norm k = false := by
  simp only [SchemaFnsLemmas.allColumnNames_eq_flatMap, List.map_flatMap, List.mem_flatMap, not_exists, not_and, Col.bears,
    decide_eq_false_iff_not]

end Lookup

/-! ### Python list indexing -/

theorem pyIndex_natCast {α : Type} (xs : List α) (n : Nat) : pyIndex xs (n : Int) = xs[n]? := by
  simp only [pyIndex, Int.natCast_nonneg, if_true, Int.toNat_natCast]

theorem pyIndex_negSucc {α : Type} (xs : List α) (k : Nat) : pyIndex xs (Int.negSucc k) = xs.reverse[k]? := by
  have h1 : (-Int.negSucc k).toNat = k + 1 := rfl
  simp only [pyIndex, Int.negSucc_not_nonneg, if_false, h1]
  by_cases h : k + 1 ≤ xs.length
  · rw [if_pos h, List.getElem?_reverse h, Nat.sub_sub, Nat.add_comm]
  · rw [if_neg h, List.getElem?_eq_none (by rw [List.length_reverse]; exact Nat.le_of_not_lt h)]

theorem pyIndex_sub_length {α : Type} (xs : List α) (n : Nat) (h : n < xs.length) :
    pyIndex xs ((n : Int) - xs.length) = xs[n]? := by
  -- `n - len` is `-(k+1)` for `k = len - 1 - n`, and position `k` from the end is position `n`
  rw [← Int.subNatNat_eq_coe, Int.subNatNat_of_lt h, Nat.pred_eq_sub_one, Nat.sub_right_comm, pyIndex_negSucc,
    List.getElem?_reverse (Nat.lt_of_le_of_lt (Nat.sub_le ..) (Nat.sub_one_lt_of_lt h)),
    Nat.sub_sub_self (Nat.le_sub_one_of_lt h)]

theorem pyIndex_nonneg {α : Type} (pre post : List α) (c : α) :
    pyIndex (pre ++ c :: post) (pre.length : Int) = some c := by
  rw [pyIndex_natCast, List.getElem?_append_right (Nat.le_refl _), Nat.sub_self]
  rfl

theorem pyIndex_neg {α : Type} (pre post : List α) (c : α) :
    pyIndex (pre ++ c :: post) (-((post.length : Int) + 1)) = some c := by
  show pyIndex _ (Int.negSucc post.length) = _
  rw [pyIndex_negSucc, List.reverse_append, List.reverse_cons, List.append_assoc, ← List.length_reverse]
  exact pyIndex_natCast .. ▸ pyIndex_nonneg ..

theorem pyIndex_mem {α : Type} (xs : List α) (i : Int) (c : α) (h : pyIndex xs i = some c) : c ∈ xs := by
  cases i with
  | ofNat n => exact List.mem_of_getElem? (pyIndex_natCast xs n ▸ h)
  | negSucc k => exact List.mem_reverse.mp (List.mem_of_getElem? (pyIndex_negSucc xs k ▸ h))

theorem pyIndex_none_iff {α : Type} (xs : List α) (i : Int) :
    pyIndex xs i = none ↔ (i ≥ xs.length ∨ i < -(xs.length : Int)) := by
  cases i with
  | ofNat n =>
    rw [Int.ofNat_eq_natCast, pyIndex_natCast, List.getElem?_eq_none_iff]
    omega
  | negSucc k =>
    rw [pyIndex_negSucc, List.getElem?_eq_none_iff, List.length_reverse]
    omega

section
set_option linter.unusedSectionVars false
variable [DecidableEq ι] [DecidableEq ν]

theorem ofIndex_some (c : Col ι ν) : Out.ofIndex (some c) = .col (some c) := rfl

theorem ofIndex_none : (Out.ofIndex none : Out ι ν) = .indexError := rfl

theorem column_flag (cols : List (Col ι ν)) (b : Bool) :
    column cols (.flag b) = column cols (.idx (boolIndex b)) := rfl

end

/-! ### removal -/
section Removal
variable [DecidableEq ν]

theorem popCol_eq (k : ν) (cols : List (Col ι ν)) :
    popCol k cols = (cols.find? (fun c => decide (c.name = k)), cols.eraseP (fun c => decide (c.name = k))) := by
  induction cols with
  | nil => rfl
  | cons c cs ih =>
    by_cases h : c.name = k
    · simp only [popCol, h, if_true, List.find?_cons, List.eraseP_cons, decide_true, cond_true]
    · simp only [popCol, h, if_false, List.find?_cons, List.eraseP_cons, decide_false, ih, cond_false]

theorem popCol_eq_some_iff (k : ν) (cols cols' : List (Col ι ν)) (c : Col ι ν) :
    popCol k cols = (some c, cols') ↔
      ∃ pre post, cols = pre ++ c :: post ∧ c.name = k ∧ (∀ d ∈ pre, d.name ≠ k) ∧ cols' = pre ++ post := by
  have herase : ∀ pre post : List (Col ι ν), c.name = k → (∀ d ∈ pre, d.name ≠ k) →
      (pre ++ c :: post).eraseP (fun d => decide (d.name = k)) = pre ++ post := fun pre post hc hpre => by
    rw [List.eraseP_append_right (p := fun d => decide (d.name = k)) _ (fun d hd hp => hpre d hd (of_decide_eq_true hp)),
      List.eraseP_cons_of_pos (p := fun d : Col ι ν => decide (d.name = k)) (decide_eq_true hc)]
  rw [popCol_eq, Prod.mk.injEq, List.find?_eq_some_iff_append]
  simp only [decide_eq_true_eq, Bool.not_eq_eq_eq_not, Bool.not_true, decide_eq_false_iff_not]
  constructor
  · rintro ⟨⟨hc, pre, post, rfl, hpre⟩, rfl⟩
    exact ⟨pre, post, rfl, hc, hpre, herase pre post hc hpre⟩
  · rintro ⟨pre, post, rfl, hc, hpre, rfl⟩
    exact ⟨⟨hc, pre, post, rfl, hpre⟩, herase pre post hc hpre⟩

theorem popCol_fst (k : ν) (cols : List (Col ι ν)) : (popCol k cols).1 = cols.find? (fun c => decide (c.name = k)) :=
  congrArg Prod.fst (popCol_eq k cols)

theorem popCol_of_find?_eq_none {k : ν} {cols : List (Col ι ν)} (h : cols.find? (fun c => decide (c.name = k)) = none) :
    popCol k cols = (none, cols) := by
  rw [popCol_eq, h, List.eraseP_of_forall_not (List.find?_eq_none.mp h)]

end Removal

/-! ### histories: what one operation returns and removes -/
section Histories

theorem ofIndex_eq_col {o : Option (Col ι ν)} {c : Col ι ν} (h : Out.ofIndex o = .col (some c)) : o = some c := by
  cases o <;> cases h
  rfl

theorem removed_ofIndex (o : Option (Col ι ν)) (os : List (Out ι ν)) :
    removed (Out.ofIndex o :: os) = removed os := by
  cases o <;> rfl

variable [DecidableEq ν]

theorem mem_of_step {lower : ν → ν} {cols : List (Col ι ν)} {op : Op ν} {c : Col ι ν}
    (h : (step lower cols op).2 = .col (some c)) : c ∈ cols := by
  have hfind : ∀ norm k, Out.col (findCol norm k cols) = .col (some c) → c ∈ cols := fun norm k e =>
    List.mem_of_find?_eq_some (findCol_eq_find? norm k cols ▸ Out.col.inj e)
  cases op with
  | find k ci => cases ci <;> exact hfind _ k h
  | column key =>
    cases key with
    | idx i | flag b => exact pyIndex_mem cols _ c (ofIndex_eq_col h)
    | name k => exact hfind id k h
  | pop k | allNames | names | iter => cases h

theorem removed_step_perm (lower : ν → ν) (cols l : List (Col ι ν)) (op : Op ν) (os : List (Out ι ν))
    (h : (removed os ++ l).Perm (step lower cols op).1) :
    (removed ((step lower cols op).2 :: os) ++ l).Perm cols := by
  cases op with
  | pop k =>
    cases hp : (popCol k cols).1 with
    | none =>
      have hu := popCol_of_find?_eq_none ((popCol_fst k cols).symm.trans hp)
      simp only [step, hu] at h ⊢
      exact h
    | some c =>
      obtain ⟨pre, post, rfl, -, -, h2⟩ := (popCol_eq_some_iff k cols (popCol k cols).2 c).mp (Prod.ext hp rfl)
      simp only [step, hp, removed, List.cons_append] at h ⊢
      exact ((h2 ▸ h).cons c).trans List.perm_middle.symm
  | column key =>
    cases key with
    | idx i | flag b => exact removed_ofIndex _ os ▸ h
    | name k => exact h
  | find k ci | allNames | names | iter => exact h

end Histories

/-! ### programs: what a successful step or run was made of -/
section Programs
variable [DecidableEq ι] [DecidableEq ν]

theorem prun_cons_some {lower : ν → ν} {regs regs' : List (Schema ι ν)} {op : POp ν} {ops : List (POp ν)}
    {outs : List (POut ι ν)} (h : prun lower regs (op :: ops) = some (regs', outs)) :
    ∃ regs1 o os, pstep lower regs op = some (regs1, o) ∧ prun lower regs1 ops = some (regs', os) ∧ outs = o :: os := by
  simp only [prun] at h
  split at h
  · cases h
  · split at h
    · cases h
    · cases h
      exact ⟨_, _, _, ‹_›, ‹_›, rfl⟩

theorem pstep_on_some {lower : ν → ν} {regs regs' : List (Schema ι ν)} {r : Nat} {op : Op ν} {o : POut ι ν}
    (h : pstep lower regs (.on r op) = some (regs', o)) :
    ∃ s, regs[r]? = some s ∧ regs' = regs.set r { s with columns := (step lower s.columns op).1 }
      ∧ o = .out (step lower s.columns op).2 := by
  simp only [pstep] at h
  split at h
  · cases h
    exact ⟨_, ‹_›, rfl, rfl⟩
  · cases h

end Programs

end SchemaOps
