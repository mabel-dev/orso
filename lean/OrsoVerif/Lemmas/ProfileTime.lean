import OrsoVerif.Lemmas.IsoEpochTotal
import OrsoVerif.Model.ProfileTime
/-! `DateProfiler`'s conversion of temporal cells to epoch seconds (`Model/ProfileTime.lean`): on covered cells
(`DateCell.inRange`) it returns the whole seconds of every cell, whichever path it takes, for any chains of dtypes that
are right on the instants they meet (`dateSecondsWith_spec`). -/
namespace Profile

theorem wrap64_id (x : Int) (h1 : -9223372036854775808 ≤ x) (h2 : x ≤ 9223372036854775807) : wrap64 x = x := by
  unfold wrap64
  -- shifted into the window, the value is its own remainder
  rw [Int.emod_eq_of_lt (by omega) (by omega), Int.add_sub_cancel]

/-- Every valid date-time of year 1..9999 lies between the first and the last representable second
(exact calendar arithmetic: `fromtimestamp` inverts `toEpoch`, and fails outside that range). -/
theorem toEpoch_range (dt : Iso.DateTime) (h : Iso.validDateTime dt = true) :
    -62135596800 ≤ Iso.toEpoch dt ∧ Iso.toEpoch dt ≤ 253402300799 := by
  have inv := Iso.fromTimestamp_toEpoch dt h
  have spec := (Iso.fromTimestamp_spec (Iso.toEpoch dt)).2
  simp only [Iso.minEpoch, Iso.maxEpoch] at spec
  refine Classical.byContradiction fun hc => ?_
  obtain ⟨e, he⟩ := spec (by omega)
  rw [inv] at he
  cases he

theorem civil_trueSeconds (dt : Iso.DateTime) (off : Int) (h : Iso.validDateTime dt = true) :
    (DateCell.civil dt off).trueSeconds = Iso.toEpoch dt - 60 * off := by
  have hm : dt.micro ≤ 999999 := (Iso.valid_bounds h).2.2.2.2.2.2.2.2.2
  simp only [DateCell.trueSeconds, DateCell.instant]
  -- the microseconds are a remainder below one second
  rw [Int.mul_add_ediv_right _ _ (by decide), Int.ediv_eq_zero_of_lt (by omega) (by omega), Int.add_zero]

/-- `DateCell.inRange`, `instantLo` and `instantHi` bound an instant by whole seconds times 10⁹: that bounds its
seconds, so the ranges are compared there (`inRange_seconds`) and read back (`inRange_instant`). -/
theorem units_range {N : Int} (hN : 0 < N) (a b t : Int) : a * N ≤ t ∧ t < b * N ↔ a ≤ t / N ∧ t / N < b :=
  and_congr (Int.le_ediv_iff_mul_le hN).symm (Int.ediv_lt_iff_lt_mul hN).symm

theorem inRange_seconds (c : DateCell) (h : c.inRange) :
    -62135596800 - 86400 ≤ c.trueSeconds ∧ c.trueSeconds < 253402300799 + 86400 := by
  cases c with
  | civil dt off =>
    obtain ⟨hv, h1, h2⟩ := h
    have hr := toEpoch_range dt hv
    rw [civil_trueSeconds dt off hv]
    omega
  | ticks u n | stamp u n =>
    have hs := (units_range (by decide) _ _ _).mp h
    exact ⟨Int.le_trans (by decide) hs.1, Int.lt_of_lt_of_le hs.2 (by decide)⟩

theorem inRange_instant (c : DateCell) (h : c.inRange) : instantLo ≤ c.instant ∧ c.instant < instantHi :=
  (units_range (by decide) _ _ _).mpr (inRange_seconds c h)

theorem value_ok (c : DateCell) (v : Int) (h : c.value = .ok v) :
    v = c.instant ∧ -9223372036854775808 ≤ v ∧ v ≤ 9223372036854775807 := by
  cases c with
  | civil dt off => simp [DateCell.value] at h
  | ticks u n => simp [DateCell.value] at h
  | stamp u n =>
    simp only [DateCell.value] at h
    split at h
    · rename_i hr
      cases h
      exact ⟨rfl, hr.1, hr.2⟩
    · cases h

theorem value_error (c : DateCell) (e : String) (h : c.value = .error e) :
    e = "OverflowError" ∨ e = "AttributeError" := by
  cases c with
  | civil dt off => simp [DateCell.value] at h; exact Or.inr h.symm
  | ticks u n => simp [DateCell.value] at h; exact Or.inr h.symm
  | stamp u n =>
    simp only [DateCell.value] at h
    split at h
    · cases h
    · cases h; exact Or.inl rfl

theorem convertValues_cases (chain : List DType)
    (hchain : ∀ v, -9223372036854775808 ≤ v → v ≤ 9223372036854775807 → runChain chain v = v / 1000000000) :
    ∀ cells : List (Option DateCell),
      (∃ e, (e = "OverflowError" ∨ e = "AttributeError") ∧ convertValues chain cells = .error e) ∨
      convertValues chain cells = .ok (cells.map (Option.map DateCell.trueSeconds)) := by
  intro cells
  induction cells with
  | nil => right; rfl
  | cons c rest ih =>
    cases c with
    | none =>
      rcases ih with ⟨e, he, h⟩ | h
      · left; exact ⟨e, he, by simp only [convertValues, h]⟩
      · right; simp only [convertValues, h, List.map_cons, Option.map_none]
    | some c =>
      cases hv : c.value with
      | error e =>
        left; exact ⟨e, value_error c e hv, by simp only [convertValues, hv]⟩
      | ok v =>
        obtain ⟨e1, e2, e3⟩ := value_ok c v hv
        rcases ih with ⟨e, he, h⟩ | h
        · left; exact ⟨e, he, by simp only [convertValues, hv, h]⟩
        · right
          simp only [convertValues, hv, h, List.map_cons, Option.map_some]
          rw [hchain v e2 e3, e1]
          rfl

theorem map_congr_present {β γ : Type} {f g : Option β → γ} {xs : List (Option β)} (hn : f none = g none)
    (hs : ∀ c ∈ present xs, f (some c) = g (some c)) : xs.map f = xs.map g :=
  List.map_congr_left fun oc hoc => match oc, hoc with
    | none, _ => hn
    | some c, hoc => hs c (List.mem_filterMap.mpr ⟨some c, hoc, rfl⟩)

theorem plainPath_spec (chain : List DType) (cells : List (Option DateCell))
    (h : ∀ c ∈ present cells, runChain chain c.instant = c.trueSeconds) :
    plainPath chain cells = cells.map (Option.map DateCell.trueSeconds) :=
  map_congr_present rfl fun c hc => congrArg some (h c hc)

theorem sentinel_filter (sentinel : Int) (cells : List (Option DateCell))
    (h : ∀ c ∈ present cells, c.trueSeconds ≠ sentinel) :
    (cells.map (Option.map DateCell.trueSeconds)).map (dropSentinel sentinel)
      = cells.map (Option.map DateCell.trueSeconds) := by
  rw [List.map_map]
  refine map_congr_present rfl fun c hc => ?_
  simp only [Function.comp, Option.map_some, dropSentinel]
  rw [if_neg (h c hc)]

/-- **`DateProfiler`'s conversion is the epoch seconds of every covered cell**, for any pair of chains that
are right on the instants they are used on, as long as both exceptions of `.value` lead to the general path
and the sentinel is not a reachable second. -/
theorem dateSecondsWith_spec (plain pandas : List DType) (caught : List String) (sentinel : Int)
    (hplain : ∀ t, instantLo ≤ t → t < instantHi → runChain plain t = t / 1000000000)
    (hpandas : ∀ v, -9223372036854775808 ≤ v → v ≤ 9223372036854775807 → runChain pandas v = v / 1000000000)
    (hover : caught.contains "OverflowError" = true) (hattr : caught.contains "AttributeError" = true)
    (hs : sentinel < -62135596800 - 86400 ∨ 253402300799 + 86400 ≤ sentinel)
    (cells : List (Option DateCell)) (h : ∀ c ∈ present cells, c.inRange) :
    dateSecondsWith plain pandas caught sentinel cells = .ok (cells.map (Option.map DateCell.trueSeconds)) := by
  have hP := plainPath_spec plain cells fun c hc => (inRange_instant c (h c hc)).elim (hplain c.instant)
  have hF := sentinel_filter sentinel cells fun c hc => by
    have := inRange_seconds c (h c hc)
    omega
  unfold dateSecondsWith
  -- the pandas path declines, gives the right seconds, or ends with a caught exception: then the general path gives them
  cases cells with
  | nil => simp only [pandasPath, hP, hF]
  | cons c0 rest =>
    cases c0 with
    | none => simp only [pandasPath, hP, hF]
    | some c =>
      cases hv : c.value with
      | error e =>
        rcases value_error c e hv with rfl | rfl
        · simp only [pandasPath, DateCell.hasValue, hv, String.reduceEq, if_false, hover, if_true, hP, hF]
        · simp only [pandasPath, DateCell.hasValue, hv, if_true, hP, hF]
      | ok v =>
        rcases convertValues_cases pandas hpandas (some c :: rest) with ⟨e, he, hc⟩ | hc
        · have hce : caught.contains e = true := by rcases he with rfl | rfl <;> assumption
          simp only [pandasPath, DateCell.hasValue, hv, hc, hce, if_true, hP, hF]
        · simp only [pandasPath, DateCell.hasValue, hv, hc, hF]

end Profile
