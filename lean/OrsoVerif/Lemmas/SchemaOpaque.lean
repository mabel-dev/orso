import OrsoVerif.Model.SchemaOps
import OrsoVerif.Lemmas.SchemaOps
/-! "Identity-based" and "by name" as *naturality*: an operation commutes with any relabelling of what it is not supposed
to look at, and with any injective (for `lower`: normalisation-respecting) renaming of what it may only compare (`run_map`
for histories of lookups and removals, `unionLoop_map` for the sum).  A `column('1')` that reads the name as a position, a
lookup that strips the key, a sum that de-duplicates by name, a removal that matches identities: none of these commutes.
The instance arguments agree: `run_map` asks decidable equality of names only, `unionLoop_map` of identities only. -/
namespace SchemaOps
variable {ι ι' ν ν' : Type}

def Col.rename (f : ν → ν') (c : Col ι ν) : Col ι ν' :=
  ⟨c.tag, c.identity, f c.name, c.aliases.map (List.map f)⟩

def Col.relabel (h : ι → ι') (c : Col ι ν) : Col ι' ν :=
  ⟨c.tag, h c.identity, c.name, c.aliases⟩

def Key.rename (f : ν → ν') : Key ν → Key ν'
  | .idx i => .idx i
  | .flag b => .flag b
  | .name k => .name (f k)

def Op.rename (f : ν → ν') : Op ν → Op ν'
  | .find k ci => .find (f k) ci
  | .column key => .column (key.rename f)
  | .pop k => .pop (f k)
  | .allNames => .allNames
  | .names => .names
  | .iter => .iter

def Out.rename (f : ν → ν') : Out ι ν → Out ι ν'
  | .col c => .col (c.map (Col.rename f))
  | .popped c => .popped (c.map (Col.rename f))
  | .indexError => .indexError
  | .strs l => .strs (l.map f)

def Out.relabel (h : ι → ι') : Out ι ν → Out ι' ν
  | .col c => .col (c.map (Col.relabel h))
  | .popped c => .popped (c.map (Col.relabel h))
  | .indexError => .indexError
  | .strs l => .strs l

theorem allNames_rename (f : ν → ν') (c : Col ι ν) : (c.rename f).allNames = c.allNames.map f := by
  cases h : c.aliases <;> cases hf : Gen.SchemaOps.aliasesFirst <;> simp [Col.rename, Col.allNames, h, hf]

theorem allNames_relabel (h : ι → ι') (c : Col ι ν) : (c.relabel h).allNames = c.allNames := by
  cases ha : c.aliases <;> simp [Col.relabel, Col.allNames, ha]

def Respects (f : ν → ν') (norm : ν → ν) (norm' : ν' → ν') : Prop :=
  ∀ x y, norm' (f x) = norm' (f y) ↔ norm x = norm y

theorem respects_id (f : ν → ν') (hf : ∀ x y, f x = f y → x = y) : Respects f id id :=
  fun x y => ⟨hf x y, fun e => by simp only [id] at e; rw [e]⟩

/-- `Out.rename` and `Out.relabel` are instances (`Out.rename_eq_map`, `Out.relabel_eq_map`). -/
def Out.map (g : Col ι ν → Col ι' ν') (f : ν → ν') : Out ι ν → Out ι' ν'
  | .col c => .col (c.map g)
  | .popped c => .popped (c.map g)
  | .indexError => .indexError
  | .strs l => .strs (l.map f)

theorem Out.rename_eq_map (f : ν → ν') : Out.rename (ι := ι) f = Out.map (Col.rename f) f := by
  funext o
  cases o <;> rfl

theorem Out.relabel_eq_map (h : ι → ι') : Out.relabel (ν := ν) h = Out.map (Col.relabel h) id := by
  funext o
  cases o <;> simp only [Out.relabel, Out.map, List.map_id]

theorem Op.rename_id : Op.rename (id : ν → ν) = id := by
  funext op
  cases op with
  | column key => cases key <;> rfl
  | _ => rfl

/-! ### lists of columns mapped by `g`: what each operation needs `g` to keep -/
section Map
variable (g : Col ι ν → Col ι' ν')

theorem allColumnNames_map {f : ν → ν'} (ha : ∀ c, (g c).allNames = c.allNames.map f) (cols : List (Col ι ν)) :
    allColumnNames (cols.map g) = (allColumnNames cols).map f := by
  simp only [SchemaFnsLemmas.allColumnNames_eq_flatMap, List.flatMap_map, List.map_flatMap, ha]

theorem pyIndex_map {α β : Type} (g : α → β) (xs : List α) (i : Int) :
    pyIndex (xs.map g) i = (pyIndex xs i).map g := by
  cases i with
  | ofNat n => simp only [Int.ofNat_eq_natCast, pyIndex_natCast, List.getElem?_map]
  | negSucc k => rw [pyIndex_negSucc, pyIndex_negSucc, ← List.map_reverse, List.getElem?_map]

theorem ofIndex_map (f : ν → ν') (o : Option (Col ι ν)) : Out.ofIndex (o.map g) = (Out.ofIndex o).map g f := by
  cases o <;> rfl

variable [DecidableEq ν] [DecidableEq ν']

theorem findCol_map {norm : ν → ν} {norm' : ν' → ν'} {k : ν} {k' : ν'}
    (hb : ∀ c, (g c).bears norm' k' = c.bears norm k) (cols : List (Col ι ν)) :
    findCol norm' k' (cols.map g) = (findCol norm k cols).map g := by
  rw [findCol_eq_find?, findCol_eq_find?, List.find?_map]
  exact congrArg (fun p => (cols.find? p).map g) (funext hb)

theorem popCol_map {k : ν} {k' : ν'} (hn : ∀ c, (g c).name = k' ↔ c.name = k) (cols : List (Col ι ν)) :
    popCol k' (cols.map g) = ((popCol k cols).1.map g, (popCol k cols).2.map g) := by
  have hp : (fun c : Col ι' ν' => decide (c.name = k')) ∘ g = fun c => decide (c.name = k) :=
    funext fun c => decide_eq_decide.mpr (hn c)
  rw [popCol_eq, popCol_eq, List.find?_map, List.eraseP_map, hp]

variable (f : ν → ν') (hf : ∀ x y, f x = f y → x = y)
  (hn : ∀ c, (g c).name = f c.name) (ha : ∀ c, (g c).allNames = c.allNames.map f)

include ha in
theorem bears_map {norm : ν → ν} {norm' : ν' → ν'} (hr : Respects f norm norm') (c : Col ι ν) (k : ν) :
    (g c).bears norm' (f k) = c.bears norm k := by
  simp only [Col.bears, ha, List.map_map, decide_eq_decide, List.mem_map, Function.comp_apply]
  exact exists_congr fun x => and_congr_right fun _ => hr x k

include hf hn ha in
theorem step_map {lower : ν → ν} {lower' : ν' → ν'} (hr : Respects f lower lower') (cols : List (Col ι ν)) (op : Op ν) :
    step lower' (cols.map g) (op.rename f) = ((step lower cols op).1.map g, (step lower cols op).2.map g f) := by
  have hid := fun k => findCol_map g (bears_map g f ha (respects_id f hf) · k) cols
  cases op with
  | find k ci =>
    cases ci
    · exact congrArg (fun o => (_, Out.col o)) (hid k)
    · exact congrArg (fun o => (_, Out.col o)) (findCol_map g (bears_map g f ha hr · k) cols)
  | column key =>
    cases key with
    | idx i | flag b => simp only [step, Op.rename, Key.rename, column, pyIndex_map, ofIndex_map g f]
    | name k => exact congrArg (fun o => (_, Out.col o)) (hid k)
  | pop k =>
    have h := popCol_map g (k := k) (k' := f k) (fun c => hn c ▸ ⟨hf _ _, congrArg f⟩) cols
    simp only [step, Op.rename, Out.map, h]
  | allNames => exact congrArg (fun l => (_, Out.strs l)) (allColumnNames_map g ha cols)
  | names | iter => simp only [step, Op.rename, Out.map, columnNames, List.map_map, Function.comp_def, hn]

include hf hn ha in
/-- Renaming (`C17.names_are_opaque`) is `g := Col.rename f`; giving other identities (`C17.lookup_ignores_identities`)
is `g := Col.relabel h`, `f := id`. -/
theorem run_map {lower : ν → ν} {lower' : ν' → ν'} (hr : Respects f lower lower') (ops : List (Op ν)) (cols : List (Col ι ν)) :
    run lower' (cols.map g) (ops.map (Op.rename f))
      = ((run lower cols ops).1.map g, (run lower cols ops).2.map (Out.map g f)) := by
  induction ops generalizing cols with
  | nil => rfl
  | cons op ops ih => simp only [List.map_cons, run, step_map g f hf hn ha hr, ih]

end Map

/-! ### names, aliases (and which object a column is) are invisible to the sum -/

theorem unionLoop_map [DecidableEq ι] {ν₂ : Type} (g : Col ι ν → Col ι ν₂) (hg : ∀ c, (g c).identity = c.identity)
    (seen : List ι) (acc cs : List (Col ι ν)) :
    unionLoop seen (acc.map g) (cs.map g) = (unionLoop seen acc cs).map g := by
  induction cs generalizing seen acc with
  | nil => simp [unionLoop]
  | cons c cs ih =>
    simp only [List.map_cons, unionLoop, hg]
    split
    · exact ih seen acc
    · have := ih (seen ++ [c.identity]) (acc ++ [c])
      simpa using this

theorem ids_map {ν₂ : Type} (g : Col ι ν → Col ι ν₂) (hg : ∀ c, (g c).identity = c.identity) (cs : List (Col ι ν)) :
    ids (cs.map g) = ids cs := by
  simp [ids, Function.comp_def, hg]

variable [DecidableEq ν] in
/-- `column(i)` as C17-w4s3 had it: a name that `isdecimal` and whose `int` is below the width is read as a position.
Only used by the counterexample `C17.text_as_position_is_not_natural`. -/
def columnTextAsPosition (isdecimal : ν → Bool) (toInt : ν → Int) (cols : List (Col ι ν)) : Key ν → Out ι ν
  | .name k =>
    if isdecimal k && decide (toInt k < cols.length) then Out.ofIndex (pyIndex cols (toInt k))
    else .col (findCol id k cols)
  | key => column cols key

end SchemaOps
