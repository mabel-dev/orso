import OrsoVerif.Model.SchemaHeap
/-! The heap model of C17 (`Model/SchemaHeap.lean`): one step of the heap machine with a copying `__add__` commutes
with the value-level machine and keeps "no two schemas share a column list" (`heap_refines_step`; for whole runs,
`C17.heap_refines_values`).  The two ways a step changes the heap are a new list at its end (`abs_push`, `wf_push`)
and a write through one register (`abs_set`). -/
namespace SchemaHeap
open SchemaOps
variable {ι ν : Type}

theorem abs_getElem? (st : St ι ν) (i : Nat) : st.abs[i]? = st.regs[i]?.map (view st.heap) :=
  List.getElem?_map ..

theorem abs_push {st : St ι ν} (hwf : st.WF) (n : ν) (al : List ν) (x : List (Col ι ν)) :
    St.abs ⟨st.heap ++ [x], st.regs ++ [⟨n, al, st.heap.length⟩]⟩ = st.abs ++ [⟨n, al, x⟩] := by
  have hold : st.regs.map (view (st.heap ++ [x])) = st.regs.map (view st.heap) :=
    List.map_congr_left fun s hs => by simp only [view, List.getElem?_append_left (hwf.1 s hs)]
  simp only [St.abs, List.map_append, hold, List.map_cons, List.map_nil, view, List.getElem?_concat_length,
    Option.getD_some]

theorem wf_push {st : St ι ν} (hwf : st.WF) (n : ν) (al : List ν) (x : List (Col ι ν)) :
    St.WF ⟨st.heap ++ [x], st.regs ++ [⟨n, al, st.heap.length⟩]⟩ := by
  refine ⟨fun s hs => ?_, ?_⟩
  · rw [List.length_append]
    rcases List.mem_append.mp hs with hs | hs
    · exact Nat.lt_add_right _ (hwf.1 s hs)
    · cases List.mem_singleton.mp hs
      exact Nat.lt_succ_self _
  · rw [List.map_append]
    refine List.nodup_append.mpr ⟨hwf.2, by simp, fun x hx y hy hxy => ?_⟩
    obtain ⟨s, hs, rfl⟩ := List.mem_map.mp hx
    cases List.mem_singleton.mp hy
    exact Nat.ne_of_lt (hwf.1 s hs) hxy

theorem abs_set {st : St ι ν} (hwf : st.WF) {r : Nat} {s : Ref ν} (hr : st.regs[r]? = some s) (x : List (Col ι ν)) :
    St.abs { st with heap := st.heap.set s.ref x } = st.abs.set r { view st.heap s with columns := x } := by
  obtain ⟨hlt, hget⟩ := List.getElem?_eq_some_iff.mp hr
  apply List.ext_getElem?
  intro q
  rw [abs_getElem?]
  by_cases hq : r = q
  · subst hq
    rw [List.getElem?_set_self (by simpa [St.abs] using hlt), hr]
    simp only [Option.map_some, view, List.getElem?_set_self (hwf.1 s (hget ▸ List.getElem_mem hlt)), Option.getD_some]
  · rw [List.getElem?_set_ne hq, abs_getElem?]
    cases hq' : st.regs[q]? with
    | none => rfl
    | some t =>
      have hne : s.ref ≠ t.ref := fun he => hq <| (List.getElem?_inj (by simpa using hlt) hwf.2).mp <| by
        rw [List.getElem?_map, List.getElem?_map, hr, hq', Option.map_some, Option.map_some, he]
      simp only [Option.map_some, view, List.getElem?_set_ne hne]

variable [DecidableEq ι] [DecidableEq ν]

theorem heap_refines_step (lower : ν → ν) (st : St ι ν) (op : POp ν) (hwf : st.WF) :
    (hstep true lower st op).map (fun r => (r.1.abs, r.2)) = pstep lower st.abs op
    ∧ ∀ st' o, hstep true lower st op = some (st', o) → st'.WF := by
  cases op with
  | add i j =>
    simp only [hstep, pstep, abs_getElem?]
    cases st.regs[i]? with
    | none => exact ⟨rfl, fun _ _ h => by cases h⟩
    | some a =>
      cases st.regs[j]? with
      | none => exact ⟨rfl, fun _ _ h => by cases h⟩
      | some b =>
        refine ⟨?_, fun st' o h => ?_⟩
        · simp only [↓reduceIte, Option.map_some, abs_push hwf]
          rfl
        · cases h
          exact wf_push hwf _ _ _
  | on r op =>
    simp only [hstep, pstep, abs_getElem?]
    cases hr : st.regs[r]? with
    | none => exact ⟨rfl, fun _ _ h => by cases h⟩
    | some s =>
      refine ⟨?_, fun st' o h => ?_⟩
      · simp only [Option.map_some, abs_set hwf hr]
      · cases h
        exact ⟨by simpa only [List.length_set] using hwf.1, hwf.2⟩

end SchemaHeap
