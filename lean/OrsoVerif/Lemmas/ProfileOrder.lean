import OrsoVerif.Model.Profile
import Mathlib.Data.Rat.Floor
/-! `int(x)` of a rational number (`truncRat`, truncation toward zero) against floor and ceiling, and its
monotonicity. -/
namespace Profile

theorem truncRat_of_nonneg {q : Rat} (h : 0 ≤ q) : truncRat q = ⌊q⌋ := by
  unfold truncRat
  rw [Rat.floor_def']
  exact Int.tdiv_eq_ediv_of_nonneg (Rat.num_nonneg.mpr h)

theorem truncRat_neg (q : Rat) : truncRat (-q) = - truncRat q := by
  unfold truncRat
  simp [Int.neg_tdiv]

theorem truncRat_of_nonpos {q : Rat} (h : q ≤ 0) : truncRat q = ⌈q⌉ := by
  have h1 : truncRat (-q) = ⌊-q⌋ := truncRat_of_nonneg (neg_nonneg.mpr h)
  rw [truncRat_neg, Int.floor_neg] at h1
  exact neg_inj.mp h1

theorem truncRat_mono {a b : Rat} (h : a ≤ b) : truncRat a ≤ truncRat b := by
  rcases le_total 0 a with ha | ha
  · rw [truncRat_of_nonneg ha, truncRat_of_nonneg (le_trans ha h)]
    exact Int.floor_le_floor h
  · rcases le_total 0 b with hb | hb
    · rw [truncRat_of_nonpos ha, truncRat_of_nonneg hb]
      exact le_trans (Int.ceil_le.mpr (by simpa using ha)) (Int.floor_nonneg.mpr hb)
    · rw [truncRat_of_nonpos ha, truncRat_of_nonpos hb]
      exact Int.ceil_le_ceil h

end Profile
