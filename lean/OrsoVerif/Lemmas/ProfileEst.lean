import OrsoVerif.Model.ProfileEst
import OrsoVerif.Lemmas.EstimatorsTop
import OrsoVerif.Lemmas.DistogramState
/-!
# Lemmas for C14: sequences on one column profile (estimate, add, estimate again)

The cache discipline of the source (`CacheDiscipline`) makes `view = fresh` an invariant of every profile reachable by
building, estimating and adding (`Reach`), for *any* histogram merge; over the reference merge of C13 a sum of two
well-formed profiles (`ProfOK`) is well formed.
-/
namespace Distogram
open Gen.ProfileEst (estimateUsesCache addDropsCache addCount addMissing addSwapTest)

variable {K : Type} [Field K] [LinearOrder K]

/-- The cache discipline the sequence theorems need of the source: a sum does not inherit the
`Distogram` an earlier estimate left on its left operand, or the estimators never reuse one.
`C14.cache_discipline` (Props/C14.lean) establishes it from the generated definitions. -/
def CacheDiscipline : Prop := addDropsCache = true ∨ estimateUsesCache = false

/-- `distogram.load` hands the estimators the bounds it is given (`dgram.min = minimum`, `dgram.max = maximum`);
`C14.load_keeps_bounds` (Props/C14.lean) establishes it from the generated definitions. -/
def LoadGiven : Prop := Gen.ProfileEst.loadMin = .given ∧ Gen.ProfileEst.loadMax = .given

theorem fresh_eq (hl : LoadGiven) (p : EProf K) : p.fresh = ⟨p.hist, p.minimum, p.maximum⟩ := by
  unfold EProf.fresh
  rw [hl.1, hl.2]
  rfl

/-- Profiles reachable from base profiles on which nothing was estimated yet, by estimating
(`touch`: the object keeps the `Distogram` it worked on) and adding (`addWith addDropsCache mrg`;
`deep_copy` is the identity on values). -/
inductive Reach (mrg : View K → List (K × K) → Except String (List (K × K))) (Base : EProf K → Prop) :
    EProf K → Prop
  | base {p} : Base p → p.cache = none → Reach mrg Base p
  | touch {p} : Reach mrg Base p → Reach mrg Base p.touch
  | add {a b c} : Reach mrg Base a → Reach mrg Base b →
      EProf.addWith addDropsCache mrg a b = .ok c → Reach mrg Base c

theorem fresh_touch (p : EProf K) : p.touch.fresh = p.fresh := rfl

theorem view_of_none {p : EProf K} (h : p.cache = none) : p.view = p.fresh := by
  unfold EProf.view; rw [h]; simp

theorem view_touch {p : EProf K} (h : p.view = p.fresh) : p.touch.view = p.touch.fresh := by
  rw [fresh_touch]
  unfold EProf.view EProf.touch
  by_cases c : estimateUsesCache = true
  · simp only [c, if_true, Option.getD_some]; exact h
  · simp only [c]; rfl

theorem addWith_ok {drop : Bool} {mrg : View K → List (K × K) → Except String (List (K × K))}
    {a b c : EProf K} (h : EProf.addWith drop mrg a b = .ok c) :
    ∃ hh, mergedHist mrg a b = .ok hh ∧
      c = { count := addCount a.count b.count, missing := addMissing a.missing b.missing,
            minimum := optMin a.minimum b.minimum, maximum := optMax a.maximum b.maximum,
            hist := hh, cache := if drop then none else a.cache } := by
  unfold EProf.addWith at h
  cases hm : mergedHist mrg a b with
  | error e => rw [hm] at h; simp [Except.map] at h
  | ok hh =>
    rw [hm] at h
    simp only [Except.map, Except.ok.injEq] at h
    exact ⟨hh, rfl, h.symm⟩

theorem mergedHist_cases (hl : LoadGiven) {a b : EProf K} {hh : List (K × K)} (hm : mergedHist refMerge a b = .ok hh) :
    (a.hist = [] ∧ hh = b.hist) ∨ (b.hist = [] ∧ hh = a.hist) ∨
    (a.hist ≠ [] ∧ b.hist ≠ [] ∧
      (hh = (mergeRef ⟨b.hist, b.minimum, b.maximum, Gen.Distogram.binCount⟩ a.hist).bins ∨
       hh = (mergeRef ⟨a.hist, a.minimum, a.maximum, Gen.Distogram.binCount⟩ b.hist).bins)) := by
  unfold mergedHist at hm
  cases hah : a.hist with
  | nil =>
    cases hbh : b.hist with
    | nil => rw [hah, hbh] at hm; exact Or.inl ⟨rfl, (Except.ok.inj hm).symm⟩
    | cons b0 bt => rw [hah, hbh] at hm; exact Or.inl ⟨rfl, (Except.ok.inj hm).symm⟩
  | cons a0 at' =>
    cases hbh : b.hist with
    | nil => rw [hah, hbh] at hm; exact Or.inr (Or.inl ⟨rfl, (Except.ok.inj hm).symm⟩)
    | cons b0 bt =>
      rw [hah, hbh] at hm
      simp only at hm
      rw [← hah, ← hbh] at hm
      refine Or.inr (Or.inr ⟨List.cons_ne_nil _ _, List.cons_ne_nil _ _, ?_⟩)
      by_cases sw : addSwapTest a.hist.length b.hist.length = true
      · rw [if_pos sw] at hm
        simp only [refMerge, fresh_eq hl, Except.ok.injEq] at hm
        exact Or.inl (by rw [← hah, ← hbh]; exact hm.symm)
      · rw [if_neg sw] at hm
        simp only [refMerge, fresh_eq hl, Except.ok.injEq] at hm
        exact Or.inr (by rw [← hah, ← hbh]; exact hm.symm)

theorem view_add (hd : CacheDiscipline) {mrg : View K → List (K × K) → Except String (List (K × K))} {a b c : EProf K}
    (h : EProf.addWith addDropsCache mrg a b = .ok c) : c.view = c.fresh := by
  obtain ⟨hh, _, rfl⟩ := addWith_ok h
  rcases hd with d | u
  · exact view_of_none (by simp [d])
  · unfold EProf.view; simp [u]

theorem reach_view_fresh (hd : CacheDiscipline) {mrg : View K → List (K × K) → Except String (List (K × K))}
    {Base : EProf K → Prop} {p : EProf K} (h : Reach mrg Base p) : p.view = p.fresh := by
  induction h with
  | base _ hc => exact view_of_none hc
  | touch _ ih => exact view_touch ih
  | add _ _ hadd _ _ => exact view_add hd hadd

/-- What the estimators need of a profile: C13's invariants of its histogram, at most `binCount`
bins, counts adding up to the non-null values, centres within `[minimum, maximum]`. -/
structure ProfOK (p : EProf K) : Prop where
  inc : Inc p.hist
  pos : Pos p.hist
  len : p.hist.length ≤ Gen.Distogram.binCount
  mass : mass p.hist = p.count - p.missing
  bounds : p.hist ≠ [] → ∃ lo hi, p.minimum = some lo ∧ p.maximum = some hi ∧ Within lo hi p.hist

theorem touch_profOK {p : EProf K} (h : ProfOK p) : ProfOK p.touch := ⟨h.inc, h.pos, h.len, h.mass, h.bounds⟩

theorem profOK_histOK {p : EProf K} (h : ProfOK p) (hne : p.hist ≠ []) :
    ∃ lo hi, p.minimum = some lo ∧ p.maximum = some hi ∧ HistOK p.hist lo hi := by
  obtain ⟨lo, hi, h1, h2, hw⟩ := h.bounds hne
  exact ⟨lo, hi, h1, h2, h.inc, h.pos, hne, hw⟩

section
variable {α : Type} [LinearOrder α]

theorem within_widen {lo hi lo' hi' : α} {l : List (α × α)} (h : Within lo hi l) (h1 : lo' ≤ lo) (h2 : hi ≤ hi') :
    Within lo' hi' l := fun b hb => ⟨le_trans h1 (h b hb).1, le_trans (h b hb).2 h2⟩

theorem optMin_bounds (a b : Option α) (h : a.isSome ∨ b.isSome) :
    ∃ z, optMin a b = some z ∧ (∀ x, a = some x → z ≤ x) ∧ (∀ y, b = some y → z ≤ y) := by
  cases b with
  | none =>
    obtain ⟨x, rfl⟩ := Option.isSome_iff_exists.mp (h.resolve_right (by simp))
    exact ⟨x, rfl, fun _ e => (Option.some.inj e).le, nofun⟩
  | some y =>
    exact ⟨_, optMin_some_eq_minO a y, fun x e => e ▸ minO_le_old x y, fun _ e => Option.some.inj e ▸ minO_le_val a y⟩

theorem optMax_bounds (a b : Option α) (h : a.isSome ∨ b.isSome) :
    ∃ z, optMax a b = some z ∧ (∀ x, a = some x → x ≤ z) ∧ (∀ y, b = some y → y ≤ z) :=
  optMin_bounds (α := αᵒᵈ) a b h

end

omit [LinearOrder K] in
theorem addCount_eq (a b a' b' : K) : addCount a b - addMissing a' b' = (a - a') + (b - b') := by
  simp only [addCount, addMissing]; ring

variable [IsStrictOrderedRing K]

theorem refMerge_facts (sb ob : List (K × K)) (sl sh ol oh : K)
    (hi : Inc sb) (hp : Pos sb) (hlen : sb.length ≤ Gen.Distogram.binCount) (hw : Within sl sh sb) (hne : sb ≠ [])
    (hop : Pos ob) (how : Within ol oh ob) :
    let m := (mergeRef ⟨sb, some sl, some sh, Gen.Distogram.binCount⟩ ob).bins
    Inc m ∧ Pos m ∧ m.length ≤ Gen.Distogram.binCount ∧ mass m = mass sb + mass ob ∧
    ∀ lo hi', lo ≤ sl → lo ≤ ol → sh ≤ hi' → oh ≤ hi' → Within lo hi' m := by
  intro m
  obtain ⟨b, hb⟩ := List.exists_mem_of_ne_nil sb hne
  have hslh : sl ≤ sh := (hw b hb).1.trans (hw b hb).2
  let s : RState K := ⟨sb, some sl, some sh, Gen.Distogram.binCount⟩
  have hs : Inv s := ⟨hi, hp, hlen, (by decide : 1 ≤ Gen.Distogram.binCount), nofun, nofun, fun _ _ ha hb => by cases ha; cases hb; exact hw⟩
  obtain ⟨mi, mc, mm, _, mmin, mmax⟩ := mergeRef_facts ob s [sl, sh] hs hop
    ⟨List.mem_cons_self, by simp [hslh]⟩ ⟨by simp, by simp [hslh]⟩
  refine ⟨mi.inc, mi.pos, mi.len.trans_eq mc, mm, fun lo hi' h1 h2 h3 h4 => ?_⟩
  -- the bounds of the merged state are among the old bounds and the new centres, all of which lie in `[lo, hi']`
  have hall : ∀ z ∈ [sl, sh] ++ ob.map (·.1), lo ≤ z ∧ z ≤ hi' := by
    intro z hz
    simp only [List.mem_append, List.mem_cons, List.not_mem_nil, or_false, List.mem_map] at hz
    rcases hz with (rfl | rfl) | ⟨b, hb, rfl⟩
    · exact ⟨h1, hslh.trans h3⟩
    · exact ⟨h1.trans hslh, h3⟩
    · exact ⟨h2.trans (how b hb).1, (how b hb).2.trans h4⟩
  cases hmn : (mergeRef s ob).min with
  | none => exact absurd (mmin.spec.2 hmn) (List.cons_ne_nil _ _)
  | some x =>
    cases hmx : (mergeRef s ob).max with
    | none => exact absurd (mmax.spec.2 hmx) (List.cons_ne_nil _ _)
    | some y =>
      exact within_widen (mi.within x y hmn hmx) (hall x (mmin.spec.1 x hmn).1).1 (hall y (mmax.spec.1 y hmx).1).2

theorem addRef_profOK (hl : LoadGiven) {drop : Bool} {a b c : EProf K} (ha : ProfOK a) (hb : ProfOK b)
    (h : EProf.addWith drop refMerge a b = .ok c) : ProfOK c := by
  obtain ⟨hh, hm, rfl⟩ := addWith_ok h
  have hmass : ∀ l : List (K × K), mass l = mass a.hist + mass b.hist →
      mass l = addCount a.count b.count - addMissing a.missing b.missing := by
    intro l hl; rw [hl, ha.mass, hb.mass, addCount_eq]
  rcases mergedHist_cases hl hm with ⟨e, rfl⟩ | ⟨e, rfl⟩ | ⟨hna, hnb, hm⟩
  · refine ⟨hb.inc, hb.pos, hb.len, hmass _ (by rw [e, mass_nil, zero_add]), fun hne => ?_⟩
    obtain ⟨lo, hi, hlo, hhi, hw⟩ := hb.bounds hne
    obtain ⟨z, hz, _, zr⟩ := optMin_bounds a.minimum b.minimum (Or.inr (by rw [hlo]; rfl))
    obtain ⟨w, hw', _, wr⟩ := optMax_bounds a.maximum b.maximum (Or.inr (by rw [hhi]; rfl))
    exact ⟨z, w, hz, hw', within_widen hw (zr _ hlo) (wr _ hhi)⟩
  · refine ⟨ha.inc, ha.pos, ha.len, hmass _ (by rw [e, mass_nil, add_zero]), fun hne => ?_⟩
    obtain ⟨lo, hi, hlo, hhi, hw⟩ := ha.bounds hne
    obtain ⟨z, hz, zl, _⟩ := optMin_bounds a.minimum b.minimum (Or.inl (by rw [hlo]; rfl))
    obtain ⟨w, hw', wl, _⟩ := optMax_bounds a.maximum b.maximum (Or.inl (by rw [hhi]; rfl))
    exact ⟨z, w, hz, hw', within_widen hw (zl _ hlo) (wl _ hhi)⟩
  · obtain ⟨alo, ahi, halo, hahi, haw⟩ := ha.bounds hna
    obtain ⟨blo, bhi, hblo, hbhi, hbw⟩ := hb.bounds hnb
    obtain ⟨z, hz, zl, zr⟩ := optMin_bounds a.minimum b.minimum (Or.inl (by rw [halo]; rfl))
    obtain ⟨w, hw', wl, wr⟩ := optMax_bounds a.maximum b.maximum (Or.inl (by rw [hahi]; rfl))
    rw [halo, hahi, hblo, hbhi] at hm
    rcases hm with rfl | rfl
    · obtain ⟨i, p, l, m, wi⟩ := refMerge_facts b.hist a.hist blo bhi alo ahi hb.inc hb.pos hb.len hbw hnb ha.pos haw
      exact ⟨i, p, l, hmass _ (by rw [m, add_comm]), fun _ => ⟨z, w, hz, hw',
        wi z w (zr _ hblo) (zl _ halo) (wr _ hbhi) (wl _ hahi)⟩⟩
    · obtain ⟨i, p, l, m, wi⟩ := refMerge_facts a.hist b.hist alo ahi blo bhi ha.inc ha.pos ha.len haw hna hb.pos hbw
      exact ⟨i, p, l, hmass _ m, fun _ => ⟨z, w, hz, hw', wi z w (zl _ halo) (zr _ hblo) (wl _ hahi) (wr _ hbhi)⟩⟩

theorem reach_profOK (hl : LoadGiven) {p : EProf K} (h : Reach refMerge ProfOK p) : ProfOK p := by
  induction h with
  | base hb _ => exact hb
  | touch _ ih => exact touch_profOK ih
  | add _ _ hadd iha ihb => exact addRef_profOK hl iha ihb hadd

set_option linter.unusedSectionVars false in
/-- Right of the first centre `count_at` does not look at the minimum: the histogram with its
minimum moved onto the first centre answers the same. -/
theorem countAt_min_irrelevant (v0 f0 : K) (tail : List (K × K)) (vl fl lo hi z : K)
    (hl : ((v0, f0) :: tail).getLast? = some (vl, fl)) (hlo : lo ≤ v0) (hz : v0 < z) (hzhi : z ≤ hi) :
    countAt ((v0, f0) :: tail) (some v0) (some hi) z = countAt ((v0, f0) :: tail) (some lo) (some hi) z := by
  have hz' := hlo.trans_lt hz
  rcases hzhi.eq_or_lt with rfl | h
  · rw [countAt_hi rfl hl hz, countAt_hi rfl hl hz']
  by_cases h4 : vl ≤ z
  · rw [countAt_right rfl hl hz hz h4 h, countAt_right rfl hl hz' hz h4 h]
  · rw [countAt_interior rfl hl hz hz (not_le.mp h4) h, countAt_interior rfl hl hz' hz (not_le.mp h4) h]

end Distogram
