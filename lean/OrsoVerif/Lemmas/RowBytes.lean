import OrsoVerif.Model.RowBytes
import OrsoVerif.Lemmas.MsgPack
import OrsoVerif.Lemmas.Basics
/-!
# Lemmas about the record framing (helper lemmas for `Props/C01.lean`)

The lemmas unfold the generated constants (`Gen.Row.*`); if one of them changes in the source, the lemma
that depends on it is checked again and fails when its fact does not hold of the new value.
-/
namespace RowBytes

/-! ## The size test of the encoder -/

/-- The size test of `as_bytes` (`record_size <capOp> MAXIMUM_RECORD_SIZE`, operator and constant extracted) as a
proposition.  The framing lemmas below need only two facts about it: the operator is one of the two that refuse
everything *above* the constant, and the constant is below `2^31` (so an emitted length survives the decoder's C `int`).
*Which* of the two operators and *which* constant is the business of the named theorems of `Props/C01.lean`
(`encode_total`, `as_bytes_accepts_iff_payload_le_limit`, `nbytes_reaches_the_guard`): a change of either breaks those,
not the lemmas here. -/
def overCap (len : Nat) : Prop :=
  if Gen.Row.capOp = ">=" then len ≥ Gen.Row.maxRecord else len > Gen.Row.maxRecord

instance (len : Nat) : Decidable (overCap len) := by unfold overCap; infer_instance

theorem capOp_known : Gen.Row.capOp = ">" ∨ Gen.Row.capOp = ">=" := by decide

theorem cap_small : Gen.Row.maxRecord < 2147483648 := by decide

theorem overCap_of_big {len : Nat} (h : len ≥ 2147483648) : overCap len := by
  have := cap_small
  unfold overCap
  split <;> omega

theorem cmpOp_capOp (len : Nat) :
    cmpOp Gen.Row.capOp (len : Int) (Gen.Row.maxRecord : Int) = some (decide (overCap len)) := by
  unfold overCap
  rcases capOp_known with h | h <;> simp [h, cmpOp]

/-! ## The length field -/

theorem or4 (a b c d : Nat) (hb : b < 256) (hc : c < 256) (hd : d < 256) :
    (((0 ||| a <<< 24) ||| b <<< 16) ||| c <<< 8) ||| d <<< 0 = a * 16777216 + b * 65536 + c * 256 + d := by
  -- from the low end: what stands to the right of a shift by `8 i` is below `256 ^ i`, so each `|||` is a `+`
  rw [Nat.zero_or, Nat.shiftLeft_zero, Nat.or_assoc, Nat.or_assoc,
    ← Nat.shiftLeft_add_eq_or_of_lt (i := 8) hd, Nat.shiftLeft_eq c,
    ← Nat.shiftLeft_add_eq_or_of_lt (i := 16) (Nat.mul_add_lt_mul_of_lt (y := 256) hc hd), Nat.shiftLeft_eq b,
    ← Nat.shiftLeft_add_eq_or_of_lt (i := 24) (Nat.mul_add_lt_mul_of_lt (y := 256) hb (Nat.mul_add_lt_mul_of_lt (y := 256) hc hd)),
    Nat.shiftLeft_eq a]
  simp only [Nat.reducePow, Nat.add_assoc]

/-- The numeric value of four length bytes as the decoder assembles it (before the C `int` wrap). -/
def len4 (l0 l1 l2 l3 : UInt8) : Nat :=
  l0.toNat * 16777216 + l1.toNat * 65536 + l2.toNat * 256 + l3.toNat

theorem len4_lt (l0 l1 l2 l3 : UInt8) : len4 l0 l1 l2 l3 < 4294967296 := by
  simp only [len4, Nat.add_assoc]
  exact Nat.mul_add_lt_mul_of_lt l0.toNat_lt (Nat.mul_add_lt_mul_of_lt l1.toNat_lt (Nat.mul_add_lt_mul_of_lt l2.toNat_lt l3.toNat_lt))

theorem be_length (k n : Nat) : (be k n).length = k := by
  induction k with
  | zero => rfl
  | succ k ih => rw [be, List.length_cons, ih]

theorem be4 (n : Nat) : be 4 n =
    [UInt8.ofNat (n / 16777216), UInt8.ofNat (n / 65536), UInt8.ofNat (n / 256), UInt8.ofNat n] := by
  simp [be]

/-- The same fact as `MsgPack.rd32_be`: `rd32` of the four bytes unfolds to this `len4`. -/
theorem len4_be (len : Nat) (h : len < 4294967296) :
    len4 (UInt8.ofNat (len / 16777216)) (UInt8.ofNat (len / 65536)) (UInt8.ofNat (len / 256)) (UInt8.ofNat len) = len :=
  congrArg Prod.fst (Option.some.inj (MsgPack.rd32_be len [] h))

theorem div_digit (q : Nat) (b : UInt8) : (q * 256 + b.toNat) / 256 = q := by
  rw [Nat.mul_comm, Nat.mul_add_div (by decide), Nat.div_eq_of_lt b.toNat_lt, Nat.add_zero]

theorem ofNat_digit (q : Nat) (b : UInt8) : UInt8.ofNat (q * 256 + b.toNat) = b := by
  have := b.toNat_lt
  apply UInt8.toNat_inj.mp
  rw [UInt8.toNat_ofNat']; omega

/-- With the value written in Horner form, each division by 256 takes one byte off the low end (`div_digit`) and
`UInt8.ofNat` keeps the lowest one (`ofNat_digit`). -/
theorem be4_len4 (l0 l1 l2 l3 : UInt8) : be 4 (len4 l0 l1 l2 l3) = [l0, l1, l2, l3] := by
  have hn : len4 l0 l1 l2 l3 = ((l0.toNat * 256 + l1.toNat) * 256 + l2.toNat) * 256 + l3.toNat := by
    unfold len4; omega
  rw [be4, hn, show (16777216 : Nat) = 256 * 256 * 256 from rfl, show (65536 : Nat) = 256 * 256 from rfl,
    ← Nat.div_div_eq_div_mul, ← Nat.div_div_eq_div_mul, div_digit, div_digit, div_digit, ofNat_digit, ofNat_digit,
    ofNat_digit, UInt8.ofNat_toNat]

theorem cInt32_of_lt {v : Nat} (h : v < 2147483648) : cInt32 v = (v : Int) := by
  simp only [cInt32]
  rw [Nat.mod_eq_of_lt (by omega), if_neg (by omega)]

theorem cInt32_lt (v : Nat) : cInt32 v < 2147483648 := by
  simp only [cInt32]; split <;> omega

theorem cInt32_eq_natCast {v len : Nat} (hv : v < 4294967296) (h : cInt32 v = (len : Int)) : v = len := by
  simp only [cInt32] at h
  rw [Nat.mod_eq_of_lt hv] at h
  split at h <;> omega

theorem cInt32_len4_eq {l0 l1 l2 l3 : UInt8} {len : Nat} (h : cInt32 (len4 l0 l1 l2 l3) = (len : Int)) :
    be 4 len = [l0, l1, l2, l3] := by
  rw [← cInt32_eq_natCast (len4_lt l0 l1 l2 l3) h, be4_len4]

theorem recordSize_cons (p0 p1 l0 l1 l2 l3 : UInt8) (rest : Bytes) :
    recordSize (p0 :: p1 :: l0 :: l1 :: l2 :: l3 :: rest) = cInt32 (len4 l0 l1 l2 l3) := by
  simp only [recordSize, Gen.Row.lengthField, List.foldl, byteAt, List.getD_cons_succ, List.getD_cons_zero]
  rw [or4 _ _ _ _ l1.toNat_lt l2.toNat_lt l3.toNat_lt]
  rfl

theorem xor_bit_ne (b : UInt8) (j : Nat) (hj : j < 8) : b ^^^ UInt8.ofNat (2 ^ j) ≠ b := by
  intro h
  have h2 : UInt8.ofNat (2 ^ j) = 0 := by
    have := congrArg (fun x => b ^^^ x) h
    simp only [← UInt8.xor_assoc, UInt8.xor_self, UInt8.zero_xor] at this
    exact this
  have : ∀ j : Fin 8, UInt8.ofNat (2 ^ j.1) ≠ 0 := by decide
  exact this ⟨j, hj⟩ h2

/-! ## The decoder's guards -/

theorem cmp_size (a b : Int) : cmpOp Gen.Row.guardSizeOp a b = some (decide (a < b)) := by
  simp [cmpOp, Gen.Row.guardSizeOp]

theorem cmp_len (a b : Int) : cmpOp Gen.Row.guardLenOp a b = some (decide (a ≠ b)) := by
  simp [cmpOp, Gen.Row.guardLenOp]

theorem guard_size (length : Int) (data : Bytes) :
    guard "size" length data = some (if length < 14 then some .malformed else none) := by
  simp [guard, verdict, cmp_size, Gen.Row.decHeaderSize]

theorem guard_version (length : Int) (data : Bytes) :
    guard "version" length data = some (if (byteAt data 0 &&& 240) ≠ 16 then some .malformed else none) := by
  simp [guard, verdict, Gen.Row.nibbleMask, Gen.Row.nibbleValue]

theorem guard_length (length : Int) (data : Bytes) :
    guard "length" length data = some (if recordSize data ≠ length - 14 then some .badLength else none) := by
  simp [guard, verdict, cmp_len, Gen.Row.decHeaderSize]

/-- The guards of `from_bytes_cython` in the extracted order, with the extracted operators, mask,
value and header size: size, then version nibble, then length field. -/
theorem checkHead_eq (length : Nat) (data : Bytes) :
    checkHead length data =
      if (length : Int) < 14 then .error .malformed
      else if (byteAt data 0 &&& 240) ≠ 16 then .error .malformed
      else if recordSize data ≠ (length : Int) - 14 then .error .badLength
      else .ok () := by
  simp only [checkHead, Gen.Row.guardOrder, runGuards, guard_size, guard_version, guard_length]
  by_cases h1 : (length : Int) < 14
  · simp [h1]
  · by_cases h2 : (byteAt data 0 &&& 240) = 16
    · by_cases h3 : recordSize data = (length : Int) - 14
      · simp [h1, h2, h3]
      · simp [h1, h2, h3]
    · simp [h1, h2]

theorem checkFrame_eq (data : Bytes) :
    checkFrame data =
      if (data.length : Int) < 14 then .error .malformed
      else if (byteAt data 0 &&& 240) ≠ 16 then .error .malformed
      else if recordSize data ≠ (data.length : Int) - 14 then .error .badLength
      else .ok (data.drop 14) := by
  unfold checkFrame
  rw [checkHead_eq]
  by_cases h1 : (data.length : Int) < 14
  · rw [if_pos h1, if_pos h1]
  · rw [if_neg h1, if_neg h1]
    by_cases h2 : (byteAt data 0 &&& 240) ≠ 16
    · rw [if_pos h2, if_pos h2]
    · rw [if_neg h2, if_neg h2]
      by_cases h3 : recordSize data ≠ (data.length : Int) - 14
      · rw [if_pos h3, if_pos h3]
      · rw [if_neg h3, if_neg h3]; rfl

theorem checkFrame_short (data : Bytes) (h : data.length < 14) :
    checkFrame data = .error .malformed := by
  rw [checkFrame_eq, if_pos (by omega)]

theorem checkFrame_cons (p0 p1 l0 l1 l2 l3 : UInt8) (ts8 body : Bytes) (h : ts8.length = 8) :
    checkFrame (p0 :: p1 :: l0 :: l1 :: l2 :: l3 :: (ts8 ++ body)) =
      if (p0.toNat &&& 240) ≠ 16 then .error .malformed
      else if cInt32 (len4 l0 l1 l2 l3) ≠ (body.length : Int) then .error .badLength
      else .ok body := by
  have hlen : ((p0 :: p1 :: l0 :: l1 :: l2 :: l3 :: (ts8 ++ body)).length : Int) = (body.length : Int) + 14 := by
    simp only [List.length_cons, List.length_append, h]; omega
  have hdrop : (p0 :: p1 :: l0 :: l1 :: l2 :: l3 :: (ts8 ++ body)).drop 14 = body := by
    simp only [List.drop_succ_cons]; rw [← h, List.drop_left]
  rw [checkFrame_eq, hlen, hdrop, recordSize_cons, if_neg (by omega), Int.add_sub_cancel]
  rfl

theorem exists_cons6 (data : Bytes) (h : 6 ≤ data.length) :
    ∃ p0 p1 l0 l1 l2 l3 rest, data = p0 :: p1 :: l0 :: l1 :: l2 :: l3 :: rest := by
  match data, h with
  | p0 :: p1 :: l0 :: l1 :: l2 :: l3 :: rest, _ => exact ⟨p0, p1, l0, l1, l2, l3, rest, rfl⟩
  | [], h | [_], h | [_, _], h | [_, _, _], h | [_, _, _, _], h | [_, _, _, _, _], h => simp at h

theorem decodeWith_error {α : Type} (unpack : Bytes → Option α) {d : Bytes} {e : DecErr}
    (h : checkFrame d = .error e) : decodeWith unpack d = .error e := by
  unfold decodeWith; rw [h]

theorem decodeWith_ok {α : Type} (unpack : Bytes → Option α) {d p : Bytes}
    (h : checkFrame d = .ok p) :
    decodeWith unpack d = (match unpack p with | some v => .ok v | none => .error .payloadError) := by
  unfold decodeWith; rw [h]; rfl

/-! ## Emitted records -/

theorem header_eq (len ts : Nat) : header len ts =
    16 :: 0 :: UInt8.ofNat (len / 16777216) :: UInt8.ofNat (len / 65536) :: UInt8.ofNat (len / 256) :: UInt8.ofNat len
      :: be 8 ts := by
  show 16 :: 0 :: (be 4 len ++ be 8 ts) = _
  rw [be4]; rfl

theorem header_length (len ts : Nat) : (header len ts).length = 14 := rfl

theorem checkFrame_header (len ts : Nat) (body : Bytes) (h : len < 2147483648) :
    checkFrame (header len ts ++ body) =
      if len = body.length then .ok body else .error .badLength := by
  rw [header_eq]
  simp only [List.cons_append]
  rw [checkFrame_cons _ _ _ _ _ _ _ _ (be_length 8 ts), if_neg (by decide), len4_be len (by omega),
    cInt32_of_lt h]
  simp only [Int.natCast_inj, ne_eq, ite_not]

theorem take_frame (len ts : Nat) (payload : Bytes) {k : Nat} (hk : 14 ≤ k) :
    (header len ts ++ payload).take k = header len ts ++ payload.take (k - 14) := by
  rw [List.take_append, header_length, List.take_of_length_le (by rw [header_length]; exact hk)]

theorem frameBytes_eq (len ts : Nat) (payload : Bytes) :
    frameBytes len ts payload = header len ts ++ payload := by
  simp [frameBytes, Gen.Row.frameLayout, part, header]

theorem frameDecision_eq (ts len : Nat) :
    frameDecision ts len =
      if overCap len then some .tooLarge
      else if len ≥ 4294967296 ∨ ts ≥ 18446744073709551616 then some .overflow
      else none := by
  simp only [frameDecision, cmpOp_capOp, Gen.Row.lenWidth, Gen.Row.tsWidth, Nat.reducePow, decide_eq_true_eq]
  -- the two sides now differ only in `Decidable` instances that still carry `256 ^ lenWidth`, `256 ^ tsWidth`
  rfl

/-- orso/row.py:174-186 after `packb`, as one chain of tests: the cap, the two `to_bytes` widths, then the record. -/
theorem encodeFrame_eq (ts : Nat) (payload : Bytes) :
    encodeFrame ts payload =
      if overCap payload.length then .error .tooLarge
      else if payload.length ≥ 4294967296 ∨ ts ≥ 18446744073709551616 then .error .overflow
      else .ok (header payload.length ts ++ payload) := by
  unfold encodeFrame
  rw [frameDecision_eq, frameBytes_eq]
  by_cases hc : overCap payload.length
  · rw [if_pos hc, if_pos hc]
  · rw [if_neg hc, if_neg hc]
    by_cases ho : payload.length ≥ 4294967296 ∨ ts ≥ 18446744073709551616
    · rw [if_pos ho, if_pos ho]
    · rw [if_neg ho, if_neg ho]

/-- What an emitted record looks like (its length survives the decoder's 32-bit signed read). -/
theorem encodeFrame_ok {ts : Nat} {payload r : Bytes} (h : encodeFrame ts payload = .ok r) :
    payload.length < 2147483648 ∧ r = header payload.length ts ++ payload := by
  rw [encodeFrame_eq] at h
  split at h
  · cases h
  · rename_i hc
    split at h
    · cases h
    · injection h with h
      exact ⟨Nat.lt_of_not_le fun hb => hc (overCap_of_big hb), h.symm⟩

theorem checkFrame_encodeFrame {ts : Nat} {payload r : Bytes} (h : encodeFrame ts payload = .ok r) :
    checkFrame r = .ok payload := by
  obtain ⟨hl, rfl⟩ := encodeFrame_ok h
  rw [checkFrame_header _ _ _ hl, if_pos rfl]

/-- An emitted record torn at byte `k`, by tear point: below the header size the size test refuses it, from there on
the length field announces more than is left. -/
theorem decodeWith_torn {α : Type} (unpack : Bytes → Option α) {ts : Nat} {payload r : Bytes}
    (h : encodeFrame ts payload = .ok r) {k : Nat} (hk : k < r.length) :
    decodeWith unpack (r.take k) = .error (if k < 14 then .malformed else .badLength) := by
  obtain ⟨hl, rfl⟩ := encodeFrame_ok h
  rw [List.length_append, header_length] at hk
  apply decodeWith_error
  by_cases hk14 : k < 14
  · rw [if_pos hk14]
    exact checkFrame_short _ (by rw [List.length_take]; omega)
  · rw [if_neg hk14, take_frame _ _ _ (by omega), checkFrame_header _ _ _ hl,
      if_neg (by rw [List.length_take]; omega)]

end RowBytes
