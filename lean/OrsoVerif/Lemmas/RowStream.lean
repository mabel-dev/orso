import OrsoVerif.Model.RowStream
import OrsoVerif.Lemmas.RowBytes
/-!
# Lemmas about records one after another (helper lemmas for `Props/C01.lean`)
-/
namespace RowStream
open RowBytes

theorem recordSize_header (len ts : Nat) (body : Bytes) (h : len < 2147483648) :
    recordSize (header len ts ++ body) = (len : Int) := by
  rw [header_eq]
  simp only [List.cons_append]
  rw [recordSize_cons, len4_be len (by omega), cInt32_of_lt h]

theorem emitted_length {ts : Nat} {payload r : Bytes} (h : encodeFrame ts payload = .ok r) :
    r.length = 14 + payload.length := by
  obtain ⟨_, rfl⟩ := encodeFrame_ok h
  rw [List.length_append, header_length]

theorem nextRecord_header (len ts : Nat) (body : Bytes) (h : len < 2147483648) :
    nextRecord (header len ts ++ body) =
      if body.length < len then .error .badLength
      else .ok (header len ts ++ body.take len, body.drop len) := by
  unfold nextRecord
  simp only [recordSize_header _ _ _ h, Gen.Row.decHeaderSize, Int.toNat_natCast, List.length_append, header_length]
  rw [if_neg (by omega), if_neg (by omega)]
  by_cases hb : body.length < len
  · rw [if_pos (by omega), if_pos hb]
  · -- the 14 of the cut read as the header's length: `take` and `drop` then split at the seam
    rw [if_neg (by omega), if_neg hb, ← header_length len ts, List.take_length_add_append,
      List.drop_length_add_append, checkFrame_header _ _ _ h, if_pos (by rw [List.length_take]; omega)]

theorem nextRecord_emitted {ts : Nat} {payload r : Bytes} (h : encodeFrame ts payload = .ok r)
    (rest : Bytes) : nextRecord (r ++ rest) = .ok (r, rest) := by
  obtain ⟨hl, rfl⟩ := encodeFrame_ok h
  rw [List.append_assoc, nextRecord_header _ _ _ hl, if_neg (by rw [List.length_append]; omega),
    List.take_left, List.drop_left]

theorem nextRecord_torn {ts : Nat} {payload r : Bytes} (h : encodeFrame ts payload = .ok r)
    {k : Nat} (hk : k < r.length) :
    nextRecord (r.take k) = .error (if k < 14 then .malformed else .badLength) := by
  obtain ⟨hl, rfl⟩ := encodeFrame_ok h
  rw [List.length_append, header_length] at hk
  by_cases hk14 : k < 14
  · unfold nextRecord
    rw [if_pos hk14, if_pos (by rw [List.length_take]; exact Nat.lt_of_le_of_lt (Nat.min_le_left ..) hk14)]
  · rw [if_neg hk14, take_frame _ _ _ (Nat.le_of_not_lt hk14), nextRecord_header _ _ _ hl,
      if_pos (by rw [List.length_take]; omega)]

def Emitted (r : Bytes) : Prop := ∃ ts payload, encodeFrame ts payload = .ok r

theorem Emitted.ne_nil {r : Bytes} (h : Emitted r) : r ≠ [] := by
  obtain ⟨ts, p, h⟩ := h
  have := emitted_length h
  intro hr; rw [hr] at this; simp only [List.length_nil] at this; omega

theorem splitFuel_emitted {r : Bytes} (hr : Emitted r) (fuel : Nat) (rest : Bytes) :
    splitFuel (fuel + 1) (r ++ rest) =
      match splitFuel fuel rest with
      | .error e => .error e
      | .ok rs => .ok (r :: rs) := by
  obtain ⟨ts, p, he⟩ := hr
  cases hb : r ++ rest with
  | nil => exact absurd (List.append_eq_nil_iff.mp hb).1 (Emitted.ne_nil ⟨ts, p, he⟩)
  | cons b bs => rw [splitFuel, ← hb, nextRecord_emitted he]; rfl

theorem splitFuel_flatten_append (rs : List Bytes) (hrs : ∀ r ∈ rs, Emitted r) (t : Bytes) (fuel : Nat) :
    splitFuel (rs.length + fuel) (rs.flatten ++ t) = (splitFuel fuel t).map (rs ++ ·) := by
  induction rs with
  | nil =>
    rw [List.length_nil, Nat.zero_add, List.flatten_nil, List.nil_append]
    cases splitFuel fuel t <;> rfl
  | cons r rs ih =>
    rw [List.length_cons, Nat.add_right_comm, List.flatten_cons, List.append_assoc,
      splitFuel_emitted (hrs r (List.mem_cons_self ..)), ih fun x hx => hrs x (List.mem_cons_of_mem _ hx)]
    cases splitFuel fuel t <;> rfl

theorem splitFuel_flatten (rs : List Bytes) (hrs : ∀ r ∈ rs, Emitted r) (fuel : Nat) (hf : rs.length ≤ fuel) :
    splitFuel fuel rs.flatten = .ok rs := by
  obtain ⟨f, rfl⟩ := Nat.exists_eq_add_of_le hf
  have h := splitFuel_flatten_append rs hrs [] f
  rw [List.append_nil, show splitFuel f [] = .ok [] by cases f <;> rfl] at h
  rw [h, Except.map, List.append_nil]

theorem splitFuel_torn (rs : List Bytes) (hrs : ∀ r ∈ rs, Emitted r) (t : Bytes) (ht : t ≠ [])
    (e : DecErr) (he : nextRecord t = .error e) (fuel : Nat) (hf : rs.length + 1 ≤ fuel) :
    splitFuel fuel (rs.flatten ++ t) = .error e := by
  obtain ⟨f, rfl⟩ := Nat.exists_eq_add_of_le hf
  cases t with
  | nil => exact absurd rfl ht
  | cons b bs => rw [Nat.add_assoc, splitFuel_flatten_append rs hrs, Nat.add_comm 1 f, splitFuel, he]; rfl

theorem length_le_flatten (rs : List Bytes) (hrs : ∀ r ∈ rs, r ≠ []) : rs.length ≤ rs.flatten.length := by
  induction rs with
  | nil => simp
  | cons r rs ih =>
    have h1 : 0 < r.length := List.length_pos_iff.mpr (hrs r (by simp))
    have h2 := ih (fun x hx => hrs x (by simp [hx]))
    simp only [List.flatten_cons, List.length_append, List.length_cons]; omega

theorem decodeAllWith_map {α β : Type} (dec : Bytes → Except DecErr α) (xs : List β) (f : β → Bytes) (g : β → α)
    (h : ∀ x ∈ xs, dec (f x) = .ok (g x)) : decodeAllWith dec (xs.map f) = .ok (xs.map g) := by
  induction xs with
  | nil => rfl
  | cons x xs ih =>
    simp only [List.map_cons, decodeAllWith]
    rw [h x (by simp), ih (fun y hy => h y (by simp [hy]))]

end RowStream
