import OrsoVerif.Lemmas.TypeName
/-!
Sessions on frames over shared schemas (C06, "the type code a DataFrame reports for the column resolves back to
the same type" when the code is read more than once and the schema is edited in between): the vocabulary of the
session theorems of `Props/C06.lean` and the lemmas under them.
-/
namespace TypeName
open Gen.TypeName

theorem describeNames_map (how : Lookup) (all : List Col) (i : Nat) (cs : List Col) :
    describeNames how all i (cs.map (·.name)) = describeFrom how all i cs := by
  induction cs generalizing i with
  | nil => rfl
  | cons c cs ih =>
    simp only [List.map_cons, describeNames, describeFrom, entrySource, ih]

theorem setDescAt_names (cols : List Col) (i : Nat) (d : Desc) :
    (setDescAt cols i d).map (·.name) = cols.map (·.name) := by
  induction cols generalizing i with
  | nil => rfl
  | cons c cs ih => cases i <;> simp [setDescAt, ih]

theorem setDescAt_length (cols : List Col) (i : Nat) (d : Desc) : (setDescAt cols i d).length = cols.length := by
  simpa only [List.length_map] using congrArg List.length (setDescAt_names cols i d)

theorem setColNameAt_length (cols : List Col) (i : Nat) (n : Str) : (setColNameAt cols i n).length = cols.length := by
  induction cols generalizing i with
  | nil => rfl
  | cons c cs ih => cases i <;> simp [setColNameAt, ih]

theorem setSchemaAt_eq (S : List (List Col)) (j i : Nat) (d : Desc) :
    setSchemaAt S j i d = S.modify j fun cols => setDescAt cols i d := by
  induction S generalizing j with
  | nil => simp [setSchemaAt]
  | cons a as ih => cases j <;> simp [setSchemaAt, ih]

theorem setSchemaNameAt_eq (S : List (List Col)) (j i : Nat) (n : Str) :
    setSchemaNameAt S j i n = S.modify j fun cols => setColNameAt cols i n := by
  induction S generalizing j with
  | nil => simp [setSchemaNameAt]
  | cons a as ih => cases j <;> simp [setSchemaNameAt, ih]

/-! ### the kept tuple of names

`column_names` is kept per frame, so `description` may iterate over a tuple of names read earlier.  The lemmas are
stated for a relation `R` between that tuple and the columns the frame's schema has now (equal to their names, or
merely as many), and for reads seen through a view `v` that cannot tell a tuple in relation `R` from the current names. -/

/-- the kept tuple of names (if any) belongs to an existing frame and stands in the relation `R` to the columns
that frame's schema has now.  `NamesOK` below is, by definition, `NamesRel` at `ns = cols.map (·.name)`. -/
def NamesRel (R : List Str → List Col → Prop) (s : Sess) : Prop :=
  ∀ k ns, s.keptNames = some (k, ns) → k < s.frames.length ∧
    ∀ j cols, s.frames[k]? = some j → s.schemas[j]? = some cols → R ns cols

/-- the kept tuple of names (if any) belongs to an existing frame and equals the current names of that frame's
columns — true of a fresh process (`keptNames = none`) and kept by every step, because a redeclaration keeps the
name of the column and the number of columns. -/
def NamesOK (s : Sess) : Prop :=
  ∀ k ns, s.keptNames = some (k, ns) → k < s.frames.length ∧
    ∀ j cols, s.frames[k]? = some j → s.schemas[j]? = some cols → ns = cols.map (·.name)

theorem namesRel_of_none {R : List Str → List Col → Prop} {s : Sess} (h : s.keptNames = none) : NamesRel R s := by
  intro k ns hk; rw [h] at hk; cases hk

theorem namesOK_of_none {s : Sess} (h : s.keptNames = none) : NamesOK s := namesRel_of_none h

theorem namesRel_frame {R : List Str → List Col → Prop} {s : Sess} (h : NamesRel R s) (j : Nat) :
    NamesRel R { s with frames := s.frames ++ [j] } := by
  intro k ns hkn
  obtain ⟨hlt, hrest⟩ := h k ns hkn
  refine ⟨by simp; omega, ?_⟩
  intro j' cols hk hj
  simp only at hk hj
  rw [List.getElem?_append_left hlt] at hk
  exact hrest j' cols hk hj

theorem namesRel_schemas {R : List Str → List Col → Prop} {s : Sess} (h : NamesRel R s) (j : Nat)
    (f : List Col → List Col) (hf : ∀ ns cols, R ns cols → R ns (f cols)) :
    NamesRel R { s with schemas := s.schemas.modify j f } := by
  intro k ns hkn
  obtain ⟨hlt, hrest⟩ := h k ns hkn
  refine ⟨hlt, ?_⟩
  intro j' cols hk hj
  simp only at hk hj
  rw [List.getElem?_modify] at hj
  cases hs : s.schemas[j']? with
  | none => rw [hs] at hj; cases hj
  | some cols0 =>
    rw [hs] at hj
    cases hj
    split
    · exact hf ns cols0 (hrest j' cols0 hk hs)
    · exact hrest j' cols0 hk hs

section
variable {R : List Str → List Col → Prop} (hR : ∀ cols : List Col, R (cols.map (·.name)) cols)
include hR

theorem names_rel {s : Sess} (h : NamesRel R s) (nmode : ReadMode) {k j : Nat} {cols : List Col}
    (hk : s.frames[k]? = some j) (hj : s.schemas[j]? = some cols) : R (s.names nmode k cols) cols := by
  unfold Sess.names
  split
  · rename_i k' ns hkn
    split
    · rename_i hkk
      subst hkk
      exact (h k' ns hkn).2 j cols hk hj
    · exact hR cols
  · exact hR cols

theorem Sess.read_fresh_view {γ : Type} (v : Option (List Entry) → γ)
    (hv : ∀ ns cols, R ns cols → v (describeNames descLookup cols 0 ns) = v (describe cols))
    {s : Sess} (h : NamesRel R s) (nmode : ReadMode) (k : Nat) :
    v (s.read .fresh nmode k).2 = v ((s.frames[k]?).bind fun j => (s.schemas[j]?).bind describe) ∧
    (s.read .fresh nmode k).1.schemas = s.schemas ∧ (s.read .fresh nmode k).1.frames = s.frames ∧
    NamesRel R (s.read .fresh nmode k).1 := by
  -- nothing is kept around `description`, so the read is the body of the property
  have hread : s.read .fresh nmode k = s.compute nmode k := by
    unfold Sess.read
    rcases s.compute nmode k with ⟨s', _ | es⟩ <;> rfl
  rw [hread]
  unfold Sess.compute
  cases hk : s.frames[k]? with
  | none => exact ⟨rfl, rfl, rfl, h⟩
  | some j =>
    simp only [Option.bind_some]
    cases hj : s.schemas[j]? with
    | none => exact ⟨rfl, rfl, rfl, h⟩
    | some cols =>
      have hn := names_rel hR h nmode hk hj
      refine ⟨hv _ _ hn, rfl, rfl, ?_⟩
      cases nmode with
      | fresh => exact h
      | keptPerFrame =>
        -- the tuple kept now is the one just used, for frame `k`
        intro k' ns hkn
        change some (k, s.names .keptPerFrame k cols) = some (k', ns) at hkn
        simp only [Option.some.injEq, Prod.mk.injEq] at hkn
        obtain ⟨rfl, rfl⟩ := hkn
        refine ⟨(List.getElem?_eq_some_iff.mp hk).1, ?_⟩
        intro j' cols' hk' hj'
        obtain rfl := Option.some.inj (hk.symm.trans hk')
        obtain rfl := Option.some.inj (hj.symm.trans hj')
        exact hn

theorem run_fresh_view {γ : Type} (v : Option (List Entry) → γ)
    (hv : ∀ ns cols, R ns cols → v (describeNames descLookup cols 0 ns) = v (describe cols))
    (hdecl : ∀ i d ns cols, R ns cols → R ns (setDescAt cols i d))
    (nmode : ReadMode) (s : Sess) (h : NamesRel R s) (ops : List SOp)
    (hren : ∀ j i n, SOp.rename j i n ∈ ops → ∀ ns cols, R ns cols → R ns (setColNameAt cols i n)) :
    (Sess.run .fresh nmode s ops).map v = (currentReads s.schemas s.frames ops).map v := by
  induction ops generalizing s with
  | nil => rfl
  | cons op ops ih =>
    have hrest := fun j i n (hm : SOp.rename j i n ∈ ops) => hren j i n (List.mem_cons_of_mem _ hm)
    cases op with
    | frame j =>
      simp only [Sess.run, Sess.step, currentReads, List.nil_append]
      exact ih _ (namesRel_frame h j) hrest
    | read k =>
      obtain ⟨h1, h2, h3, h4⟩ := Sess.read_fresh_view hR v hv h nmode k
      simp only [Sess.run, Sess.step, currentReads, List.singleton_append, List.map_cons, h1]
      rw [ih _ h4 hrest, h2, h3]
    | redeclare j i d =>
      simp only [Sess.run, Sess.step, currentReads, List.nil_append]
      rw [setSchemaAt_eq]
      exact ih _ (namesRel_schemas h j _ (hdecl i d)) hrest
    | rename j i n =>
      simp only [Sess.run, Sess.step, currentReads, List.nil_append]
      rw [setSchemaNameAt_eq]
      exact ih _ (namesRel_schemas h j _ (hren j i n List.mem_cons_self)) hrest

end

theorem run_fresh_eq (nmode : ReadMode) (s : Sess) (h : NamesOK s) (ops : List SOp)
    (hops : ∀ op ∈ ops, op.keepsNames = true) :
    Sess.run .fresh nmode s ops = currentReads s.schemas s.frames ops := by
  have := run_fresh_view (R := fun ns cols => ns = cols.map (·.name)) (fun _ => rfl) id
    (fun ns cols hn => by rw [hn, describeNames_map]; rfl)
    (fun i d ns cols hn => by rw [hn, setDescAt_names]) nmode s h ops
    (fun _ _ _ hm => absurd (hops _ hm) (by simp [SOp.keepsNames]))
  simpa only [List.map_id] using this

/-! ### renames: the names may be stale, the type codes are not -/

theorem entryOf_bare (n n' : Str) (d : Desc) :
    (entryOf n d).map Entry.bare = (entryOf n' d).map Entry.bare := by
  unfold entryOf
  cases codeState d with
  | none => rfl
  | some st =>
    simp only
    cases st.code <;> rfl

/-- the entries without some of their fields (`g`) are determined by the single entries without those fields. -/
theorem describeNames_cons_map {β : Type} (g : Entry → β) (how : Lookup) (all : List Col) (i : Nat) (n : Str)
    (ns : List Str) :
    (describeNames how all i (n :: ns)).map (List.map g) =
      (((match how with
          | .byPosition => all[i]?
          | .byName => findColumn all n).bind fun cd => entryOf n cd.desc).map g).bind fun e =>
        ((describeNames how all (i + 1) ns).map (List.map g)).map (e :: ·) := by
  simp only [describeNames]
  generalize Option.bind _ _ = a
  cases a <;> cases describeNames how all (i + 1) ns <;> rfl

theorem describeNames_bare (all : List Col) (i : Nat) (ns ns' : List Str) (h : ns.length = ns'.length) :
    (describeNames .byPosition all i ns).map (List.map Entry.bare)
      = (describeNames .byPosition all i ns').map (List.map Entry.bare) := by
  induction ns generalizing i ns' with
  | nil =>
    cases ns' with
    | nil => rfl
    | cons _ _ => cases h
  | cons n ns ih =>
    cases ns' with
    | nil => cases h
    | cons n' ns' =>
      have hb : ((all[i]?).bind fun cd => entryOf n cd.desc).map Entry.bare
          = ((all[i]?).bind fun cd => entryOf n' cd.desc).map Entry.bare := by
        cases all[i]? with
        | none => rfl
        | some cd => exact entryOf_bare n n' cd.desc
      rw [describeNames_cons_map, describeNames_cons_map, hb, ih (i + 1) ns' (Nat.succ.inj h)]

theorem run_fresh_bare (nmode : ReadMode) (s : Sess) (h : s.keptNames = none) (ops : List SOp) :
    bareReads (Sess.run .fresh nmode s ops) = bareReads (currentReads s.schemas s.frames ops) :=
  run_fresh_view (R := fun ns cols => ns.length = cols.length) (fun cols => List.length_map _)
    (Option.map (List.map Entry.bare))
    (fun ns cols hn => by
      -- the entries are built by position, so only the number of names matters
      rw [descLookup_byPosition, describeNames_bare cols 0 ns (cols.map (·.name)) (by rw [hn, List.length_map]),
        describeNames_map]
      unfold describe describeWith
      rw [descLookup_byPosition])
    (fun i d ns cols hn => by rw [hn, setDescAt_length]) nmode s (namesRel_of_none h) ops
    (fun _ i n _ ns cols hn => by rw [hn, setColNameAt_length])

/-! ### the declared side of a session -/

/-- name, aliases and declared (well-formed) type name of a column. -/
abbrev ColSpec := Str × List Str × TName

/-- the column was declared under this name with this type name: `FlatColumn(name=…, aliases=…, type=render t)`. -/
def declRel (sp : ColSpec) (c : Col) : Prop :=
  c.name = sp.1 ∧ c.aliases = sp.2.1 ∧ declare (render sp.2.2) = .ok c.desc

/-- every schema of the session holds columns declared with the well-formed names of `D`. -/
def Declared (D : List (List ColSpec)) (S : List (List Col)) : Prop :=
  (∀ sps ∈ D, ∀ sp ∈ sps, wfName sp.2.2 = true) ∧ List.Forall₂ (List.Forall₂ declRel) D S

/-- the type attributes of `FlatColumn(type=render t)`. -/
def declaredDesc (t : TName) : Desc :=
  match declare (render t) with
  | .ok d => d
  | .error _ => { ty := .zero }

/-- a step of a session in terms of type names. -/
inductive NOp where
  | frame (j : Nat)
  | read (k : Nat)
  /-- `S_j.columns[i] = FlatColumn(name=<the same>, aliases=<the same>, type=render t)` -/
  | redeclare (j i : Nat) (t : TName)
  deriving Repr, DecidableEq

def NOp.wf : NOp → Bool
  | .redeclare _ _ t => wfName t
  | _ => true

/-- the step as the model runs it. -/
def NOp.lower : NOp → SOp
  | .frame j => .frame j
  | .read k => .read k
  | .redeclare j i t => .redeclare j i (declaredDesc t)

/-- column `i` declared with the *type* name `t`; its own name and aliases stay (the counterpart of `setDescAt`, not of
`setColNameAt`). -/
def setNameAt : List ColSpec → Nat → TName → List ColSpec
  | [], _, _ => []
  | sp :: sps, 0, t => (sp.1, sp.2.1, t) :: sps
  | sp :: sps, i + 1, t => sp :: setNameAt sps i t

def setDeclAt : List (List ColSpec) → Nat → Nat → TName → List (List ColSpec)
  | [], _, _, _ => []
  | s :: ss, 0, i, t => setNameAt s i t :: ss
  | s :: ss, j + 1, i, t => s :: setDeclAt ss j i t

/-- one read is right for the declarations `sps` in force: a list comes back, one entry per column, entry `i`
bears column `i`'s name and its type code resolves back to the type name column `i` is declared with *now*. -/
def ReadOK (sps : List ColSpec) (o : Option (List Entry)) : Prop :=
  ∃ es, o = some es ∧ es.length = sps.length ∧
    ∀ (i : Nat) (sp : ColSpec), sps[i]? = some sp →
      ∃ e, es[i]? = some e ∧ e.name = sp.1 ∧ codeResolvesTo sp.2.2 e.code = true

/-- every read of the session is right for the declarations in force at that read. -/
def ReadsResolve : List (List ColSpec) → List Nat → List NOp → List (Option (List Entry)) → Prop
  | _, _, [], outs => outs = []
  | D, fr, .frame j :: ops, outs => ReadsResolve D (fr ++ [j]) ops outs
  | D, fr, .redeclare j i t :: ops, outs => ReadsResolve (setDeclAt D j i t) fr ops outs
  | D, fr, .read k :: ops, outs =>
    match outs with
    | [] => False
    | o :: outs' =>
      (∀ j sps, fr[k]? = some j → D[j]? = some sps → ReadOK sps o) ∧ ReadsResolve D fr ops outs'

theorem columnRoundTrips_resolves {t : TName} {c : Desc} {code : Str}
    (h : columnRoundTrips t c = true) (hc : typeCode c = some code) : codeResolvesTo t code = true := by
  unfold columnRoundTrips at h
  rw [hc] at h
  unfold codeResolvesTo
  cases hf : fromName code with
  | error e => simp [hf] at h
  | ok d =>
    simp only [hf, Bool.and_eq_true, beq_iff_eq] at h
    obtain ⟨h1, ⟨⟨hty, hp⟩, hs⟩, he⟩ := h
    -- what the code resolves to is the column's type, precision, scale and element type; a width is not asked for
    simp only [hty, hp, hs, he]
    cases t with
    | varchar n => exact (Bool.and_eq_true_iff.mp h1).1
    | blob n => exact (Bool.and_eq_true_iff.mp h1).1
    | _ => exact h1

theorem setNameAt_declared {sps : List ColSpec} {cols : List Col} {i : Nat} {t : TName} {d : Desc}
    (ht : wfName t = true) (hd : declare (render t) = .ok d)
    (hw : ∀ sp ∈ sps, wfName sp.2.2 = true) (h : List.Forall₂ declRel sps cols) :
    (∀ sp ∈ setNameAt sps i t, wfName sp.2.2 = true) ∧
      List.Forall₂ declRel (setNameAt sps i t) (setDescAt cols i d) := by
  induction h generalizing i with
  | nil => exact ⟨hw, .nil⟩
  | cons hr hrest ih =>
    rw [List.forall_mem_cons] at hw
    cases i with
    | zero => exact ⟨List.forall_mem_cons.mpr ⟨ht, hw.2⟩, .cons ⟨hr.1, hr.2.1, hd⟩ hrest⟩
    | succ i => exact ⟨List.forall_mem_cons.mpr ⟨hw.1, (ih hw.2).1⟩, .cons hr (ih hw.2).2⟩

theorem declared_setDeclAt {D : List (List ColSpec)} {S : List (List Col)} {j i : Nat} {t : TName} {d : Desc}
    (ht : wfName t = true) (hd : declare (render t) = .ok d) (h : Declared D S) :
    Declared (setDeclAt D j i t) (setSchemaAt S j i d) := by
  obtain ⟨hw, h⟩ := h
  induction h generalizing j with
  | nil => exact ⟨hw, .nil⟩
  | cons hr hrest ih =>
    rw [List.forall_mem_cons] at hw
    cases j with
    | zero =>
      have hset := setNameAt_declared (i := i) ht hd hw.1 hr
      exact ⟨List.forall_mem_cons.mpr ⟨hset.1, hw.2⟩, .cons hset.2 hrest⟩
    | succ j => exact ⟨List.forall_mem_cons.mpr ⟨hw.1, (ih hw.2).1⟩, .cons hr (ih hw.2).2⟩

end TypeName
