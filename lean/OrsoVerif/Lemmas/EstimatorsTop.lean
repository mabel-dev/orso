import OrsoVerif.Lemmas.Estimators
/-!
# Lemmas for C14, continued: `count_at` and `quantile` branch by branch (equations, which need only a field with a linear
order), then the branches put together (bounds and monotonicity, over an ordered field)
-/
namespace Distogram

variable {K : Type} [Field K] [LinearOrder K]

/-- C13's invariants, as C14 assumes them: centres strictly increasing, counts positive, at least
one bin, every centre within `[lo, hi]`. -/
structure HistOK (bins : List (K × K)) (lo hi : K) : Prop where
  inc : Inc bins
  pos : Pos bins
  ne : bins ≠ []
  within : Within lo hi bins

section branches
variable {bins : List (K × K)} {v0 f0 vl fl lo hi x : K} (hh : bins.head? = some (v0, f0))
  (hl : bins.getLast? = some (vl, fl))
include hh hl

theorem countAt_unfold (x : K) :
    countAt bins (some lo) (some hi) x =
      if x < lo ∨ hi < x then none
      else if x = lo then some 0
      else if x = hi then some (mass bins)
      else if x ≤ v0 then some ((x - lo) / (v0 - lo) * v0 / 2)
      else if vl ≤ x then some ((1 + (x - vl) / (hi - vl)) * fl / 2 + mass bins.dropLast)
      else interior bins x := by
  have e : ∀ a b : K, Gen.DistogramExpr.eqK a b = true ↔ a = b := eqK_iff'
  unfold countAt
  simp only [hh, hl, sumCounts_eq_mass, Gen.DistogramExpr.countOutside, Gen.DistogramExpr.countAtMin,
    Gen.DistogramExpr.countAtMax, Gen.DistogramExpr.countLeftTest, Gen.DistogramExpr.countLeftRatio,
    Gen.DistogramExpr.countLeftResult, Gen.DistogramExpr.countRightTest, Gen.DistogramExpr.countRightRatio,
    Gen.DistogramExpr.countRightResult, e, ge_iff_le, decide_eq_true_eq, not_and_or, not_le]

theorem countAt_lo (h : lo ≤ hi) : countAt bins (some lo) (some hi) lo = some 0 := by
  rw [countAt_unfold hh hl lo, if_neg (not_or.mpr ⟨lt_irrefl _, not_lt.mpr h⟩), if_pos rfl]

theorem countAt_hi (h : lo < hi) :
    countAt bins (some lo) (some hi) hi = some (mass bins) := by
  rw [countAt_unfold hh hl hi, if_neg (not_or.mpr ⟨not_lt.mpr h.le, lt_irrefl _⟩), if_neg h.ne',
    if_pos rfl]

theorem countAt_left (h1 : lo < x) (h2 : x ≤ v0) (h3 : x < hi) :
    countAt bins (some lo) (some hi) x = some ((x - lo) / (v0 - lo) * v0 / 2) := by
  rw [countAt_unfold hh hl x, if_neg (not_or.mpr ⟨not_lt.mpr h1.le, not_lt.mpr h3.le⟩),
    if_neg h1.ne', if_neg h3.ne, if_pos h2]

theorem countAt_right (h1 : lo < x) (h2 : v0 < x) (h3 : vl ≤ x) (h4 : x < hi) :
    countAt bins (some lo) (some hi) x =
      some ((1 + (x - vl) / (hi - vl)) * fl / 2 + mass bins.dropLast) := by
  rw [countAt_unfold hh hl x, if_neg (not_or.mpr ⟨not_lt.mpr h1.le, not_lt.mpr h4.le⟩),
    if_neg h1.ne', if_neg h4.ne, if_neg (not_le.mpr h2), if_pos h3]

theorem countAt_interior (h1 : lo < x) (h2 : v0 < x) (h3 : x < vl) (h4 : x < hi) :
    countAt bins (some lo) (some hi) x = interior bins x := by
  rw [countAt_unfold hh hl x, if_neg (not_or.mpr ⟨not_lt.mpr h1.le, not_lt.mpr h4.le⟩),
    if_neg h1.ne', if_neg h4.ne, if_neg (not_le.mpr h2), if_neg (not_le.mpr h3)]

end branches

variable {bins : List (K × K)} {lo hi : K}

theorem shape (ok : HistOK bins lo hi) :
    ∃ v0 f0 vl fl, bins.head? = some (v0, f0) ∧ bins.getLast? = some (vl, fl) := by
  obtain ⟨⟨v0, f0⟩, tail, rfl⟩ := List.exists_cons_of_ne_nil ok.ne
  cases h : ((v0, f0) :: tail).getLast? with
  | none => simp at h
  | some bl => exact ⟨v0, f0, bl.1, bl.2, rfl, rfl⟩

theorem head_within {v0 f0 : K} (ok : HistOK bins lo hi) (hh : bins.head? = some (v0, f0)) : lo ≤ v0 :=
  (ok.within _ (List.mem_of_mem_head? hh)).1

theorem scanQ_cons_cons (acc : K) (vi fi vj fj : K) (rest : List (K × K)) (mb : K) :
    scanQ acc ((vi, fi) :: (vj, fj) :: rest) mb =
      if mb < acc + (fi + fj) / 2 then some (vi + (mb - acc) / ((fi + fj) / 2) * (vj - vi))
      else scanQ (acc + (fi + fj) / 2) ((vj, fj) :: rest) mb := by
  simp only [scanQ, Gen.DistogramExpr.quantMid, Gen.DistogramExpr.quantWalkTest, Gen.DistogramExpr.quantInteriorResult,
    Gen.DistogramExpr.quantInteriorFraction]
  by_cases c : mb < acc + (fi + fj) / 2 <;> simp only [c, decide_true, decide_false, if_true, Bool.false_eq_true, if_false]

theorem quantileQ_unfold {v0 f0 vl fl lo hi : K} (hh : bins.head? = some (v0, f0))
    (hl : bins.getLast? = some (vl, fl)) (q : K) :
    quantileQ bins (some lo) (some hi) q =
      if q ≤ f0 / 2 then some (lo + q / (f0 / 2) * (v0 - lo))
      else if mass bins - fl / 2 ≤ q then some (vl + (q - (mass bins - fl / 2)) / (fl / 2) * (hi - vl))
      else scanQ 0 bins (q - f0 / 2) := by
  unfold quantileQ
  simp only [hh, hl, sumCounts_eq_mass, Gen.DistogramExpr.quantLeftTest, Gen.DistogramExpr.quantLeftFraction,
    Gen.DistogramExpr.quantLeftResult, Gen.DistogramExpr.quantRightTest, Gen.DistogramExpr.quantRightBase,
    Gen.DistogramExpr.quantRightFraction, Gen.DistogramExpr.quantRightResult, Gen.DistogramExpr.quantMb, ge_iff_le,
    decide_eq_true_eq]

theorem quantile_eq (floor : K → K) (ok : HistOK bins lo hi) {value : K} (h0 : 0 ≤ value) (h1 : value ≤ 1) :
    quantile floor bins (some lo) (some hi) value =
      quantileQ bins (some lo) (some hi) (floor (mass bins * value)) := by
  unfold quantile
  have : bins.isEmpty = false := by
    cases hb : bins with
    | nil => exact absurd hb ok.ne
    | cons _ _ => rfl
  rw [this, sumCounts_eq_mass]
  simp [Gen.DistogramExpr.quantInRange, Gen.DistogramExpr.quantCountArg, h0, h1]

variable [IsStrictOrderedRing K]

/-- The left tail interpolates between 0 at the minimum and `w / 2` at the first centre; `count_at` has the first centre for
`w` where the level of the first centre is `f / 2`, so the band is kept only when `0 ≤ w ≤ f`. -/
theorem left_monoOn {lo v0 w f : K} :
    MonoOn (fun z => (lo < z ∧ z ≤ v0) ∧ 0 ≤ w ∧ w ≤ f) (fun z => some ((z - lo) / (v0 - lo) * w / 2)) 0 (f / 2) := by
  intro p q dp dq hpq
  have h := lerp_between (div_nonneg dp.2.1 zero_le_two) (sub_pos.mpr (dp.1.1.trans_le dp.1.2)) (sub_pos.mpr dp.1.1).le
    (sub_le_sub_right hpq lo) (sub_le_sub_right dq.1.2 lo)
  rw [zero_add, zero_add, sub_zero, ← mul_div_assoc, ← mul_div_assoc] at h
  exact ⟨_, _, rfl, rfl, h.1, h.2.1, h.2.2.trans (div_le_div_of_nonneg_right dp.2.2 zero_le_two)⟩

/-- The condition under which the left tail of `count_at` as it exists (`ratio * v0 / 2`) behaves:
either the first centre is the minimum (the branch is then unreachable — true of histograms that
never merged their first bin and of column profiles, whose first bin is numpy's first left edge),
or the first centre happens to satisfy `0 ≤ v0 ≤ f0`. -/
def LeftTailOK (bins : List (K × K)) (lo : K) : Prop :=
  ∀ v0 f0, bins.head? = some (v0, f0) → lo = v0 ∨ (0 ≤ v0 ∧ v0 ≤ f0)

theorem right_eq (r fl D : K) : (1 + r) * fl / 2 + D = D + fl / 2 + r * (D + fl - (D + fl / 2)) := by ring

theorem right_monoOn {hi vl fl : K} (D : K) (hf : 0 ≤ fl) :
    MonoOn (fun z => vl ≤ z ∧ z < hi) (fun z => some ((1 + (z - vl) / (hi - vl)) * fl / 2 + D)) (D + fl / 2) (D + fl) := by
  intro p q dp dq hpq
  refine ⟨_, _, rfl, rfl, ?_⟩
  rw [right_eq, right_eq]
  exact lerp_between (add_le_add_right (half_le_self hf) D) (sub_pos.mpr (dp.1.trans_lt dp.2))
    (sub_nonneg.mpr dp.1) (sub_le_sub_right hpq vl) (sub_le_sub_right dq.2.le vl)

/-- `count_at` on the whole observed range: 0 at the minimum, the total at the maximum, in between three pieces meeting at
the levels `f0 / 2` (first centre) and `total - fl / 2` (last centre):
`0 ≤ left tail ≤ f0 / 2 ≤ interior ≤ total - fl / 2 ≤ right tail ≤ total`.
The domain leaves out the points of the left tail `(lo, v0]` unless `0 ≤ v0 ≤ f0`. -/
theorem countAt_monoOn {v0 f0 : K} (ok : HistOK bins lo hi) (hh : bins.head? = some (v0, f0)) :
    MonoOn (fun z => (lo ≤ z ∧ z ≤ hi) ∧ (lo < z → z ≤ v0 → 0 ≤ v0 ∧ v0 ≤ f0)) (countAt bins (some lo) (some hi)) 0
      (mass bins) := by
  obtain ⟨_, _, vl, fl, _, hl⟩ := shape ok
  have hfl := ok.pos _ (List.mem_of_getLast? hl)
  have c1 := half_le_top ok.pos hh hl
  have c2 : mass bins - fl / 2 ≤ mass bins := sub_le_self _ (half_pos hfl).le
  have hm := mass_nonneg ok.pos
  have right := right_monoOn (hi := hi) (vl := vl) (mass bins.dropLast) hfl.le
  rw [mass_dropLast_half bins (vl, fl) hl, ← mass_dropLast bins (vl, fl) hl] at right
  have upper : MonoOn (fun z => lo < z ∧ v0 < z ∧ z < hi) (countAt bins (some lo) (some hi)) (f0 / 2) (mass bins) :=
    MonoOn.glue (c := fun z => z < vl) (fun _ _ => lt_of_le_of_lt) c1 c2
      (interior_monoOn hh hl ok.inc ok.pos) right
      (fun z d c => ⟨⟨d.2.1, c.le⟩, countAt_interior hh hl d.1 d.2.1 c d.2.2⟩)
      (fun z d c => ⟨⟨not_lt.mp c, d.2.2⟩, countAt_right hh hl d.1 d.2.1 (not_lt.mp c) d.2.2⟩)
  have inner : MonoOn (fun z => (lo < z ∧ z < hi) ∧ (z ≤ v0 → 0 ≤ v0 ∧ v0 ≤ f0)) (countAt bins (some lo) (some hi)) 0
      (mass bins) :=
    MonoOn.glue (c := fun z => z ≤ v0) (fun _ _ => le_trans) (half_pos (ok.pos _ (List.mem_of_mem_head? hh))).le
      (c1.trans c2) left_monoOn upper (fun z d c => ⟨⟨⟨d.1.1, c⟩, d.2 c⟩, countAt_left hh hl d.1.1 c d.1.2⟩)
      (fun z d c => ⟨⟨d.1.1, not_le.mp c, d.1.2⟩, rfl⟩)
  have below_hi : MonoOn (fun z => (lo < z ∧ z ≤ hi) ∧ (z ≤ v0 → 0 ≤ v0 ∧ v0 ≤ f0)) (countAt bins (some lo) (some hi)) 0
      (mass bins) :=
    MonoOn.glue (c := fun z => z < hi) (fun _ _ => lt_of_le_of_lt) hm le_rfl inner
      (MonoOn.const (D := fun _ => True) le_rfl le_rfl) (fun z d c => ⟨⟨⟨d.1.1, c⟩, d.2⟩, rfl⟩)
      (fun z d c => ⟨trivial, by cases d.1.2.antisymm (not_lt.mp c); exact countAt_hi hh hl d.1.1⟩)
  exact MonoOn.glue (c := fun z => z ≤ lo) (fun _ _ => le_trans) le_rfl hm (MonoOn.const (D := fun _ => True) le_rfl le_rfl)
    below_hi (fun z d c => ⟨trivial, by cases c.antisymm d.1.1; exact countAt_lo hh hl d.1.2⟩)
    (fun z d c => ⟨⟨⟨not_le.mp c, d.1.2⟩, d.2 (not_le.mp c)⟩, rfl⟩)

theorem countAt_monoOn_of_leftTailOK (ok : HistOK bins lo hi) (hleft : LeftTailOK bins lo) :
    MonoOn (fun z => lo ≤ z ∧ z ≤ hi) (countAt bins (some lo) (some hi)) 0 (mass bins) := by
  obtain ⟨v0, f0, _, _, hh, _⟩ := shape ok
  have hT : ∀ z : K, lo < z → z ≤ v0 → 0 ≤ v0 ∧ v0 ≤ f0 := fun z h1 h2 => (hleft v0 f0 hh).resolve_left (h1.trans_le h2).ne
  exact fun p q dp dq => countAt_monoOn ok hh p q ⟨dp, hT p⟩ ⟨dq, hT q⟩

/-- The ranks of the walk start at `acc` and end before the level of the last centre less the half bin the walk starts
after.  On the first segment the walk interpolates between its two centres, past it it goes on from the second centre. -/
theorem scanQ_monoOn {l : List (K × K)} {b0 bl : K × K} (hh : l.head? = some b0) (hl : l.getLast? = some bl) (acc : K)
    (hi : Inc l) (hp : Pos l) :
    MonoOn (fun z => acc ≤ z ∧ z < acc + (mass l - bl.2 / 2 - b0.2 / 2)) (scanQ acc l) b0.1 bl.1 := by
  obtain ⟨tail, rfl⟩ := List.head?_eq_some_iff.mp hh
  clear hh
  induction tail generalizing b0 acc with
  | nil =>
    obtain rfl : b0 = bl := Option.some.inj hl
    rintro p _ ⟨h1, h2⟩
    rw [mass_singleton, sub_half, sub_self, add_zero] at h2
    exact absurd h1 (not_le.mpr h2)
  | cons b1 rest ih =>
    obtain ⟨vi, fi⟩ := b0
    obtain ⟨vj, fj⟩ := b1
    obtain ⟨hv, hi'⟩ := inc_cons_cons hi
    obtain ⟨hfi, hp'⟩ := pos_cons hp
    rw [List.getLast?_cons_cons] at hl
    have hmid : 0 < (fi + fj) / 2 := half_pos (add_pos hfi (pos_cons hp').1)
    have hlev : acc + (mass ((vi, fi) :: (vj, fj) :: rest) - bl.2 / 2 - fi / 2) =
        acc + (fi + fj) / 2 + (mass ((vj, fj) :: rest) - bl.2 / 2 - fj / 2) := by rw [mass_cons, mass_cons]; ring
    refine MonoOn.glue (c := fun z => z < acc + (fi + fj) / 2) (fun _ _ => lt_of_le_of_lt) hv.le
      (inc_le_last _ bl hi' hl _ List.mem_cons_self)
      (lerp_monoOn (fun z => z - acc) (fun _ _ h => sub_le_sub_right h acc) hv.le hmid) (ih _ hl hi' hp')
      (fun z d c => ⟨⟨sub_nonneg.mpr d.1, sub_left_le_of_le_add c.le⟩, by rw [scanQ_cons_cons, if_pos c]⟩)
      (fun z d c => ⟨⟨not_lt.mp c, hlev ▸ d.2⟩, by rw [scanQ_cons_cons, if_neg c]⟩)

/-- The three branches interpolate `lo … v0`, `v0 … vl` (the walk) and `vl … hi`. -/
theorem quantileQ_monoOn {v0 f0 vl fl : K} (ok : HistOK bins lo hi) (hh : bins.head? = some (v0, f0))
    (hl : bins.getLast? = some (vl, fl)) :
    MonoOn (fun z => 0 ≤ z ∧ z ≤ mass bins) (quantileQ bins (some lo) (some hi)) lo hi := by
  have hmem := List.mem_of_getLast? hl
  have hfl : 0 < fl / 2 := half_pos (ok.pos _ hmem)
  have hlhi : vl ≤ hi := (ok.within _ hmem).2
  have h0l : v0 ≤ vl := inc_le_last _ (vl, fl) ok.inc hl _ (List.mem_of_mem_head? hh)
  have upper : MonoOn (fun z => f0 / 2 < z ∧ z ≤ mass bins)
      (fun z => if mass bins - fl / 2 ≤ z then some (vl + (z - (mass bins - fl / 2)) / (fl / 2) * (hi - vl))
        else scanQ 0 bins (z - f0 / 2)) v0 hi :=
    MonoOn.glue (c := fun z => z < mass bins - fl / 2) (fun _ _ => lt_of_le_of_lt) h0l hlhi
      ((scanQ_monoOn hh hl 0 ok.inc ok.pos).comp (fun z => z - f0 / 2) fun _ _ h => sub_le_sub_right h _)
      (lerp_monoOn (fun z => z - (mass bins - fl / 2)) (fun _ _ h => sub_le_sub_right h _) hlhi hfl)
      (fun z d c => ⟨⟨(sub_pos.mpr d.1).le, by rw [zero_add]; exact sub_lt_sub_right c _⟩, if_neg (not_le.mpr c)⟩)
      (fun z d c => ⟨⟨sub_nonneg.mpr (not_lt.mp c), by rw [sub_le_iff_le_add, add_sub_cancel]; exact d.2⟩,
        if_pos (not_lt.mp c)⟩)
  exact MonoOn.glue (c := fun z => z ≤ f0 / 2) (fun _ _ => le_trans) (head_within ok hh) (h0l.trans hlhi)
    (lerp_monoOn (fun z => z) (fun _ _ h => h) (head_within ok hh) (half_pos (ok.pos _ (List.mem_of_mem_head? hh)))) upper
    (fun z d c => ⟨⟨d.1, c⟩, by rw [quantileQ_unfold hh hl z, if_pos c]⟩)
    (fun z d c => ⟨⟨not_le.mp c, d.2⟩, by rw [quantileQ_unfold hh hl z, if_neg c]⟩)

/-- All that is needed of Python's `int()`: the rank `floor (total * value)` stays within `[0, total]` and grows with
`value`. -/
theorem quantile_monoOn (floor : K → K) (ok : HistOK bins lo hi) (hmono : ∀ a b, a ≤ b → floor a ≤ floor b)
    (hle : ∀ a, floor a ≤ a) (hfl0 : ∀ a, 0 ≤ a → 0 ≤ floor a) :
    MonoOn (fun p => 0 ≤ p ∧ p ≤ 1) (quantile floor bins (some lo) (some hi)) lo hi := by
  have hm := mass_nonneg ok.pos
  obtain ⟨v0, f0, vl, fl, hh, hl⟩ := shape ok
  intro p q dp dq hpq
  rw [quantile_eq floor ok dp.1 dp.2, quantile_eq floor ok dq.1 dq.2]
  exact quantileQ_monoOn ok hh hl _ _ ⟨hfl0 _ (mul_nonneg hm dp.1), (hle _).trans (mul_le_of_le_one_right hm dp.2)⟩
    ⟨hfl0 _ (mul_nonneg hm dq.1), (hle _).trans (mul_le_of_le_one_right hm dq.2)⟩
    (hmono _ _ (mul_le_mul_of_nonneg_left hpq hm))

/-- `estimate_values_above` is the complement `N - below`. -/
theorem complement_bounds {N b1 b2 a1 a2 : K} (s1 : b1 + a1 = N) (s2 : b2 + a2 = N) (m : b1 ≤ b2) (z : 0 ≤ b1)
    (t : b2 ≤ N) : a2 ≤ a1 ∧ 0 ≤ a2 ∧ a1 ≤ N := by
  cases eq_sub_of_add_eq' s1
  cases eq_sub_of_add_eq' s2
  exact ⟨sub_le_sub_left m N, sub_nonneg.mpr t, sub_le_self N z⟩

end Distogram
