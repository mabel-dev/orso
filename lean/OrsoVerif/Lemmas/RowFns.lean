import OrsoVerif.Model.RowCodec
import OrsoVerif.Lemmas.RowBytes
import OrsoVerif.Lemmas.MsgPackRoundtrip
import OrsoVerif.Model.RowGlue
/-!
# Lemmas about the row codec (helper lemmas for `Props/C01.lean`)

The reserved form as a shape (`isReserved_iff`).  Where the statement-level translation of `from_bytes_cython`
(`Gen.RowFns`) is written differently from the model: its loop (`foldl_bind_mapM`), its test for the reserved form
(`reserved_test`) and one turn of the loop (`post_step`).  Then what `post` can hand out, what `encodeRow … = .ok r` and
`decodeRow … = .ok items` say about their arguments (and that the record determines the row, `encodeRow_inj`), and the
dictionary lookup of `Row.__new__` over distinct fields.
-/
namespace RowCodec
open RowBytes MsgPack

/-- The loop of compiled.pyx:66-70 as a fold over an optional accumulator is `mapM`. -/
theorem foldl_bind_mapM {α β : Type} (f : α → Option β) (xs : List α) (init : List β) :
    xs.foldl (fun acc x => acc.bind (fun l => (f x).map (fun d => l ++ [d]))) (some init)
      = (xs.mapM f).map (fun ys => init ++ ys) := by
  induction xs generalizing init with
  | nil => simp
  | cons x xs ih =>
    rw [List.foldl_cons, List.mapM_cons]
    cases hx : f x with
    | none =>
      simp only [Option.bind_some, Option.map_none]
      have : ∀ ys : List α, ys.foldl (fun acc x => acc.bind (fun l => (f x).map (fun d => l ++ [d]))) none = none := by
        intro ys; induction ys with
        | nil => rfl
        | cons y ys ihy => rw [List.foldl_cons]; exact ihy
      rw [this]; rfl
    | some d =>
      simp only [Option.bind_some, Option.map_some]
      rw [ih]
      cases xs.mapM f with
      | none => rfl
      | some ys => simp

theorem isReserved_iff (v : PyVal) :
    isReserved v = true ↔ ∃ x, v = .list [.str Gen.Row.reservedMarker, x] := by
  constructor
  · intro h
    cases v with
    | list xs =>
      simp only [isReserved, Gen.Row.reservedLen, Gen.Row.reservedIdx, Bool.and_eq_true, beq_iff_eq] at h
      match xs, h with
      | [a, x], ⟨_, h⟩ =>
        cases a with
        | str s => exact ⟨x, by rw [beq_iff_eq.mp h]⟩
        | _ => cases h
    | _ => cases h
  · rintro ⟨x, rfl⟩
    rfl

/-- The test of compiled.pyx:67 as the translation renders it is `isReserved`. -/
theorem reserved_test (v : PyVal) :
    ((isList v = true) ∧ ((pyLen v) = 2) ∧ ((itemAt v 0) = some (PyVal.str "__datetime__"))) ↔ isReserved v = true := by
  rw [isReserved_iff]
  constructor
  · rintro ⟨h1, h2, h3⟩
    match v, h1, h2, h3 with
    | .list [a, x], _, _, h3 =>
      simp only [itemAt, List.getElem?_cons_zero, Option.some.injEq] at h3
      exact ⟨x, by rw [h3]; rfl⟩
  · rintro ⟨x, rfl⟩
    exact ⟨rfl, rfl, rfl⟩

/-- The body of the loop of compiled.pyx:66-70 as the translation renders it is `post`. -/
theorem post_step (v : PyVal) (l : List Item) :
    (if ((isList v = true) ∧ ((pyLen v) = 2) ∧ ((itemAt v 0) = some (PyVal.str "__datetime__"))) then
        ((fromtimestamp (itemAt v 1)).map (fun d => (l ++ [d])))
      else (some (l ++ [Item.val v]))) = (post v).map (fun d => l ++ [d]) := by
  by_cases h : isReserved v = true
  · rw [if_pos ((reserved_test v).mpr h)]
    unfold post
    rw [if_pos h]
    cases v with
    | list xs =>
      simp only [itemAt, Gen.Row.reservedArg]
    | _ => simp [isReserved] at h
  · rw [if_neg (fun hc => h ((reserved_test v).mp hc))]
    unfold post
    rw [if_neg h]; rfl

theorem post_shapes (v : PyVal) (it : Item) (h : post v = some it) :
    (isReserved v = false ∧ it = .val v) ∨
    (∃ x, v = .list [.str Gen.Row.reservedMarker, x] ∧ it = .datetime x) := by
  unfold post at h
  by_cases hr : isReserved v = true
  · rw [if_pos hr] at h
    obtain ⟨x, rfl⟩ := (isReserved_iff v).mp hr
    simp only [Gen.Row.reservedArg, fromtimestamp, List.getElem?_cons_succ, List.getElem?_cons_zero] at h
    split at h
    · injection h with h; exact .inr ⟨x, rfl, h.symm⟩
    · cases h
  · rw [if_neg hr] at h
    injection h with h
    exact .inl ⟨Bool.eq_false_iff.mpr hr, h.symm⟩

theorem encodeRow_ok {ts : Nat} {row : List PyVal} {r : RowBytes.Bytes} (h : encodeRow ts row = .ok r) :
    packable (.list row) = true ∧ cdepth (.list row) ≤ packDepthLimit ∧
      encodeFrame ts (pack (.list row)) = .ok r := by
  unfold encodeRow encodeWith packRow packb at h
  by_cases hc : (packable (.list row) && decide (cdepth (.list row) ≤ packDepthLimit)) = true
  · rw [if_pos hc] at h
    simp only [Bool.and_eq_true, decide_eq_true_eq] at hc
    exact ⟨hc.1, hc.2, h⟩
  · rw [if_neg hc] at h; cases h

/-- The record holds the packed row, and a packed value is read back by `unpackb`: no hypothesis on the items. -/
theorem encodeRow_inj {ts ts' : Nat} {row row' : List PyVal} {r : RowBytes.Bytes}
    (h : encodeRow ts row = .ok r) (h' : encodeRow ts' row' = .ok r) : row = row' := by
  obtain ⟨hp, hd, hf⟩ := encodeRow_ok h
  obtain ⟨hp', hd', hf'⟩ := encodeRow_ok h'
  have hu := unpackb_pack _ hp hd
  rw [Except.ok.inj ((checkFrame_encodeFrame hf).symm.trans (checkFrame_encodeFrame hf')), unpackb_pack _ hp' hd'] at hu
  injection hu with hu
  injection hu with hu
  exact hu.symm

theorem decodeRow_ok {data : RowBytes.Bytes} {items : List Item} (h : decodeRow data = .ok items) :
    ∃ p row, checkFrame data = .ok p ∧ unpackb p = some (.list row) ∧ row.mapM post = some items := by
  unfold decodeRow decodeWith at h
  split at h
  · cases h
  · rename_i p hc
    unfold unpackRow at h
    split at h
    · rename_i its hu
      injection h with h
      subst h
      split at hu
      · rename_i row hb
        exact ⟨p, row, hc, hb, hu⟩
      · cases hu
    · cases h

theorem mapM_post_of_not_reserved (row : List PyVal) (hr : ∀ v ∈ row, isReserved v = false) :
    row.mapM post = some (row.map Item.val) :=
  row.mapM_eq_some_map fun v hv => by unfold post; rw [hr v hv]; rfl

end RowCodec

namespace RowGlue

theorem dict_of_fields (fs : List String) (vs : List PyVal) (hn : fs.Nodup) (hl : fs.length = vs.length) :
    fs.map (fun f => (dictGet (fs.zip vs) f).getD .none) = vs := by
  induction fs generalizing vs with
  | nil => cases vs with
    | nil => rfl
    | cons _ _ => simp at hl
  | cons f fs ih =>
    cases vs with
    | nil => simp at hl
    | cons v vs =>
      have hn' := List.nodup_cons.mp hn
      simp only [List.zip_cons_cons, List.map_cons]
      congr 1
      · simp [dictGet, List.find?]
      · refine Eq.trans ?_ (ih vs hn'.2 (by simpa using hl))
        apply List.map_congr_left
        intro g hg
        have : (f == g) = false := by
          simp only [beq_eq_false_iff_ne, ne_eq]
          rintro rfl; exact hn'.1 hg
        simp only [dictGet, List.find?, this]

end RowGlue
