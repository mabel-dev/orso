import OrsoVerif.Model.DictJson
import OrsoVerif.Model.DictKeyed
import OrsoVerif.Lemmas.CastJson
/-! The text of `as_json`.  `readObj (renderObj members) = members`: the object reader of `Model/DictJson.lean` inverts its
writer, member by member on the value lemmas of `Lemmas/CastJson.lean`; the fraction of a second (`Model/DictKeyed.lean`)
reads back as the microseconds written. -/
namespace DictJson
open Cast.Json

theorem renderMember_append (rep : UInt64 → List Char) (p : List Char × J) (rest : List Char) :
    renderMember rep p ++ rest = '"' :: (escBody p.1 ++ '"' :: (':' :: (render Ws.compact rep p.2 ++ rest))) := by
  simp [renderMember, renderStr]

theorem readMember_render (fot : List Char → Option UInt64) (rep : UInt64 → List Char) (p : List Char × J)
    (rest : List Char) (hw : Wf fot rep p.2) (hs : Stop rest) :
    readMember fot (renderMember rep p ++ rest) = .ok (p, rest) := by
  obtain ⟨k, v⟩ := p
  simp only at hw
  have hfuel : k.length < (escBody k ++ '"' :: (':' :: (render Ws.compact rep v ++ rest))).length + 1 := by
    have := length_escBody k
    simp only [List.length_append, List.length_cons]; omega
  have hstr := readStr_escBody k _ (':' :: (render Ws.compact rep v ++ rest)) hfuel
  have hsk : skipWs (render Ws.compact rep v ++ rest) = render Ws.compact rep v ++ rest :=
    skipWs_render fot rep Ws.compact v hw [] rest (fun _ h => absurd h List.not_mem_nil)
  have hd : depth v ≤ (render Ws.compact rep v ++ rest).length := by
    have := depth_le_length rep Ws.compact v
    simp only [List.length_append]; omega
  have hval := readValue_render fot rep Ws.compact ⟨by simp [Ws.compact], by simp [Ws.compact], by simp [Ws.compact]⟩
    v _ rest hw hd hs
  have hcolon : skipWs (':' :: (render Ws.compact rep v ++ rest)) = ':' :: (render Ws.compact rep v ++ rest) :=
    skipWs_cons ':' _ (by decide)
  rw [renderMember_append]
  simp only [readMember, if_true, hstr, hcolon, hsk, hval]

theorem stop_renderRest (rep : UInt64 → List Char) (ps : List (List Char × J)) (rest : List Char) :
    Stop (renderRest rep ps ++ rest) := by
  intro c hc
  cases ps <;> cases hc <;> rfl

theorem skipWs_renderMember (rep : UInt64 → List Char) (p : List Char × J) (rest : List Char) :
    skipWs (renderMember rep p ++ rest) = renderMember rep p ++ rest := by
  rw [renderMember_append]; exact skipWs_cons '"' _ (by decide)

theorem readMembers_render (fot : List Char → Option UInt64) (rep : UInt64 → List Char)
    (ps : List (List Char × J)) (p : List Char × J) (fuel : Nat) (rest : List Char)
    (hp : Wf fot rep p.2) (hps : ∀ q ∈ ps, Wf fot rep q.2) (hf : (renderRest rep ps).length ≤ fuel) :
    readMembers fot fuel (renderMember rep p ++ (renderRest rep ps ++ rest)) = .ok (p :: ps, rest) := by
  induction fuel generalizing ps p with
  | zero => cases ps <;> exact absurd hf (Nat.not_succ_le_zero _)
  | succ f ih =>
    rw [readMembers, readMember_render fot rep p (renderRest rep ps ++ rest) hp (stop_renderRest rep ps rest)]
    cases ps with
    | nil =>
      simp only [renderRest, List.cons_append, List.nil_append]
      rw [skipWs_cons '}' _ (by decide)]
      simp
    | cons q qs =>
      simp only [renderRest, List.length_cons, List.length_append] at hf
      simp only [renderRest, List.cons_append, List.append_assoc]
      rw [skipWs_cons ',' _ (by decide)]
      simp only [show (',' : Char) ≠ '}' by decide, if_false, if_true, skipWs_renderMember,
        ih qs q (hps q List.mem_cons_self) (fun x hx => hps x (List.mem_cons_of_mem _ hx)) (by omega)]

theorem readObj_renderObj (fot : List Char → Option UInt64) (rep : UInt64 → List Char) (ps : List (List Char × J))
    (hw : ∀ p ∈ ps, Wf fot rep p.2) : readObj fot (renderObj rep ps) = .ok ps := by
  cases ps with
  | nil => simp [readObj, renderObj, skipWs, isWs]
  | cons p ps =>
    have hrec := readMembers_render fot rep ps p ((renderMember rep p ++ renderRest rep ps).length + 1) []
      (hw p List.mem_cons_self) (fun x hx => hw x (List.mem_cons_of_mem _ hx)) (by rw [List.length_append]; omega)
    simp only [List.append_nil] at hrec
    have hhead : (renderMember rep p ++ renderRest rep ps).head? ≠ some '}' := by
      rw [renderMember_append]; simp
    simp only [readObj, renderObj]
    rw [skipWs_cons '{' _ (by decide)]
    simp only [if_true, skipWs_renderMember, hhead, if_false, hrec]
    simp [skipWs]

end DictJson

namespace C02
open DictKeyed

theorem val_digit : ∀ d : Nat, d < 10 → val (digit d) = some d := by decide

theorem readFrac_frac (opts : List String) (ho : opts.contains "OPT_OMIT_MICROSECONDS" = false)
    (us : Nat) (h : us < 1000000) : readFrac (frac opts us) = some us := by
  unfold frac
  by_cases h0 : us = 0
  · subst h0; rfl
  · have e : ∀ a, us / (a * 10) = us / a / 10 := fun a => (Nat.div_div_eq_div_mul us a 10).symm
    have h5 : us / 100000 < 10 := Nat.div_lt_of_lt_mul h
    rw [ho, if_neg (by simp only [h0, Bool.false_eq_true, or_self, not_false_eq_true]),
      readFrac, if_pos ⟨rfl, show 1 ≤ 6 ∧ 6 ≤ 6 by decide⟩]
    simp only [six, digitsVal, val_digit _ (Nat.mod_lt _ (by decide : 10 > 0)), Option.map_some, padVal,
      List.length_cons, List.length_nil, Nat.reduceAdd, Nat.sub_self, List.replicate_zero, List.append_nil,
      List.foldl_cons, List.foldl_nil]
    -- the six digits from the left: the leading one is `us / 100000` itself, then `a / 10 * 10 + a % 10 = a` five times
    rw [Nat.zero_mul, Nat.zero_add, Nat.mod_eq_of_lt h5, e 10000, Nat.div_add_mod', e 1000, Nat.div_add_mod',
      e 100, Nat.div_add_mod', e 10, Nat.div_add_mod', Nat.div_add_mod']

end C02
