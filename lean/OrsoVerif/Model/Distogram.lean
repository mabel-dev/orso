import OrsoVerif.Generated.Distogram
import OrsoVerif.Generated.DistogramExpr
import OrsoVerif.Generated.DistogramFlow
import OrsoVerif.Generated.DistogramOps
/-!
# C13 — the streaming histogram of `orso/profiler/distogram/__init__.py`

Two machines over one carrier `K` with `+ - * / < ≤` (instantiated at any linear ordered
field for the theorems, at `Float` and core `Rat` for the executable driver):

* **Stage 1, the reference algorithm** (`insertRef`, `mergeAt`, `trimRef`, `updateRef`, …):
  insert in order, then repeatedly merge the first closest adjacent pair by weighted centroid.
  All theorems of `Props/C13.lean` are about this machine.
* **Stage 2, the faithful machine** (`update`, `searchInPlace`, `trimInPlace`, `updateDiffs`,
  `trim`, `merge`, `add`, `bulk`, `load`): the code as it exists, line by line, with the cached
  `diffs` / `min_diff`, the exact-hit branch, the in-place shortcut, Python's `index = -1` for
  appends and `in_place_index > 0`.  It is executable and compared with the implementation on
  every run; its equality with the reference is compared, not proved (see `design_notes/C13.md`).

Counts live in `K` as well (Python: ints; exact in `Float` below 2^53).

The *arithmetic* (centroid and count of a merge in `_trim` and in `_trim_in_place`, bulk-load
midpoint, `load`'s cached difference, the in-place search) is not written here: it is
`Gen.DistogramExpr.*`, regenerated from the source's AST on every run; so are the loop kind and guard of `_trim`
and the tests of `update` (`Gen.DistogramFlow.*`), and the statements around them — the bounds of `__add__` and
`bulkload`, the `if`/`elif` shape of the bound updates, the guards and tests of `_update_diffs`, the positions `_trim`
reads, pops and refreshes (`Gen.DistogramOps.*`); this file is the skeleton.  `Lemmas/DistogramSource.lean` proves the
`*_def` equations that give each generated test the meaning the proofs use.
-/
namespace Distogram
open Gen.DistogramExpr (trimCentre trimCount inPlaceCentre inPlaceCount bulkMid loadDiff searchDiff1 searchDiff2
  searchPickLeft searchInPlace)
open Gen.DistogramFlow (trimTurns trimGuard updCountBad updFirst updLast bisectKeyCount hitTest hitCount inPlaceTry
  inPlaceTake bumpMin bumpMax)
open Gen.DistogramOps (addGuard addMin addMax bulkTake bulkFresh bulkMin bulkMax bumpChained appendMinDiff udLeft udRight
  udStale udLower udGap trimKeep trimPopBin trimPopDiff trimRefresh trimStored inPlaceStored udCache trimCachePick
  trimCacheKeep appendCache insertCache searchNoCache isAppend mergeValue mergeCount computeGap loadHasDiffs trimScanIdx
  trimScanGap loadTurns loadNoDiffs)

variable {K : Type} [Add K] [Sub K] [Mul K] [Div K] [LT K] [LE K]
  [DecidableLT K] [DecidableLE K] [OfNat K 0] [OfNat K 1] [OfNat K 2]

/-- Python `a == b` on numbers, through the order (no `DecidableEq Float`). -/
def eqK (a b : K) : Bool := Gen.DistogramExpr.eqK a b

/-- The merged centre of `_trim`: the computed centre (`(v1 * f1 + v2 * f2) / (f1 + f2)` in the source as it is now)
as it is stored — kept within the pair `v1 < v2` it replaces (`min(max(centre, v1), v2)`: the identity in exact
arithmetic, a guard against rounding in floating point; both generated). -/
def centroid (v1 f1 v2 f2 : K) : K := trimStored (trimCentre v1 f1 v2 f2) v1 v2

/-! ## Stage 1: the reference algorithm -/

/-- Insert in order; an equal centre takes the weight (the code's exact-hit branch). -/
def insertRef (v c : K) : List (K × K) → List (K × K)
  | [] => [(v, c)]
  | (w, f) :: rest =>
    if v < w then (v, c) :: (w, f) :: rest
    else if w < v then (w, f) :: insertRef v c rest
    else (w, f + c) :: rest

/-- Differences of adjacent centres. -/
def gaps : List (K × K) → List K
  | a :: b :: rest => (b.1 - a.1) :: gaps (b :: rest)
  | _ => []

/-- Index of the first minimum of a list (0 on the empty list), `acc` = (best index, best value). -/
def argminFrom : Nat → Nat → K → List K → Nat
  | _, bi, _, [] => bi
  | i, bi, bv, x :: xs => if x < bv then argminFrom (i + 1) i x xs else argminFrom (i + 1) bi bv xs

def argminFirst : List K → Nat
  | [] => 0
  | x :: xs => argminFrom 1 0 x xs

/-- Merge bins `i` and `i+1` into their weighted centroid. -/
def mergeAt : Nat → List (K × K) → List (K × K)
  | 0, (v1, f1) :: (v2, f2) :: rest => (centroid v1 f1 v2 f2, trimCount v1 f1 v2 f2) :: rest
  | n + 1, b :: rest => b :: mergeAt n rest
  | _, l => l

/-- Repeatedly merge the first closest adjacent pair while there are more than `cap` bins. -/
def trimRef (cap : Nat) : Nat → List (K × K) → List (K × K)
  | 0, l => l
  | fuel + 1, l =>
    if cap < l.length then trimRef cap fuel (mergeAt (argminFirst (gaps l)) l) else l

def minO (m : Option K) (v : K) : K :=
  match m with
  | none => v
  | some x => if v < x then v else x

def maxO (m : Option K) (v : K) : K :=
  match m with
  | none => v
  | some x => if x < v then v else x

structure RState (K : Type) where
  bins : List (K × K)
  min : Option K
  max : Option K
  cap : Nat

def RState.init (cap : Nat) : RState K := { bins := [], min := none, max := none, cap := cap }

/-- `update(h, value, count)` of the reference machine (count > 0 is the caller's obligation). -/
def updateRef (s : RState K) (v c : K) : RState K :=
  let l := insertRef v c s.bins
  { s with bins := trimRef s.cap l.length l, min := some (minO s.min v), max := some (maxO s.max v) }

/-- The bare `merge(h1, h2)`: every bin of `h2` is inserted into `h1` (:320-341). -/
def mergeRef (s : RState K) (other : List (K × K)) : RState K :=
  other.foldl (fun acc b => updateRef acc b.1 b.2) s

def optMin (a b : Option K) : Option K :=
  match a, b with
  | some x, some y => some (if y < x then y else x)
  | some x, none => some x
  | none, y => y

def optMax (a b : Option K) : Option K :=
  match a, b with
  | some x, some y => some (if x < y then y else x)
  | some x, none => some x
  | none, y => y

/-- `h1 + h2` (:77-82): merge, then the bounds are set to the true ones. -/
def addRef (s t : RState K) : RState K :=
  let m := mergeRef s t.bins
  { m with min := optMin m.min t.min, max := optMax m.max t.max }

/-- `bulkload` (:84-113) once numpy has produced the (value, count) pairs and the data's
minimum and maximum: insert the pairs with a positive count, then widen the bounds. -/
def bulkRef (s : RState K) (pairs : List (K × K)) (lo hi : K) : RState K :=
  let m := (pairs.filter (fun p => decide (0 < p.2))).foldl (fun acc b => updateRef acc b.1 b.2) s
  { m with min := some (minO m.min lo), max := some (maxO m.max hi) }

/-- Midpoints of consecutive histogram edges, `(e[i] + e[i+1]) / 2` (:102, as repaired). -/
def midpoints : List K → List K
  | a :: b :: rest => bulkMid a b :: midpoints (b :: rest)
  | _ => []

/-- `load(**h.dump())`: bins and bounds are kept, the limit becomes the module default. -/
def dumpLoadRef (s : RState K) : RState K := { s with cap := Gen.Distogram.binCount }

/-- Is the smallest adjacent gap attained more than once? -/
def tieIn (l : List (K × K)) : Bool :=
  let g := gaps l
  match g[argminFirst g]? with
  | none => false
  | some m => decide (1 < (g.filter (fun x => eqK x m)).length)

/-- Did some merge step of the reference trim see a tie? -/
def trimTie (cap : Nat) : Nat → List (K × K) → Bool
  | 0, _ => false
  | fuel + 1, l =>
    if cap < l.length then tieIn l || trimTie cap fuel (mergeAt (argminFirst (gaps l)) l) else false

def updateTie (s : RState K) (v c : K) : Bool :=
  let l := insertRef v c s.bins
  trimTie s.cap l.length l

/-- One step of a fold of reference updates with its tie flag (what the driver runs for `+`, `merge`, bulk loads). -/
def refStep (acc : RState K × Bool) (b : K × K) : RState K × Bool :=
  (updateRef acc.1 b.1 b.2, acc.2 || updateTie acc.1 b.1 b.2)

/-- Did some update of the fold `mergeRef s bs` see a tie? -/
def foldTie (s : RState K) : List (K × K) → Bool
  | [] => false
  | b :: bs => updateTie s b.1 b.2 || foldTie (updateRef s b.1 b.2) bs

/-! ## Stage 2: the faithful machine -/

structure Hist (K : Type) where
  bins : List (K × K)
  min : Option K
  max : Option K
  /-- `None` until `_search_in_place_index` first computes them (:243-244), or set by `load`. -/
  diffs : Option (List K)
  /-- `none` stands for Python's `None` / `float("inf")`: larger than every number. -/
  minDiff : Option K
  cap : Nat
  deriving DecidableEq

def Hist.init (cap : Nat) : Hist K :=
  { bins := [], min := none, max := none, diffs := none, minDiff := none, cap := cap }

/-- `min(list)`: the first smallest element; `none` models `ValueError` on an empty list. -/
def listMin : List K → Option K
  | [] => none
  | x :: xs => some (xs.foldl (fun m y => if y < m then y else m) x)

/-- `x < h.min_diff` (the lowering test of `_update_diffs`, generated) where `none` is +∞. -/
def ltMinDiff (x : K) (m : Option K) : Bool :=
  match m with
  | none => true
  | some y => udLower x y

/-- `diff < h.min_diff` of `_search_in_place_index` (generated test), `none` is +∞. -/
def closerThanMin (x : K) (m : Option K) : Bool :=
  match m with
  | none => true
  | some y => searchInPlace x y

/-- `x == h.min_diff` (the stale-minimum test of `_update_diffs`, generated) where `none` is +∞. -/
def eqMinDiff (x : K) (m : Option K) : Bool :=
  match m with
  | none => false
  | some y => udStale x y

/-- `list.index(x)`: first position holding a value equal to `x`. -/
def indexOf (x : K) : List K → Option Nat
  | [] => none
  | y :: ys => if eqK y x then some 0 else (indexOf x ys).map (· + 1)

/-- `bisect_left(h.bins, (value, k))` on a sorted list: the number of leading bins that compare
below the tuple `(value, k)` — `v < value or (v == value and f < k)`; `k` is the source's (`1`). -/
def bisectLeft (value : K) (bins : List (K × K)) : Nat :=
  (bins.takeWhile (fun b => decide (b.1 < value) || (eqK b.1 value && decide (b.2 < bisectKeyCount)))).length

/-- One block of `_update_diffs` (:184-190 and :192-198) on `(diffs, min_diff, update_min)`: compare the
old entry with `min_diff`, store the new gap, lower `min_diff` if the new gap is smaller.
`IndexError` when the cache is shorter than the code assumes. -/
def pointUpdate (st : List K × Option K × Bool) (j : Nat) (nd : K) : Except String (List K × Option K × Bool) :=
  match st.1[j]? with
  | some old =>
    .ok (st.1.set j nd, (if ltMinDiff nd st.2.1 then some nd else st.2.1), st.2.2 || eqMinDiff old st.2.1)
  | none => .error "IndexError"

/-- One `if` block of `_update_diffs`: when it runs it rewrites cache position `j` with the gap between
bins `j` and `j + 1`. -/
def diffBlock (bins : List (K × K)) (st : List K × Option K × Bool) (c : Bool) (j : Nat) :
    Except String (List K × Option K × Bool) :=
  if c then
    match bins[j + 1]?, bins[j]? with
    | some bn, some bi => pointUpdate st j (udGap bi.1 bn.1)
    | _, _ => .error "IndexError"
  else .ok st

/-- `if update_min is True: h.min_diff = min(h.diffs)` (:200-201). -/
def finishMin (st : List K × Option K × Bool) : Except String (Option K) :=
  if st.2.2 then
    match listMin st.1 with
    | some m => .ok (some m)
    | none => .error "ValueError"
  else .ok st.2.1

/-- `_update_diffs(h, i)` (:180-203): the gap left of bin `i` (if `i > 0`: cache position `i - 1`), the gap
right of it (if it is not the last bin: position `i`), then a full recomputation of `min_diff` when an
entry equal to it was overwritten. -/
def updateDiffs (h : Hist K) (i : Nat) : Except String (Hist K) :=
  -- `if h.diffs is not None:` (:184) — the test is the source's (generated): under a bare truthiness test an EMPTY cache
  -- (what `load` of a single bin creates) would be left alone
  if udCache h.diffs then
    match h.diffs with
    | none => .error "TypeError"
    | some d0 =>
      (diffBlock h.bins (d0, h.minDiff, false) (udLeft (i : Int) (h.bins.length : Int)) (i - 1)).bind fun s1 =>
      (diffBlock h.bins s1 (udRight (i : Int) (h.bins.length : Int)) i).bind fun s2 =>
      (finishMin s2).bind fun md =>
      .ok { h with diffs := some s2.1, minDiff := md }
  else .ok h

/-- `_trim` without a cache (:214): the (position, gap) pairs of `enumerate(h.bins[1:], start=1)`; `i` is the index of the
second bin of the pair.  A negative position (Python would index from the end) does not occur for `i ≥ 1`. -/
def scanPairs : Nat → List (K × K) → List (Nat × K)
  | i, a :: b :: rest => ((trimScanIdx (i : Int)).toNat, trimScanGap a.1 b.1) :: scanPairs (i + 1) (b :: rest)
  | _, _ => []

/-- `min(pairs, key=itemgetter(1))[0]`: the position of the first pair with the smallest gap; `none` = `ValueError`. -/
def scanMin : List (Nat × K) → Option Nat
  | [] => none
  | p :: ps => some (ps.foldl (fun m q => if q.2 < m.2 then q else m) p).1

/-- The pair `_trim` merges (:211-215): the first position holding `min_diff` in the cache, or — without a
cache — the first smallest adjacent difference. -/
def trimIndex (h : Hist K) : Except String Nat :=
  -- `if h.diffs is not None:` (:211, the test is the source's)
  if trimCachePick h.diffs then
    match h.diffs with
    | some d =>
      match h.minDiff with
      | some md =>
        match indexOf md d with
        | some i => .ok i
        | none => .error "ValueError"
      | none => .error "ValueError"
    | none => .error "AttributeError"
  else
    -- `diffs = [(i - 1, b[0] - h.bins[i - 1][0]) for i, b in enumerate(h.bins[1:], start=1)]`,
    -- `i, _ = min(diffs, key=itemgetter(1))` (:214-215; position and gap are the source's)
    match scanMin (scanPairs 1 h.bins) with
    | none => .error "ValueError"
    | some i => .ok i

/-- One turn of the `while` loop of `_trim` (:211-224). -/
def trimStep (h : Hist K) : Except String (Hist K) :=
  (trimIndex h).bind fun i =>
  -- `v1, f1 = h.bins[i]`, `v2, f2 = h.bins.pop(i + 1)`, `h.bins[i] = …`, `h.diffs.pop(i)`, `_update_diffs(h, i)`: the
  -- four positions are the source's (generated)
  match h.bins[trimKeep i]?, h.bins[trimPopBin i]? with
  | some (v1, f1), some (v2, f2) =>
    let bins := (h.bins.eraseIdx (trimPopBin i)).set (trimKeep i) (centroid v1 f1 v2 f2, trimCount v1 f1 v2 f2)
    -- `if h.diffs is not None:` (:223, the test is the source's)
    if trimCacheKeep h.diffs then
      match h.diffs with
      | some d =>
        if d.length ≤ trimPopDiff i then .error "IndexError" else
        (updateDiffs { h with bins := bins, diffs := some (d.eraseIdx (trimPopDiff i)) } (trimRefresh i)).bind fun h1 =>
        match h1.diffs.bind listMin with
        | some m => .ok { h1 with minDiff := some m }
        | none => .error "ValueError"
      | none => .error "AttributeError"
    else .ok { h with bins := bins }
  | _, _ => .error "IndexError"

/-- `_trim(h)` (:209-226); `fuel` bounds the `while` loop (one bin disappears per turn). -/
def trim : Nat → Hist K → Except String (Hist K)
  | 0, h => .ok h
  | fuel + 1, h => if trimGuard h.bins.length h.cap then (trimStep h).bind (trim fuel) else .ok h

/-- the list comprehension of `_compute_diffs` -/
def computeGaps : List (K × K) → List K
  | a :: b :: rest => computeGap a.1 b.1 :: computeGaps (b :: rest)
  | _ => []

/-- `_compute_diffs(h)` (:246-250): `[v2 - v1 for (v1, _), (v2, _) in zip(h.bins[:-1], h.bins[1:])]` (the gap is the
source's), `h.min_diff = min(diffs)`. -/
def computeDiffs (h : Hist K) : Except String (Hist K) :=
  let d := computeGaps h.bins
  match listMin d with
  | some m => .ok { h with diffs := some d, minDiff := some m }
  | none => .error "ValueError"

/-- Python's `index` in `update` (:281-288): `(true, n - 1)` stands for `index = -1`. -/
def locate (bins : List (K × K)) (value : K) : Bool × Nat :=
  match bins.head?, bins.getLast? with
  | some b0, some bl =>
    if updFirst value b0.1 bl.1 then (false, 0)
    else if updLast value b0.1 bl.1 then (true, bins.length - 1)
    else (false, bisectLeft value bins)
  | _, _ => (false, 0)

/-- `_search_in_place_index` (:250-262) once `diffs` exist: the bin to update in place, if any
(`none` = Python's `-1`). -/
def searchInPlaceIndex (h : Hist K) (value : K) (idx : Nat) : Except String (Option Nat) :=
  match h.bins[idx - 1]?, h.bins[idx]? with
  | some bp, some bi =>
    let diff1 := searchDiff1 value bp.1 bi.1
    let diff2 := searchDiff2 value bp.1 bi.1
    let (ib, diff) := if searchPickLeft diff1 diff2 then (idx - 1, diff1) else (idx, diff2)
    .ok (if closerThanMin diff h.minDiff then some ib else none)
  | _, _ => .error "IndexError"

/-- `_trim_in_place` (:229-240). -/
def trimInPlace (h : Hist K) (value count : K) (ib : Nat) : Except String (Hist K) :=
  match h.bins[ib]? with
  | some (cv, cf) =>
    updateDiffs { h with bins := h.bins.set ib (inPlaceStored (inPlaceCentre cv cf value count) cv value,
                                                inPlaceCount cv cf value count) } ib
  | none => .error "IndexError"

/-- The insertion of `update` (:301-311) with its cache bookkeeping. -/
def insertBin (h : Hist K) (neg : Bool) (idx : Nat) (value count : K) : Except String (Hist K) :=
  -- `if index == -1:` (:309) and the two `if h.diffs is not None:` (:311, :317) are the source's tests
  if isAppend (if neg then -1 else (idx : Int)) then
    if appendCache h.diffs then
      match h.diffs, h.bins.getLast? with
      | some d, some bl =>
        let diff := value - bl.1
        .ok { h with bins := h.bins ++ [(value, count)], diffs := some (d ++ [diff]),
                     minDiff := some (match h.minDiff with
                                      | none => diff
                                      | some m => appendMinDiff m diff) }
      | _, _ => .ok { h with bins := h.bins ++ [(value, count)] }
    else .ok { h with bins := h.bins ++ [(value, count)] }
  else
    if insertCache h.diffs then
      match h.diffs with
      | some d =>
        updateDiffs { h with bins := h.bins.insertIdx idx (value, count), diffs := some (d.insertIdx idx (0 : K)) } idx
      | none => .ok { h with bins := h.bins.insertIdx idx (value, count) }
    else .ok { h with bins := h.bins.insertIdx idx (value, count) }

/-- `h.min` / `h.max` after an insertion (:318-321): two statements.  `bumpChained` (generated) says whether the second
is an `elif` of the first — then the maximum is left alone whenever the minimum moved. -/
def bumpBounds (h : Hist K) (value : K) : Hist K :=
  { h with min := some (match h.min with
                        | none => value
                        | some m => if bumpMin m value then value else m),
           max := if bumpChained && (match h.min with
                                     | none => true
                                     | some m => bumpMin m value)
                  then h.max
                  else some (match h.max with
                             | none => value
                             | some m => if bumpMax m value then value else m) }

/-- insert (:301-311), bounds (:313-316), `_trim` (:318) -/
def insertTrim (h : Hist K) (neg : Bool) (idx : Nat) (value count : K) : Except String (Hist K) :=
  (insertBin h neg idx value count).bind fun h2 =>
  trim (trimTurns (bumpBounds h2 value).bins.length) (bumpBounds h2 value)

/-- everything after the exact-hit test: the in-place shortcut (:295-299), else insert + trim -/
def afterHit (h : Hist K) (neg : Bool) (idx : Nat) (value count : K) : Except String (Hist K) :=
  if inPlaceTry (if neg then -1 else (idx : Int)) h.bins.length h.cap then
    -- `if h.diffs is None: h.diffs = _compute_diffs(h)` (:254, the test is the source's)
    (if searchNoCache h.diffs then computeDiffs h else .ok h).bind fun h1 =>
    (searchInPlaceIndex h1 value idx).bind fun r =>
    match r with
    | some ib =>
      -- `in_place_index > 0` (:297): bin 0 is never updated in place
      if inPlaceTake (ib : Int) then trimInPlace h1 value count ib else insertTrim h1 neg idx value count
    | none => insertTrim h1 neg idx value count
  else insertTrim h neg idx value count

/-- `update(h, value, count)` (:265-320). -/
def update (h : Hist K) (value count : K) : Except String (Hist K) :=
  if updCountBad count then .error "ValueError" else
  -- exact hit (:290-293): bounds and cache untouched
  match (if 0 < h.bins.length then h.bins[(locate h.bins value).2]? else none) with
  | some (vi, fi) =>
    if hitTest vi value then .ok { h with bins := h.bins.set (locate h.bins value).2 (vi, hitCount fi count) }
    else afterHit h (locate h.bins value).1 (locate h.bins value).2 value count
  | none =>
    if 0 < h.bins.length then .error "IndexError"
    else afterHit h (locate h.bins value).1 (locate h.bins value).2 value count

/-- The bare `merge(h1, h2)` (:320-341): `h1` is updated with every bin of `h2`. -/
def merge (h : Hist K) (other : List (K × K)) : Except String (Hist K) :=
  -- `for value, counts in h2.bins: h = update(h, value, counts)`: which component goes where is the source's
  other.foldlM (fun acc b => update acc (mergeValue b.1 b.2) (mergeCount b.1 b.2)) h

/-- `Distogram.__add__` (:78-84), as repaired: an empty right operand adds nothing.  The test on the operand and the
two bound expressions are the source's (generated); `min(None, x)` is Python's `TypeError`. -/
def add (h t : Hist K) : Except String (Hist K) :=
  (merge h t.bins).bind fun m =>
  if addGuard t.min t.max then
    match m.min, m.max, t.min, t.max with
    | some a, some b, some c, some d => .ok { m with min := some (addMin a c), max := some (addMax b d) }
    | _, _, _, _ => .error "TypeError"
  else .ok m

/-- `bulkload` (:84-113) after numpy: pairs with a positive count are inserted, then the bounds
are widened to the data's. -/
def bulk (h : Hist K) (pairs : List (K × K)) (lo hi : K) : Except String (Hist K) :=
  -- the guard of the loop, the "no bounds yet" test and the two bound expressions are the source's (generated)
  ((pairs.filter (fun p => bulkTake p.2)).foldlM (fun acc b => update acc b.1 b.2) h).bind fun m =>
  if bulkFresh m.min m.max then .ok { m with min := some lo, max := some hi }
  else
    match m.min, m.max with
    | some a, some b => .ok { m with min := some (bulkMin a lo), max := some (bulkMax b hi) }
    | _, _ => .error "TypeError"

/-- `load(bins, minimum, maximum)` (:132-147); the cached difference is the generated `loadDiff`. -/
def loadDiffsFrom (prev : K) : List (K × K) → List K
  | a :: b :: rest => loadDiff prev a.1 b.1 :: loadDiffsFrom a.1 (b :: rest)
  | _ => []

/-- the loop of `load`: `i` runs over `range(len(bins) - 1)` (the bound is the source's, generated); `bins[i - 1]` at `i = 0` is the last bin. -/
def loadDiffs (bins : List (K × K)) : List K :=
  match bins.getLast? with
  | some bl => (loadDiffsFrom bl.1 bins).take (loadTurns (bins.length : Int)).toNat
  | none => []

def load (bins : List (K × K)) (mn mx : Option K) : Hist K :=
  let d := loadDiffs bins
  -- `if dgram.diffs: dgram.min_diff = min(dgram.diffs) else: dgram.min_diff = float("inf")` (:142-145, the test is the source's)
  { bins := bins, min := mn, max := mx, diffs := some d, minDiff := if loadHasDiffs d then listMin d else loadNoDiffs,
    cap := Gen.Distogram.binCount }

def Hist.toR (h : Hist K) : RState K := { bins := h.bins, min := h.min, max := h.max, cap := h.cap }

end Distogram
