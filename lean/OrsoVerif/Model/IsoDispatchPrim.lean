import OrsoVerif.Model.Iso
/-!
# Primitives of the dispatch program of `parse_iso` (`Gen.IsoDispatch.dispatch`)

The statements of `parse_iso` in front of the string branch — `input_type = type(value)`, the `bytes`
decode, the all-digit text, the class table of the Unix-seconds branch, `to_pydatetime`, the native
`datetime` / `date` — are translated statement by statement on every run
(`harness/pystmt_dispatch.py`) into a Lean `do` block over the two variables the source re-assigns:
`value : DVal` and `input_type : String` (the class, as the source writes it).  What the program
calls is defined here; `C08.dispatch_program_is_the_modelled_one` proves on every run that the
program computes `Iso.body` on every input.
-/
namespace Iso

/-- The Python values `value` holds on the way. -/
inductive DVal where
  | inp (i : Input)        -- the argument, as given
  | text (s : List Char)   -- an exact `str` made on the way (`value.decode("utf-8")`)
  | intv (n : Int)         -- an exact `int` made on the way (`int(value)`)
  deriving Repr

/-- `type(value)`, as the source would write the class. -/
def pyType : DVal → String
  | .inp (.int _) => "int"
  | .inp (.npInt _) => "numpy.int64"
  | .inp (.float _) => "float"
  | .inp (.npFloat _) => "numpy.float64"
  | .inp (.str _) => "str"
  | .inp (.bytes _) => "bytes"
  | .inp (.date ..) => "datetime.date"
  | .inp (.datetime _) => "datetime.datetime"
  | .inp (.time ..) => "datetime.time"
  | .inp (.strSub _) => "str subclass"
  | .inp (.num ty _) => ty
  | .inp .other => "object"
  | .text _ => "str"
  | .intv _ => "int"

/-- The classes `value` is an instance of (`type(value).__mro__` without `object`). -/
def DVal.classes : DVal → List String
  | .inp (.npFloat _) => mro "numpy.float64"
  | .inp (.npInt _) => mro "numpy.int64"
  | .inp (.num ty _) => mro ty
  | .inp (.datetime _) => ["datetime.datetime", "datetime.date"]
  | .inp (.strSub _) => ["str subclass", "str"]
  | .inp .other => []
  | v => [pyType v]

/-- `isinstance(value, (C₁, …))` -/
def pyIsInstanceD (v : DVal) (cs : List String) : Bool := v.classes.any cs.contains

/-- `input_type in (C₁, …)` -/
def pyTypeIn (ty : String) (cs : List String) : Bool := cs.contains ty

/-- `hasattr(value, name)` for a name none of the modelled inputs carries (`to_pydatetime`: pandas values are outside the model). -/
def pyHasAttr (_ : DVal) (_ : String) : Bool := false

/-- `value.<name>()` for such a name. -/
def pyCallNoArg (_ : DVal) (_ : String) : Except Exc (Option DateTime) := .error .attributeError

/-- A block guarded by a class no modelled input has (`numpy.datetime64`) is not translated. -/
def pyUnmodelled (_ : String) : Exc := .attributeError

/-- `value.decode("utf-8")` -/
def pyDecodeUtf8 : DVal → Except Exc DVal
  | .inp (.bytes b) =>
    match decodeUtf8 b with
    | none => .error .unicodeDecodeError
    | some s => .ok (.text s)
  | _ => .error .attributeError

/-- `value.isdigit()` -/
def pyIsDigit : DVal → Except Exc Bool
  | .inp (.str s) | .text s => .ok (isDigitStr s)
  | .inp (.strSub s) => .ok (isDigitStr s)
  | _ => .error .attributeError

/-- `int(value)` -/
def pyIntOf : DVal → Except Exc Int
  | .inp (.int n) | .inp (.npInt n) | .inp (.num _ n) | .intv n => .ok n
  | .inp (.float b) | .inp (.npFloat b) => intOfFloat b
  | .inp (.str s) | .inp (.strSub s) | .text s => pyInt s
  | _ => .error .typeError

/-- `datetime.datetime.fromtimestamp(n, tz=datetime.timezone.utc).replace(tzinfo=None)` -/
def pyFromTimestampUtc (n : Int) : Except Exc (Option DateTime) := (fromTimestamp n).bind fun dt => .ok (some dt)

/-- `value.replace(microsecond=0)` -/
def pyReplaceMicro0 : DVal → Except Exc (Option DateTime)
  | .inp (.datetime dt) => .ok (some { dt with micro := 0 })
  | _ => .error .attributeError

/-- `datetime.datetime.combine(value, datetime.time.min)` -/
def pyCombineMin : DVal → Except Exc (Option DateTime)
  | .inp (.date y m d) => .ok (some ⟨y, m, d, 0, 0, 0, 0⟩)
  | .inp (.datetime dt) => .ok (some ⟨dt.year, dt.month, dt.day, 0, 0, 0, 0⟩)
  | _ => .error .typeError

/-- The string branch (the program `Gen.IsoText.textBranch`, translated from the same source) on a `str`. -/
def pyTextBranch : DVal → Except Exc (Option DateTime)
  | .inp (.str s) | .text s => Gen.IsoText.textBranch s
  | _ => .error .typeError

end Iso

namespace Iso
/-- The contract of `Input.num ty n`: `ty` names a *numeric* class — none of the classes the dispatch treats as text, bytes,
a date or a `numpy.datetime64` (those have their own constructors, or are outside the model). -/
def Input.numericContract : Input → Prop
  | .num ty _ => ty ≠ "bytes" ∧ ty ≠ "str" ∧ ty ≠ "numpy.datetime64" ∧ ty ≠ "datetime.datetime" ∧ ty ≠ "datetime.date"
  | _ => True

theorem bytes_not_in_mro (ty : String) (h : ty ≠ "bytes") : ("bytes" ∈ mro ty) = False := by
  have hty : ("bytes" = ty) = False := eq_false fun e => h e.symm
  unfold mro
  -- membership goes into the branches of the table (`split` on these `if`s is slow); every row is `ty` and class names other than `bytes`
  simp only [apply_ite ("bytes" ∈ ·), List.mem_cons, List.not_mem_nil, hty, String.reduceEq, or_false, ite_self]

end Iso
